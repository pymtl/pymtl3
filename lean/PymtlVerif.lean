-- Root of the library: everything that must build for the checks.
import PymtlVerif.Driver.Bits
import PymtlVerif.Driver.Arb
import PymtlVerif.Driver.Queue
import PymtlVerif.Driver.BitStruct
import PymtlVerif.Driver.Vcd
import PymtlVerif.Driver.Mem
import PymtlVerif.Driver.Rv
import PymtlVerif.Driver.Hier
import PymtlVerif.Driver.Nets
import PymtlVerif.Driver.Meta
import PymtlVerif.Driver.Rtl
import PymtlVerif.Driver.Tc
import PymtlVerif.Driver.Sv
import PymtlVerif.Driver.Names
import PymtlVerif.Props.C01
import PymtlVerif.Props.C02
import PymtlVerif.Props.C03
import PymtlVerif.Props.C04
import PymtlVerif.Props.C05
import PymtlVerif.Props.C06
import PymtlVerif.Props.C07
import PymtlVerif.Props.C08
import PymtlVerif.Props.C09
import PymtlVerif.Props.C10
import PymtlVerif.Props.C11
import PymtlVerif.Props.C12
import PymtlVerif.Props.C13
import PymtlVerif.Props.C14
import PymtlVerif.Props.C15
import PymtlVerif.Props.C16
import PymtlVerif.Props.C17
import PymtlVerif.Props.C18
import PymtlVerif.Props.C19
import PymtlVerif.Props.C20
import PymtlVerif.Props.C02o
import PymtlVerif.Driver.AstRW
import PymtlVerif.Props.C02a
import PymtlVerif.Props.C09p
import PymtlVerif.Props.C17a
import PymtlVerif.Props.C03d
import PymtlVerif.Driver.ProcFL
import PymtlVerif.Props.C20fGen
import PymtlVerif.Props.C20cGen
import PymtlVerif.Driver.HierHook
import PymtlVerif.Props.C14h
import PymtlVerif.Driver.BSProg
import PymtlVerif.Props.C06g
import PymtlVerif.Props.C16n
import PymtlVerif.Props.C01m
import PymtlVerif.Props.C02Gen
import PymtlVerif.Props.C02c
import PymtlVerif.Props.C02d
import PymtlVerif.Props.C02m
import PymtlVerif.Props.C03s
import PymtlVerif.Props.C04Gen
import PymtlVerif.Props.C07f
import PymtlVerif.Props.C09Gen
import PymtlVerif.Props.C11s
import PymtlVerif.Props.C11w
import PymtlVerif.Props.C16Gen
import PymtlVerif.Props.C17Gen
import PymtlVerif.Props.C18Gen
import PymtlVerif.Props.C19Gen
import PymtlVerif.Props.C20p
import PymtlVerif.Props.C20pGen
import PymtlVerif.Props.C20cRef
import PymtlVerif.Driver.CallGraph
import PymtlVerif.Driver.Flip
import PymtlVerif.Driver.GenDag
import PymtlVerif.Driver.Loop
import PymtlVerif.Driver.LoopIR
import PymtlVerif.Driver.Mamba
import PymtlVerif.Driver.OpenLoop
import PymtlVerif.Driver.Pipe
import PymtlVerif.Driver.Place
import PymtlVerif.Driver.QAdapter
import PymtlVerif.Driver.SConn
import PymtlVerif.Driver.SDecl
import PymtlVerif.Driver.Scc
import PymtlVerif.Driver.Sexp
