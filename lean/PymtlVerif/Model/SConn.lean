import PymtlVerif.Model.Nets
/-!
# Model of the structural part of the translators: which `assign` is emitted in which module

Written from the code as it is in

* `pymtl3/passes/backends/generic/structural/StructuralTranslatorL1.py`, `gen_connections( top )`:
  `for writer, net in nets:` (only the writer is used) `S = deque([writer]); visited = {writer}; while S: u = S.pop();
  for v in adjs[u]: if v not in visited: visited.add(v); S.append(v); <file (u, v)>` — `traverse` (the stack machine is
  `PV.Nets.walk`, the same LIFO walk `_check_port_in_nets` makes; `adjs[u]` is a Python *set*: the order in which it is
  iterated is the oracle `nb`); the four-case hosting rule, in the code's order, `else: raise TypeError` — `hostOf`;
  `_inst_conns[host].add((u, v))` — `filed`;
* `pymtl3/passes/rtlir/structural/StructuralRTLIRGenL1Pass.py`, `_gen_metadata( m )`: `ordered_conns = [*m.get_connect_order()]`,
  every statement `x` stays if `x in m_conns_set`, else becomes `(x[1], x[0])` which must be in the set (`assert`, turned
  into `RTLIRConversionError` by `__call__`) — `orient`, `emitFrom`, `emit`; `StructuralRTLIRGenL4Pass` does this for every
  component of the hierarchy — `assigns`, `accepted`;
* the back ends (`StructuralTranslatorL1.translate_connections`, `VStructuralTranslatorL1.rtlir_tr_connection`): one
  `assign <reader> = <writer>;` per pair of the `connections` metadata of a component, in that order, in that component's
  module — a pair `(c, (u, v))` of `assigns` is the statement `assign v = u;` in the module of `c`;
* `pymtl3/dsl/ComponentLevel3.py`: `_connect_signal_signal` / `_connect_signal_const` append `(o1, o2)` to the
  `connect_order` of the component whose `construct` executes the statement (`get_connect_order()`) and add both directions to
  its adjacency sets; `_collect_vars` unions them into `get_signal_adjacency_dict()` — `Hier.stmts`, `Hier.edges`, `Hier.nbrs`;
  `get_all_value_nets()` = `[(writer, members)]` — `Hier.nets`.

Components are numbered from 1 (`top`); **0 stands for Python's `None`** (`top.get_parent_object()`), `par[0] = 0`. With
this convention the fourth case `writer_host_parent == reader_host_parent` files under `None` when both hosts are parentless,
exactly as the code would (it cannot happen in a hierarchy with one root: then both hosts are `top` and the first case applies).
Signals (ports, wires, slices, struct fields, constants of connect statements) are numbered by the harness.
-/
namespace PV.SConn
open PV.Nets (Edge adj walk nodesOf dedup)

abbrev Comp := Nat
abbrev Sig := Nat
abbrev Pair := Sig × Sig

inductive Err where
  | typeError      -- `raise TypeError( "unexpected connection type!" )` in `gen_connections`
  | conversion     -- "There is a connection missing from connect_order" → `RTLIRConversionError`
deriving DecidableEq, Repr

def Err.pyClass : Err → String
  | .typeError => "TypeError"
  | .conversion => "RTLIRConversionError"

structure Hier where
  /-- `par[c]` = `c.get_parent_object()`; index 0 is `None` -/
  par : List Comp
  /-- `host[s]` = `s.get_host_component()` -/
  host : List Comp
  /-- every connect statement, tagged with the component that executed it; the statements of one component are in
  source order (`get_connect_order()`), pairs as written (`(o1, o2)`) -/
  stmts : List (Comp × Pair)
  /-- `get_all_value_nets()`: `(writer, members)` -/
  nets : List (Sig × List Sig)
deriving Repr

def Hier.parent (H : Hier) (c : Comp) : Comp := H.par.getD c 0
def Hier.hostC (H : Hier) (s : Sig) : Comp := H.host.getD s 0

/-- `m.get_connect_order()` -/
def Hier.connectOrder (H : Hier) (c : Comp) : List Pair := (H.stmts.filter (fun s => s.1 == c)).map (·.2)

/-- the connections of the whole hierarchy (what the adjacency dict is made of) -/
def Hier.edges (H : Hier) : List Edge := H.stmts.map (·.2)

/-- `get_signal_adjacency_dict()[u]` in the order of the statements (one of the possible iteration orders of the set) -/
def Hier.nbrs (H : Hier) (u : Sig) : List Sig := dedup (adj H.edges u)

/-- every popped signal is new, so `|signals that occur in a statement| + 2` pops are never exceeded
(`Proofs/SConn.lean: traverse_spanTree`, `traverse_fuel`) -/
def Hier.fuel (H : Hier) : Nat := (nodesOf H.edges).length + 2

/-- the traversal of one net from its writer: the pairs `(u, v)` in the order they are filed; `nb u` = the order in which
`adjs[u]` is iterated -/
def traverse (H : Hier) (nb : Sig → List Sig) (w : Sig) : List Pair := walk nb H.fuel [w] [w]

/-- all pairs `gen_connections` files, net after net -/
def treeEdges (H : Hier) (nb : Sig → List Sig) : List Pair := H.nets.flatMap (fun n => traverse H nb n.1)

/-- the four cases, in the code's order; `none` = `TypeError` -/
def hostOf (H : Hier) (p : Pair) : Option Comp :=
  let wh := H.hostC p.1
  let rh := H.hostC p.2
  let wp := H.parent wh
  let rp := H.parent rh
  if wh = rh then some wh
  else if wp = rh then some rh
  else if wh = rp then some wh
  else if wp = rp then some wp
  else none

/-! `…Of` versions take the list of filed pairs as an argument (the driver computes it once); the plain versions are these
applied to `treeEdges H nb`. -/

/-- `gen_connections` raises -/
def typeErrOf (H : Hier) (T : List Pair) : Bool := T.any (fun e => (hostOf H e).isNone)
def typeErr (H : Hier) (nb : Sig → List Sig) : Bool := typeErrOf H (treeEdges H nb)

/-- `_inst_conns[c]` -/
def filedOf (H : Hier) (T : List Pair) (c : Comp) : List Pair := T.filter (fun e => hostOf H e == some c)
def filed (H : Hier) (nb : Sig → List Sig) (c : Comp) : List Pair := filedOf H (treeEdges H nb) c

/-- `x` if it is in the set, else the swapped pair if that is, else the assertion fails -/
def orient (F : List Pair) (x : Pair) : Option Pair :=
  if x ∈ F then some x else if (x.2, x.1) ∈ F then some (x.2, x.1) else none

/-- the loop over `ordered_conns` -/
def emitFrom (F : List Pair) : List Pair → Except Err (List Pair)
  | [] => .ok []
  | x :: xs =>
    match orient F x with
    | none => .error .conversion
    | some y =>
      match emitFrom F xs with
      | .error e => .error e
      | .ok ys => .ok (y :: ys)

/-- the `connections` metadata of component `c` (writer side first), or the error -/
def emitOf (H : Hier) (T : List Pair) (c : Comp) : Except Err (List Pair) := emitFrom (filedOf H T c) (H.connectOrder c)
def emit (H : Hier) (nb : Sig → List Sig) (c : Comp) : Except Err (List Pair) := emitOf H (treeEdges H nb) c

/-- every statement with its orientation, tagged with the module it is emitted in, in statement order; the assigns of
component `c` are the `c`-tagged ones, in this order (`Props/C03s.lean: emit_eq_assigns`) -/
def assignsOf (H : Hier) (T : List Pair) : List (Comp × Pair) :=
  H.stmts.filterMap (fun s => (orient (filedOf H T s.1) s.2).map (fun y => (s.1, y)))
def assigns (H : Hier) (nb : Sig → List Sig) : List (Comp × Pair) := assignsOf H (treeEdges H nb)

/-- the translator goes through: no `TypeError`, no component with an unfiled statement -/
def acceptedOf (H : Hier) (T : List Pair) : Bool :=
  !typeErrOf H T && H.stmts.all (fun s => (orient (filedOf H T s.1) s.2).isSome)
def accepted (H : Hier) (nb : Sig → List Sig) : Bool := acceptedOf H (treeEdges H nb)

/-- what the whole translation raises first: `gen_connections` runs in the translator's constructor, before the pass -/
def verdictOf (H : Hier) (T : List Pair) : Option Err :=
  if typeErrOf H T then some .typeError else if acceptedOf H T then none else some .conversion
def verdict (H : Hier) (nb : Sig → List Sig) : Option Err := verdictOf H (treeEdges H nb)

/-! ### preconditions the driver evaluates on every request -/

def sameMembers (a b : List Nat) : Bool := a.all (fun x => decide (x ∈ b)) && b.all (fun x => decide (x ∈ a))

def nodupB : List Nat → Bool
  | [] => true
  | a :: l => !decide (a ∈ l) && nodupB l

/-- `nb` enumerates every adjacency set without repetition -/
def validOrderB (H : Hier) (nb : Sig → List Sig) : Bool :=
  (nodesOf H.edges).all (fun u => nodupB (nb u) && sameMembers (nb u) (adj H.edges u))

/-- no component states the same pair twice (either way round): `_connect_signal_signal` skips such a statement -/
def stmtsNodupB (H : Hier) : Bool :=
  let keys := H.stmts.map (fun s => (s.1, PV.Nets.normEdge s.2))
  decide (dedup keys = keys)

/-- `all pairs (earlier, later)` of a list satisfy `r` -/
def pairwiseB {α : Type} (r : α → α → Bool) : List α → Bool
  | [] => true
  | a :: l => l.all (r a) && pairwiseB r l

/-- the net list is what elaboration leaves: the members of a net are the connected component of its writer, the writers
of different nets are not connected, every signal that occurs in a statement is in the component of some writer -/
def netsOkB (H : Hier) : Bool :=
  let cs := H.nets.map (fun n => (n, PV.Nets.netOf H.edges n.1))      -- each component computed once
  cs.all (fun c => PV.Nets.sortDedup c.1.2 == c.2) &&
  pairwiseB (fun a b => !decide (b.1.1 ∈ a.2)) cs &&
  H.edges.all (fun e => cs.any (fun c => decide (e.1 ∈ c.2)))

/-- ids in range, `None` is its own parent, nothing is hosted by `None`, no statement is executed by `None` -/
def Hier.wf (H : Hier) : Bool :=
  decide (H.par.head? = some 0) &&
  H.par.all (fun p => decide (p < H.par.length)) &&
  H.host.all (fun h => decide (0 < h) && decide (h < H.par.length)) &&
  H.stmts.all (fun s => decide (0 < s.1) && decide (s.1 < H.par.length) &&
    decide (s.2.1 < H.host.length) && decide (s.2.2 < H.host.length)) &&
  H.nets.all (fun n => decide (n.1 < H.host.length) && n.2.all (fun m => decide (m < H.host.length)))

end PV.SConn
