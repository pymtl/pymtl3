/-!
# Whole-design metadata of a PyMTL hierarchy and component replacement (C15)

By-name model of what `pymtl3/dsl/Component.py` keeps at the elaborated top (`top._dsl.all_*`) and of
`replace_component` / `replace_component_with_obj` = `_delete_component` followed by `_add_component`.

* A hierarchy `Hier` is a family of component descriptors indexed by their path from the top (the
  flattened tree: one `(path, Comp)` per component). A `Comp` holds only what the component's own
  `construct` declared, by *relative* name: value signals, method ports, update blocks with their
  read / write / call sets (`_dsl.upblk_reads/_writes/_calls`, function reads folded into the calling
  block as `ComponentLevel2._collect_vars` does), `U<U`, `RD(x)<U`, `WR(x)<U` and `M` constraints
  (`_dsl.U_U_constraints`, `RD_U_constraints`, `WR_U_constraints`, `M_constraints`), the
  `update_ff` / `update_once` marks, the connections (`_dsl.connect_order`, `_dsl.adjacency`) and the
  constants connected to signals (`_dsl.consts`).
* `Meta` = the top-level containers as one list of tagged entries (read as a set):
  `all_components`, `all_signals`, `all_method_ports`, `all_upblks` + `all_upblk_hostobj`,
  `all_update_ff`, `all_update_once`, `all_upblk_reads/_writes/_calls`, `all_U_U_constraints`,
  `all_RD_U_constraints`, `all_WR_U_constraints`, `all_M_constraints`, `all_adjacency`.
  `elaborate` mirrors `_elaborate_collect_all_vars`: every component contributes its local containers with
  its path prefixed (`_collect_vars` of `ComponentLevel1..4`).
* `delete` mirrors `Component._delete_component`: `_uncollect_vars` of every component under the path,
  removal of every component / signal / method port under the path from the `all_*` sets, removal of
  every adjacency edge that touches a removed signal (or a constant of a removed component), and
  saving *by name* what crosses the boundary: the connections between a removed signal and a surviving
  one (`saved_connections`) and the references of surviving update blocks to removed signals
  (`saved_upblk_reads/_writes/_calls`).
* `add` mirrors `Component._add_component`: elaborate the new subtree at the same path, `_collect_vars`
  it, re-evaluate the saved names (fails — `none` — if the new subtree does not declare one of them,
  as Python's `eval` of the saved name raises) and re-connect both directions.

Where the code as it is deviates from this (all demonstrated on /repo by `harness/checks/c15.py`,
see its header): no `_uncollect_vars` in `ComponentLevel4` (`all_update_once`, `all_M_constraints` of
the removed subtree stay), constants of removed components stay as keys of `all_adjacency`, explicit
constraints of a *surviving* component on a removed signal / method keep the removed object, only the
*parent's* blocks are searched for references to removed signals (complete on disciplined hierarchies:
`Props/C15.lean: saved_from_parent`), removed signals stay as keys with an empty set in
`all_RD_U/WR_U_constraints` (invisible by name: a dict key with an empty set is no entry here), a
connection made by the parent between two ports of the removed child is dropped (hypothesis
`NoLoopAt` of the theorems). The model is the intended behaviour: every entry that is owned by, or
mentions, something under the path is removed; those owned by a surviving component are saved by name
and restored.
-/
namespace PV.Meta

/-- path of a component from the top (`[]` = top `s`; a list element `d[1]` is one token) -/
abbrev Name := List String
/-- a signal / method port / function: host component and own name -/
abbrev Sig := Name × String
/-- an update block: host component and function name -/
abbrev BlkId := Name × String

/-- vertex of the adjacency dict: a signal (or method port), or the `Const` object created by the
    component `owner` when it connected the value `val` to signal `s` -/
inductive Node where
  | sig (s : Sig)
  | const (owner : Name) (s : Sig) (val : String)
deriving DecidableEq, Repr

/-- operand of an `M` constraint: `U(blk)` or `M(method)` -/
inductive MRef where
  | blk (b : BlkId)
  | meth (s : Sig)
deriving DecidableEq, Repr

/-- one element of one of the top-level containers. The `owner` of a constraint is the component whose
    local `_dsl.*_constraints` set holds it (that is what `_uncollect_vars` subtracts). -/
inductive Entry where
  /-- `ph`: the component is a `Placeholder` (its output ports count as net writers) -/
  | comp (n : Name) (ph : Bool)
  | sig (s : Sig) (kind : String)
  | mport (s : Sig) (kind : String)
  | blk (b : BlkId)
  | ff (b : BlkId)
  | once (b : BlkId)
  | read (b : BlkId) (s : Sig)
  | write (b : BlkId) (s : Sig)
  | call (b : BlkId) (s : Sig)
  | uu (owner : Name) (a b : BlkId)
  | rdu (owner : Name) (v : Sig) (lt : Bool) (b : BlkId)
  | wru (owner : Name) (v : Sig) (lt : Bool) (b : BlkId)
  | mc (owner : Name) (x y : MRef) (eq : Bool)
  | edge (a b : Node)
deriving DecidableEq, Repr

abbrev Meta := List Entry

/-! ## local descriptors -/

/-- relative reference: `([], "x")` = `s.x`, `(["c"], "out")` = `s.c.out` -/
abbrev Ref := List String × String

structure Blk where
  name : String
  /-- 0 = `@update`, 1 = `@update_ff`, 2 = `@update_once` -/
  kind : Nat
  reads : List Ref
  writes : List Ref
  calls : List Ref
deriving Repr

inductive LMRef where
  | blk (r : Ref)
  | meth (r : Ref)
deriving Repr

structure Comp where
  ph : Bool := false
  sigs : List (String × String) := []
  mports : List (String × String) := []
  blks : List Blk := []
  /-- `U(x) < U(y)`: own blocks (`([], "b")`) or blocks of descendants (`s.c.get_update_block("b")` = `(["c"], "b")`) -/
  uu : List (Ref × Ref) := []
  /-- `RD(x) < U(b)` / `WR(x) < U(b)`: the block `b` is an own one (`([], "b")`) or one of a descendant -/
  rdu : List (Ref × Bool × Ref) := []
  wru : List (Ref × Bool × Ref) := []
  mcs : List (LMRef × LMRef × Bool) := []
  conns : List (Ref × Ref) := []
  consts : List (Ref × String) := []
deriving Repr

abbrev Hier := List (Name × Comp)

/-! ## elaboration -/

def absr (q : Name) (r : Ref) : Sig := (q ++ r.1, r.2)

def absm (q : Name) : LMRef → MRef
  | .blk r => .blk (absr q r)
  | .meth r => .meth (absr q r)

def blkEntries (q : Name) (b : Blk) : List Entry :=
  [Entry.blk (q, b.name)]
  ++ (if b.kind = 1 then [Entry.ff (q, b.name)] else [])
  ++ (if b.kind = 2 then [Entry.once (q, b.name)] else [])
  ++ b.reads.map (fun r => Entry.read (q, b.name) (absr q r))
  ++ b.writes.map (fun r => Entry.write (q, b.name) (absr q r))
  ++ b.calls.map (fun r => Entry.call (q, b.name) (absr q r))

/-- what `top._collect_vars(m)` (levels 1–4) plus the `all_components/_signals/_method_ports` updates add
    for one component `m` at path `q` -/
def contrib (q : Name) (c : Comp) : List Entry :=
  [Entry.comp q c.ph]
  ++ c.sigs.map (fun x => Entry.sig (q, x.1) x.2)
  ++ c.mports.map (fun x => Entry.mport (q, x.1) x.2)
  ++ c.blks.flatMap (blkEntries q)
  ++ c.uu.map (fun x => Entry.uu q (absr q x.1) (absr q x.2))
  ++ c.rdu.map (fun x => Entry.rdu q (absr q x.1) x.2.1 (absr q x.2.2))
  ++ c.wru.map (fun x => Entry.wru q (absr q x.1) x.2.1 (absr q x.2.2))
  ++ c.mcs.map (fun x => Entry.mc q (absm q x.1) (absm q x.2.1) x.2.2)
  ++ c.conns.flatMap (fun x =>
      [Entry.edge (.sig (absr q x.1)) (.sig (absr q x.2)), Entry.edge (.sig (absr q x.2)) (.sig (absr q x.1))])
  ++ c.consts.flatMap (fun x =>
      [Entry.edge (.const q (absr q x.1) x.2) (.sig (absr q x.1)),
       Entry.edge (.sig (absr q x.1)) (.const q (absr q x.1) x.2)])

/-- the hierarchy `N` mounted at path `p` -/
def pre (p : Name) (N : Hier) : Hier := N.map (fun x => (p ++ x.1, x.2))

def elaborate (H : Hier) : Meta := H.flatMap (fun x => contrib x.1 x.2)

/-- elaboration of the subtree `N` placed at `p` -/
def elabAt (p : Name) (N : Hier) : Meta := elaborate (pre p N)

/-! ## hierarchy surgery (the from-scratch side) -/

def under (p n : Name) : Bool := p.isPrefixOf n

/-- the hierarchy with the subtree at `p` replaced by `N` -/
def set (H : Hier) (p : Name) (N : Hier) : Hier :=
  H.filter (fun x => !under p x.1) ++ pre p N

/-- the subtree at `p`, paths relative to `p` -/
def sub (H : Hier) (p : Name) : Hier :=
  (H.filter (fun x => under p x.1)).map (fun x => (x.1.drop p.length, x.2))

/-! ## `_delete_component` -/

def Node.gone (p : Name) : Node → Bool
  | .sig s => under p s.1
  | .const o _ _ => under p o

def MRef.gone (p : Name) : MRef → Bool
  | .blk b => under p b.1
  | .meth s => under p s.1

/-- the entry lives in a container of a component under `p` (its key / owner is removed) -/
def owned (p : Name) : Entry → Bool
  | .comp n _ => under p n
  | .sig s _ => under p s.1
  | .mport s _ => under p s.1
  | .blk b => under p b.1
  | .ff b => under p b.1
  | .once b => under p b.1
  | .read b _ => under p b.1
  | .write b _ => under p b.1
  | .call b _ => under p b.1
  | .uu o _ _ => under p o
  | .rdu o _ _ _ => under p o
  | .wru o _ _ _ => under p o
  | .mc o _ _ _ => under p o
  | .edge a _ => a.gone p

/-- the entry mentions a component / signal / block / constant under `p` -/
def touches (p : Name) : Entry → Bool
  | .read b s => under p b.1 || under p s.1
  | .write b s => under p b.1 || under p s.1
  | .call b s => under p b.1 || under p s.1
  | .uu o a b => under p o || under p a.1 || under p b.1
  | .rdu o v _ b => under p o || under p v.1 || under p b.1
  | .wru o v _ b => under p o || under p v.1 || under p b.1
  | .mc o x y _ => under p o || x.gone p || y.gone p
  | .edge a b => a.gone p || b.gone p
  | e => owned p e

/-- removed from the top-level containers and remembered by name: owned by a surviving component,
    mentions something removed. For an adjacency edge: the far end survives, the near end is a removed
    signal (`saved_connections.append( (other, "top"+repr(x)[1:]) )`). -/
def saved (p : Name) (e : Entry) : Bool :=
  touches p e && !owned p e &&
    (match e with
     | .edge _ (.const _ _ _) => false
     | _ => true)

/-- `_delete_component(top, obj)` for `obj` at path `p`: what is left at the top, and what was saved -/
def delete (M : Meta) (p : Name) : Meta × List Entry :=
  (M.filter (fun e => !touches p e), M.filter (saved p))

/-! ## `_add_component` -/

def Entry.swap : Entry → Entry
  | .edge a b => .edge b a
  | e => e

/-- `parent.add_connections(x, eval(y))` fills the adjacency in both directions; the saved block
    references are added back as they were -/
def restore (S : List Entry) : List Entry := S ++ S.map Entry.swap

def declSig (E : Meta) (s : Sig) : Bool :=
  E.any (fun e => match e with
    | .sig s' _ => s' == s
    | .mport s' _ => s' == s
    | _ => false)

def declBlk (E : Meta) (b : BlkId) : Bool := E.contains (.blk b)

def Node.ok (p : Name) (E : Meta) : Node → Bool
  | .sig s => !under p s.1 || declSig E s
  | .const _ _ _ => true

def MRef.ok (p : Name) (E : Meta) : MRef → Bool
  | .blk b => !under p b.1 || declBlk E b
  | .meth s => !under p s.1 || declSig E s

/-- every name under `p` that the saved entry mentions is declared by the new subtree `E`
    (Python: `eval(name)` succeeds) -/
def resolvable (p : Name) (E : Meta) : Entry → Bool
  | .read _ s => !under p s.1 || declSig E s
  | .write _ s => !under p s.1 || declSig E s
  | .call _ s => !under p s.1 || declSig E s
  | .uu _ a b => (!under p a.1 || declBlk E a) && (!under p b.1 || declBlk E b)
  | .rdu _ v _ b => (!under p v.1 || declSig E v) && (!under p b.1 || declBlk E b)
  | .wru _ v _ b => (!under p v.1 || declSig E v) && (!under p b.1 || declBlk E b)
  | .mc _ x y _ => x.ok p E && y.ok p E
  | .edge a b => a.ok p E && b.ok p E
  | _ => true

def addRaw (K : Meta) (p : Name) (N : Hier) (S : List Entry) : Meta :=
  K ++ restore S ++ elabAt p N

/-- `_add_component(parent, name, indices, obj, saved…)` with `obj` elaborating to `N`, mounted at `p` -/
def add (K : Meta) (p : Name) (N : Hier) (S : List Entry) : Option Meta :=
  if S.all (resolvable p (elabAt p N)) then some (addRaw K p N S) else none

/-- `replace_component(top, top.<p>, cls)` / `replace_component_with_obj` -/
def replace (M : Meta) (r : Name × Hier) : Option Meta :=
  add (delete M r.1).1 r.1 r.2 (delete M r.1).2

def replaceAll (M : Meta) : List (Name × Hier) → Option Meta
  | [] => some M
  | r :: rs => (replace M r).bind (fun M' => replaceAll M' rs)

def setAll (H : Hier) (rs : List (Name × Hier)) : Hier :=
  rs.foldl (fun H r => set H r.1 r.2) H

end PV.Meta
