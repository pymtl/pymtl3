import PymtlVerif.Gen.PyInt
/-!
# Python strings as character-code lists, raising computations and generators
(hand-written support of the generated file `Gen/VcdSymGen.lean`, translator `tools/py2lean_vcdsym.py`)

* A Python `str` is rendered as the list of its character codes (`Str = List Nat`); `s[i]` is the one-character string
  `charAt s i` (IndexError outside `-len ≤ i < len`, negative indices count from the end: `PyInt.idxOk / idx`),
  `a + b` is `++`, `''.join([chr(i) for i in range(a, b)])` is `chrRange a b`, `len(s)` is `s.length`.
* `R α`: a computation that returns (`ok a`), raises (`raise e`) or runs out of loop fuel (`nofuel`);
  `whileR` is `while cond(st): st = body(st)` in this monad.
* A generator of the shape `<prologue>; while True: <body with one yield>` is rendered as its step function
  `counter state ↦ (yielded value, state at the next pass)`; `genState step init k` is the state before the k-th
  `next()` (k = 0 first) and `genNth step init k` the value that call yields.
-/
namespace PV.PyStr
open PV.Bits (Err)
open PV.PyInt

abbrev Str := List Nat

/-- a computation that may raise or run out of loop fuel -/
inductive R (α : Type) where
  | ok (a : α)
  | raise (e : Err)
  | nofuel
deriving Repr, DecidableEq
export R (ok raise nofuel)

def bindR {α β : Type} (x : R α) (f : α → R β) : R β :=
  match x with
  | .nofuel => .nofuel
  | .raise e => .raise e
  | .ok a => f a

instance : Monad R where
  pure := R.ok
  bind := bindR

@[simp] theorem bind_ok {α β : Type} (a : α) (f : α → R β) : ((R.ok a : R α) >>= f) = f a := rfl
@[simp] theorem bindR_ok {α β : Type} (a : α) (f : α → R β) : bindR (R.ok a) f = f a := rfl
@[simp] theorem pure_eq_ok {α : Type} (a : α) : (pure a : R α) = R.ok a := rfl

/-- `''.join([chr(i) for i in range(a, b)])` -/
def chrRange (a b : Int) : Str := List.range' a.toNat (b.toNat - a.toNat)

/-- `s[i]` for a string `s`: a one-character string -/
def charAt (s : Str) (i : Int) : R Str :=
  if idxOk s.length i then ok [s.getD (idx s.length i) 0] else raise .index

/-- the guard of `//`, `%`, `divmod` -/
def nonzero (b : Int) : R Unit := if b = 0 then raise .zerodiv else ok ()

/-- `while cond(st): st = body(st)` with fuel, body may raise -/
def whileR {σ : Type} (fuel : Nat) (cond : σ → Bool) (body : σ → R σ) (s : σ) : R σ :=
  match fuel with
  | 0 => nofuel
  | f + 1 => if cond s then bindR (body s) (whileR f cond body) else ok s

/-- state of a generator before its k-th `next()` -/
def genState {σ α : Type} (step : σ → R (α × σ)) (init : σ) : Nat → R σ
  | 0 => ok init
  | k + 1 => bindR (genState step init k) (fun s => bindR (step s) (fun r => ok r.2))

/-- the value the k-th `next()` yields (k = 0 first) -/
def genNth {σ α : Type} (step : σ → R (α × σ)) (init : σ) (k : Nat) : R α :=
  bindR (genState step init k) (fun s => bindR (step s) (fun r => ok r.1))

example : chrRange 33 36 = [33, 34, 35] := by decide
example : charAt [65, 66, 67] (-1) = ok [67] ∧ charAt [65, 66, 67] 3 = raise .index := by decide
example : genNth (fun (n : Nat) => ok (n * n, n + 1)) 0 4 = ok 16 := by decide

end PV.PyStr
