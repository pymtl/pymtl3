import PymtlVerif.Proofs.Slice
/-!
# Python `int` operators on Lean `Int` (hand-written support of the generated file `Gen/BitsGen.lean`)

The translator `tools/py2lean_bits.py` renders Python int expressions with the functions below; this file is
the (trusted) statement of what the Python operators do on unbounded two's-complement integers, together with the
lemmas that connect them with the `Nat` arithmetic of `Model/Bits.lean`.

* `pyAnd / pyOr / pyXor` — bitwise operators on two's-complement integers, by the sign cases
  (`-[n+1]` is `~n`): e.g. `a & ~n = a AND NOT n`, `~m & ~n = ~(m | n)`.
* `pyNot a = -a - 1`, `pyShl a n = a * 2^n`, `pyShr a n = ⌊a / 2^n⌋` (the guard `n < 0 → ValueError` is emitted by
  the translator), `pyFloorDiv = Int.fdiv`, `pyMod = Int.fmod` (floor division; guard `b = 0` emitted by the translator).
* `idxOk len i` / `idx len i` — Python list indexing: valid for `-len ≤ i < len`, negative indices count from the end.
* `mkB n v` — the Bits object with `_nbits = n`, `_uint = v` as a value of the model type `B` (fields are `Nat`).
* `whileF` — a `while` loop with explicit fuel (`none` = fuel exhausted).
-/
namespace PV.PyInt
open PV.Bits

/-- a Bits object with slots `_nbits = n`, `_uint = v` -/
def mkB (n v : Int) : B := ⟨n.toNat, v.toNat⟩

/-- `int(b)` of a Python bool -/
def b2i (p : Prop) [Decidable p] : Int := if p then 1 else 0

/-- `lst[i]` does not raise IndexError for a list of length `len` -/
def idxOk (len : Nat) (i : Int) : Prop := -(len : Int) ≤ i ∧ i < (len : Int)
instance (len : Nat) (i : Int) : Decidable (idxOk len i) := inferInstanceAs (Decidable (_ ∧ _))

/-- the position `lst[i]` reads -/
def idx (len : Nat) (i : Int) : Nat := if i < 0 then (i + (len : Int)).toNat else i.toNat

def pyNot (a : Int) : Int := -a - 1
def pyShl (a n : Int) : Int := a <<< n.toNat
def pyShr (a n : Int) : Int := a >>> n.toNat
def pyFloorDiv (a b : Int) : Int := Int.fdiv a b
def pyMod (a b : Int) : Int := Int.fmod a b
def pyAbs (a : Int) : Int := (a.natAbs : Int)

/-- `a AND NOT b` on naturals: remove from `a` the bits it shares with `b` -/
def natAndNot (a b : Nat) : Nat := a ^^^ (a &&& b)

def pyAnd : Int → Int → Int
  | .ofNat a, .ofNat b => Int.ofNat (a &&& b)
  | .ofNat a, .negSucc b => Int.ofNat (natAndNot a b)
  | .negSucc a, .ofNat b => Int.ofNat (natAndNot b a)
  | .negSucc a, .negSucc b => Int.negSucc (a ||| b)

def pyOr : Int → Int → Int
  | .ofNat a, .ofNat b => Int.ofNat (a ||| b)
  | .ofNat a, .negSucc b => Int.negSucc (natAndNot b a)
  | .negSucc a, .ofNat b => Int.negSucc (natAndNot a b)
  | .negSucc a, .negSucc b => Int.negSucc (a &&& b)

def pyXor : Int → Int → Int
  | .ofNat a, .ofNat b => Int.ofNat (a ^^^ b)
  | .ofNat a, .negSucc b => Int.negSucc (a ^^^ b)
  | .negSucc a, .ofNat b => Int.negSucc (a ^^^ b)
  | .negSucc a, .negSucc b => Int.ofNat (a ^^^ b)

/-- `int.bit_length()` (of the absolute value) -/
def pyBitLength (a : Int) : Int := if a.natAbs = 0 then 0 else ((Nat.log2 a.natAbs + 1 : Nat) : Int)

/-- `while cond(st): st = body(st)` with fuel -/
def whileF {σ : Type} (fuel : Nat) (cond : σ → Bool) (body : σ → σ) (s : σ) : Option σ :=
  match fuel with
  | 0 => none
  | f + 1 => if cond s then whileF f cond body (body s) else some s

/-! sanity: the operators on concrete two's-complement values (as CPython computes them) -/
example : pyAnd (-3) 12 = 12 ∧ pyAnd 12 (-3) = 12 ∧ pyAnd (-4) (-6) = -8 ∧ pyAnd 13 7 = 5 := by decide
example : pyOr (-3) 12 = -3 ∧ pyOr 12 (-16) = -4 ∧ pyOr (-4) (-6) = -2 ∧ pyOr 9 3 = 11 := by decide
example : pyXor (-3) 12 = -15 ∧ pyXor 12 (-3) = -15 ∧ pyXor (-4) (-6) = 6 ∧ pyXor 9 3 = 10 := by decide
example : pyNot 5 = -6 ∧ pyNot (-1) = 0 ∧ pyShl (-3) 2 = -12 ∧ pyShr (-5) 1 = -3 ∧ pyShr 5 1 = 2 := by decide
example : pyFloorDiv (-7) 2 = -4 ∧ pyMod (-7) 2 = 1 ∧ pyMod 7 (-2) = -1 ∧ pyFloorDiv 7 2 = 3 := by decide
example : pyBitLength 0 = 0 ∧ pyBitLength 1 = 1 ∧ pyBitLength 255 = 8 ∧ pyBitLength 256 = 9 ∧ pyBitLength (-5) = 3 := by decide
example : idx 4 (-1) = 3 ∧ idx 4 2 = 2 ∧ idxOk 4 (-4) ∧ ¬ idxOk 4 4 ∧ ¬ idxOk 4 (-5) := by decide

theorem mkB_natCast (n : Nat) (k : Int) : mkB (n : Int) k = ⟨n, k.toNat⟩ := by simp [mkB]

/-- where a generated result ends once the cast lemmas below have brought its value to the form `↑v` -/
theorem mkB_cast (n v : Nat) : mkB (n : Int) (v : Int) = ⟨n, v⟩ := mkB_natCast n v

theorem mkB_zero (n : Nat) : mkB (n : Int) 0 = ⟨n, 0⟩ := mkB_natCast n 0

theorem mkB_one (k : Int) : mkB 1 k = ⟨1, k.toNat⟩ := by simp [mkB]

theorem idxOk_natCast {len n : Nat} (h : n < len) : idxOk len (n : Int) := by
  unfold idxOk; omega

theorem idx_of_nonneg (len : Nat) (i : Int) (h : 0 ≤ i) : idx len i = i.toNat := by
  unfold idx; have : ¬ (i < 0) := by omega
  simp [this]

theorem idx_natCast (len n : Nat) : idx len (n : Int) = n := idx_of_nonneg len n (Int.natCast_nonneg n)

theorem b2i_toNat (p : Prop) [Decidable p] : (b2i p).toNat = if p then 1 else 0 := by
  unfold b2i; split <;> simp

theorem mkB_b2i (p : Prop) [Decidable p] : mkB 1 (b2i p) = ⟨1, if p then 1 else 0⟩ := by
  rw [mkB_one, b2i_toNat]

theorem pyAnd_natCast (a b : Nat) : pyAnd (a : Int) (b : Int) = ((a &&& b : Nat) : Int) := rfl
theorem pyOr_natCast (a b : Nat) : pyOr (a : Int) (b : Int) = ((a ||| b : Nat) : Int) := rfl
theorem pyXor_natCast (a b : Nat) : pyXor (a : Int) (b : Int) = ((a ^^^ b : Nat) : Int) := rfl

theorem pyNot_natCast (m : Nat) : pyNot (m : Int) = Int.negSucc m := by
  unfold pyNot; omega

theorem pyAnd_natCast_not (a m : Nat) : pyAnd (a : Int) (pyNot (m : Int)) = ((natAndNot a m : Nat) : Int) := by
  rw [pyNot_natCast]; rfl

theorem testBit_natAndNot (a b i : Nat) : (natAndNot a b).testBit i = (a.testBit i && !b.testBit i) := by
  unfold natAndNot; rw [Nat.testBit_xor, Nat.testBit_and]
  cases a.testBit i <;> cases b.testBit i <;> rfl

theorem pyShl_natCast (a n : Nat) : pyShl (a : Int) (n : Int) = ((a <<< n : Nat) : Int) := by
  simp [pyShl]

theorem pyShl_eq_mul_pow (a : Int) (n : Nat) : pyShl a (n : Int) = a * 2 ^ n := by
  simp [pyShl, Int.shiftLeft_eq]

theorem pyShr_natCast (a n : Nat) : pyShr (a : Int) (n : Int) = ((a >>> n : Nat) : Int) := by
  simp [pyShr]

/-- the shifts of a generated text by a literal count are these two at that count (`x << 3 = 8 * x`, `x >> 8 = x / 256`) -/
theorem pyShl_natCast_mul (a n : Nat) : pyShl (a : Int) (n : Int) = ((2 ^ n * a : Nat) : Int) := by
  rw [pyShl_natCast, Nat.shiftLeft_eq, Nat.mul_comm]

theorem pyShr_natCast_div (a n : Nat) : pyShr (a : Int) (n : Int) = ((a / 2 ^ n : Nat) : Int) := by
  rw [pyShr_natCast, Nat.shiftRight_eq_div_pow]

theorem pyFloorDiv_natCast (a b : Nat) : pyFloorDiv (a : Int) (b : Int) = ((a / b : Nat) : Int) := by
  unfold pyFloorDiv
  rw [Int.fdiv_eq_ediv_of_nonneg _ (by omega)]; simp

theorem pyMod_natCast (a b : Nat) : pyMod (a : Int) (b : Int) = ((a % b : Nat) : Int) := by
  unfold pyMod
  rw [Int.fmod_eq_emod_of_nonneg _ (by omega)]; simp

theorem pyAbs_gt_one (k : Int) : (pyAbs k > 1) ↔ (k.natAbs > 1) := by
  unfold pyAbs; omega

/-! ## `k & (2^n - 1)` is `k mod 2^n`, for every integer `k` -/

theorem natAndNot_mask (a n : Nat) : natAndNot (2 ^ n - 1) a = 2 ^ n - 1 - a % 2 ^ n := by
  apply Nat.eq_of_testBit_eq
  intro i
  rw [testBit_natAndNot, Nat.testBit_two_pow_sub_one]
  have hlt : a % 2 ^ n < 2 ^ n := Nat.mod_lt _ (Nat.two_pow_pos n)
  have e : 2 ^ n - 1 - a % 2 ^ n = 2 ^ n - (a % 2 ^ n + 1) := by omega
  rw [e, Nat.testBit_two_pow_sub_succ hlt, Nat.testBit_mod_two_pow]
  by_cases h : i < n <;> simp [h]

theorem pyAnd_upper (k : Int) (n : Nat) : pyAnd k ((upper n : Nat) : Int) = ((maskInt n k : Nat) : Int) := by
  have hp : (0 : Int) < 2 ^ n := Int.pow_pos (by decide)
  rw [maskInt, Int.toNat_of_nonneg (Int.emod_nonneg k (Int.ne_of_gt hp))]
  cases k with
  | ofNat a =>
    show ((a &&& (2 ^ n - 1) : Nat) : Int) = _
    rw [Nat.and_two_pow_sub_one_eq_mod, Int.natCast_emod, cast_two_pow]; rfl
  | negSucc a =>
    show ((natAndNot (2 ^ n - 1) a : Nat) : Int) = _
    have hlt : a % 2 ^ n < 2 ^ n := Nat.mod_lt _ (Nat.two_pow_pos n)
    have := cast_two_pow n
    rw [natAndNot_mask, Int.negSucc_emod a hp, ← cast_two_pow, ← Int.natCast_emod]
    omega

theorem pyAnd_one (k : Int) : pyAnd k 1 = ((maskInt 1 k : Nat) : Int) := pyAnd_upper k 1

/-- a mask literal (`x & 255`, `x & 1`) is `upper n` at that `n` -/
theorem pyAnd_natCast_mod (a n : Nat) : pyAnd (a : Int) ((upper n : Nat) : Int) = ((a % 2 ^ n : Nat) : Int) := by
  rw [pyAnd_upper, maskInt_natCast]

theorem maskInt_pyNot (n a : Nat) : maskInt n (pyNot (a : Int)) = maskInt n (-(a : Int) - 1) := rfl

/-! ## writing a field: `(sv & ~((1 << b) - (1 << a))) | (w << a)` is `pokeRaw` -/

theorem testBit_two_pow_sub_two_pow (a b i : Nat) (h : a ≤ b) :
    (2 ^ b - 2 ^ a).testBit i = (decide (a ≤ i) && decide (i < b)) := by
  have e : 2 ^ b - 2 ^ a = (2 ^ (b - a) - 1) * 2 ^ a := by
    rw [Nat.sub_mul, ← Nat.pow_add, Nat.sub_add_cancel h]; simp
  rw [e, Nat.testBit_mul_two_pow, Nat.testBit_two_pow_sub_one]
  by_cases h1 : a ≤ i <;> by_cases h2 : i < b <;> simp [h1, h2] <;> omega

theorem poke_nat (sv a b w : Nat) (hab : a ≤ b) (hw : w < 2 ^ (b - a)) :
    natAndNot sv (2 ^ b - 2 ^ a) ||| (w <<< a) = pokeRaw sv a b w := by
  apply Nat.eq_of_testBit_eq
  intro i
  rw [Nat.testBit_or, testBit_natAndNot, testBit_two_pow_sub_two_pow _ _ _ hab, Nat.testBit_shiftLeft,
      testBit_pokeRaw sv a b w i hab hw]
  by_cases h1 : a ≤ i <;> by_cases h2 : i < b <;> simp [h1, h2]
  simp [testBit_of_lt_two_pow hw (show b - a ≤ i - a by omega)]

theorem poke_int (sv a b w : Nat) (hab : a ≤ b) (hw : w < 2 ^ (b - a)) :
    pyOr (pyAnd (sv : Int) (pyNot (pyShl 1 (b : Int) - pyShl 1 (a : Int)))) (pyShl (w : Int) (a : Int))
      = ((pokeRaw sv a b w : Nat) : Int) := by
  have hp : 2 ^ a ≤ 2 ^ b := Nat.pow_le_pow_right (by decide) hab
  have e1 : pyShl 1 (b : Int) - pyShl 1 (a : Int) = ((2 ^ b - 2 ^ a : Nat) : Int) := by
    rw [pyShl_eq_mul_pow, pyShl_eq_mul_pow]
    have c1 := cast_two_pow a
    have c2 := cast_two_pow b
    omega
  rw [e1, pyAnd_natCast_not, pyShl_natCast, pyOr_natCast, poke_nat _ _ _ _ hab hw]

theorem poke1_int (sv j w : Nat) (hw : w < 2) :
    pyOr (pyAnd (sv : Int) (pyNot (pyShl 1 (j : Int)))) (pyShl (w : Int) (j : Int))
      = ((pokeRaw sv j (j + 1) w : Nat) : Int) := by
  have e : pyShl 1 (j : Int) = pyShl 1 ((j + 1 : Nat) : Int) - pyShl 1 (j : Int) := by
    rw [pyShl_eq_mul_pow, pyShl_eq_mul_pow, Int.pow_succ]; omega
  rw [e, poke_int sv j (j + 1) w (by omega) (by simpa using hw)]

end PV.PyInt
