import PymtlVerif.Proofs.PipeRef1
import PymtlVerif.Proofs.PipeExcl
/-!
Refinement proof, part 2: the data side of `Inv`.  Results in W, M, X are the ISA's (`load_value`, `bypass_M_ok`,
`alu_X_ok`, `redirect_X_ok`), each bypass stage extends the register view by one instruction (`byp_stage`,
`bypass_ok`), and with these the clauses `w`, `m`, `x` are preserved.  Register file and proc2mngr stream, data
memory, mngr2proc stream are each the ISA's at one stage boundary (commit, leaving X, leaving D) and change when an
instruction crosses it (`arch_next`): the clauses `rf`, `out`, `dmem`, `inp`.
-/
namespace PV.Pipe
open PV.TinyRV0 (W32 Mem loadWord storeWord rget rset)

/-! `ctlX_next` reads nothing of the state but `inst_D`, so the control word of `w` is that of any state holding `w` in D -/
theorem ctlX_next_eq (s : State) : ctlX_next s = ctlX_of s.inst_D := rfl
theorem ctlX_of_rf_wen_pending (w : Nat) : (ctlX_of w).rf_wen_pending = (U.cs w).rf_wen_pending := rfl
theorem ctlX_of_alu_fn (w : Nat) : (ctlX_of w).alu_fn = (U.cs w).alu_fn := rfl
theorem ctlX_of_rf_waddr (w : Nat) : (ctlX_of w).rf_waddr = rd w := rfl
theorem ctlX_of_dmemreq_type (w : Nat) : (ctlX_of w).dmemreq_type = (U.cs w).dmemreq_type := rfl
theorem ctlX_of_br_type (w : Nat) : (ctlX_of w).br_type = (U.cs w).br_type := rfl

theorem and_not_of_eq_and {a b : Bool} (h : a = (a && b)) : (a && !b) = false := by
  rw [h]; cases a <;> cases b <;> rfl

/-- the two accelerator conditions of `xcelreq_D`, for a row whose `csrr` / `csrw` only address the manager -/
theorem no_xcel (a b c d : Bool) (h1 : a = (a && b)) (h2 : c = (c && d)) :
    (if a && !b then true else if c && !d then true else false) = false := by
  rw [and_not_of_eq_and h1, and_not_of_eq_and h2]; rfl

theorem ctlX_of_xcel {S : TinyRV0.State} {w : Nat} (h : RowOk S w) : (ctlX_of w).xcelreq = false :=
  no_xcel _ _ _ _ h.csrr_m2p h.csrw_p2m

/-- an instruction with a result (for a register or for proc2mngr) is not a store -/
theorem RowOk.wr_mem {S : TinyRV0.State} {w : Nat} (R : RowOk S w)
    (hu : (U.cs w).rf_wen_pending = true ∨ U.p2m w = true) :
    (U.cs w).dmemreq_type = nr ∨ (U.cs w).dmemreq_type = ld := by
  rcases R.mem_type with a | a | a
  · exact .inl a
  · exact .inr a
  · rcases hu with u | u
    · rw [(R.st_nowen a).1] at u; cases u
    · exact .inl (R.p2m_nomem u)

theorem ctlM_next_ok {s : State} {w : Nat} {S : TinyRV0.State} (h : s.cx = ctlX_of w) (R : RowOk S w) :
    (ctlM_next s).rf_wen_pending = (U.cs w).rf_wen_pending ∧ (ctlM_next s).rf_waddr = rd w ∧
    (ctlM_next s).proc2mngr_en = U.p2m w ∧ (ctlM_next s).dmemreq_type = (U.cs w).dmemreq_type ∧
    (ctlM_next s).wb_result_sel = (U.cs w).wb_result_sel ∧ (ctlM_next s).xcelreq = false :=
  ⟨congrArg CtlX.rf_wen_pending h, congrArg CtlX.rf_waddr h, congrArg CtlX.proc2mngr_en h,
    congrArg CtlX.dmemreq_type h, congrArg CtlX.wb_result_sel h, (congrArg CtlX.xcelreq h).trans (ctlX_of_xcel R)⟩

theorem WOk.of_eq {p : Prog} {s s' : State} {j : Nat} (W : WOk p s j) (h1 : s'.cw = s.cw)
    (h2 : s'.wb_result_W = s.wb_result_W) : WOk p s' j :=
  ⟨h1 ▸ W.wen, h1 ▸ W.waddr, h1 ▸ W.p2m, h2 ▸ W.val⟩
theorem XOk.of_eq {p : Prog} {s s' : State} {j : Nat} (X : XOk p s j) (h1 : s'.cx = s.cx) (h2 : s'.op1_X = s.op1_X)
    (h3 : s'.op2_X = s.op2_X) (h4 : s'.store_X = s.store_X) (h5 : s'.br_target_X = s.br_target_X) : XOk p s' j :=
  ⟨h1 ▸ X.ctl, h2 ▸ X.op1, h3 ▸ X.op2, h4 ▸ X.sto, h5 ▸ X.tgt⟩

section step
variable {p : Prog} {N : Nat} {s : State} {E : Env} {c : Nat} {i : EnvIn}

/-- M not stalled with a pending load: the response is at the head (queue or arriving) and it is the ISA's word -/
theorem load_value (I : Inv p N s E c) (hE : envOk p E i (out s i)) (hv : s.val_M = true)
    (hj : iM s c < N) (hs : stall_M s i = false)
    (hl : (U.cs (wordAt p (iM s c))).dmemreq_type = ld) :
    dmemresp_data s i = loadWord (isaAt p (iM s c)).mem (U.aluv (isaAt p (iM s c)) (wordAt p (iM s c))) := by
  have M := I.m hv hj
  obtain ⟨hq, hd⟩ := M.ldv hl
  have hrdy : dmemresp_rdy s i = true := by
    simp [stall_M, hv, ostall_M, ostall_dmem_M, M.dty, hl, ld, nr] at hs
    exact hs.1.1
  simp only [dmemresp_data, BypQ.deq_ret]
  rcases Bool.eq_false_or_eq_true s.dmemresp_q.full with hf | hf
  · rw [if_pos hf]; exact hq hf
  · rw [hf]; simp only [Bool.false_eq_true, if_false]
    simp [dmemresp_rdy, BypQ.deq_rdy, hf] at hrdy
    obtain ⟨_, r, rest, hr, hval⟩ := hE.2.2.1 hrdy.2
    exact hval _ (hd r (by rw [hr]; simp))

theorem bypass_M_ok (hR : Runs p N) (I : Inv p N s E c) (hE : envOk p E i (out s i)) (hv : s.val_M = true)
    (hj : iM s c < N) (hs : stall_M s i = false)
    (hu : (U.cs (wordAt p (iM s c))).rf_wen_pending = true ∨ U.p2m (wordAt p (iM s c)) = true) :
    bypass_M s i = U.wb (isaAt p (iM s c)) (wordAt p (iM s c)) := by
  have M := I.m hv hj
  have R := (runs_step hR hj).2
  simp only [bypass_M, M.sel, U.wb]
  rcases R.wb_sel with h0 | ⟨h1, hn⟩
  · simp only [h0, if_true]; exact M.val h0 hu
  · simp only [h1, show (1 : Nat) = 0 ↔ False by decide, if_false, if_true]
    exact load_value I hE hv hj hs ((R.wr_mem hu).resolve_left hn)

theorem w_next (hR : Runs p N) (I : Inv p N s E c) (hE : envOk p E i (out s i)) :
    (next s i).val_W = true → c' s i c < N → WOk p (next s i) (c' s i c) := by
  have hr := hE.1
  intro hv hc
  rcases Bool.eq_false_or_eq_true (stall_W s i) with hs | hs
  · obtain ⟨_, h2, h3⟩ := hold_W s i hr hs
    have hc0 : c' s i c = c := by simp [c', commit_inst, hs]
    rw [hc0] at hc ⊢
    exact (I.w (stall_W_val s i hs) hc).of_eq h2 h3
  · obtain ⟨e0, e1, e2⟩ := load_W s i hr hs
    have hc0 : c' s i c = iM s c := by simp [c', commit_inst, hs, iM]
    rw [e0] at hv
    obtain ⟨hvm, hsm⟩ := next_val_M_true hv
    rw [hc0] at hc ⊢
    have M := I.m hvm hc
    exact ⟨e1 ▸ M.wen, e1 ▸ M.waddr, e1 ▸ M.p2m, fun hu => e2 ▸ bypass_M_ok hR I hE hvm hc hsm hu⟩

/-- a component `f` of the architectural state that the pipeline updates when an instruction (number `k`) crosses one
stage boundary (`b`): it stays what it is when none crosses, and takes that instruction's effect when one does -/
theorem arch_next {α : Type} (hR : Runs p N) (f : TinyRV0.State → α) {b : Bool} {k : Nat} {x x' : α}
    (I : k ≤ N → x = f (isaAt p k)) (stay : b = false → x' = x)
    (cross : b = true → k < N → x' = f (U.next (isaAt p k) (wordAt p k))) :
    k + b.toNat ≤ N → x' = f (isaAt p (k + b.toNat)) := by
  cases b
  · exact fun h => (stay rfl).trans (I h)
  · exact fun h => (cross rfl h).trans (congrArg f (runs_step hR h).1.symm)

theorem rf_next (hR : Runs p N) (I : Inv p N s E c) :
    c' s i c ≤ N → (next s i).rf = (isaAt p (c' s i c)).regs := by
  refine arch_next hR (·.regs) I.rf (fun hn => ?_) (fun hn hc => ?_)
  · -- no commit: no write, since only a committing W writes
    exact Decidable.byContradiction fun hne => by
      rw [(rf_change_unstalled I.excl i hne).2.2.1] at hn
      cases hn
  · obtain ⟨hv, _⟩ : s.val_W = true ∧ stall_W s i = false := by simpa [commit_inst] using hn
    have W := I.w hv hc
    show rf_write s.rf (rf_wen_W s) s.cw.rf_waddr s.wb_result_W = _
    rw [I.rf (Nat.le_of_lt hc)]
    simp only [U.next, rf_write_rset, rf_wen_W, hv, Bool.true_and, W.wen, W.waddr]
    split
    · next a => rw [W.val (Or.inl a)]
    · rfl

theorem out_next (hR : Runs p N) (I : Inv p N s E c) :
    c' s i c ≤ N → (envNext E i (out s i)).out = (isaAt p (c' s i c)).out := by
  have e : (envNext E i (out s i)).out = E.out ++ (if commit_inst s i && s.cw.proc2mngr_en then [s.wb_result_W] else []) := rfl
  refine arch_next hR (·.out) I.out (fun hn => by rw [e, hn]; exact List.append_nil _) (fun hn hc => ?_)
  obtain ⟨hv, _⟩ : s.val_W = true ∧ stall_W s i = false := by simpa [commit_inst] using hn
  have W := I.w hv hc
  have R := (runs_step hR hc).2
  rw [e, hn, I.out (Nat.le_of_lt hc)]
  simp only [U.next, W.p2m, Bool.true_and]
  rcases Bool.eq_false_or_eq_true (U.p2m (wordAt p c)) with a | a
  · have hw := W.val (Or.inr a)
    have h0 := R.nomem_sel (R.p2m_nomem a)
    simp only [a, if_true, hw, U.wb, h0]
  · simp [a]

theorem alu_X_ok (hR : Runs p N) (I : Inv p N s E c) (hv : s.val_X = true) (hj : iX s c < N)
    (hu : (U.cs (wordAt p (iX s c))).rf_wen_pending = true ∨ (U.cs (wordAt p (iX s c))).dmemreq_type ≠ nr ∨
      U.p2m (wordAt p (iX s c)) = true) :
    alu_out_X s = U.aluv (isaAt p (iX s c)) (wordAt p (iX s c)) := by
  have X := I.x hv hj
  have R := (runs_step hR hj).2
  simp only [alu_out_X, X.ctl, ctlX_of_alu_fn, U.aluv]
  exact R.alu_dep hu _ _ _ _ X.op1 X.op2

theorem redirect_X_ok (hR : Runs p N) (I : Inv p N s E c) (hv : s.val_X = true) (hj : iX s c < N) :
    pc_redirect_X s = U.taken (isaAt p (iX s c)) (wordAt p (iX s c)) := by
  have X := I.x hv hj
  have R := (runs_step hR hj).2
  simp only [pc_redirect_X, hv, Bool.true_and, X.ctl, ctlX_of_br_type, U.taken, ne_X, br_ne]
  rcases Bool.eq_false_or_eq_true (U.cs (wordAt p (iX s c))).br_type with a | a
  · obtain ⟨e1, e2, e3, _⟩ := R.br_en a
    rw [X.op1 e1, X.op2 (Or.inr e2)]
    simp [a]
  · simp [a]

theorem dmem_next (hR : Runs p N) (I : Inv p N s E c) (hE : envOk p E i (out s i)) :
    iX (next s i) (c' s i c) ≤ N → (envNext E i (out s i)).dmem = (isaAt p (iX (next s i) (c' s i c))).mem := by
  rw [iX_next s i c hE.1]
  have e : (envNext E i (out s i)).dmem =
      if next_val_X s i && (s.cx.dmemreq_type != nr) && (dmemreq_type s == 1)
      then storeWord E.dmem (alu_out_X s) s.store_X else E.dmem := rfl
  refine arch_next hR (·.mem) I.dmem (fun hn => by rw [e, hn]; rfl) (fun hn hj => ?_)
  -- an instruction leaves X: its store, if it is one, is sent now
  obtain ⟨hv, _⟩ := next_val_X_true hn
  have X := I.x hv hj
  have R := (runs_step hR hj).2
  rw [e, hn, I.dmem (Nat.le_of_lt hj)]
  simp only [U.next, dmemreq_type, X.ctl, ctlX_of_dmemreq_type, Bool.true_and]
  by_cases hst : (U.cs (wordAt p (iX s c))).dmemreq_type = st
  · have ha := alu_X_ok hR I hv hj (Or.inr (Or.inl (by rw [hst]; decide)))
    have hb := X.sto (R.st_nowen hst).2
    simp [hst, ha, hb, st, nr]
  · simp [hst]

theorem m_next (hR : Runs p N) (I : Inv p N s E c) (hE : envOk p E i (out s i)) :
    (next s i).val_M = true → iM (next s i) (c' s i c) < N → MOk p (next s i) (envNext E i (out s i)) (iM (next s i) (c' s i c)) := by
  have hr := hE.1
  have eq : (next s i).dmemresp_q = s.dmemresp_q.next i.reset i.dmem_resp_en i.dmem_resp_data (dmemresp_en s i) := rfl
  intro hv hj
  rcases Bool.eq_false_or_eq_true (stall_M s i) with hs | hs
  · -- held: the load's response may move from the memory into the queue
    rw [iM_hold s i c hr hs] at hj ⊢
    obtain ⟨_, h2, h3⟩ := hold_M s i hr hs
    have M := I.m (stall_M_val s i hs) hj
    refine ⟨by rw [h2]; exact M.wen, by rw [h2]; exact M.waddr, by rw [h2]; exact M.p2m, by rw [h2]; exact M.dty,
      by rw [h2]; exact M.sel, by rw [h2]; exact M.xcel, by rw [h3]; exact M.val, fun hl => ?_⟩
    obtain ⟨hq, hd⟩ := M.ldv hl
    have hde : dmemresp_en s i = false := by simp [dmemresp_en, hs]
    rw [envNext_dresp, eq, no_dreq_of_stall_M hs]
    rcases Bool.eq_false_or_eq_true i.dmem_resp_en with he | he
    · obtain ⟨hrdy, r, rest, h4, h5⟩ := hE.2.2.1 he
      have hr' : r = some _ := hd r (by rw [h4]; simp)
      refine ⟨fun _ => ?_, ?_⟩
      · simp only [BypQ.next, he, hde]; simpa using h5 _ hr'
      · intro r' hm; apply hd; simp [he, h4] at hm; rw [h4]; simp [hm]
    · refine ⟨fun hf => ?_, ?_⟩
      · simp only [BypQ.next, he, hde] at hf ⊢
        simp at hf ⊢; exact hq hf.2
      · intro r' hm; apply hd; simpa [he] using hm
  · -- loaded from X
    rw [iM_load s i c hr hs] at hj ⊢
    obtain ⟨e1, e2, e3⟩ := load_M s i hr hs
    rw [e1] at hv
    obtain ⟨hvx, hsx⟩ := next_val_X_true hv
    have X := I.x hvx hj
    have R := (runs_step hR hj).2
    have f5 := ctlX_of_dmemreq_type (wordAt p (iX s c))
    obtain ⟨a1, a2, a3, a4, a5, a6⟩ := ctlM_next_ok X.ctl R
    refine ⟨e2 ▸ a1, e2 ▸ a2, e2 ▸ a3, e2 ▸ a4, e2 ▸ a5, e2 ▸ a6, fun _ hu => ?_, fun hl => ?_⟩
    · rw [e3]
      exact alu_X_ok hR I hvx hj (hu.elim .inl fun u => .inr (.inr u))
    · obtain ⟨hq, hd⟩ := dchan_drain I hE hs
      rw [envNext_dresp, hd]
      have hen : dmemreq_en s i = true := by simp [dmemreq_en, hvx, hsx, X.ctl, f5, hl, ld, nr]
      have hty : dmemreq_type s = 0 := by simp [dmemreq_type, X.ctl, f5, hl, ld, st]
      have ha := alu_X_ok hR I hvx hj (Or.inr (Or.inl (by rw [hl]; decide)))
      refine ⟨fun h => (by rw [hq] at h; cases h), ?_⟩
      intro r hm
      simp [hen, hty] at hm
      rw [hm, ha, I.dmem (by omega)]

/-- `byp_mux` applied to the select of `byp_sel` (`a`, `b`, `c` = hit in X, M, W): the youngest hit wins -/
theorem mux_sel (a b c : Bool) (x m w d : Nat) :
    (let sel := if a then 1 else if b then 2 else if c then 3 else 0
     if sel = 0 then d else if sel = 1 then x else if sel = 2 then m else w) =
    if a then x else if b then m else if c then w else d := by
  cases a <;> cases b <;> cases c <;> rfl

/-- a bypass hit in a stage whose control word has write enable `wen'` and destination `rd'`: that instruction writes `r` -/
theorem byp_hit {v wen wen' : Bool} {r waddr rd' : Nat} (h : v = true → wen = wen' ∧ waddr = rd') :
    (v && (r == waddr) && (waddr != 0) && wen) = true ↔ v = true ∧ wen' = true ∧ rd' = r ∧ r ≠ 0 := by
  cases v
  · simp
  · obtain ⟨rfl, rfl⟩ := h rfl
    simp only [Bool.true_and, Bool.and_eq_true, beq_iff_eq, bne_iff_ne, true_and]
    constructor
    · rintro ⟨⟨rfl, h0⟩, hw⟩; exact ⟨hw, rfl, h0⟩
    · rintro ⟨hw, rfl, h0⟩; exact ⟨⟨rfl, h0⟩, hw⟩

/-- one bypass stage: if a stage holds instruction `j` (when `v`), hits exactly when that instruction writes `r`
and then supplies its result, and `older` is `r` before instruction `j`, then the mux output is `r` after it -/
theorem byp_stage (hR : Runs p N) {v sel : Bool} {j r val older : Nat} (hj : v = true → j < N)
    (hsel : sel = true ↔ v = true ∧ (U.cs (wordAt p j)).rf_wen_pending = true ∧ rd (wordAt p j) = r ∧ r ≠ 0)
    (hval : sel = true → val = U.wb (isaAt p j) (wordAt p j)) (hold : older = rget (isaAt p j).regs r) :
    (if sel then val else older) = rget (isaAt p (j + v.toNat)).regs r := by
  cases v
  · rw [if_neg (fun h => by cases (hsel.1 h).1)]; exact hold
  · rw [show j + true.toNat = j + 1 from rfl, regs_next hR (hj rfl) r]
    by_cases h : sel = true
    · rw [if_pos h, if_pos (hsel.1 h).2, hval h]
    · rw [if_neg h, if_neg (fun h' => h (hsel.2 ⟨rfl, h'⟩)), hold]

/-- bypass network: for an enabled source register without load-use hazard, the selected value is the
ISA's register value at D's position in program order -/
theorem bypass_ok (hR : Runs p N) (I : Inv p N s E c) (hE : envOk p E i (out s i)) (hj : iD s c < N)
    (hsm : stall_M s i = false) {en : Bool} (hen : en = true) (r : Nat)
    (hnh : (en && s.val_X && s.cx.rf_wen_pending && (r == s.cx.rf_waddr) && (s.cx.rf_waddr != 0) &&
      (s.cx.dmemreq_type == ld)) = false) :
    byp_mux s i (byp_sel s en r) (rf_read s.rf r) = rget (isaAt p (iD s c)).regs r := by
  subst hen
  have hX : s.val_X = true → iX s c < N := fun h => by simp [iD, h] at hj; omega
  have hM : s.val_M = true → iM s c < N := fun h => by simp [iD, iX, h] at hj; omega
  have hW : s.val_W = true → c < N := fun h => by simp [iD, iX, iM, h] at hj; omega
  have hWl : c ≤ N := by simp [iD, iX, iM] at hj; omega
  refine (mux_sel _ _ _ _ _ _ _).trans ?_
  refine byp_stage hR (v := s.val_X) (j := iX s c) hX (byp_hit fun v => ?_) (fun h => ?_)
    (byp_stage hR (v := s.val_M) (j := iM s c) hM (byp_hit fun v => ?_) (fun h => ?_)
      (byp_stage hR (v := s.val_W) (j := c) hW (byp_hit fun v => ?_) (fun h => ?_) (by rw [I.rf hWl]; rfl)))
  · rw [(I.x v (hX v)).ctl]
    exact ⟨ctlX_of_rf_wen_pending _, ctlX_of_rf_waddr _⟩
  · -- X supplies the ALU result; it is the instruction's result since it is not a load
    simp only [Bool.and_eq_true, beq_iff_eq, bne_iff_ne] at h
    obtain ⟨⟨⟨vX, hr⟩, h0⟩, hw⟩ := h
    have X := I.x vX (hX vX)
    have R := (runs_step hR (hX vX)).2
    have f1 := ctlX_of_rf_wen_pending (wordAt p (iX s c))
    have f5 := ctlX_of_dmemreq_type (wordAt p (iX s c))
    have wX : (U.cs (wordAt p (iX s c))).rf_wen_pending = true := by rw [X.ctl, f1] at hw; exact hw
    have hnl : (U.cs (wordAt p (iX s c))).dmemreq_type ≠ ld := by
      intro hl
      have : s.cx.dmemreq_type = ld := by rw [X.ctl, f5]; exact hl
      simp [vX, hw, hr, h0, this] at hnh
    show alu_out_X s = _
    rw [alu_X_ok hR I vX (hX vX) (Or.inl wX), U.wb, if_pos (R.nomem_sel ((R.wr_mem (.inl wX)).resolve_right hnl))]
  · have M := I.m v (hM v)
    exact ⟨M.wen, M.waddr⟩
  · simp only [Bool.and_eq_true] at h
    have M := I.m h.1.1.1 (hM h.1.1.1)
    exact bypass_M_ok hR I hE h.1.1.1 (hM h.1.1.1) hsm (Or.inl (M.wen ▸ h.2))
  · have W := I.w v (hW v)
    exact ⟨W.wen, W.waddr⟩
  · simp only [Bool.and_eq_true] at h
    have W := I.w h.1.1.1 (hW h.1.1.1)
    exact W.val (Or.inl (W.wen ▸ h.2))

theorem osquash_of_tkX (hR : Runs p N) (I : Inv p N s E c) (ht : tkX p N s c) (hs : stall_X s i = false) :
    osquash_X s i = true := by
  obtain ⟨hv, hj, hk⟩ := ht
  simp [osquash_X, hv, hs, redirect_X_ok hR I hv hj, hk]

theorem d_onpath (hR : Runs p N) (I : Inv p N s E c) (hnv : next_val_D s i = true) (hj : iD s c < N) :
    s.pc_D = (isaAt p (iD s c)).pc ∧ s.inst_D = wordAt p (iD s c) := by
  obtain ⟨hv, hsd, hq⟩ := next_val_D_true hnv
  refine I.d hv hj fun ht => ?_
  have := osquash_of_tkX hR I ht (not_stall_D hv hsd).2.2.1
  simp [squash_D, hv, this] at hq

theorem inp_next (hR : Runs p N) (I : Inv p N s E c) (hE : envOk p E i (out s i)) :
    iD (next s i) (c' s i c) ≤ N →
    (if (next s i).mngr2proc_q.full then [(next s i).mngr2proc_q.entry] else []) ++ (envNext E i (out s i)).src =
      (isaAt p (iD (next s i) (c' s i c))).inp := by
  rw [iD_next s i c hE.1]
  obtain ⟨hc0, hc1⟩ := mchan hE
  have hen : mngr2proc_en s i = (next_val_D s i && mngr2proc_D s) := rfl
  refine arch_next hR (·.inp) I.inp (fun hnv => hc0 (by rw [hen, hnv]; rfl)) (fun hnv hj => ?_)
  -- D moves into X: it reads the head if it is `csrr mngr2proc`
  obtain ⟨_, hw⟩ := d_onpath hR I hnv hj
  obtain ⟨hv, hsd, _⟩ := next_val_D_true hnv
  have hm : mngr2proc_D s = U.m2p (wordAt p (iD s c)) := by rw [← hw]; rfl
  rw [hnv, hm, Bool.true_and] at hen
  simp only [U.next]
  rcases Bool.eq_false_or_eq_true (U.m2p (wordAt p (iD s c))) with a | a
  · have hrdy : mngr2proc_rdy s i = true := by
      have := (not_stall_D hv hsd).1
      simpa [ostall_mngr_D, hm, a] using this
    have := hc1 (hen.trans a) hrdy
    rw [I.inp (Nat.le_of_lt hj)] at this
    rw [if_pos a, this]; rfl
  · rw [if_neg (ne_true_of_eq_false a), hc0 (hen.trans a)]
    exact I.inp (Nat.le_of_lt hj)

theorem x_next (hR : Runs p N) (I : Inv p N s E c) (hE : envOk p E i (out s i)) :
    (next s i).val_X = true → iX (next s i) (c' s i c) < N → XOk p (next s i) (iX (next s i) (c' s i c)) := by
  have hr := hE.1
  intro hv hj
  rcases Bool.eq_false_or_eq_true (stall_X s i) with hs | hs
  · rw [iX_hold s i c hr hs] at hj ⊢
    obtain ⟨_, h2, h3, h4, h5, h6⟩ := hold_X s i hr hs
    exact (I.x (stall_X_val s i hs) hj).of_eq h2 h3 h4 h5 h6
  · rw [iX_load s i c hr hs] at hj ⊢
    obtain ⟨e1, e2, e3, e4, e5, e6⟩ := load_X s i hr hs
    rw [e1] at hv
    obtain ⟨hpc, hw⟩ := d_onpath hR I hv hj
    have R := (runs_step hR hj).2
    obtain ⟨hvd, hsd, _⟩ := next_val_D_true hv
    obtain ⟨hmn, hhz, _, hsm⟩ := not_stall_D hvd hsd
    have ecs : cs s = U.cs (wordAt p (iD s c)) := by rw [← hw]; rfl
    simp only [ostall_hazard_D, Bool.or_eq_false_iff] at hhz
    -- an enabled source register read through the bypass network is the ISA's
    have hb1 : (U.cs (wordAt p (iD s c))).rs1_en = true → op1_byp_D s i = U.op1 (isaAt p (iD s c)) (wordAt p (iD s c)) :=
      fun hen => by rw [← hw]; exact bypass_ok hR I hE hj hsm (ecs ▸ hen) _ hhz.1.1.1
    have hb2 : (U.cs (wordAt p (iD s c))).rs2_en = true → op2_byp_D s i = U.rs2v (isaAt p (iD s c)) (wordAt p (iD s c)) :=
      fun hen => by rw [← hw]; exact bypass_ok hR I hE hj hsm (ecs ▸ hen) _ hhz.1.1.2
    refine ⟨by rw [e2, ctlX_next_eq, hw], e3 ▸ hb1, fun hu => ?_, e5 ▸ hb2, fun _ => ?_⟩
    · rw [e4]
      simp only [op2_D, ecs, U.op2]
      by_cases h0 : (U.cs (wordAt p (iD s c))).op2_sel = 0
      · rw [if_pos h0, if_pos h0]
        exact hb2 (hu.resolve_left fun u => u h0)
      · rw [if_neg h0, if_neg h0]
        by_cases h1 : (U.cs (wordAt p (iD s c))).op2_sel = 1
        · rw [if_pos h1, if_pos h1, ← hw]; rfl
        · have h2 : (U.cs (wordAt p (iD s c))).op2_sel = 2 := by have := R.op2_sel_lt; omega
          rw [if_neg h1, if_neg h1, if_pos h2, if_pos h2]
          -- `csrr mngr2proc`: not stalled, so the head of the channel is there, and it is the ISA's
          have hm : mngr2proc_D s = true := by rw [← R.m2p_sel.mp h2, ← hw]; rfl
          have hrdy : mngr2proc_rdy s i = true := by simpa [ostall_mngr_D, hm] using hmn
          have hen : mngr2proc_en s i = true := by
            rw [show mngr2proc_en s i = (next_val_D s i && mngr2proc_D s) from rfl, hv, hm]; rfl
          have := (mchan hE).2 hen hrdy
          rw [I.inp (by omega)] at this
          rw [this]; rfl
    · rw [e6]
      simp only [pc_plus_imm_D, hpc, imm_D, ecs, U.imm, hw]

end step
end PV.Pipe
