import PymtlVerif.Proofs.TCWT
import PymtlVerif.Model.PyEval
import PymtlVerif.Props.C05  -- the specifications of the `Bits` operations (`PV.Bits`, `PV.C04`, `PV.C05`)
/-!
Soundness of the declarative judgement `WT` on its own (no checker, no `issuesE`): a term derivable at width `w` and
kind `k` evaluates to a value of that kind and width (`Has k w`), or raises something that is not a width error
(`WT.sound`).  With `checkE_WT` this is the soundness of the checker on clean expressions.  What a `Bits` operation does on
operands of its width (`GoodR`) is read off the specifications of C04 / C05; an int that fits acts as the `Bits` of the same
width (`binop_int`, `rbinop_int_cases`, `cmpop_int`).  The evaluation side starts here: `OKor` (a result, or an error that is
not a width error), and the agreement `EnvOK` between checker environment and simulator state.
-/
namespace PV.TC
open PV.Bits

/-- what a term annotated `a` may hold (`EnvOK` says it of the temporaries).  `h` = the term is *hard* (`hardE`): it
    certainly is a `Bits`.  A `Bits` value has exactly the static width (and the node is explicit); a Python int is only
    possible for a term that is not hard, it fits the static width, and it is the folded constant if the node is
    implicit and has one. -/
def Agrees (h : Bool) (a : Ann) : Val → Prop
  | .bits b => a.ex = true ∧ b.n = a.w ∧ b.Wf
  | .int k => h = false ∧ Fits a.w k ∧ (a.ex = false → ∀ v, a.val = some v → k = v)

/-- weaker: whatever the value, no width error (positions where only `bool()` / `int()` is taken) -/
def NoWidthErr {α : Type} : Except PyErr α → Prop
  | .ok _ => True
  | .error e => e.isWidth = false

def OKor {α : Type} (Q : α → Prop) : Except PyErr α → Prop
  | .ok v => Q v
  | .error e => e.isWidth = false

theorem PyErr.not_width {er : PyErr} (h : er.isWidth = false) : er ≠ .width ∧ er ≠ .range :=
  ⟨fun e => by subst e; exact Bool.noConfusion h, fun e => by subst e; exact Bool.noConfusion h⟩

theorem OKor.mono {α : Type} {Q R : α → Prop} {r : Except PyErr α} (s : OKor Q r)
    (h : ∀ x, r = .ok x → Q x → R x) : OKor R r := by
  cases r with
  | ok v => exact h v rfl s
  | error e => exact s

/-- evaluation propagates errors: `OKor` through a `match` whose error branch re-raises.  One lemma per type of the
    scrutinee (`Val`, `B`, `Rho`) and per order of the branches, stated with the very `match` of `evalPy` / `execS` so that
    `exact` finds it: Lean shares a `match` auxiliary only between scrutinees of the same type, and does not unify two
    different ones. -/
theorem OKor.bind {β : Type} {Q : Val → Prop} {R : β → Prop} {r : PR} {f : Val → Except PyErr β}
    (hr : OKor Q r) (hf : ∀ x, Q x → OKor R (f x)) :
    OKor R (match (generalizing := false) r with | .error er => .error er | .ok x => f x) := by
  cases r with
  | ok x => exact hf x hr
  | error e => exact hr

theorem OKor.bind' {β : Type} {Q : Val → Prop} {R : β → Prop} {r : PR} {f : Val → Except PyErr β}
    (hr : OKor Q r) (hf : ∀ x, Q x → OKor R (f x)) :
    OKor R (match (generalizing := false) r with | .ok x => f x | .error er => .error er) := by
  cases r with
  | ok x => exact hf x hr
  | error e => exact hr

theorem OKor.bindB {β : Type} {Q : B → Prop} {R : β → Prop} {r : Except PyErr B} {f : B → Except PyErr β}
    (hr : OKor Q r) (hf : ∀ x, Q x → OKor R (f x)) :
    OKor R (match (generalizing := false) r with | .error er => .error er | .ok x => f x) := by
  cases r with
  | ok x => exact hf x hr
  | error e => exact hr

theorem OKor.bindS {β : Type} {Q : Rho → Prop} {R : β → Prop} {r : Except PyErr Rho} {f : Rho → Except PyErr β}
    (hr : OKor Q r) (hf : ∀ x, Q x → OKor R (f x)) :
    OKor R (match (generalizing := false) r with | .error er => .error er | .ok x => f x) := by
  cases r with
  | ok x => exact hf x hr
  | error e => exact hr

/-- an operation result that is a well-formed `Bits<n>` or an error that is not a width error -/
def GoodR (n : Nat) : Bits.R → Prop
  | .ok b => b.n = n ∧ b.Wf
  | .error e => e ≠ .width ∧ e ≠ .range

theorem goodR_err {n : Nat} {e : Bits.Err} (g : GoodR n (.error e)) : (PyErr.ofBits e).isWidth = false := by
  cases e
  · exact absurd rfl g.1
  · exact absurd rfl g.2
  all_goals rfl

theorem noWidthErr_liftR {n : Nat} {r : Bits.R} (g : GoodR n r) : NoWidthErr (liftR r) := by
  cases r with
  | ok b => trivial
  | error e => exact goodR_err g

theorem Op.toBits_shift (op : Op) : op.isShift = true → (op.toBits = .lshift ∨ op.toBits = .rshift) := by
  cases op <;> simp [Op.isShift, Op.toBits]

def TmpOK (G : Env) (ρ : Rho) : Prop :=
  ∀ t w ex v, G.tmps.lookup t = some (w, ex) → ρ.tmps.lookup t = some v → Agrees ex ⟨w, ex, none⟩ v

def LvOK (Γ : Env) (ρ : Rho) : Prop :=
  ∀ i w, Γ.lvs.lookup i = some w → ∃ k, ρ.lvs.lookup i = some k ∧ Fits w k

/-- the simulator state agrees with the checker's environment: every loop variable in scope is bound to
    an int that fits its inferred width (`LvOK`); every temporary that is bound holds a value that agrees with
    its recorded type (`TmpOK`; a temporary recorded as explicit holds a `Bits`) -/
structure EnvOK (Γ : Env) (ρ : Rho) : Prop where
  lv : ∀ i w, Γ.lvs.lookup i = some w → ∃ k, ρ.lvs.lookup i = some k ∧ Fits w k
  tmp : ∀ t w ex v, Γ.tmps.lookup t = some (w, ex) → ρ.tmps.lookup t = some v → Agrees ex ⟨w, ex, none⟩ v

def ExtT (Γ G : Env) : Prop := ∀ t p, Γ.tmps.lookup t = some p → G.tmps.lookup t = some p

theorem envOK_of {Γ G : Env} {ρ : Rho} (he : ExtT Γ G) (ht : TmpOK G ρ) (hl : LvOK Γ ρ) : EnvOK Γ ρ :=
  ⟨hl, fun t w ex v h1 h2 => ht t w ex v (he t _ h1) h2⟩

theorem ExtT.refl (Γ : Env) : ExtT Γ Γ := fun _ _ h => h
theorem ExtT.trans {A B C : Env} (h1 : ExtT A B) (h2 : ExtT B C) : ExtT A C := fun t p h => h2 t p (h1 t p h)

/-- an int that fits passes the test every `Bits` method applies to an int operand (`int_range`) -/
theorem Fits.le_upper {w : Nat} {k : Int} (h : Fits w k) : ¬ (k < 0 ∨ k > (upper w : Int)) :=
  mt (int_range w k).mp (by have := h.1; have := h.2; omega)

/-- the acceptance set of the constructor and of `@=` (`ctor_spec`, `assign_spec`) holds every int that fits -/
theorem Fits.accepted {n : Nat} {k : Int} (hk : Fits n k) : -(2 ^ (n - 1) : Int) ≤ k ∧ k < 2 ^ n :=
  ⟨Int.le_trans (Int.neg_nonpos_of_nonneg (Int.le_of_lt (Int.pow_pos (by decide)))) hk.1, hk.2⟩

theorem binRaw_err (op : Bits.BinOp) (n a b : Nat) (e : Bits.Err) (h : binRaw op n a b = .error e) :
    e = .zerodiv := by
  cases op <;> simp only [binRaw] at h
  case floordiv | mod => split at h <;> cases h; rfl
  case lshift => split at h <;> cases h
  all_goals cases h

theorem goodR_raw {op : Bits.BinOp} {n a b : Nat} (h1 : 1 ≤ n) (h2 : n < 1024) (ha : a < 2 ^ n) (hb : b < 2 ^ n) :
    GoodR n (match binRaw op n a b with | .ok r => .ok ⟨n, r⟩ | .error e => .error e) := by
  cases h : binRaw op n a b with
  | ok r => exact ⟨rfl, h1, h2, PV.C04.binRaw_lt op _ _ _ _ ha hb h⟩
  | error e => rw [binRaw_err _ _ _ _ _ h]; exact ⟨nofun, nofun⟩

theorem goodR_binop_bits (op : Bits.BinOp) (x y : B) (hx : x.Wf) (hy : y.Wf) (hn : y.n = x.n) :
    GoodR x.n (binop op x (.bits y)) := by
  obtain ⟨n, v⟩ := y
  cases hn
  rw [binop_same_width]
  exact goodR_raw hx.1 hx.2.1 hx.2.2 hy.2.2

theorem goodR_binop_int (op : Bits.BinOp) (x : B) (k : Int) (hx : x.Wf) (hk : Fits x.n k) :
    GoodR x.n (binop op x (.int k)) := by
  rw [binop_int, if_neg hk.le_upper]
  exact goodR_binop_bits op x ⟨x.n, k.toNat⟩ hx ⟨hx.1, hx.2.1, toNat_lt_of_range hk.le_upper⟩ rfl

theorem goodR_rbinop_int (op : Bits.BinOp) (x : B) (k : Int) (hx : x.Wf) (hk : Fits x.n k) :
    GoodR x.n (rbinop op (.int k) x) := by
  refine rbinop_int_cases op x k (GoodR x.n) (goodR_binop_int op x k hx hk) ?_ ⟨nofun, nofun⟩
  rw [if_neg hk.le_upper]
  exact goodR_binop_bits op ⟨x.n, k.toNat⟩ x ⟨hx.1, hx.2.1, toNat_lt_of_range hk.le_upper⟩ hx rfl

theorem b1_wf (c : Bool) : (b1 c).n = 1 ∧ (b1 c).Wf := by
  unfold b1 B.Wf; cases c <;> simp

theorem goodR_cmpop_bits (op : CmpOp) (x y : B) (hn : y.n = x.n) : GoodR 1 (cmpop op x (.bits y)) := by
  obtain ⟨n, v⟩ := y
  cases hn
  rw [cmpop_same_width]
  exact b1_wf _

theorem goodR_cmpop_int (op : CmpOp) (x : B) (k : Int) (hk : Fits x.n k) : GoodR 1 (cmpop op x (.int k)) := by
  rw [cmpop_int, if_neg hk.le_upper]
  exact goodR_cmpop_bits op x _ rfl

theorem goodR_ctor_bits (n : Nat) (b : B) (h1 : 1 ≤ n) (h2 : n < 1024) (hn : b.n = n) (hw : b.Wf) (t : Bool) :
    GoodR n (ctor n (.bits b) t) := by
  obtain ⟨m, v⟩ := b
  simp only at hn; subst hn
  rw [PV.C04.ctor_from_bits m m v h1 h2 t]
  simp only [↓reduceIte, GoodR]
  exact ⟨trivial, hw⟩

theorem goodR_ctor_int (n : Nat) (k : Int) (h1 : 1 ≤ n) (h2 : n < 1024) (hk : Fits n k) :
    GoodR n (ctor n (.int k) false) := by
  rw [(PV.C04.ctor_spec n h1 h2 k).1 hk.accepted]
  exact ⟨rfl, h1, h2, maskInt_lt n k⟩

theorem goodR_getBit (x : B) (i : Int) : GoodR 1 (getBit x i) := by
  unfold getBit
  split
  · simp [GoodR]
  · refine ⟨rfl, ?_, ?_, ?_⟩ <;> simp only <;> omega

/-- a slice with any bounds: `n` wide if they are valid, an `IndexError` if not -/
theorem goodR_getSlice (w v : Nat) (l u : Int) (n : Nat) (hw : w < 1024)
    (hn : 0 ≤ l → l < u → u ≤ w → (u - l).toNat = n) :
    GoodR n (getSlice ⟨w, v⟩ (some l) (some u) none) := by
  by_cases hv : 0 ≤ l ∧ l < u ∧ u ≤ (w : Int)
  · rw [← hn hv.1 hv.2.1 hv.2.2]
    simp only [getSlice, sliceBounds, Option.isSome_none, Bool.false_eq_true, ↓reduceIte, Option.getD_some, hv,
      and_self, GoodR]
    exact ⟨by omega, by simp only; omega, by simp only; omega, Nat.mod_lt _ (Nat.two_pow_pos _)⟩
  · rw [PV.C05.get_invalid w v l u hv]; exact ⟨nofun, nofun⟩

/-- a run-time value of kind `k` at width `w` -/
def Has (k : Kind) (w : Nat) : Val → Prop
  | .bits b => k ≠ .lit ∧ b.n = w ∧ b.Wf
  | .int j => k ≠ .bits ∧ Fits w j

/-- the kind a temporary recorded as `(w, ex)` holds -/
def Kind.ofEx (ex : Bool) : Kind := if ex then .bits else .lit

/-- what `TmpOK` / `EnvOK` say of a temporary is `Has` at the kind of its recorded type (no folded value is recorded for a
    temporary, so the last clause of `Agrees` says nothing) -/
theorem agrees_iff_has {ex : Bool} {w : Nat} {v : Val} : Agrees ex ⟨w, ex, none⟩ v ↔ Has (.ofEx ex) w v := by
  cases v <;> cases ex <;> simp [Agrees, Has, Kind.ofEx]

theorem Has.lit_mono {w w' : Nat} {x : Val} (h : Has .lit w x) (hw : w ≤ w') : Has .lit w' x := by
  cases x with
  | bits b => exact absurd rfl h.1
  | int j => exact ⟨h.1, h.2.mono hw⟩

theorem has_liftR {n : Nat} {r : Bits.R} (g : GoodR n r) : OKor (Has .bits n) (liftR r) := by
  cases r with
  | ok b => exact ⟨nofun, g.1, g.2⟩
  | error e => exact goodR_err g

theorem Has.bits_inv {w : Nat} {x : Val} (h : Has .bits w x) : ∃ b, x = .bits b ∧ b.n = w ∧ b.Wf := by
  cases x with
  | bits b => exact ⟨b, rfl, h.2⟩
  | int j => exact absurd rfl h.1

theorem Has.joinL {k1 : Kind} (k2 : Kind) {w : Nat} {x : Val} (h : Has k1 w x) : Has (k1.join k2) w x := by
  cases x <;> refine ⟨?_, h.2⟩ <;> have := h.1 <;> cases k1 <;> cases k2 <;> simp_all [Kind.join]

theorem Kind.join_comm (k1 k2 : Kind) : k1.join k2 = k2.join k1 := by
  cases k1 <;> cases k2 <;> rfl

theorem Has.joinR (k1 : Kind) {k2 : Kind} {w : Nat} {x : Val} (h : Has k2 w x) : Has (k1.join k2) w x :=
  Kind.join_comm k2 k1 ▸ h.joinL k1

theorem constVal_eval (ρ : Rho) : ∀ (e : Expr) (v : Int), constVal e = some v → evalPy ρ e = .ok (.int v) := by
  intro e
  induction e with
  | num n => intro v h; cases h; rfl
  | un op a ih =>
    intro v h
    simp only [constVal, Option.map_eq_some_iff] at h
    obtain ⟨v0, h0, rfl⟩ := h
    rw [evalPy, ih v0 h0]
    cases op <;> rfl
  | bin op l r ihl ihr =>
    intro v h
    simp only [constVal] at h
    split at h
    · next a b ha hb =>
      split at h <;> cases h
      next hv => rw [evalPy, ihl a ha, ihr b hb]; simp only [pyBin, hv, liftI]
    · cases h
  | sig _ _ | lv _ | tmp _ | cmp _ _ _ _ _ | ite _ _ _ _ _ _ | cast _ _ _ | ext _ _ _ _ _ | red _ _ _ | cat _ _ _ _
  | idx _ _ _ _ | slc _ _ _ _ _ _ => intro v h; cases h

theorem intOnly_int (ρ : Rho) : ∀ (e : Expr), intOnly e = true → OKor (fun v => ∃ k, v = .int k) (evalPy ρ e) := by
  intro e
  induction e with
  | num v => intro _; exact ⟨v, rfl⟩
  | lv i =>
    intro _
    simp only [evalPy]
    cases ρ.lvs.lookup i with
    | none => exact (rfl : PyErr.isWidth .name = false)
    | some k => exact ⟨k, rfl⟩
  | un op e ih =>
    intro hi
    simp only [evalPy]
    refine (ih hi).bind' fun x ⟨k, hk⟩ => ?_
    subst hk
    cases op <;> exact ⟨_, rfl⟩
  | bin op l r ihl ihr =>
    intro hi
    simp only [intOnly, Bool.and_eq_true] at hi
    simp only [evalPy]
    refine (ihl hi.1).bind fun x ⟨k1, hk1⟩ => (ihr hi.2).bind fun y ⟨k2, hk2⟩ => ?_
    subst hk1 hk2
    refine (?_ : OKor _ (liftI (intBin op k1 k2)))
    cases intBin op k1 k2 with
    | error e => cases e <;> rfl
    | ok v => exact ⟨v, rfl⟩
  | cmp op l r ihl ihr =>
    intro hi
    simp only [intOnly, Bool.and_eq_true] at hi
    simp only [evalPy]
    refine (ihl hi.1).bind fun x ⟨k1, hk1⟩ => (ihr hi.2).bind fun y ⟨k2, hk2⟩ => ?_
    subst hk1 hk2
    exact ⟨_, rfl⟩
  | sig _ _ | tmp _ | ite _ _ _ _ _ _ | cast _ _ _ | ext _ _ _ _ _ | red _ _ _ | cat _ _ _ _ | idx _ _ _ _
  | slc _ _ _ _ _ _ => intro hi; cases hi

theorem pyUn_has (op : UOp) {w : Nat} {x : Val} (hx : Has .bits w x) : OKor (Has .bits w) (pyUn op x) := by
  obtain ⟨b, rfl, hn, hw⟩ := hx.bits_inv
  cases op with
  | inv => exact ⟨nofun, hn, PV.C04.range_invariant_invert b hw⟩
  | neg => exact (rfl : PyErr.isWidth .type = false)

theorem pyBin_has (op : Op) {kl kr : Kind} {W : Nat} {x y : Val} (hx : Has kl W x) (hy : Has kr W y)
    (hh : kl = .bits ∨ kr = .bits) : OKor (Has .bits W) (pyBin op x y) := by
  cases x with
  | bits a =>
    obtain ⟨_, rfl, ha⟩ := hx
    refine has_liftR ?_
    cases y with
    | bits b => exact goodR_binop_bits op.toBits a b ha hy.2.2 hy.2.1
    | int k => exact goodR_binop_int op.toBits a k ha hy.2
  | int k =>
    cases y with
    | bits b => obtain ⟨_, rfl, hb⟩ := hy; exact has_liftR (goodR_rbinop_int op.toBits b k hb hx.2)
    | int j => exact (hh.elim hx.1 hy.1).elim

theorem pyCmp_has (op : CmpOp) {kl kr : Kind} {W : Nat} {x y : Val} (hx : Has kl W x) (hy : Has kr W y)
    (hh : kl = .bits ∨ kr = .bits) : OKor (Has .bits 1) (pyCmp op x y) := by
  cases x with
  | bits a =>
    obtain ⟨_, rfl, ha⟩ := hx
    refine has_liftR ?_
    cases y with
    | bits b => exact goodR_cmpop_bits op a b hy.2.1
    | int k => exact goodR_cmpop_int op a k hy.2
  | int k =>
    cases y with
    | bits b => obtain ⟨_, rfl, hb⟩ := hy; exact has_liftR (goodR_cmpop_int op.swap b k hx.2)
    | int j => exact (hh.elim hx.1 hy.1).elim

theorem pyCast_has {k : Kind} {n : Nat} {x : Val} (hx : Has k n x) (h1 : 1 ≤ n) (h2 : n < 1024) :
    OKor (Has .bits n) (pyCast n x) := by
  cases x with
  | bits b => exact has_liftR (goodR_ctor_bits n b h1 h2 hx.2.1 hx.2.2 false)
  | int j => exact has_liftR (goodR_ctor_int n j h1 h2 hx.2)

/-- where the checker accepts the width, the `Bits<n>`-typed form is the int-width form, whose assertion passes -/
theorem pyExt_untyped {k : ExtK} {b : B} {n : Nat} (ht : k = .trunc → n ≤ b.n) (hw : k ≠ .trunc → b.n ≤ n)
    (ty : Bool) : pyExt k ty (.bits b) n = pyExt k false (.bits b) n := by
  cases ty
  · rfl
  · cases k <;> simp only [pyExt, zext, sext, trunc, zextT, sextT, truncT]
    · have := hw nofun; rw [if_neg (by omega)]
    · have := hw nofun; rw [if_neg (by omega)]
    · have := ht rfl; rw [if_neg (by omega)]

theorem pyExt_has {k : Kind} {kd : ExtK} (ty : Bool) {w n : Nat} {x : Val} (hx : Has k w x)
    (ht : kd = .trunc → 1 ≤ n ∧ n ≤ w) (hw : kd ≠ .trunc → w ≤ n) (h2 : n < 1024) :
    OKor (Has .bits n) (pyExt kd ty x n) := by
  cases x with
  | int j => exact (rfl : PyErr.isWidth .attr = false)
  | bits b =>
    obtain ⟨m, v⟩ := b
    obtain ⟨_, rfl, h1, hm, hv⟩ := hx
    simp only at h1 hm hv ht hw
    rw [pyExt_untyped (fun h => (ht h).2) hw ty]
    have hp : m ≤ n → 2 ^ m ≤ 2 ^ n := Nat.pow_le_pow_right (by decide)
    cases kd <;> simp only [pyExt]
    · have hmn := hw nofun
      rw [(PV.C05.zext_spec m v n hv h1).1 ⟨hmn, h2⟩]
      exact ⟨nofun, rfl, Nat.le_trans h1 hmn, h2, Nat.lt_of_lt_of_le hv (hp hmn)⟩
    · have hmn := hw nofun
      rw [PV.C05.sext_spec m v n h1 hv hmn h2]
      refine ⟨nofun, rfl, Nat.le_trans h1 hmn, h2, ?_⟩
      have := hp hmn
      simp only; split <;> omega
    · obtain ⟨hn1, hnm⟩ := ht rfl
      rw [(PV.C05.trunc_spec m v n hn1 hm).1 hnm]
      exact ⟨nofun, rfl, hn1, h2, Nat.mod_lt _ (Nat.two_pow_pos n)⟩

theorem pyRed_has (op : ROp) (x : Val) : OKor (Has .bits 1) (pyRed op x) := by
  have hb : ∀ c, OKor (Has .bits 1) (.ok (.bits (b1 c))) := fun c => ⟨nofun, b1_wf c⟩
  cases x with
  | bits b => cases op <;> exact hb _
  | int k =>
    cases op
    · exact (rfl : PyErr.isWidth .type = false)
    · exact hb _
    · simp only [pyRed]
      split
      · exact (rfl : PyErr.isWidth .type = false)
      · exact hb _

theorem pyCat_has {k1 k2 : Kind} {w1 w2 : Nat} {x y : Val} (hx : Has k1 w1 x) (hy : Has k2 w2 y)
    (hw : w1 + w2 < 1024) : OKor (Has .bits (w1 + w2)) (pyCat x y) := by
  cases x with
  | int k => exact (rfl : PyErr.isWidth .attr = false)
  | bits a =>
    cases y with
    | int k => exact (rfl : PyErr.isWidth .attr = false)
    | bits b =>
      obtain ⟨_, rfl, hwa⟩ := hx
      obtain ⟨_, rfl, hwb⟩ := hy
      have hall : ∀ z ∈ [a, b], z.v < 2 ^ z.n := by
        intro z hz
        simp only [List.mem_cons, List.not_mem_nil, or_false] at hz
        rcases hz with rfl | rfl
        · exact hwa.2.2
        · exact hwb.2.2
      have hs := PV.C05.concat_spec [a, b] hall
      have h1 : (catSpec [a, b]).1 = a.n + b.n := by simp [catSpec]
      have hok := hs.1 ⟨by have := hwa.1; omega, by omega⟩
      simp only [pyCat, hok]
      refine ⟨nofun, by simp only; omega, ?_, ?_, hs.2.2⟩
      · have := hwa.1; simp only; omega
      · simp only; omega

/-- **soundness of `WT`**: in a state that agrees with the environment, a term typed at width `w` and kind `k`
    evaluates to a value of that kind and width, or raises something that is not a width error -/
theorem WT.sound {Γ : Env} {ρ : Rho} (henv : EnvOK Γ ρ) {e : Expr} {w : Nat} {k : Kind} (h : WT Γ e w k) :
    OKor (Has k w) (evalPy ρ e) := by
  induction h with
  | sig x w h1 h2 => exact ⟨nofun, rfl, h1, h2, Nat.mod_lt _ (Nat.two_pow_pos _)⟩
  | num v w hv => exact ⟨nofun, Int.natCast_nonneg _, by exact_mod_cast hv⟩
  | lv i w0 w hl hw =>
    obtain ⟨j, hj, hf⟩ := henv.lv i w0 hl
    simp only [evalPy, hj]
    exact ⟨nofun, hf.mono hw⟩
  | tmpB t w hl =>
    simp only [evalPy]
    cases hv : ρ.tmps.lookup t with
    | none => exact (rfl : PyErr.isWidth .name = false)
    | some v => exact agrees_iff_has.mp (henv.tmp t w true v hl hv)
  | tmpL t w0 w hl hw =>
    simp only [evalPy]
    cases hv : ρ.tmps.lookup t with
    | none => exact (rfl : PyErr.isWidth .name = false)
    | some v => exact (agrees_iff_has.mp (henv.tmp t w0 false v hl hv)).lit_mono hw
  | const e v w hc h0 hlt => rw [constVal_eval ρ e v hc]; exact ⟨nofun, h0, hlt⟩
  | un op e w _ ih => simp only [evalPy]; exact ih.bind' fun x hx => pyUn_has op hx
  | binL op l r w k _ _ _ ihl ihr =>
    simp only [evalPy]; exact ihl.bind fun x hx => ihr.bind fun y hy => pyBin_has op hx hy (.inl rfl)
  | binR op l r w k _ _ _ ihl ihr =>
    simp only [evalPy]; exact ihl.bind fun x hx => ihr.bind fun y hy => pyBin_has op hx hy (.inr rfl)
  | shift op l r w k _ _ _ ihl ihr =>
    simp only [evalPy]; exact ihl.bind fun x hx => ihr.bind fun y hy => pyBin_has op hx hy (.inl rfl)
  | cmpL op l r w k _ _ ihl ihr =>
    simp only [evalPy]; exact ihl.bind fun x hx => ihr.bind fun y hy => pyCmp_has op hx hy (.inl rfl)
  | cmpR op l r w k _ _ ihl ihr =>
    simp only [evalPy]; exact ihl.bind fun x hx => ihr.bind fun y hy => pyCmp_has op hx hy (.inr rfl)
  | iteI c t f w k1 k2 hc _ _ iht ihf =>
    simp only [evalPy]
    refine (intOnly_int ρ c hc).bind fun vc _ => ?_
    split
    · exact iht.mono fun _ _ => Has.joinL k2
    · exact ihf.mono fun _ _ => Has.joinR k1
  | iteW c t f wc w kc k1 k2 _ _ _ ihc iht ihf =>
    simp only [evalPy]
    refine ihc.bind fun vc _ => ?_
    split
    · exact iht.mono fun _ _ => Has.joinL k2
    · exact ihf.mono fun _ _ => Has.joinR k1
  | cast n e k h1 h2 _ ih => simp only [evalPy]; exact ih.bind' fun x hx => pyCast_has hx h1 h2
  | widen kd ty e w n k hk hw h2 _ ih =>
    simp only [evalPy]; exact ih.bind' fun x hx => pyExt_has ty hx (fun h => absurd h hk) (fun _ => hw) h2
  | trunc ty e w n k h1 hw h2 _ ih =>
    simp only [evalPy]; exact ih.bind' fun x hx => pyExt_has ty hx (fun _ => ⟨h1, hw⟩) (fun h => absurd rfl h) h2
  | red op e w k _ ih => simp only [evalPy]; exact ih.bind' fun x _ => pyRed_has op x
  | cat l r w1 w2 k1 k2 _ _ hw ihl ihr =>
    simp only [evalPy]; exact ihl.bind fun x hx => ihr.bind fun y hy => pyCat_has hx hy hw
  | idxI x w i _ _ hi =>
    simp only [evalPy]; exact (intOnly_int ρ i hi).bind fun vi _ => has_liftR (goodR_getBit _ _)
  | idxW x w i wi k _ _ _ ih =>
    simp only [evalPy]; exact ih.bind fun vi _ => has_liftR (goodR_getBit _ _)
  | slc x w lo hi l u hw hl hu h0 hlu huw =>
    simp only [evalPy, constVal_eval ρ lo l hl, constVal_eval ρ hi u hu]
    exact has_liftR (goodR_getSlice w _ l u _ hw fun _ _ _ => rfl)
  | slcP x w lo nn sz hw hlo hnn hsz =>
    -- the upper bound `lo + nn` evaluates `lo` again, to the same int
    have h1 := intOnly_int ρ lo hlo
    simp only [evalPy, constVal_eval ρ nn sz hnn]
    cases hx : evalPy ρ lo with
    | error er => rw [hx] at h1; exact h1
    | ok v1 =>
      rw [hx] at h1
      obtain ⟨k1, rfl⟩ := h1
      exact has_liftR (goodR_getSlice w _ k1 (k1 + sz) sz.toNat hw fun _ _ _ => by omega)

end PV.TC
