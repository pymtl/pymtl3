import PymtlVerif.Model.QAdapter
import PymtlVerif.Proofs.Queue
/-!
# Proofs about `Model/QAdapter.lean` (property C17, queues behind the level adapters)

* `clStep` is natural in the message type (`clStep_map`), and what it keeps followed by what it hands over is its content
  after the push (`clStep_conserve`);
* the repaired `RecvRTL2SendCL` + CL queue over heap cells refines the CL queue over values and keeps the ownership
  invariant `Own` (`map_val_write`, `Own.sublist`, `Own.push`, `r2c_step`, `r2c_run`, `r2c_spec`); the adapter as it was keeps
  every entry equal to the live signal (`aliased_step`);
* `RecvCL2SendRTL` is the capacity-1 bypass specification with a pushing dequeue side (`c2r_bypass1`); composed with a
  FIFO specification it keeps `accepted = delivered ++ queue ++ slot` (`compose_step_ledger`, `compose_run_ledger`);
* ledger-level composition of any chain of FIFO places (`chain_ledger`);
* the composition with any machine that simulates the specification (`Sim`) equals the composition with the specification
  (`compose_sim`); `composeCls_eq` reads `composeCls` as the composition with the machine `Cls.mach` of the class.
-/
namespace PV.QAdapter
open PV.Queue

variable {α : Type}

def mapOut {α β} (f : α → β) (o : Out α) : Out β := { enqRdy := o.enqRdy, deqRdy := o.deqRdy, ret := o.ret.map f, count := o.count }

/-- `clStep` is natural in the message type; the offered messages need only correspond if the offer is taken -/
theorem clStep_map {α β} (f : α → β) (k : Kind) (n : Nat) (q : List α) (i : In α) (m : β)
    (hm : (i.enq && (clStep k n q i).2.enqRdy) = true → m = f i.msg) :
    (clStep k n (q.map f) { rst := i.rst, enq := i.enq, msg := m, deq := i.deq }).1 = (clStep k n q i).1.map f ∧
    (clStep k n (q.map f) { rst := i.rst, enq := i.enq, msg := m, deq := i.deq }).2 = mapOut f (clStep k n q i).2 := by
  simp only [clStep_eq, List.length_map, mapOut] at hm ⊢
  generalize clRdy k n q.length i.enq i.deq = r at hm ⊢
  have hq : (if (i.enq && r.1) = true then m :: q.map f else q.map f) =
      (if (i.enq && r.1) = true then i.msg :: q else q).map f := by
    split
    · next h => rw [hm h]; rfl
    · rfl
  rw [hq, ← List.map_dropLast, List.getLast?_map]
  exact ⟨(apply_ite (List.map f) ..).symm, by cases r.2 <;> rfl⟩

theorem sublist_push (b : Bool) (m : α) (q : List α) : (if b then m :: q else q).Sublist (m :: q) := by
  cases b
  · exact List.sublist_cons_self _ _
  · exact List.Sublist.refl _

theorem dropLast_append_getLast? (l : List α) : l.dropLast ++ l.getLast?.toList = l := by
  cases h : l.getLast? with
  | none => rw [List.getLast?_eq_none_iff.mp h]; rfl
  | some a =>
    obtain ⟨ys, rfl⟩ := List.getLast?_eq_some_iff.mp h
    exact congrArg (· ++ [a]) List.dropLast_concat

theorem clStep_conserve (k : Kind) (n : Nat) (q : List α) (i : In α) :
    (clStep k n q i).1 ++ (if i.deq && (clStep k n q i).2.deqRdy then (clStep k n q i).2.ret else none).toList =
      (if i.enq && (clStep k n q i).2.enqRdy then i.msg :: q else q) ∧
    ∀ c, (clStep k n q i).2.ret = some c → c ∈ (if i.enq && (clStep k n q i).2.enqRdy then i.msg :: q else q) := by
  simp only [clStep_eq]
  generalize clRdy k n q.length i.enq i.deq = r
  refine ⟨?_, fun c h => ?_⟩
  · cases hd : i.deq && r.2
    · exact List.append_nil _
    · rw [(Bool.and_eq_true_iff.mp hd).2]
      exact dropLast_append_getLast? _
  · split at h
    · exact List.mem_of_getLast? h
    · cases h

theorem map_val_write (h : Heap α) (c : Nat) (v : α) (q : List Nat) (hc : c ∉ q) :
    q.map (h.write c v).val = q.map h.val :=
  List.map_congr_left fun x hx => if_neg fun (e : x = c) => hc (e ▸ hx)

/-- every queued cell was made by the adapter (`0 < c`: not the live signal `sig = 0`; `c < next`: not a cell still to be
allocated) and no cell is queued twice -/
structure Own {α} (s : R2C α) : Prop where
  fresh : ∀ c ∈ s.q, 0 < c ∧ c < s.h.next
  nodup : s.q.Nodup
  hnext : 0 < s.h.next

theorem own_init (d : α) : Own (R2C.init d) :=
  ⟨by simp [R2C.init], by simp [R2C.init], by simp [R2C.init]⟩

/-- `Own` looks at the heap's `next` only and is inherited by every sublist of the queue -/
theorem Own.sublist {s : R2C α} (ho : Own s) {q : List Nat} (hq : q.Sublist s.q) (h : Heap α) (hn : h.next = s.h.next) :
    Own ⟨h, q⟩ :=
  ⟨fun c hc => hn ▸ ho.fresh c (hq.subset hc), ho.nodup.sublist hq, hn ▸ ho.hnext⟩

theorem Own.push {s : R2C α} (ho : Own s) (v : α) : Own ⟨(s.h.alloc v).1, s.h.next :: s.q⟩ :=
  ⟨fun c hc => (List.mem_cons.mp hc).elim (fun e => e.symm ▸ ⟨ho.hnext, Nat.lt_succ_self s.h.next⟩)
      fun h => ⟨(ho.fresh c h).1, Nat.lt_succ_of_lt (ho.fresh c h).2⟩,
   List.nodup_cons.mpr ⟨fun hm => Nat.lt_irrefl _ (ho.fresh _ hm).2, ho.nodup⟩, Nat.succ_pos _⟩

def vals {α} (s : R2C α) : List α := s.q.map s.h.val

/-- the offer the queue of cells sees: the producer's, gated by reset, with the object the adapter hands over -/
def cellIn (aliased : Bool) (s : R2C α) (i : In α) : In Nat :=
  { rst := false, enq := i.enq && !i.rst, msg := if aliased then sig else s.h.next, deq := i.deq }

theorem r2c_step (early : Bool) (k : Kind) (n : Nat) (s : R2C α) (i : In α) (ho : Own s) :
    vals (r2cStep false early k n s i).1 = (clStep (effKind early k) n (vals s) (gateIn i)).1 ∧
    (r2cStep false early k n s i).2 = gateOut i (clStep (effKind early k) n (vals s) (gateIn i)).2 ∧
    Own (r2cStep false early k n s i).1 := by
  generalize hk : effKind early k = k'
  let i0 := cellIn false s i
  let h2 : Heap α := if (i0.enq && (clStep k' n s.q i0).2.enqRdy) = true then ((s.h.write sig i.msg).alloc i.msg).1
    else s.h.write sig i.msg
  have hstep : r2cStep false early k n s i =
      ({ h := h2, q := (clStep k' n s.q i0).1 },
       gateOut i (mapOut h2.val (clStep k' n s.q i0).2)) := by
    simp only [r2cStep, hk, Bool.not_false, Bool.and_true, Bool.false_eq_true, if_false]; rfl
  -- the cells of the queue keep their values: neither the signal nor the new object is among them
  have hsig : sig ∉ s.q := fun h => Nat.lt_irrefl _ (ho.fresh _ h).1
  have hold : s.q.map h2.val = vals s := by
    simp only [h2]
    split
    · exact (map_val_write _ s.h.next i.msg _ fun h => Nat.lt_irrefl _ (ho.fresh _ h).2).trans (map_val_write _ _ _ _ hsig)
    · exact map_val_write _ _ _ _ hsig
  -- on values the queue does the same: the offered cell holds the message if it is taken
  have hm := clStep_map h2.val k' n s.q i0 i.msg fun htook => by
    show i.msg = h2.val s.h.next
    simp only [h2, htook, Heap.alloc, Heap.write, if_pos]
  rw [hold] at hm
  rw [hstep]
  refine ⟨hm.1.symm, congrArg (gateOut i) hm.2.symm, ?_⟩
  have hsub : (clStep k' n s.q i0).1.Sublist _ := (clStep_conserve k' n s.q i0).1 ▸ List.sublist_append_left ..
  cases htook : (i0.enq && (clStep k' n s.q i0).2.enqRdy) <;> simp only [htook, h2, if_true, if_false, Bool.false_eq_true] at hsub ⊢
  · exact ho.sublist hsub _ rfl
  · exact (ho.push i.msg).sublist hsub _ rfl

theorem r2c_run (early : Bool) (k : Kind) (n : Nat) (is : List (In α)) (s : R2C α) (ho : Own s) :
    run (r2cStep false early k n) s is =
      List.zipWith gateOut is (run (clStep (effKind early k) n) (vals s) (is.map gateIn)) ∧
    Own (runState (r2cStep false early k n) s is) ∧
    vals (runState (r2cStep false early k n) s is) = runState (clStep (effKind early k) n) (vals s) (is.map gateIn) := by
  induction is generalizing s with
  | nil => exact ⟨rfl, ho, rfl⟩
  | cons i is ih =>
    obtain ⟨h1, h2, h3⟩ := r2c_step early k n s i ho
    obtain ⟨g1, g2, g3⟩ := ih _ h3
    simp only [run, runState, List.map_cons, List.zipWith_cons_cons]
    rw [g1, h1, h2]
    exact ⟨rfl, g2, by rw [g3, h1]⟩

/-- the two simulations in a row, from the initial state: outputs and content against the FIFO specification -/
theorem r2c_spec (early : Bool) (k : Kind) (n : Nat) (hn : 1 ≤ n) (d : α) (is : List (In α)) :
    run (r2cStep false early k n) (R2C.init d) is =
      List.zipWith gateOut is (runSpec styleV1 (effKind early k) n (is.map gateIn)) ∧
    (vals (runState (r2cStep false early k n) (R2C.init d) is)).reverse =
      runState (specStep styleV1 (effKind early k) n) [] (is.map gateIn) := by
  obtain ⟨h1, -, h3⟩ := r2c_run early k n is (R2C.init d) (own_init d)
  obtain ⟨g1, g2⟩ := (clSim (effKind early k) n hn).run_eq (is.map gateIn) [] (Nat.zero_le _)
    (legalTrace_free styleV1 rfl rfl _ _)
  exact ⟨h1.trans (congrArg _ g1), (congrArg List.reverse h3).trans g2⟩

/-- the adapter does not change what the ledger sees -/
theorem ledger_gate (L : Ledger α) (is : List (In α)) (os : List (Out α)) :
    ledgerFrom styleV1 L is (List.zipWith gateOut is os) = ledgerFrom styleV1 L (is.map gateIn) os := by
  induction is generalizing L os with
  | nil => cases os <;> rfl
  | cons i is ih =>
    cases os with
    | nil => rfl
    | cons o os =>
      simp only [List.zipWith_cons_cons, List.map_cons, ledgerFrom]
      rw [ih]
      congr 1
      obtain ⟨r, en, m, d⟩ := i
      obtain ⟨er, dr, rt, ct⟩ := o
      cases r <;> cases en <;> cases er <;> rfl

/-! ## the adapter as it was: every entry is the live signal object -/

theorem aliased_step (early : Bool) (k : Kind) (n : Nat) (s : R2C α) (i : In α) (ha : ∀ c ∈ s.q, c = sig) :
    (∀ c ∈ (r2cStep true early k n s i).1.q, c = sig) ∧
    (∀ v, (r2cStep true early k n s i).2.ret = some v → v = i.msg) := by
  -- whatever is kept or handed over was in the queue or is the offered object: the live signal either way
  obtain ⟨h1, h2⟩ := clStep_conserve (effKind early k) n s.q (cellIn true s i)
  have hsig : ∀ b : Bool, ∀ c ∈ (if b then sig :: s.q else s.q), c = sig := fun b c hc =>
    (List.mem_cons.mp ((sublist_push b sig s.q).subset hc)).elim id (ha c)
  refine ⟨fun c hc => hsig _ c (h1 ▸ List.mem_append_left _ hc), fun v hv => ?_⟩
  simp only [r2cStep, Bool.not_true, Bool.and_false, Bool.false_eq_true, if_false, if_true,
    Option.map_eq_some_iff] at hv
  obtain ⟨c, hc, rfl⟩ := hv
  rw [hsig _ c (h2 c hc)]
  exact if_pos (c := sig = sig) (e := s.h.val sig) rfl

/-! ## `RecvCL2SendRTL` is a one-entry bypass queue with a pushing dequeue side -/

theorem c2r_bypass1 (s : C2R α) (i : In α) :
    (c2rStep s i).2 = (specStep styleER .bypass 1 (c2rAbs s) i).2 ∧
    c2rAbs (c2rStep s i).1 = (specStep styleER .bypass 1 (c2rAbs s) i).1 := by
  obtain ⟨e, sent⟩ := s
  obtain ⟨r, en, m, d⟩ := i
  cases sent <;> cases e <;> cases en <;> cases d <;> exact ⟨rfl, rfl⟩

theorem c2rAbs_len (s : C2R α) : (c2rAbs s).length ≤ 1 := by
  obtain ⟨e, sent⟩ := s
  cases sent <;> cases e <;> simp [c2rAbs]

theorem spec_enqRdy_indep {α} (st : Style) (k : Kind) (n : Nat) (l : List α) (r d e e' : Bool) (m m' : α) :
    (specStep st k n l { rst := r, enq := e, msg := m, deq := d }).2.enqRdy =
    (specStep st k n l { rst := r, enq := e', msg := m', deq := d }).2.enqRdy := rfl

/-- the slot's ledger and the queue's are linked: what the adapter delivers (`styleER`: it pushes, `send.en` is the handshake)
is what the queue accepts, `send.en` being raised only under the probed `enq.rdy` -/
theorem c2r_handover (a : C2R α) (e : Bool) (m : α) (probe : Bool) (M : List α) :
    (if delivered styleER { rst := false, enq := e, msg := m, deq := probe }
          (c2rStep a { rst := false, enq := e, msg := m, deq := probe }).2 = true
      then M ++ (c2rStep a { rst := false, enq := e, msg := m, deq := probe }).2.ret.toList else M) =
    (if ((c2rStep a { rst := false, enq := e, msg := m, deq := probe }).2.deqRdy && probe) = true
      then M ++ [(c2rStep a { rst := false, enq := e, msg := m, deq := probe }).2.ret.getD m] else M) := by
  obtain ⟨en, sent⟩ := a
  cases probe <;> cases sent <;> cases en <;> cases e <;> rfl

theorem compose_step_ledger (st : Style) (k : Kind) (n : Nat) (hn : 0 < n) (a : C2R α) (l : List α) (i : In α)
    (hr : i.rst = false) (L : Ledger α) (h : L.acc = L.del ++ (l ++ c2rAbs a)) (hl : l.length ≤ n) :
    let r := composeStep (specStep st k n) (a, l) i
    let L' : Ledger α :=
      ⟨ if accepted r.2.aIn r.2.aOut then L.acc ++ [r.2.aIn.msg] else L.acc,
        if delivered st r.2.bIn r.2.bOut then L.del ++ r.2.bOut.ret.toList else L.del ⟩
    L'.acc = L'.del ++ (r.1.2 ++ c2rAbs r.1.1) ∧ r.1.2.length ≤ n := by
  intro r L'
  -- the slot as a FIFO between `L.acc` and what it hands over, the queue between that and `L.del`
  have hb := c2r_bypass1 a r.2.aIn
  have hA := (spec_step_ledger styleER .bypass 1 (by decide) (c2rAbs a) r.2.aIn ⟨L.acc, L.del ++ l⟩
    (by rw [h, List.append_assoc]) (c2rAbs_len a)).1
  rw [← hb.1, ← hb.2] at hA
  have hB : (Ledger.step st ⟨L.del ++ l, L.del⟩ r.2.bIn r.2.bOut).acc =
      (Ledger.step st ⟨L.del ++ l, L.del⟩ r.2.bIn r.2.bOut).del ++ r.1.2 ∧ r.1.2.length ≤ n :=
    spec_step_ledger st k n hn l r.2.bIn ⟨L.del ++ l, L.del⟩ rfl hl
  have hrst : (st.reset && r.2.bIn.rst) = false := by
    show (st.reset && i.rst) = false
    rw [hr, Bool.and_false]
  -- what the adapter hands over is what the queue accepts
  have hand : (Ledger.step styleER ⟨L.acc, L.del ++ l⟩ r.2.aIn r.2.aOut).del =
      (Ledger.step st ⟨L.del ++ l, L.del⟩ r.2.bIn r.2.bOut).acc := by
    simp only [Ledger.step, hrst, Bool.false_eq_true, if_false]
    exact c2r_handover a i.enq i.msg r.2.aIn.deq (L.del ++ l)
  have hdel : L'.del = (Ledger.step st ⟨L.del ++ l, L.del⟩ r.2.bIn r.2.bOut).del := by
    simp only [Ledger.step, hrst, Bool.false_eq_true, if_false, L']
  refine ⟨?_, hB.2⟩
  rw [hdel, ← List.append_assoc, ← hB.1, ← hand]
  exact hA

theorem compose_run_ledger (st : Style) (k : Kind) (n : Nat) (hn : 0 < n) (is : List (In α))
    (hr : ∀ i ∈ is, i.rst = false) (a : C2R α) (l : List α) (L : Ledger α)
    (h : L.acc = L.del ++ (l ++ c2rAbs a)) (hl : l.length ≤ n) :
    (outerLedgerFrom st L (composeRun (specStep st k n) (a, l) is)).acc =
      (outerLedgerFrom st L (composeRun (specStep st k n) (a, l) is)).del ++
        ((composeState (specStep st k n) (a, l) is).2 ++ c2rAbs (composeState (specStep st k n) (a, l) is).1) ∧
    (composeState (specStep st k n) (a, l) is).2.length ≤ n := by
  induction is generalizing a l L with
  | nil => exact ⟨h, hl⟩
  | cons i is ih =>
    have h1 := compose_step_ledger st k n hn a l i (hr i (List.mem_cons_self ..)) L h hl
    simp only [composeRun, composeState, outerLedgerFrom]
    exact ih (fun j hj => hr j (List.mem_cons_of_mem _ hj)) _ _ _ h1.1 h1.2

theorem chain_ledger (p : PlaceLedger α) (ps : List (PlaceLedger α))
    (hok : ∀ x ∈ p :: ps, x.ok) (hl : Linked (p :: ps)) :
    p.acc = chainDel p ps ++ chainInside (p :: ps) ∧ (chainInside (p :: ps)).length ≤ chainCap (p :: ps) := by
  induction ps generalizing p with
  | nil =>
    have := hok p (List.mem_cons_self ..)
    simpa [chainDel, chainInside, chainCap, PlaceLedger.ok] using this
  | cons q rest ih =>
    have hp := hok p (List.mem_cons_self ..)
    have hq := ih q (fun x hx => hok x (List.mem_cons_of_mem _ hx)) hl.2
    have hpq : p.del = q.acc := hl.1
    refine ⟨?_, ?_⟩
    · simp only [chainDel, chainInside] at hq ⊢
      rw [hp.1, hpq, hq.1, List.append_assoc]
    · simp only [chainInside, chainCap, List.length_append] at hq ⊢
      have := hp.2
      omega

/-- the adapter raises `enq.en` only when the queue specification behind it is ready: `send.en` is
`entry.isSome && send.rdy`, and `send.rdy` is the queue's `enq.rdy`, which does not look at the enqueue side -/
theorem compose_enq_legal (st : Style) (k : Kind) (n : Nat) (a : C2R α) (l : List α) (i : In α) :
    (composeStep (specStep st k n) (a, l) i).2.bIn.enq = true →
    (composeStep (specStep st k n) (a, l) i).2.bOut.enqRdy = true :=
  fun h => (spec_enqRdy_indep st k n l i.rst i.deq _ false _ i.msg).trans (Bool.and_eq_true_iff.mp h).2

/-- the consumer behind the queue is protocol-legal in every cycle of the composition -/
def DeqLegal {α} (st : Style) (os : List (Obs α)) : Prop :=
  ∀ o ∈ os, st.deqEnRdy = true → o.bIn.deq = true → o.bOut.deqRdy = true

theorem compose_sim {σ α : Type} {step : σ → In α → σ × Out α} {st : Style} {k : Kind} {n : Nat}
    (S : Sim step st k n) (is : List (In α)) (a : C2R α) (s : σ) (hs : S.Inv s)
    (hd : DeqLegal st (composeRun step (a, s) is)) :
    composeRun step (a, s) is = composeRun (specStep st k n) (a, S.abs s) is := by
  induction is generalizing a s with
  | nil => rfl
  | cons i is ih =>
    have hobs : (composeStep step (a, s) i).2 = (composeStep (specStep st k n) (a, S.abs s) i).2 := by
      simp only [composeStep, S.out_eq s _ hs]
    have hleg : Legal st (composeStep step (a, s) i).2.bOut (composeStep step (a, s) i).2.bIn :=
      ⟨fun _ he => by rw [hobs] at he ⊢; exact compose_enq_legal st k n a (S.abs s) i he,
       hd _ (List.mem_cons_self ..)⟩
    obtain ⟨h1, h2⟩ := S.next s _ hs hleg
    have hst : (composeStep (specStep st k n) (a, S.abs s) i).1 =
        ((composeStep step (a, s) i).1.1, S.abs (composeStep step (a, s) i).1.2) :=
      Prod.ext (by simp only [composeStep, S.out_eq s _ hs]) (by
        show (specStep st k n (S.abs s) (composeStep (specStep st k n) (a, S.abs s) i).2.bIn).1 = _
        rw [← hobs]; exact h1.symm)
    simp only [composeRun]
    rw [hobs, hst]
    exact congrArg _ (ih _ _ h2 fun o ho => hd o (List.mem_cons_of_mem _ ho))

theorem composeCls_eq (c : Cls) (n : Nat) (d : α) (is : List (In α)) :
    composeCls c n d is = composeRun (c.mach n d).step (C2R.init, (c.mach n d).init) is := by
  cases c
  case qNormal | qPipe | qBypass | sNormal | sPipe | sBypass =>
    exact apply_ite_mach (fun m => composeRun m.step (C2R.init, m.init) is) ..
  all_goals rfl

end PV.QAdapter
