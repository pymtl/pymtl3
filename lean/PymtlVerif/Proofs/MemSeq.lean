import PymtlVerif.Proofs.MemBytes
/-!
The sequential specification of `Model/Mem.lean`: `service` by kind of request, runs (`seqSpec`, `runLog`, `effects` / `latest`),
the port projections of a log, and which cells a run reads and writes (`footprint`, `AgreeOn`).
-/
namespace PV.Mem

theorem service_read {r : Req} (h : r.kind = .read) (m : Store) :
    service r m = (⟨0, r.opq, 0, r.len, readLE m r.addr (nbytes r.nb r.len)⟩, m) := by
  simp only [service, h]; rfl

theorem service_write {r : Req} (h : r.kind = .write) (m : Store) :
    service r m = (⟨1, r.opq, 0, 0, 0⟩, writeLE m r.addr (nbytes r.nb r.len) (r.data % 2 ^ (8 * nbytes r.nb r.len))) := by
  simp only [service, h]; rfl

theorem service_amo {r : Req} {op : AmoOp} (h : r.kind = .amo op) (m : Store) :
    service r m = (⟨op.code, r.opq, 0, r.len, readLE m r.addr (nbytes r.nb r.len)⟩,
      writeLE m r.addr (nbytes r.nb r.len) (amoFun (8 * nbytes r.nb r.len) op (readLE m r.addr (nbytes r.nb r.len))
        (r.data % 2 ^ (8 * nbytes r.nb r.len)))) := by
  simp only [service, h]

theorem service_store (r : Req) (m : Store) (b : Nat) :
    (service r m).2 b =
      match effect r m with
      | some e => if e.covers b then e.byte b else m b
      | none => m b := by
  cases h : r.kind with
  | read => rw [service_read h, effect, h]
  | write => simp only [service_write h, effect, h, writeLE_byte, WEvent.covers, WEvent.byte, Bool.and_eq_true, decide_eq_true_eq]
  | amo op => simp only [service_amo h, effect, h, writeLE_byte, WEvent.covers, WEvent.byte, Bool.and_eq_true, decide_eq_true_eq]

theorem service_bytes (r : Req) (m : Store) (h : Bytes m) : Bytes (service r m).2 := by
  cases hk : r.kind with
  | read => rw [service_read hk]; exact h
  | write => rw [service_write hk]; exact write_bytes _ _ _ _ h
  | amo op => rw [service_amo hk]; exact write_bytes _ _ _ _ h

theorem seqSpec_bytes (l : List Req) (m : Store) (h : Bytes m) : Bytes (seqSpec l m).2 := by
  induction l generalizing m with
  | nil => exact h
  | cons r rs ih => exact ih _ (service_bytes r m h)

theorem seqSpec_append (l1 l2 : List Req) (m : Store) :
    seqSpec (l1 ++ l2) m =
      ((seqSpec l1 m).1 ++ (seqSpec l2 (seqSpec l1 m).2).1, (seqSpec l2 (seqSpec l1 m).2).2) := by
  induction l1 generalizing m with
  | nil => rfl
  | cons r rs ih => simp only [List.cons_append, seqSpec, ih]

theorem seqSpec_length (l : List Req) (m : Store) : (seqSpec l m).1.length = l.length := by
  induction l generalizing m with
  | nil => rfl
  | cons r rs ih => exact congrArg (· + 1) (ih _)

theorem runLog_seqSpec (log : List (Nat × Req)) (m : Store) :
    runLog log m = ((log.map (·.1)).zip (seqSpec (log.map (·.2)) m).1, (seqSpec (log.map (·.2)) m).2) := by
  induction log generalizing m with
  | nil => rfl
  | cons e rs ih => simp only [runLog, List.map_cons, seqSpec, List.zip_cons_cons, ih]

theorem runLog_snoc (log : List (Nat × Req)) (m : Store) (i : Nat) (r : Req) :
    runLog (log ++ [(i, r)]) m =
      ((runLog log m).1 ++ [(i, (service r (runLog log m).2).1)], (service r (runLog log m).2).2) := by
  induction log generalizing m with
  | nil => rfl
  | cons e rs ih => simp only [List.cons_append, runLog, ih]

theorem service_echo (r : Req) (m : Store) :
    (service r m).1.type = r.kind.code ∧ (service r m).1.opq = r.opq ∧ (service r m).1.test = 0 := by
  cases h : r.kind with
  | read => rw [service_read h]; exact ⟨rfl, rfl, rfl⟩
  | write => rw [service_write h]; exact ⟨rfl, rfl, rfl⟩
  | amo op => rw [service_amo h]; exact ⟨rfl, rfl, rfl⟩

theorem latest_append (es1 es2 : List WEvent) (b : Nat) :
    latest (es1 ++ es2) b = match latest es2 b with | some v => some v | none => latest es1 b := by
  induction es1 with
  | nil => cases h : latest es2 b <;> simp only [List.nil_append, h, latest]
  | cons e es ih =>
    simp only [List.cons_append, latest, ih]
    cases latest es2 b <;> rfl

theorem store_latest (l : List Req) (m : Store) (b : Nat) :
    (seqSpec l m).2 b = (latest (effects l m) b).getD (m b) := by
  induction l generalizing m with
  | nil => rfl
  | cons r rs ih =>
    simp only [seqSpec, effects]
    rw [ih, latest_append, service_store]
    cases latest (effects rs (service r m).2) b with
    | some v => rfl
    | none =>
      cases effect r m with
      | none => rfl
      | some e => simp only [Option.toList, latest]; split <;> rfl

theorem procs_cons (i j : Nat) (r : Req) (log : List (Nat × Req)) :
    procs i ((j, r) :: log) = if j = i then r :: procs i log else procs i log := by
  simp only [procs, List.filter_cons, beq_iff_eq]; split <;> rfl

theorem portResps_cons (i j : Nat) (x : Resp) (rlog : List (Nat × Resp)) :
    portResps i ((j, x) :: rlog) = if j = i then x :: portResps i rlog else portResps i rlog := by
  simp only [portResps, List.filter_cons, beq_iff_eq]; split <;> rfl

theorem procs_snoc (j i : Nat) (r : Req) (log : List (Nat × Req)) :
    procs j (log ++ [(i, r)]) = if i = j then procs j log ++ [r] else procs j log := by
  simp only [procs, List.filter_append, List.filter_cons, List.filter_nil, beq_iff_eq]
  split <;> simp only [List.map_append, List.map_cons, List.map_nil, List.append_nil]

theorem portResps_snoc (j i : Nat) (x : Resp) (rlog : List (Nat × Resp)) :
    portResps j (rlog ++ [(i, x)]) = if i = j then portResps j rlog ++ [x] else portResps j rlog := by
  simp only [portResps, List.filter_append, List.filter_cons, List.filter_nil, beq_iff_eq]
  split <;> simp only [List.map_append, List.map_cons, List.map_nil, List.append_nil]

def tyOpq (x : Resp) : Nat × Nat := (x.type, x.opq)
def reqTyOpq (r : Req) : Nat × Nat := (r.kind.code, r.opq)

theorem runLog_echo (i : Nat) (log : List (Nat × Req)) (m : Store) :
    (portResps i (runLog log m).1).map tyOpq = (procs i log).map reqTyOpq := by
  induction log generalizing m with
  | nil => rfl
  | cons e rs ih =>
    have he := service_echo e.2 m
    rw [runLog, portResps_cons, procs_cons]
    split
    · rw [List.map_cons, List.map_cons, ih, tyOpq, reqTyOpq, he.1, he.2.1]
    · exact ih _

def footprint (r : Req) (b : Nat) : Prop := r.addr ≤ b ∧ b < r.addr + nbytes r.nb r.len

def AgreeOn (S : Nat → Prop) (m m' : Store) : Prop := ∀ b, S b → m b = m' b

theorem AgreeOn.write {S : Nat → Prop} {m m' : Store} (h : AgreeOn S m m') (a k d : Nat) :
    AgreeOn S (writeLE m a k d) (writeLE m' a k d) :=
  fun b hb => by rw [writeLE_byte, writeLE_byte, h b hb]

theorem service_congr (r : Req) (m m' : Store) (S : Nat → Prop)
    (hf : ∀ b, footprint r b → S b) (h : AgreeOn S m m') :
    (service r m).1 = (service r m').1 ∧ AgreeOn S (service r m).2 (service r m').2 := by
  have hr : readLE m r.addr (nbytes r.nb r.len) = readLE m' r.addr (nbytes r.nb r.len) :=
    read_congr _ _ _ _ (fun b h1 h2 => h b (hf b ⟨h1, h2⟩))
  cases hk : r.kind with
  | read => rw [service_read hk, service_read hk, hr]; exact ⟨rfl, h⟩
  | write => rw [service_write hk, service_write hk]; exact ⟨rfl, h.write _ _ _⟩
  | amo op => rw [service_amo hk, service_amo hk, hr]; exact ⟨rfl, h.write _ _ _⟩

theorem service_frame (r : Req) (m : Store) (S : Nat → Prop)
    (hd : ∀ b, footprint r b → ¬ S b) : AgreeOn S (service r m).2 m := by
  intro b hb
  cases hk : r.kind with
  | read => rw [service_read hk]
  | write => rw [service_write hk]; exact (writeLE_byte ..).trans (if_neg (fun hc => hd b hc hb))
  | amo op => rw [service_amo hk]; exact (writeLE_byte ..).trans (if_neg (fun hc => hd b hc hb))

/-- a run whose requests stay inside a set `S` of addresses: the responses and the cells of `S` depend on the cells of `S` alone,
and no cell outside `S` is ever written -/
theorem seqSpec_on (S : Nat → Prop) (l : List Req) (m m' : Store)
    (hl : ∀ r ∈ l, ∀ b, footprint r b → S b) (h : AgreeOn S m m') :
    (seqSpec l m).1 = (seqSpec l m').1 ∧ AgreeOn S (seqSpec l m).2 (seqSpec l m').2 ∧
    AgreeOn (fun b => ¬ S b) (seqSpec l m).2 m := by
  induction l generalizing m m' with
  | nil => exact ⟨rfl, h, fun _ _ => rfl⟩
  | cons r rs ih =>
    have hr := hl r (List.mem_cons_self ..)
    have hc := service_congr r m m' S hr h
    have hf := service_frame r m (fun b => ¬ S b) (fun b hb h2 => h2 (hr b hb))
    have ih := ih _ _ (fun q hq => hl q (List.mem_cons_of_mem _ hq)) hc.2
    exact ⟨List.cons_eq_cons.mpr ⟨hc.1, ih.1⟩, ih.2.1, fun b hb => (ih.2.2 b hb).trans (hf b hb)⟩

/-- port `i` against the rest: its own requests read and write the same bytes in both runs (`service_congr`), the others,
staying out of `S`, leave it alone (`service_frame`); how the others' cells overlap one another does not matter -/
theorem runLog_alone (S : Nat → Prop) (i : Nat) (log : List (Nat × Req)) (m m' : Store)
    (hin : ∀ e ∈ log, e.1 = i → ∀ b, footprint e.2 b → S b)
    (hout : ∀ e ∈ log, e.1 ≠ i → ∀ b, footprint e.2 b → ¬ S b) (h : AgreeOn S m m') :
    portResps i (runLog log m).1 = (seqSpec (procs i log) m').1 ∧
    AgreeOn S (runLog log m).2 (seqSpec (procs i log) m').2 := by
  induction log generalizing m m' with
  | nil => exact ⟨rfl, h⟩
  | cons e rs ih =>
    have ih := fun m m' => ih m m' (fun e he => hin e (List.mem_cons_of_mem _ he))
      (fun e he => hout e (List.mem_cons_of_mem _ he))
    rw [runLog, portResps_cons, procs_cons]
    by_cases hj : e.1 = i
    · have hc := service_congr e.2 m m' S (hin e (List.mem_cons_self ..) hj) h
      have ih := ih _ _ hc.2
      rw [if_pos hj, if_pos hj, seqSpec]
      exact ⟨List.cons_eq_cons.mpr ⟨hc.1, ih.1⟩, ih.2⟩
    · rw [if_neg hj, if_neg hj]
      exact ih _ m' (fun b hb => (service_frame e.2 m S (hout e (List.mem_cons_self ..) hj) b hb).trans (h b hb))

end PV.Mem
