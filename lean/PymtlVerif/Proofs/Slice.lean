import PymtlVerif.Proofs.Bits
import PymtlVerif.Proofs.Pack
/-! Helper lemmas for slices, concat, popcount and bit length. -/
namespace PV.Bits

/-- specification of concatenation: head of the list is most significant -/
def catSpec : List B → Nat × Nat
  | [] => (0, 0)
  | x :: xs => (x.n + (catSpec xs).1, x.v * 2 ^ (catSpec xs).1 + (catSpec xs).2)

theorem pokeRaw_eq (x a b w : Nat) (h : a ≤ b) :
    pokeRaw x a b w = x % 2 ^ a + w * 2 ^ a + (x / 2 ^ b) * 2 ^ b := by
  -- x = x % 2^a + (x / 2^a % 2^(b-a)) * 2^a + (x / 2^b) * 2^b
  have hd := Nat.mod_add_div x (2 ^ b)
  have hm : x % 2 ^ b = x % 2 ^ a + (x / 2 ^ a) % 2 ^ (b - a) * 2 ^ a := by
    rw [← Nat.pow_sub_mul_pow 2 h, Nat.mul_comm, Nat.mod_mul, Nat.mul_comm]
  rw [pokeRaw, Nat.shiftRight_eq_div_pow]
  rw [hm, Nat.mul_comm (2 ^ b)] at hd
  generalize x % 2 ^ a = lo at *
  generalize (x / 2 ^ a) % 2 ^ (b - a) * 2 ^ a = mid at *
  generalize x / 2 ^ b * 2 ^ b = hi at *
  omega

theorem testBit_pokeRaw (x a b w i : Nat) (h : a ≤ b) (hw : w < 2 ^ (b - a)) :
    (pokeRaw x a b w).testBit i = if a ≤ i ∧ i < b then w.testBit (i - a) else x.testBit i := by
  -- the three fields of `pokeRaw_eq` as `2^a * (2^(b-a) * hi + w) + lo`, whose bits the library reads off
  have e : x % 2 ^ a + w * 2 ^ a + x / 2 ^ b * 2 ^ b = 2 ^ a * (2 ^ (b - a) * (x / 2 ^ b) + w) + x % 2 ^ a := by
    rw [← Nat.pow_sub_mul_pow 2 h, Nat.mul_add, Nat.mul_comm w, ← Nat.mul_assoc (2 ^ a), Nat.mul_comm (2 ^ a) (2 ^ (b - a)),
        Nat.mul_comm (x / _)]
    omega
  rw [pokeRaw_eq x a b w h, e, Nat.testBit_two_pow_mul_add _ (Nat.mod_lt x (Nat.two_pow_pos a)),
    Nat.testBit_two_pow_mul_add _ hw]
  by_cases h1 : i < a
  · rw [if_pos h1, if_neg (fun hc => Nat.not_le_of_lt h1 hc.1), Nat.testBit_mod_two_pow, decide_eq_true h1,
      Bool.true_and]
  · rw [if_neg h1]
    by_cases h2 : i < b
    · rw [if_pos (Nat.sub_lt_sub_right (Nat.le_of_not_lt h1) h2), if_pos ⟨Nat.le_of_not_lt h1, h2⟩]
    · rw [if_neg (Nat.not_lt.mpr (Nat.sub_le_sub_right (Nat.le_of_not_lt h2) a)), if_neg (fun hc => h2 hc.2),
        Nat.testBit_div_two_pow, Nat.sub_sub_sub_cancel_right h, Nat.sub_add_cancel (Nat.le_of_not_lt h2)]

theorem testBit_of_lt_two_pow {v n i : Nat} (hv : v < 2 ^ n) (hi : n ≤ i) : v.testBit i = false :=
  Nat.testBit_lt_two_pow (Nat.lt_of_lt_of_le hv (Nat.pow_le_pow_right (by decide) hi))

theorem pokeRaw_lt (x a b w n : Nat) (h : a ≤ b) (hb : b ≤ n) (hx : x < 2 ^ n) (hw : w < 2 ^ (b - a)) :
    pokeRaw x a b w < 2 ^ n := by
  apply Nat.lt_pow_two_of_testBit
  intro i hi
  rw [testBit_pokeRaw x a b w i h hw, if_neg (fun hc => Nat.not_le_of_lt hc.2 (Nat.le_trans hb hi))]
  exact testBit_of_lt_two_pow hx hi

theorem get_pokeRaw (x a b w : Nat) (h : a ≤ b) (hw : w < 2 ^ (b - a)) :
    (pokeRaw x a b w / 2 ^ a) % 2 ^ (b - a) = w := by
  have := Pack.field_mid (Nat.mod_lt x (Nat.two_pow_pos a)) w (x / 2 ^ b) (b - a)
  rwa [Nat.add_sub_cancel' h, ← pokeRaw_eq x a b w h, Nat.mod_eq_of_lt hw] at this

theorem sliceBounds_some (n : Nat) (lo hi : Int) :
    sliceBounds n (some lo) (some hi) none =
      if 0 ≤ lo ∧ lo < hi ∧ hi ≤ (n : Int) then some (lo.toNat, hi.toNat) else none := rfl

theorem sliceBounds_valid (n lo hi : Nat) (h1 : lo < hi) (h2 : hi ≤ n) :
    sliceBounds n (some lo) (some hi) none = some (lo, hi) := by
  rw [sliceBounds_some, if_pos ⟨Int.natCast_nonneg _, Int.ofNat_lt.mpr h1, Int.ofNat_le.mpr h2⟩,
    Int.toNat_natCast, Int.toNat_natCast]

theorem sliceBounds_invalid (n : Nat) (lo hi : Int) (h : ¬ (0 ≤ lo ∧ lo < hi ∧ hi ≤ n)) :
    sliceBounds n (some lo) (some hi) none = none := by
  rw [sliceBounds_some, if_neg h]

theorem concatRaw_foldl (xs : List B) (n0 v0 : Nat) :
    xs.foldl (fun (acc : Nat × Nat) x => (acc.1 + x.n, acc.2 * 2 ^ x.n + x.v)) (n0, v0)
      = (n0 + (catSpec xs).1, v0 * 2 ^ (catSpec xs).1 + (catSpec xs).2) := by
  induction xs generalizing n0 v0 with
  | nil => simp [catSpec]
  | cons x xs ih =>
    rw [List.foldl_cons, ih, catSpec, Nat.add_assoc, Nat.add_mul, Nat.pow_add, Nat.mul_assoc, Nat.add_assoc]

theorem concatRaw_eq (xs : List B) : concatRaw xs = catSpec xs := by
  rw [concatRaw, concatRaw_foldl, Nat.zero_add, Nat.zero_mul, Nat.zero_add]

theorem catSpec_lt (xs : List B) (h : ∀ x ∈ xs, x.v < 2 ^ x.n) : (catSpec xs).2 < 2 ^ (catSpec xs).1 := by
  induction xs with
  | nil => exact Nat.one_pos
  | cons x xs ih =>
    have hr := ih (fun y hy => h y (List.mem_cons_of_mem _ hy))
    show _ * _ + _ < 2 ^ (_ + _)
    rw [Nat.add_comm, Nat.mul_comm, Nat.add_comm x.n, Nat.pow_add]
    exact Pack.cat_lt hr (h x List.mem_cons_self)

theorem catSpec_append (xs ys : List B) :
    catSpec (xs ++ ys) = ((catSpec xs).1 + (catSpec ys).1,
                           (catSpec xs).2 * 2 ^ (catSpec ys).1 + (catSpec ys).2) := by
  rw [← concatRaw_eq, concatRaw, List.foldl_append, ← concatRaw, concatRaw_eq, concatRaw_foldl]

theorem popcount_zero : ∀ n, popcount n 0 = 0
  | 0 => rfl
  | _ + 1 => rfl

theorem popcount_eq (n v : Nat) (h : v < 2 ^ n) :
    popcount n v = ((List.range n).filter (fun i => v.testBit i)).length := by
  induction n generalizing v with
  | zero => rfl
  | succ n ih =>
    have h2 : v / 2 < 2 ^ n := by rw [Nat.pow_succ] at h; omega
    have hs : ((fun i => v.testBit i) ∘ Nat.succ) = (fun i => (v / 2).testBit i) :=
      funext fun i => Nat.testBit_succ v i
    -- both sides are `v % 2` plus the count for `v / 2`
    have hl : popcount (n + 1) v = v % 2 + popcount n (v / 2) := by
      rw [popcount]
      by_cases hz : v = 0
      · rw [if_pos hz, hz, popcount_zero]
      · rw [if_neg hz]
    rw [hl, ih _ h2, List.range_succ_eq_map, List.filter_cons, List.filter_map, hs, Nat.testBit_zero]
    rcases Nat.mod_two_eq_zero_or_one v with hm | hm
    · rw [hm, if_neg (by decide), List.length_map, Nat.zero_add]
    · rw [hm, if_pos (by decide), List.length_cons, List.length_map, Nat.add_comm]

theorem bitLength_eq_log2 (f v : Nat) (h : v ≤ f) : bitLength f v = if v = 0 then 0 else Nat.log2 v + 1 := by
  induction f generalizing v with
  | zero => rw [Nat.le_zero.mp h]; rfl
  | succ f ih =>
    unfold bitLength
    by_cases hz : v = 0
    · rw [if_pos hz, if_pos hz]
    · rw [if_neg hz, if_neg hz, Nat.log2_def v,
        ih (v / 2) (Nat.le_of_lt_succ (Nat.lt_of_lt_of_le (Nat.div_lt_self (Nat.pos_of_ne_zero hz) (by decide)) h))]
      by_cases h2 : 2 ≤ v
      · rw [if_pos h2, if_neg (Nat.ne_of_gt (Nat.div_pos h2 (by decide))), Nat.add_comm]
      · rw [if_neg h2, if_pos (Nat.div_eq_of_lt (Nat.lt_of_not_le h2))]

end PV.Bits
