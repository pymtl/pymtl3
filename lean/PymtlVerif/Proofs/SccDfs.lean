import PymtlVerif.Proofs.SccGraph
/-!
Phase 1 of `kosaraju_scc`: the iterative "push all successors, test `visited` on pop, `(u, True)` marker" DFS
computes the post-order of the recursive DFS (`DfsL`, a big-step relation), within the fuel granted by the model.
Facts about the recursive DFS: what it visits (`DfsL.reached`) and closure under successors (`DfsL.closed`); Kosaraju's
second phase is proved by induction on it (`DfsL.phase2` in `Proofs/SccBfs.lean`).
-/
namespace PV.Scc
open PV.Loop (unseen unseen_mono unseen_cons_lt)

/-- big-step recursive DFS over a list of start vertices: `DfsL G vis us vis' po k` — started with visited set `vis`,
the calls `dfs(u)` for `u` in `us` (in order) end with visited set `vis'`, append `po` to the post-order, and the
iterative loop spends `k` iterations on them -/
inductive DfsL (G : Graph) : List Nat → List Nat → List Nat → List Nat → Nat → Prop
  | nil {vis : List Nat} : DfsL G vis [] vis [] 0
  | skip {vis us vis' po : List Nat} {u k : Nat} : u ∈ vis → DfsL G vis us vis' po k → DfsL G vis (u :: us) vis' po (k + 1)
  | visit {vis us vis1 po1 vis2 po2 : List Nat} {u k1 k2 : Nat} : u ∉ vis →
      DfsL G (u :: vis) (G u) vis1 po1 k1 → DfsL G vis1 us vis2 po2 k2 →
      DfsL G vis (u :: us) vis2 (po1 ++ u :: po2) (k1 + k2 + 2)

theorem degSum_cons (G : Graph) (u : Nat) (l : List Nat) : degSum G (u :: l) = (G u).length + degSum G l := by
  unfold degSum; rw [List.map_cons, List.sum_cons]

theorem degSum_append (G : Graph) (a b : List Nat) : degSum G (a ++ b) = degSum G a + degSum G b := by
  unfold degSum; rw [List.map_append, List.sum_append]

namespace DfsL
variable {G : Graph}

theorem vis_iff {vis us vis' po : List Nat} {k : Nat} (h : DfsL G vis us vis' po k) :
    ∀ x, x ∈ vis' ↔ x ∈ vis ∨ x ∈ po := by
  induction h with
  | nil => intro x; simp
  | skip _ _ ih => exact ih
  | visit _ _ _ ih1 ih2 =>
    intro x
    rw [ih2, ih1]
    simp only [List.mem_cons, List.mem_append, or_assoc, or_left_comm]

theorem fresh {vis us vis' po : List Nat} {k : Nat} (h : DfsL G vis us vis' po k) :
    po.Nodup ∧ ∀ x ∈ po, x ∉ vis := by
  induction h with
  | nil => exact ⟨List.nodup_nil, fun _ h => absurd h List.not_mem_nil⟩
  | skip _ _ ih => exact ih
  | @visit vis us vis1 po1 vis2 po2 u k1 k2 hu h1 h2 ih1 ih2 =>
    obtain ⟨nd1, f1⟩ := ih1
    obtain ⟨nd2, f2⟩ := ih2
    have hv1 := h1.vis_iff
    have f2' : ∀ x ∈ po2, x ≠ u ∧ x ∉ vis ∧ x ∉ po1 := fun x hx =>
      ⟨fun e => f2 x hx ((hv1 x).mpr (.inl (e ▸ List.mem_cons_self))),
        fun hxv => f2 x hx ((hv1 x).mpr (.inl (List.mem_cons_of_mem _ hxv))), fun h => f2 x hx ((hv1 x).mpr (.inr h))⟩
    refine ⟨List.nodup_append.mpr ⟨nd1, List.nodup_cons.mpr ⟨fun h => (f2' u h).1 rfl, nd2⟩, ?_⟩, ?_⟩
    · rintro a ha _ hb rfl
      rcases List.mem_cons.mp hb with rfl | hb
      · exact f1 a ha List.mem_cons_self
      · exact (f2' a hb).2.2 ha
    · exact List.forall_mem_append.mpr ⟨fun x hx hxv => f1 x hx (List.mem_cons_of_mem _ hxv),
        List.forall_mem_cons.mpr ⟨hu, fun x hx => (f2' x hx).2.1⟩⟩

theorem closed {vis us vis' po : List Nat} {k : Nat} (h : DfsL G vis us vis' po k) :
    (∀ u ∈ us, u ∈ vis') ∧ ∀ w ∈ po, ∀ y ∈ G w, y ∈ vis' := by
  induction h with
  | nil => exact ⟨fun _ h => absurd h List.not_mem_nil, fun _ h => absurd h List.not_mem_nil⟩
  | @skip vis us vis' po u k hu h ih =>
    exact ⟨List.forall_mem_cons.mpr ⟨(h.vis_iff u).mpr (.inl hu), ih.1⟩, ih.2⟩
  | @visit vis us vis1 po1 vis2 po2 u k1 k2 hu h1 h2 ih1 ih2 =>
    have up : ∀ x, x ∈ vis1 → x ∈ vis2 := fun x hx => (h2.vis_iff x).mpr (.inl hx)
    exact ⟨List.forall_mem_cons.mpr ⟨up _ ((h1.vis_iff u).mpr (.inl List.mem_cons_self)), ih2.1⟩,
      List.forall_mem_append.mpr ⟨fun w hw y hy => up _ (ih1.2 w hw y hy),
        List.forall_mem_cons.mpr ⟨fun y hy => up _ (ih1.1 y hy), ih2.2⟩⟩⟩

theorem reached {vis us vis' po : List Nat} {k : Nat} (h : DfsL G vis us vis' po k) :
    ∀ w ∈ po, ∃ u ∈ us, RA G (fun x => x ∉ vis) u w := by
  induction h with
  | nil => exact fun _ h => absurd h List.not_mem_nil
  | skip _ _ ih => exact fun w hw => (ih w hw).imp fun u h => ⟨List.mem_cons_of_mem _ h.1, h.2⟩
  | @visit vis us vis1 po1 vis2 po2 u k1 k2 hu h1 h2 ih1 ih2 =>
    refine List.forall_mem_append.mpr ⟨fun w hw => ?_, List.forall_mem_cons.mpr ⟨?_, fun w hw => ?_⟩⟩
    · obtain ⟨s, hs, hr⟩ := ih1 w hw
      exact ⟨u, List.mem_cons_self, .head hu hs (hr.mono fun x hx hxv => hx (List.mem_cons_of_mem _ hxv))⟩
    · exact ⟨u, List.mem_cons_self, .refl hu⟩
    · obtain ⟨s, hs, hr⟩ := ih2 w hw
      exact ⟨s, List.mem_cons_of_mem _ hs,
        hr.mono fun x hx hxv => hx ((h1.vis_iff x).mpr (.inl (List.mem_cons_of_mem _ hxv)))⟩

theorem steps {vis us vis' po : List Nat} {k : Nat} (h : DfsL G vis us vis' po k) :
    k = us.length + po.length + degSum G po := by
  induction h with
  | nil => rfl
  | skip _ _ ih => rw [ih, List.length_cons, Nat.add_right_comm _ 1, Nat.add_right_comm _ 1]
  | visit _ _ _ ih1 ih2 =>
    rw [ih1, ih2, List.length_cons, List.length_append, List.length_cons, degSum_append, degSum_cons]; omega

theorem sub {GT : Graph} {V : List Nat} (wf : WF G GT V) {vis us vis' po : List Nat} {k : Nat} (h : DfsL G vis us vis' po k)
    (hus : ∀ u ∈ us, u ∈ V) : ∀ x ∈ po, x ∈ V := by
  intro x hx
  obtain ⟨u, hu, hr⟩ := h.reached x hx
  exact hr.closed (S := (· ∈ V)) (fun x _ y he _ => wf.dst x y he) (hus u hu)

/-- the recursive DFS terminates on every well-formed finite graph: a call on an unvisited vertex lowers the number of
unvisited vertices -/
theorem exists_run {GT : Graph} {V : List Nat} (wf : WF G GT V) :
    ∀ (n : Nat) (vis : List Nat), unseen V vis ≤ n → ∀ us, (∀ u ∈ us, u ∈ V) → ∃ vis' po k, DfsL G vis us vis' po k := by
  intro n
  induction n using Nat.strongRecOn with
  | ind n ihn =>
    intro vis hn us
    induction us generalizing vis with
    | nil => intro _; exact ⟨vis, [], 0, .nil⟩
    | cons u us ih =>
      intro hus
      have hus' : ∀ x ∈ us, x ∈ V := fun x hx => hus x (List.mem_cons_of_mem _ hx)
      by_cases hu : u ∈ vis
      · obtain ⟨vis', po, k, h⟩ := ih vis hn hus'
        exact ⟨vis', po, k + 1, .skip hu h⟩
      · have hlt := unseen_cons_lt V vis u (hus u List.mem_cons_self) hu
        obtain ⟨vis1, po1, k1, h1⟩ := ihn _ (Nat.lt_of_lt_of_le hlt hn) (u :: vis) (Nat.le_refl _) (G u) (wf.dst u)
        have hmono : unseen V vis1 ≤ unseen V vis :=
          unseen_mono V fun x hx => (h1.vis_iff x).mpr (.inl (List.mem_cons_of_mem _ hx))
        obtain ⟨vis2, po2, k2, h2⟩ := ih vis1 (Nat.le_trans hmono hn) hus'
        exact ⟨vis2, po1 ++ u :: po2, k1 + k2 + 2, .visit hu h1 h2⟩

theorem perm {GT : Graph} {V : List Nat} (wf : WF G GT V) {vis po : List Nat} {k : Nat} (h : DfsL G [] V vis po k) :
    po.Perm V :=
  (List.perm_ext_iff_of_nodup h.fresh.1 wf.nodup).mpr fun x =>
    ⟨h.sub wf (fun _ hu => hu) x, fun hx => ((h.vis_iff x).mp (h.closed.1 x hx)).resolve_left List.not_mem_nil⟩

end DfsL

theorem pushAll_eq (vs : List Nat) (st : List (Nat × Bool)) :
    pushAll vs st = vs.reverse.map (fun v => (v, false)) ++ st := by
  unfold pushAll
  induction vs generalizing st with
  | nil => rfl
  | cons v vs ih => simp [List.foldl_cons, ih]

theorem step1_skip {G : Graph} {u : Nat} {vis : List Nat} (hu : u ∈ vis) (st : List (Nat × Bool)) (po : List Nat) :
    step1 G ⟨(u, false) :: st, vis, po⟩ = ⟨st, vis, po⟩ := by
  simp only [step1, hu, if_true]

theorem step1_visit {G : Graph} {u : Nat} {vis : List Nat} (hu : u ∉ vis) (st : List (Nat × Bool)) (po : List Nat) :
    step1 G ⟨(u, false) :: st, vis, po⟩ = ⟨(G u).map (fun v => (v, false)) ++ (u, true) :: st, u :: vis, po⟩ := by
  simp only [step1, hu, if_false, pushAll_eq, List.reverse_reverse]

theorem step1_true (G : Graph) (u : Nat) (st : List (Nat × Bool)) (vis po : List Nat) :
    step1 G ⟨(u, true) :: st, vis, po⟩ = ⟨st, vis, po ++ [u]⟩ := rfl

theorem iter1_cons (G : Graph) (n : Nat) (e : Nat × Bool) (st : List (Nat × Bool)) (vis po : List Nat) :
    iter D1.done (step1 G) (n + 1) ⟨e :: st, vis, po⟩ = iter D1.done (step1 G) n (step1 G ⟨e :: st, vis, po⟩) := rfl

theorem iter1_nil (G : Graph) (n : Nat) (vis po : List Nat) : iter D1.done (step1 G) n ⟨[], vis, po⟩ = ⟨[], vis, po⟩ :=
  iter_done_eq _ _ _ _ rfl

/-- the loop, started with the entries `(u, False)` for `u` in `us` on top of `rest`, arrives after `k` iterations at
`rest` with the visited set and post-order of the recursive DFS -/
theorem dfs_sim {G : Graph} {vis us vis' po' : List Nat} {k : Nat} (h : DfsL G vis us vis' po' k) :
    ∀ (rest : List (Nat × Bool)) (po : List Nat) (fuel : Nat),
      iter D1.done (step1 G) (fuel + k) ⟨us.map (fun v => (v, false)) ++ rest, vis, po⟩ =
      iter D1.done (step1 G) fuel ⟨rest, vis', po ++ po'⟩ := by
  induction h with
  | nil => intro rest po fuel; rw [List.append_nil]; rfl
  | @skip vis us vis' po' u k hu h ih =>
    intro rest po fuel
    rw [← Nat.add_assoc, List.map_cons, List.cons_append, iter1_cons, step1_skip hu]
    exact ih rest po fuel
  | @visit vis us vis1 po1 vis2 po2 u k1 k2 hu h1 h2 ih1 ih2 =>
    intro rest po fuel
    rw [show fuel + (k1 + k2 + 2) = ((fuel + k2 + 1) + k1) + 1 from by
        rw [Nat.add_right_comm (fuel + k2) 1 k1, Nat.add_assoc fuel k2 k1, Nat.add_comm k2 k1]; rfl,
      List.map_cons, List.cons_append,
      iter1_cons, step1_visit hu, ih1, iter1_cons, step1_true, ih2, List.append_assoc, List.append_assoc]
    rfl

/-- `for u in vertices:` is the recursive DFS over `vertices`, provided the fuel per root covers one entry per vertex
and per edge of the post-order -/
theorem foldl_dfsRoot {G : Graph} {F : Nat} {vis us vis' po' : List Nat} {k : Nat} (h : DfsL G vis us vis' po' k) :
    po'.length + degSum G po' < F → ∀ po0, us.foldl (dfsRoot G F) (vis, po0) = (vis', po0 ++ po') := by
  induction h with
  | nil => intro _ po0; rw [List.append_nil]; rfl
  | @skip vis us vis' po' u k hu h ih =>
    intro hF po0
    obtain ⟨F', rfl⟩ := Nat.exists_eq_succ_of_ne_zero (Nat.ne_of_gt (Nat.zero_lt_of_lt hF))
    have hroot : dfsRoot G (F' + 1) (vis, po0) u = (vis, po0) := by
      unfold dfsRoot; rw [iter1_cons, step1_skip hu, iter1_nil]
    rw [List.foldl_cons, hroot]
    exact ih hF po0
  | @visit vis us vis1 po1 vis2 po2 u k1 k2 hu h1 h2 _ ih2 =>
    intro hF po0
    rw [List.length_append, List.length_cons, degSum_append, degSum_cons] at hF
    have hk := h1.steps
    -- `k1 + 0 + 2`: the iterations of `.visit hu h1 .nil`, the run of the one root `u`
    obtain ⟨hroot, hrest⟩ : k1 + 0 + 2 ≤ F ∧ po2.length + degSum G po2 < F := by omega
    obtain ⟨d, hd⟩ := Nat.exists_eq_add_of_le' hroot
    have hroot : dfsRoot G F (vis, po0) u = (vis1, po0 ++ (po1 ++ [u])) := by
      rw [hd]
      unfold dfsRoot
      rw [show ([(u, false)] : List (Nat × Bool)) = [u].map (fun v => (v, false)) ++ [] from rfl,
        dfs_sim (.visit hu h1 .nil), iter1_nil]
    rw [List.foldl_cons, hroot, ih2 hrest, List.append_assoc, List.append_assoc]
    rfl

/-- **fuel sufficiency and meaning of phase 1**: the model's `phase1` is the recursive DFS from the empty visited set,
and more fuel changes nothing -/
theorem phase1_run {G GT : Graph} {V : List Nat} (wf : WF G GT V) :
    ∃ vis po k, DfsL G [] V vis po k ∧ ∀ F, fuel1 G V ≤ F → V.foldl (dfsRoot G F) ([], []) = (vis, po) := by
  obtain ⟨vis, po, k, h⟩ := DfsL.exists_run wf (unseen V []) [] (Nat.le_refl _) V (fun _ hu => hu)
  refine ⟨vis, po, k, h, fun F hF => foldl_dfsRoot h ?_ []⟩
  have hp := h.perm wf
  rw [hp.length_eq, degSum, ((hp.map _).sum_nat)]
  -- `fuel1 G V = V.length + degSum G V + 1`
  exact hF

theorem phase1_spec {G GT : Graph} {V : List Nat} (wf : WF G GT V) :
    ∃ vis k, DfsL G [] V vis (postOrder G V) k ∧ phase1 G V = (vis, postOrder G V) := by
  obtain ⟨vis, po, k, h, hF⟩ := phase1_run wf
  have hp : phase1 G V = (vis, po) := hF _ (Nat.le_refl _)
  have hpo : postOrder G V = po := congrArg Prod.snd hp
  rw [hpo]
  exact ⟨vis, k, h, hp⟩

theorem phase1_fuel {G GT : Graph} {V : List Nat} (wf : WF G GT V) (F : Nat) (hF : fuel1 G V ≤ F) :
    V.foldl (dfsRoot G F) ([], []) = phase1 G V := by
  obtain ⟨vis, po, k, _, h⟩ := phase1_run wf
  exact (h F hF).trans (h _ (Nat.le_refl _)).symm

theorem postOrder_facts {G GT : Graph} {V : List Nat} (wf : WF G GT V) :
    (postOrder G V).Nodup ∧ ∀ x, x ∈ postOrder G V ↔ x ∈ V := by
  obtain ⟨vis, k, h, _⟩ := phase1_spec wf
  exact ⟨h.fresh.1, fun x => (h.perm wf).mem_iff⟩

end PV.Scc
