import PymtlVerif.Proofs.Pipe
/-!
For every state reachable from power-on under ANY input list: no control word in X / M / W both writes a
register and sends to proc2mngr (rows of the control table never do, and the registers are only loaded from
rows).  Consequence: a stalled W stage (it stalls only on proc2mngr back-pressure) never writes the register
file, although `rf_wen_W` is not gated by `stall_W` in the code.
-/
namespace PV.Pipe

theorem csTable_excl (t : Nat) : (csTable t).csrw = true → (csTable t).rf_wen_pending = false :=
  csTable_forall (P := fun c => c.csrw = true → c.rf_wen_pending = false) (by decide) t

def Excl (s : State) : Prop :=
  (s.cx.proc2mngr_en = true → s.cx.rf_wen_pending = false) ∧
  (s.cm.proc2mngr_en = true → s.cm.rf_wen_pending = false) ∧
  (s.cw.proc2mngr_en = true → s.cw.rf_wen_pending = false)

theorem excl_init : Excl State.init := by
  refine ⟨?_, ?_, ?_⟩ <;> intro h <;> cases h

theorem excl_step {s : State} (h : Excl s) (i : EnvIn) : Excl (next s i) := by
  obtain ⟨hx, hm, hw⟩ := h
  refine ⟨?_, ?_, ?_⟩
  · rcases cx_next s i with e | e <;> rw [e]
    · exact hx
    · intro h
      exact csTable_excl _ (Bool.and_eq_true _ _ ▸ h).1
  · rcases cm_next s i with e | e <;> rw [e]
    · exact hm
    · exact hx
  · rcases cw_next s i with e | e <;> rw [e]
    · exact hw
    · exact hm

theorem excl_run (envs : List EnvIn) : Excl (runS State.init envs) :=
  runS_inv (P := Excl) (fun _ i h => excl_step h i) envs _ excl_init

theorem rf_change_unstalled {s : State} (h : Excl s) (i : EnvIn) (hc : (next s i).rf ≠ s.rf) :
    s.val_W = true ∧ stall_W s i = false ∧ commit_inst s i = true ∧ s.cw.rf_wen_pending = true ∧
    s.cw.rf_waddr ≠ 0 ∧ (next s i).rf = s.rf.set s.cw.rf_waddr s.wb_result_W := by
  obtain ⟨a, b, c, d⟩ := rf_change s i hc
  have hs : stall_W s i = false := eq_false_of_ne_true fun e => by
    have : s.cw.proc2mngr_en = true := by simp [stall_W, ostall_W] at e; exact e.2.1.2
    rw [h.2.2 this] at b; cases b
  exact ⟨a, hs, by simp [commit_inst, a, hs], b, c, d⟩

end PV.Pipe
