import PymtlVerif.Model.SDecl
/-!
# Lemmas about `Model/SDecl.lean` (C03 / C12, structural declarations)

Specification-side definitions (not linked into the driver): `Family`, `families` — the objects of a structural table,
enumerated independently of the translators: every port / wire / interface member / sub-component port with the list of its
enclosing levels (name, list dimensions), outermost first.
-/
namespace PV.SDecl
open PV.SV PV.Names

structure Level where
  name : String
  dims : List Nat
deriving Inhabited, Repr, DecidableEq

structure Family where
  levels : List Level
  dir : Dir
  ty : PTy

def Family.names (f : Family) : List Seg := f.levels.map fun l => Seg.name l.name
def Family.dims (f : Family) : List Nat := f.levels.flatMap (·.dims)
def Family.decl (f : Family) : Decl := ⟨f.dir, f.names, f.ty, f.dims⟩

def sigFam (s : Sig) : Family := ⟨[⟨s.name, s.dims⟩], s.dir, s.ty⟩

def memberFams (pre : List Level) : Members → List Family
  | .nil => []
  | .port n dims dir ty rest => ⟨pre ++ [⟨n, dims⟩], dir, ty⟩ :: memberFams pre rest
  | .ifc n dims sub rest => memberFams (pre ++ [⟨n, dims⟩]) sub ++ memberFams pre rest

def ifcFams (e : IfcE) : List Family := memberFams [⟨e.name, e.dims⟩] e.ms

/-- ports of the element type of a sub-component slot, relative to the child -/
def childFams (ports : List Sig) (ifcs : List IfcE) : List Family := ports.map sigFam ++ ifcs.flatMap ifcFams

def subFams (k : Sub) : List Family :=
  (childFams k.ports k.ifcs).map fun f => ⟨⟨k.name, k.dims⟩ :: f.levels, .wire, f.ty⟩

def portFams (T : Table) : List Family := childFams T.ports T.ifcs

def families (T : Table) : List Family := portFams T ++ T.wires.map sigFam ++ T.subs.flatMap subFams

/-- every declaration of the emitted module that stands for an object of the table -/
def vAllDecls (T : Table) : Option (List Decl) :=
  (vModulePorts T).map fun ds => ds ++ vModuleWires T ++ T.subs.flatMap vSubWires

/-! ## L4 (sub-component view): no quirk, equals the families -/

theorem vSubIfcMembers_eq (pre : List Level) (ms : Members) :
    vSubIfcMembers (pre.map fun l => Seg.name l.name) (pre.flatMap (·.dims)) ms = (memberFams pre ms).map Family.decl := by
  induction ms generalizing pre with
  | nil => rfl
  | port n dims dir ty rest ih =>
    simp only [vSubIfcMembers, memberFams, List.map_cons, ih pre]
    congr 1
    simp [Family.decl, Family.names, Family.dims]
  | ifc n dims sub rest ihs ihr =>
    have := ihs (pre ++ [⟨n, dims⟩])
    simp only [List.map_append, List.flatMap_append, List.map_cons, List.map_nil, List.flatMap_cons, List.flatMap_nil,
      List.append_nil] at this
    simp only [vSubIfcMembers, memberFams, List.map_append, ← ihr pre, this]

theorem vSubIfc_eq (e : IfcE) : vSubIfc e = (ifcFams e).map Family.decl := by
  simpa [vSubIfc, ifcFams] using vSubIfcMembers_eq [⟨e.name, e.dims⟩] e.ms

theorem map_vSigDecl (l : List Sig) : l.map vSigDecl = (l.map sigFam).map Family.decl := by
  simp [vSigDecl, sigFam, Family.decl, Family.names, Family.dims]

theorem vSubDescs_eq (k : Sub) : vSubDescs k = (childFams k.ports k.ifcs).map Family.decl := by
  simp only [vSubDescs, childFams, List.map_append, map_vSigDecl, List.map_flatMap, ← vSubIfc_eq]

theorem vSubWires_eq (k : Sub) : vSubWires k = (subFams k).map Family.decl := by
  simp only [vSubWires, subFams, vSubDescs_eq, List.map_map]
  apply List.map_congr_left
  intro f _
  simp [Family.decl, Family.names, Family.dims]

/-! ## L3 (the module's own interfaces): where it does not raise, it agrees with L4 -/

theorem vSubIfcMembers_prefix (pp : List Seg) (a : List Nat) (p : List Seg) (b : List Nat) (m : Members) :
    vSubIfcMembers (pp ++ p) (a ++ b) m =
      (vSubIfcMembers p b m).map fun d => ⟨d.dir, pp ++ d.path, d.ty, a ++ d.dims⟩ := by
  induction m generalizing p b with
  | nil => rfl
  | port n dims dir ty rest ih => simp [vSubIfcMembers, ih]
  | ifc n dims sub rest ihs ihr => simp only [vSubIfcMembers, List.map_append, ← ihs, ← ihr, List.append_assoc]

/-- where `rtlir_tr_interface_port_decl` does not raise it yields the L4 declarations without handed-down dimensions: the
recursive call (`top = false`) succeeds only when a nested interface contributes nothing -/
theorem vIfcMembers_eq (top : Bool) (pre : List Seg) (ms : Members) (ds : List Decl)
    (h : vIfcMembers top pre ms = some ds) : ds = vSubIfcMembers pre [] ms := by
  induction ms generalizing top pre ds with
  | nil => cases h; rfl
  | port n dims dir ty rest ih =>
    simp only [vIfcMembers] at h
    split at h
    · cases h
    · rename_i r hr
      split at h
      · cases h
        rw [ih top pre r hr]
        rfl
      · cases h
  | ifc n dims sub rest ihs ihr =>
    simp only [vIfcMembers] at h
    split at h
    · rename_i inner r hi hr
      -- the L4 walk of the nested interface is `inner` with the dimensions of the nested interface in front
      have e := vSubIfcMembers_prefix [] dims (pre ++ [.name n]) [] sub
      rw [List.nil_append, List.append_nil, ← ihs false _ inner hi] at e
      rw [vSubIfcMembers, List.nil_append, e, ← ihr top pre r hr]
      cases top with
      | true =>
        rw [if_pos rfl] at h
        cases h
        rfl
      | false =>
        rw [if_neg Bool.false_ne_true] at h
        by_cases he : inner.isEmpty = true
        · rw [if_pos he] at h
          cases h
          rw [List.isEmpty_iff.mp he]
          rfl
        · rw [if_neg he] at h
          cases h
    · cases h

/-- **L3 = L4**: what the module declares for one of its interfaces is what its parent declares wires and port maps for -/
theorem vIfcDecl_eq (e : IfcE) (ds : List Decl) (h : vIfcDecl e = some ds) : ds = vSubIfc e := by
  simp only [vIfcDecl, Option.map_eq_some_iff] at h
  obtain ⟨ms, hm, rfl⟩ := h
  have := vSubIfcMembers_prefix [.name e.name] e.dims [] [] e.ms
  rw [List.append_nil, List.append_nil, ← vIfcMembers_eq true [] e.ms ms hm] at this
  exact this.symm

theorem vIfcDecls_eq (es : List IfcE) (ds : List Decl) (h : vIfcDecls es = some ds) : ds = es.flatMap vSubIfc := by
  induction es generalizing ds with
  | nil => simp [vIfcDecls] at h; simp [h]
  | cons e es ih =>
    simp only [vIfcDecls] at h
    split at h
    · rename_i a b ha hb
      cases h
      simp [List.flatMap_cons, vIfcDecl_eq e a ha, ih b hb]
    · cases h

theorem vModulePorts_eq (T : Table) (ds : List Decl) (h : vModulePorts T = some ds) :
    ds = (portFams T).map Family.decl := by
  simp only [vModulePorts, Option.map_eq_some_iff] at h
  obtain ⟨is, hi, rfl⟩ := h
  simp only [vIfcDecls_eq T.ifcs is hi, portFams, childFams, List.map_append, map_vSigDecl, List.map_flatMap, ← vSubIfc_eq]

theorem vAllDecls_eq (T : Table) (ds : List Decl) (h : vAllDecls T = some ds) : ds = (families T).map Family.decl := by
  simp only [vAllDecls, Option.map_eq_some_iff] at h
  obtain ⟨ps, hp, rfl⟩ := h
  simp only [vModulePorts_eq T ps hp, families, List.map_append, vModuleWires, map_vSigDecl, List.map_flatMap, ← vSubWires_eq]

/-- `ix` is an index tuple of a list with dimensions `ds`: same length, every index below its dimension -/
def IdxLt : List Nat → List Nat → Prop
  | [], [] => True
  | i :: ix, d :: ds => i < d ∧ IdxLt ix ds
  | _, _ => False

theorem IdxLt.length_eq {ix ds : List Nat} (h : IdxLt ix ds) : ix.length = ds.length := by
  induction ix generalizing ds with
  | nil => cases ds with
    | nil => rfl
    | cons => exact h.elim
  | cons i ix ih => cases ds with
    | nil => exact h.elim
    | cons d ds => simp [ih h.2]

theorem mem_allIdx (ds ix : List Nat) : ix ∈ allIdx ds ↔ IdxLt ix ds := by
  induction ds generalizing ix with
  | nil =>
    simp only [allIdx, List.mem_singleton]
    constructor
    · rintro rfl; exact trivial
    · intro h; cases ix with
      | nil => rfl
      | cons => exact h.elim
  | cons d ds ih =>
    simp only [allIdx, List.mem_flatMap, List.mem_range, List.mem_map]
    constructor
    · rintro ⟨i, hi, t, ht, rfl⟩
      exact ⟨hi, (ih t).mp ht⟩
    · intro h
      cases ix with
      | nil => exact h.elim
      | cons i t => exact ⟨_, h.1, _, (ih _).mpr h.2, rfl⟩

theorem allIdx_nodup (ds : List Nat) : (allIdx ds).Nodup := by
  induction ds with
  | nil => simp [allIdx]
  | cons d ds ih =>
    simp only [allIdx, List.Nodup, List.pairwise_flatMap]
    refine ⟨?_, ?_⟩
    · intro i _
      rw [List.pairwise_map]
      exact ih.imp (by intro a b h e; exact h (List.cons.inj e).2)
    · apply List.Pairwise.imp_of_mem _ (List.nodup_range (n := d))
      intro i j _ _ hij
      simp only [List.mem_map]
      rintro _ ⟨a, _, rfl⟩ _ ⟨b, _, rfl⟩ h
      exact hij (List.cons.inj h).1

end PV.SDecl
