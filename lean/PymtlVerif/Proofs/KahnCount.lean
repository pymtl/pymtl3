import PymtlVerif.Proofs.Kahn
import PymtlVerif.Proofs.ListFacts
import PymtlVerif.Proofs.Loop
/-!
Kahn's algorithm as the schedulers write it: in-degree counters `ind` and a work list `W` of the vertices whose counter is zero,
over a graph `G : Nat → List Nat` on the vertices `0..n-1` (multi-edges allowed). `KInv` says that the counters count the
edges from vertices not yet emitted, that `W` holds exactly the unemitted vertices with counter zero, and that the emitted list is
`PV.Kahn.Good`; `kinv_step` is one turn of the loop whatever vertex of `W` is taken, `kinv_run` the whole run of a loop that
is a `Loop.run` (the two of `Proofs/Mamba.lean` and the sort of `Proofs/SccTopo.lean`). Nothing here mentions a
definition of a model file; the names are in `PV.Mamba` because `Props/C01m.lean` states its theorems with them (`WF`, `Acyclic`).
-/
namespace PV.Mamba

/-- the vertices whose counter a sweep of decrements over the successor list brings to zero, in the order of that list:
what `expand_node` pushes (`Mamba.expand`: `expand_eq` in `Proofs/Mamba.lean`; `Scc.relax`: `foldl_relax` in `Proofs/SccTopo.lean`) -/
def hits : List Nat → (Nat → Int) → List Nat
  | [], _ => []
  | v :: vs, ind =>
    if ind v - 1 = 0 then v :: hits vs (fun w => if w = v then ind v - 1 else ind w)
    else hits vs (fun w => if w = v then ind v - 1 else ind w)

theorem hits_cons (v : Nat) (vs : List Nat) (ind : Nat → Int) :
    hits (v :: vs) ind = if ind v - 1 = 0 then v :: hits vs (fun w => if w = v then ind v - 1 else ind w)
      else hits vs (fun w => if w = v then ind v - 1 else ind w) := rfl

/-- a counter is brought to zero by this decrement or by a later one -/
theorem dec_hit {i : Int} {c : Nat} : (i - 1 = 0 ∨ (1 ≤ i - 1 ∧ i - 1 ≤ c)) ↔ (1 ≤ i ∧ i ≤ (c + 1 : Nat)) := by omega

theorem hit_iff_crosses_zero {i : Int} {c : Nat} (h : 0 ≤ i - c) : (1 ≤ i ∧ i ≤ c) ↔ (i ≠ 0 ∧ i - c = 0) := by omega

theorem mem_hits (w : Nat) (vs : List Nat) (ind : Nat → Int) :
    w ∈ hits vs ind ↔ 1 ≤ ind w ∧ ind w ≤ (vs.count w : Nat) := by
  induction vs generalizing ind with
  | nil => exact ⟨fun h => (nomatch h), fun h => absurd (Int.le_trans h.1 h.2 : (1 : Int) ≤ 0) (by decide)⟩
  | cons v vs ih =>
    replace ih := ih (fun w => if w = v then ind v - 1 else ind w)
    rw [hits_cons]
    by_cases hw : w = v
    · subst hw
      rw [if_pos rfl] at ih
      rw [List.count_cons_self, ← dec_hit, ← ih]
      by_cases hd : ind w - 1 = 0
      · rw [if_pos hd]; exact ⟨fun _ => .inl hd, fun _ => List.mem_cons_self⟩
      · rw [if_neg hd]; exact ⟨.inr, fun h => h.resolve_left hd⟩
    · rw [List.count_cons_of_ne (Ne.symm hw)]
      rw [if_neg hw] at ih
      by_cases hd : ind v - 1 = 0
      · rw [if_pos hd, List.mem_cons, ih]; exact or_iff_right hw
      · rw [if_neg hd, ih]

theorem hits_nodup (vs : List Nat) (ind : Nat → Int) : (hits vs ind).Nodup := by
  induction vs generalizing ind with
  | nil => exact List.nodup_nil
  | cons v vs ih =>
    rw [hits_cons]
    by_cases hd : ind v - 1 = 0
    · rw [if_pos hd]
      refine List.nodup_cons.mpr ⟨fun hm => ?_, ih _⟩
      have := ((mem_hits ..).mp hm).1
      rw [if_pos rfl] at this
      omega
    · rw [if_neg hd]; exact ih _

section GraphSec
variable (G : Nat → List Nat) (n : Nat)

def edges : List (Nat × Nat) := (List.range n).flatMap (fun u => (G u).map (fun v => (u, v)))

theorem mem_edges {u v : Nat} : (u, v) ∈ edges G n ↔ u < n ∧ v ∈ G u := by
  simp only [edges, List.mem_flatMap, List.mem_range, List.mem_map, Prod.mk.injEq]
  constructor
  · rintro ⟨a, ha, b, hb, rfl, rfl⟩; exact ⟨ha, hb⟩
  · rintro ⟨h1, h2⟩; exact ⟨u, h1, v, h2, rfl, rfl⟩

def WF : Prop := ∀ u, u < n → ∀ v ∈ G u, v < n

/-- the condensation graph is acyclic: its vertices can be ranked so that every edge goes up -/
def Acyclic : Prop := ∃ rank : Nat → Nat, ∀ u, u < n → ∀ v ∈ G u, rank u < rank v

/-- number of edges into `v` from the vertices of `L` not yet scheduled -/
def psum (L done : List Nat) (v : Nat) : Nat := (L.map (fun u => if u ∈ done then 0 else (G u).count v)).sum

theorem psum_cons (x : Nat) (xs done : List Nat) (v : Nat) :
    psum G (x :: xs) done v = (if x ∈ done then 0 else (G x).count v) + psum G xs done v := rfl

theorem psum_notin {u : Nat} (done : List Nat) (v : Nat) : ∀ L : List Nat, u ∉ L → psum G L (u :: done) v = psum G L done v
  | [], _ => rfl
  | x :: xs, h => by
    have hx : x ≠ u := fun e => h (e ▸ List.mem_cons_self ..)
    simp only [psum_cons, psum_notin done v xs (fun e => h (List.mem_cons_of_mem _ e)), mem_cons_of_ne done hx]

theorem psum_done_cons {u : Nat} (done : List Nat) (v : Nat) (hd : u ∉ done) : ∀ L : List Nat, L.Nodup → u ∈ L →
    psum G L done v = psum G L (u :: done) v + (G u).count v
  | x :: xs, hnd, h => by
    obtain ⟨hx, hnd'⟩ := List.nodup_cons.mp hnd
    rw [psum_cons, psum_cons]
    by_cases hxu : x = u
    · subst hxu
      rw [psum_notin G done v xs hx, if_neg hd, if_pos (List.mem_cons_self ..), Nat.zero_add, Nat.add_comm]
    · simp only [psum_done_cons done v hd xs hnd' ((List.mem_cons.mp h).resolve_left (Ne.symm hxu)),
        mem_cons_of_ne done hxu, Nat.add_assoc]

theorem psum_eq_zero_iff (done : List Nat) (v : Nat) : ∀ L : List Nat,
    psum G L done v = 0 ↔ ∀ x ∈ L, v ∈ G x → x ∈ done
  | [] => ⟨fun _ _ h => (nomatch h), fun _ => rfl⟩
  | y :: ys => by
    rw [psum_cons, Nat.add_eq_zero_iff, psum_eq_zero_iff done v ys, List.forall_mem_cons]
    refine and_congr_left' ?_
    by_cases hy : y ∈ done
    · rw [if_pos hy]; exact ⟨fun _ _ => hy, fun _ => rfl⟩
    · rw [if_neg hy, List.count_eq_zero]; exact ⟨fun h hv => absurd hv h, fun h hv => hy (h hv)⟩

/-- `InD[v]` as it should be: the number of edges into `v` whose source has not been scheduled yet -/
def pend (done : List Nat) (v : Nat) : Int := (psum G (List.range n) done v : Nat)

open PV.Kahn in
/-- invariant of a Kahn-style loop with work list `W`, counters `ind` and the (reversed) output `done` -/
structure KInv (W : List Nat) (ind : Nat → Int) (done : List Nat) : Prop where
  lt : ∀ x ∈ done, x < n
  wnd : W.Nodup
  ind_eq : ∀ v, v < n → ind v = pend G n done v
  w_iff : ∀ v, v ∈ W ↔ (v < n ∧ v ∉ done ∧ ind v = 0)
  good : Good (edges G n) done

theorem KInv.ind_zero_iff {W : List Nat} {ind : Nat → Int} {done : List Nat} (h : KInv G n W ind done) {v : Nat}
    (hv : v < n) : ind v = 0 ↔ ∀ a, a < n → v ∈ G a → a ∈ done := by
  rw [h.ind_eq v hv, pend, Int.natCast_eq_zero, psum_eq_zero_iff]
  simp only [List.mem_range]

theorem KInv.count_le {W : List Nat} {ind : Nat → Int} {done : List Nat} (h : KInv G n W ind done) {u v : Nat}
    (hu : u ∈ W) (hv : v < n) : ((G u).count v : Nat) ≤ ind v := by
  obtain ⟨hun, hud, _⟩ := (h.w_iff u).mp hu
  rw [h.ind_eq v hv, pend, psum_done_cons G done v hud _ List.nodup_range (List.mem_range.mpr hun)]
  exact Int.ofNat_le.mpr (Nat.le_add_left _ _)

/-- one iteration: `u` is taken from the work list, the counters of its successors are decremented, the vertices
whose counter reaches zero (`hits`) join the work list -/
theorem kinv_step (hwf : WF G n) {W W₁ W' done : List Nat} {ind : Nat → Int} {u : Nat}
    (h : KInv G n W ind done) (hW : W.Perm (u :: W₁)) (hW' : W'.Perm (hits (G u) ind ++ W₁)) :
    KInv G n W' (fun w => ind w - ((G u).count w : Nat)) (u :: done) := by
  obtain ⟨hun, hud, hu0⟩ := (h.w_iff u).mp (hW.mem_iff.mpr (List.mem_cons_self ..))
  obtain ⟨huW1, hW1nd⟩ := List.nodup_cons.mp (hW.nodup_iff.mp h.wnd)
  have hind' : ∀ v, v < n → ind v - ((G u).count v : Nat) = pend G n (u :: done) v := fun v hv => by
    rw [h.ind_eq v hv, pend, pend, psum_done_cons G done v hud _ List.nodup_range (List.mem_range.mpr hun),
      Int.natCast_add, Int.add_sub_cancel]
  have hnn : ∀ v, v < n → 0 ≤ ind v - ((G u).count v : Nat) := fun v hv => hind' v hv ▸ Int.natCast_nonneg _
  have hW1 : ∀ w, w ∈ W₁ → w ≠ u ∧ w < n ∧ w ∉ done ∧ ind w = 0 := fun w hw =>
    ⟨fun e => huW1 (e ▸ hw), (h.w_iff w).mp (hW.mem_iff.mpr (List.mem_cons_of_mem _ hw))⟩
  refine ⟨List.forall_mem_cons.mpr ⟨hun, h.lt⟩, ?_, hind', fun w => ?_, hud, ?_, h.good⟩
  · refine hW'.nodup_iff.mpr (List.nodup_append.mpr ⟨hits_nodup .., hW1nd, fun a ha b hb hab => ?_⟩)
    have h1 := ((mem_hits ..).mp ha).1
    rw [hab, (hW1 b hb).2.2.2] at h1
    exact absurd h1 (by decide)
  · rw [hW'.mem_iff, List.mem_append, mem_hits, List.mem_cons]
    constructor
    · rintro (h1 | hw)
      · -- a vertex whose counter reaches zero: a successor of `u`, so not scheduled before `u`
        have hwG : w ∈ G u := List.count_pos_iff.mp
          (Int.natCast_pos.mp (Int.lt_of_lt_of_le (Int.lt_of_lt_of_le Int.zero_lt_one h1.1) h1.2))
        have hwn := hwf u hun w hwG
        obtain ⟨hne, h0⟩ := (hit_iff_crosses_zero (hnn w hwn)).mp h1
        refine ⟨hwn, fun hm => ?_, h0⟩
        rcases hm with rfl | hd
        · exact hne hu0
        · exact hud (PV.Kahn.good_pred h.good (u, w) ((mem_edges G n).mpr ⟨hun, hwG⟩) hd)
      · obtain ⟨hne, hwn, hwd, h0⟩ := hW1 w hw
        have := hnn w hwn
        exact ⟨hwn, fun hm => hm.elim hne hwd, by rw [h0] at this ⊢; omega⟩
    · rintro ⟨h1, h2, h3⟩
      by_cases h0 : ind w = 0
      · have hwW := (h.w_iff w).mpr ⟨h1, fun hd => h2 (Or.inr hd), h0⟩
        exact Or.inr ((List.mem_cons.mp (hW.mem_iff.mp hwW)).resolve_left fun e => h2 (Or.inl e))
      · exact Or.inl ((hit_iff_crosses_zero (hnn w h1)).mpr ⟨h0, h3⟩)
  · rintro ⟨a, b⟩ he rfl
    obtain ⟨han, hb⟩ := (mem_edges G n).mp he
    exact (h.ind_zero_iff G n hun).mp hu0 a han hb

theorem kinv_init {W : List Nat} {ind : Nat → Int} (hind : ∀ v, v < n → ind v = pend G n [] v)
    (hW : W.Perm ((List.range n).filter (fun v => ind v == 0))) : KInv G n W ind [] := by
  refine ⟨fun _ h => (nomatch h), hW.nodup_iff.mpr (List.nodup_range.filter _), hind, fun v => ?_, trivial⟩
  rw [hW.mem_iff, List.mem_filter, List.mem_range]
  simp

theorem kinv_leftover {ind : Nat → Int} {done : List Nat} (h : KInv G n [] ind done) :
    ∀ v, v < n → v ∉ done → ∃ u, u < n ∧ u ∉ done ∧ v ∈ G u := by
  intro v hv hd
  refine Classical.byContradiction fun hne => ?_
  exact nomatch (h.w_iff v).mpr ⟨hv, hd, (h.ind_zero_iff G n hv).mpr fun a ha hav =>
    Classical.byContradiction fun had => hne ⟨a, ha, had, hav⟩⟩

theorem acyclic_all (hac : Acyclic G n) {done : List Nat}
    (hleft : ∀ v, v < n → v ∉ done → ∃ u, u < n ∧ u ∉ done ∧ v ∈ G u) : ∀ v, v < n → v ∈ done := by
  obtain ⟨rank, hrank⟩ := hac
  have key : ∀ k v, rank v = k → v < n → v ∈ done := by
    intro k
    induction k using Nat.strongRecOn with
    | _ k ih =>
      intro v hk hv
      refine Decidable.byContradiction fun hd => ?_
      obtain ⟨u, hu, hud, hvu⟩ := hleft v hv hd
      exact hud (ih (rank u) (hk ▸ hrank u hu v hvu) u rfl hu)
  exact fun v hv => key (rank v) v rfl hv

theorem kinv_done_le {W : List Nat} {ind : Nat → Int} {done : List Nat} (h : KInv G n W ind done) : done.length ≤ n :=
  length_le_of_nodup_lt n (PV.Kahn.good_nodup _ _ h.good) h.lt

open PV.Loop in
/-- The run of a Kahn loop; its instances are the three loops of the development (`mamba_run`, `heu_run`, `Scc.topo_simple`). `hK`: the invariant
`P` holds `KInv` of the work list, counters and output a state shows; `hP`: a turn keeps `P` and emits one vertex (the loop's pop and pushes,
through `kinv_step`); `hnil`: the step gives up only on the empty work list. No more than `n` vertices are ever out (`kinv_done_le`): `n` turns suffice. -/
theorem kinv_run {σ : Type} {step : σ → Option σ} {P : σ → Prop} {W out : σ → List Nat} {ind : σ → Nat → Int}
    (hK : ∀ s, P s → KInv G n (W s) (ind s) (out s).reverse)
    (hP : ∀ s s', P s → step s = some s' → P s' ∧ (out s').length = (out s).length + 1)
    (hnil : ∀ s, step s = none → W s = []) {s : σ} (h : P s) :
    P (run step n s) ∧ W (run step n s) = [] ∧ ∀ k, run step (n + k) s = run step n s := by
  have hP' := fun s s' h e => (hP s s' h e).1
  have hend := run_ends hP' (fun s => n - (out s).length) (fun s s' h e => by
    have hl := kinv_done_le G n (hK s' (hP' s s' h e))
    simp only [List.length_reverse, (hP s s' h e).2] at hl ⊢
    omega) n s h (Nat.sub_le ..)
  exact ⟨run_inv hP' n s h, hnil _ hend, fun k => run_more n k s hend⟩

/-- What the property theorems state of an output `out`: the invariant holds of the loop's `done = out.reverse` (newest first),
and `Good` of that list is the edge order of `out` (`good_reverse`). -/
theorem kinv_order {W : List Nat} {ind : Nat → Int} {out : List Nat} (h : KInv G n W ind out.reverse) :
    out.Nodup ∧ (∀ x ∈ out, x < n) ∧
    ∀ u v, u < n → v ∈ G u → v ∈ out → ∃ pre post, out = pre ++ u :: post ∧ v ∈ post := by
  have hr := PV.Kahn.good_reverse _ _ h.good
  rw [List.reverse_reverse] at hr
  exact ⟨hr.1, fun x hx => h.lt x (List.mem_reverse.mpr hx), fun u v hu hv hin =>
    hr.2 (u, v) ((mem_edges G n).mpr ⟨hu, hv⟩) (List.mem_reverse.mpr hin)⟩

theorem kinv_complete {ind : Nat → Int} {out : List Nat} (h : KInv G n [] ind out.reverse) :
    (∀ v, v < n → v ∉ out → ∃ u, u < n ∧ u ∉ out ∧ v ∈ G u) ∧ (Acyclic G n → out.Perm (List.range n)) := by
  have hleft : ∀ v, v < n → v ∉ out → ∃ u, u < n ∧ u ∉ out ∧ v ∈ G u := by
    simpa only [List.mem_reverse] using kinv_leftover G n h
  refine ⟨hleft, fun hac => ?_⟩
  obtain ⟨hnd, hlt, _⟩ := kinv_order G n h
  refine (List.perm_ext_iff_of_nodup hnd List.nodup_range).mpr fun a => ?_
  rw [List.mem_range]
  exact ⟨hlt a, acyclic_all G n hac hleft a⟩

end GraphSec

end PV.Mamba
