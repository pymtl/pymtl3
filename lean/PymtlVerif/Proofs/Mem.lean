import PymtlVerif.Proofs.MemSeq
import PymtlVerif.Proofs.MemPipe
import PymtlVerif.Proofs.ListFacts
/-!
The invariant shared by the two system models of `Model/Mem.lean` (a port is four queues around one sequential memory), what it
says against `seqSpec`, and its proof for `MagicMemoryCL` and the stream `MagicMemoryRTL`.
-/
namespace PV.Mem

/-- what a port looks like when its pipelines are read as queues -/
structure View where
  pending : List Req
  inReq : List Req
  inResp : List Resp
  delivered : List Resp

/-- a step that only moves messages along inside one port -/
def View.Local (v v' : View) : Prop :=
  v'.inReq ++ v'.pending = v.inReq ++ v.pending ∧ v'.delivered ++ v'.inResp = v.delivered ++ v.inResp

/-- a step in which the memory services the oldest waiting request `r` of the port with response `x` -/
def View.Served (v v' : View) (r : Req) (x : Resp) : Prop :=
  v.inReq ++ v.pending = r :: (v'.inReq ++ v'.pending) ∧
  v'.delivered ++ v'.inResp = v.delivered ++ v.inResp ++ [x]

theorem View.Local.refl (v : View) : v.Local v := ⟨rfl, rfl⟩
theorem View.Local.trans {a b c : View} (h1 : a.Local b) (h2 : b.Local c) : a.Local c :=
  ⟨h2.1.trans h1.1, h2.2.trans h1.2⟩

/-- What both system models keep true: `view i` is port `i` read as four queues, `log` the requests serviced so far, oldest
first and tagged with their port, `rlog` the responses produced for them; `bound` says that only the `n` ports that exist are served. -/
structure Inv (n : Nat) (reqs : Nat → List Req) (m0 : Store) (view : Nat → View)
    (store : Store) (log : List (Nat × Req)) (rlog : List (Nat × Resp)) : Prop where
  spec : runLog log m0 = (rlog, store)
  req : ∀ i, procs i log ++ ((view i).inReq ++ (view i).pending) = reqs i
  resp : ∀ i, (view i).delivered ++ (view i).inResp = portResps i rlog
  bound : ∀ e ∈ log, e.1 < n

section
variable {n : Nat} {reqs : Nat → List Req} {m0 : Store} {view : Nat → View}
  {store : Store} {log : List (Nat × Req)} {rlog : List (Nat × Resp)}

/-! The two steps of a system whose ports `ports j` are read through `pv`: port `i` becomes `p'`, the others stay. -/

theorem Inv.local_step {π : Type} (pv : π → View) {ports : Nat → π}
    (h : Inv n reqs m0 (fun j => pv (ports j)) store log rlog) (i : Nat) (p' : π) (hl : (pv (ports i)).Local (pv p')) :
    Inv n reqs m0 (fun j => pv (updPort ports i p' j)) store log rlog := by
  refine ⟨h.spec, fun j => ?_, fun j => ?_, h.bound⟩
  · by_cases hj : j = i
    · subst hj; simp only [updPort, if_true]; rw [hl.1]; exact h.req j
    · simp only [updPort, if_neg hj]; exact h.req j
  · by_cases hj : j = i
    · subst hj; simp only [updPort, if_true]; rw [hl.2]; exact h.resp j
    · simp only [updPort, if_neg hj]; exact h.resp j

theorem Inv.service_step {π : Type} (pv : π → View) {ports : Nat → π}
    (h : Inv n reqs m0 (fun j => pv (ports j)) store log rlog) (i : Nat) (hi : i < n) (p' : π) (r : Req)
    (hl : (pv (ports i)).Served (pv p') r (service r store).1) :
    Inv n reqs m0 (fun j => pv (updPort ports i p' j)) (service r store).2 (log ++ [(i, r)])
      (rlog ++ [(i, (service r store).1)]) := by
  refine ⟨by rw [runLog_snoc, h.spec], fun j => ?_, fun j => ?_, fun e he => ?_⟩
  · rw [procs_snoc]
    by_cases hj : j = i
    · subst hj
      simp only [updPort, if_true]
      rw [List.append_assoc, List.singleton_append, ← hl.1]; exact h.req j
    · simp only [updPort, if_neg hj, if_neg (Ne.symm hj)]; exact h.req j
  · rw [portResps_snoc]
    by_cases hj : j = i
    · subst hj; simp only [updPort, if_true]; rw [hl.2, h.resp j]
    · simp only [updPort, if_neg hj, if_neg (Ne.symm hj)]; exact h.resp j
  · cases List.mem_append.mp he with
    | inl h1 => exact h.bound e h1
    | inr h1 => rw [List.mem_singleton.mp h1]; exact hi

theorem forPorts_inv {σ : Type} (f : Nat → σ → σ) (P : σ → Prop) (n : Nat)
    (h : ∀ i s, i < n → P s → P (f i s)) (k : Nat) (hk : k ≤ n) (s : σ) (hs : P s) : P (forPorts f k s) := by
  induction k with
  | zero => exact hs
  | succ k ih => exact h k _ hk (ih (Nat.le_of_succ_le hk))

/-- responses of port `i` when `resps` are the responses to the requests of `log`, in order -/
def respsOf (i : Nat) (log : List (Nat × Req)) (resps : List Resp) : List Resp :=
  portResps i ((log.map (·.1)).zip resps)

theorem Inv.toSeqSpec (h : Inv n reqs m0 view store log rlog) :
    store = (seqSpec (log.map (·.2)) m0).2 ∧
    (∀ i, (view i).delivered ++ (view i).inResp = respsOf i log (seqSpec (log.map (·.2)) m0).1) ∧
    (∀ i, procs i log ++ (view i).inReq ++ (view i).pending = reqs i) := by
  have hs := h.spec
  rw [runLog_seqSpec] at hs
  simp only [Prod.mk.injEq] at hs
  refine ⟨hs.2.symm, ?_, ?_⟩
  · intro i; rw [h.resp i, ← hs.1]; rfl
  · intro i; rw [List.append_assoc]; exact h.req i

theorem Inv.delivered_prefix (h : Inv n reqs m0 view store log rlog) (i : Nat) :
    (view i).delivered <+: respsOf i log (seqSpec (log.map (·.2)) m0).1 :=
  ⟨(view i).inResp, (h.toSeqSpec.2.1 i)⟩

theorem Inv.procs_prefix (h : Inv n reqs m0 view store log rlog) (i : Nat) : procs i log <+: reqs i :=
  ⟨(view i).inReq ++ (view i).pending, h.req i⟩

theorem Inv.echo (h : Inv n reqs m0 view store log rlog) (i : Nat) :
    (view i).delivered.map tyOpq <+: (reqs i).map reqTyOpq := by
  have h1 := runLog_echo i log m0
  have h2 := List.IsPrefix.map tyOpq (List.prefix_append (view i).delivered (view i).inResp)
  rw [h.spec] at h1
  rw [h.resp i, h1] at h2
  exact h2.trans (List.IsPrefix.map _ (h.procs_prefix i))

theorem Inv.drained (h : Inv n reqs m0 view store log rlog) (i : Nat)
    (h1 : (view i).pending = []) (h2 : (view i).inReq = []) (h3 : (view i).inResp = []) :
    procs i log = reqs i ∧ (view i).delivered = respsOf i log (seqSpec (log.map (·.2)) m0).1 :=
  ⟨by simpa [h1, h2] using h.req i, by simpa [h3] using h.toSeqSpec.2.1 i⟩

/-- `store` and `rlog` are functions of the processing order and the initial image alone: two systems of either kind, with any
port counts, request streams, latencies and environments, that processed the same log hold the same image and produced the same
responses -/
theorem Inv.same_log {n' : Nat} {reqs' : Nat → List Req} {view' : Nat → View} {store' : Store}
    {log' : List (Nat × Req)} {rlog' : List (Nat × Resp)}
    (h : Inv n reqs m0 view store log rlog) (h' : Inv n' reqs' m0 view' store' log' rlog') (hl : log = log') :
    store = store' ∧ ∀ i, (view i).delivered ++ (view i).inResp = (view' i).delivered ++ (view' i).inResp := by
  subst hl
  obtain ⟨hr, hs⟩ := Prod.mk.inj (h.spec.symm.trans h'.spec)
  exact ⟨hs, fun i => by rw [h.resp i, h'.resp i, hr]⟩

/-- port `i` alone in `S`; only the ports `< n`, the ones ever served, are asked about, and the others only to stay out of `S` -/
theorem Inv.alone (h : Inv n reqs m0 view store log rlog) (S : Nat → Prop) (i : Nat)
    (hin : i < n → ∀ r ∈ reqs i, ∀ b, footprint r b → S b)
    (hout : ∀ j, j < n → j ≠ i → ∀ r ∈ reqs j, ∀ b, footprint r b → ¬ S b) :
    (view i).delivered <+: (seqSpec (reqs i) m0).1 ∧
    ((view i).pending = [] → (view i).inReq = [] → AgreeOn S store (seqSpec (reqs i) m0).2) := by
  have hmem : ∀ e ∈ log, e.2 ∈ reqs e.1 := fun e he => (h.procs_prefix e.1).subset
    (List.mem_map.mpr ⟨e, List.mem_filter.mpr ⟨he, beq_self_eq_true _⟩, rfl⟩)
  have hd := runLog_alone S i log m0 m0 (fun e he hj => hin (hj ▸ h.bound e he) e.2 (hj ▸ hmem e he))
    (fun e he hj => hout e.1 (h.bound e he) hj e.2 (hmem e he)) (fun _ _ => rfl)
  rw [h.spec] at hd
  obtain ⟨t, ht⟩ := h.procs_prefix i
  constructor
  · have h1 : (view i).delivered <+: portResps i rlog := ⟨_, h.resp i⟩
    rw [hd.1] at h1
    rw [← ht, seqSpec_append]
    exact h1.trans (List.prefix_append _ _)
  · intro h1 h2
    have := h.req i
    rw [h1, h2, List.append_nil, List.append_nil] at this
    rw [← this]; exact hd.2

/-- port 0 is alone in the whole store -/
theorem Inv.single_port (h : Inv 1 reqs m0 view store log rlog) :
    (view 0).delivered <+: (seqSpec (reqs 0) m0).1 ∧
    ((view 0).pending = [] → (view 0).inReq = [] → store = (seqSpec (reqs 0) m0).2) := by
  have hd := h.alone (fun _ => True) 0 (fun _ _ _ _ _ => trivial) (fun j hj hj0 => absurd (Nat.lt_one_iff.mp hj) hj0)
  exact ⟨hd.1, fun h1 h2 => funext fun b => hd.2 h1 h2 b trivial⟩

end

theorem Inv.disjoint {n : Nat} {reqs : Nat → List Req} {m0 : Store} {view : Nat → View}
    {store : Store} {log : List (Nat × Req)} {rlog : List (Nat × Resp)}
    (h : Inv n reqs m0 view store log rlog) (region : Nat → Nat → Prop)
    (hdisj : ∀ i j b, i ≠ j → region i b → ¬ region j b)
    (hreg : ∀ i, ∀ r ∈ reqs i, ∀ b, footprint r b → region i b) (i : Nat) :
    (view i).delivered <+: (seqSpec (reqs i) m0).1 ∧
    ((view i).pending = [] → (view i).inReq = [] → AgreeOn (region i) store (seqSpec (reqs i) m0).2) :=
  h.alone (region i) i (fun _ => hreg i) (fun j _ hji r hr b hb => hdisj j i b hji (hreg j r hr b hb))

/-! ## `MagicMemoryCL` -/
namespace CL

def Port.view (p : Port) : View := ⟨p.pending, p.reqQ.contents, p.respQ.contents, p.delivered⟩

def SInv (n : Nat) (reqs : Nat → List Req) (m0 : Store) (s : Sys) : Prop :=
  Inv n reqs m0 (fun i => (s.ports i).view) s.store s.log s.rlog

theorem respTick_local (e : Env) (p : Port) : p.view.Local (respTick e p).view := by
  have h := SendPipe.tick_contents e.sinkRdy p.respQ
  unfold respTick
  generalize SendPipe.tick e.sinkRdy p.respQ = t at h
  obtain ⟨q, o⟩ := t
  cases o with
  | none => exact ⟨rfl, congrArg (p.delivered ++ ·) h⟩
  | some r => exact ⟨rfl, (List.append_assoc ..).trans (congrArg (p.delivered ++ ·) h)⟩

theorem reqTick_local (p : Port) : p.view.Local (reqTick p).view := by
  refine ⟨?_, rfl⟩
  simp [Port.view, reqTick, DeqPipe.tick_contents]

theorem srcSend_local (e : Env) (p : Port) : p.view.Local (srcSend e p).view := by
  unfold srcSend
  split
  · next h =>
    split
    · next r rest hp =>
      exact ⟨(congrArg (· ++ rest) (DeqPipe.enq_contents _ r (Bool.and_eq_true_iff.mp h).2)).trans
        ((List.append_assoc ..).trans (congrArg (p.reqQ.contents ++ ·) hp.symm)), rfl⟩
    · exact View.Local.refl _
  · exact View.Local.refl _

theorem portPre_local (e : Env) (p : Port) : p.view.Local (portPre e p).view :=
  ((respTick_local e p).trans (reqTick_local _)).trans (srcSend_local e _)

theorem prePort_inv {n reqs m0} (env : Nat → Env) (i : Nat) (s : Sys) (h : SInv n reqs m0 s) :
    SInv n reqs m0 (prePort env i s) :=
  Inv.local_step Port.view h i _ (portPre_local _ _)

theorem memPort_inv {n reqs m0} (env : Nat → Env) (i : Nat) (hi : i < n) (s : Sys)
    (h : SInv n reqs m0 s) : SInv n reqs m0 (memPort env i s) := by
  rw [memPort]
  split
  · exact h
  · next r reqQ' hd =>
    have hc := DeqPipe.deq_contents _ _ _ hd
    split
    · next hq =>
      split
      · exact Inv.service_step Port.view h i hi _ r
          ⟨by simp [Port.view, hc], by simp [Port.view, hq, Slots.contents]⟩
      · exact h
    · split
      · next hr =>
        exact Inv.service_step Port.view h i hi _ r
          ⟨by simp [Port.view, hc], by simp [Port.view, SendPipe.enq_contents _ _ hr]⟩
      · exact h

theorem cycle_inv {n reqs m0} (env : Nat → Env) (s : Sys) (h : SInv n reqs m0 s) :
    SInv n reqs m0 (cycle n env s) := by
  unfold cycle
  apply forPorts_inv _ _ n (fun i s hi hs => memPort_inv env i hi s hs) n (Nat.le_refl _)
  exact forPorts_inv _ _ n (fun i s _ hs => prePort_inv env i s hs) n (Nat.le_refl _) s h

theorem init_inv (n latency : Nat) (reqs : Nat → List Req) (m0 : Store) :
    SInv n reqs m0 (init latency reqs m0) := by
  refine ⟨rfl, ?_, ?_, ?_⟩
  · intro i; simp [init, Port.view, procs, Slots.contents_empty]
  · intro i; simp [init, Port.view, portResps, Slots.contents_empty]
  · intro e he; simp [init] at he

theorem run_inv (n latency : Nat) (reqs : Nat → List Req) (m0 : Store) (env : Nat → Nat → Env) (T : Nat) :
    SInv n reqs m0 (run n env T (init latency reqs m0)) :=
  foldl_inv _ _ (fun s t hs => cycle_inv (env t) s hs) _ _ (init_inv n latency reqs m0)

end CL

/-! ## stream `MagicMemoryRTL` -/
namespace RTL

/-- a port of the stream memory: no request is ever in flight (`inReq = []`), since `up_mem` services a request in the
cycle the source hands it over -/
def Port.view (p : Port) : View := ⟨p.pending, [], p.pipe.slots.contents, p.delivered⟩

def SInv (n : Nat) (reqs : Nat → List Req) (m0 : Store) (s : Sys) : Prop :=
  Inv n reqs m0 (fun i => (s.ports i).view) s.store s.log s.rlog ∧ ∀ i, (s.ports i).pipe.OK

theorem deliver_view (p : Port) (q : IPipe Resp) (out : Option Resp) (pend : List Req) :
    (deliver p q out pend).view = ⟨pend, [], q.slots.contents, p.delivered ++ out.toList⟩ ∧
    (deliver p q out pend).pipe = q := by
  cases out <;> simp [deliver, Port.view]

theorem ok_upd {ports : Nat → Port} (hO : ∀ j, (ports j).pipe.OK) (i : Nat) {p' : Port} (h : p'.pipe.OK) (j : Nat) :
    (updPort ports i p' j).pipe.OK := by
  unfold updPort; split
  · exact h
  · exact hO j

theorem portCycle_inv {n reqs m0} (env : Nat → Env) (i : Nat) (hi : i < n) (s : Sys)
    (h : SInv n reqs m0 s) : SInv n reqs m0 (portCycle env i s) := by
  obtain ⟨hI, hO⟩ := h
  have hidle : SInv n reqs m0 { s with ports := updPort s.ports i (idle (env i) (s.ports i)) } := by
    rw [idle]
    have he := IPipe.edge_spec (s.ports i).pipe (hO i) false ⟨0, 0, 0, 0, 0⟩ (env i).sinkRdy
    refine ⟨Inv.local_step Port.view hI i _ ?_, ok_upd hO i ((deliver_view _ _ _ _).2 ▸ he.1)⟩
    rw [(deliver_view _ _ _ _).1]
    refine ⟨rfl, ?_⟩
    simp only [Port.view, List.append_assoc]
    rw [he.2]; simp
  rw [portCycle]
  split
  · next r rest hp =>
    split
    · next hc =>
      have hr : (s.ports i).pipe.recvRdy = true := (Bool.and_eq_true_iff.mp hc).2
      have he := IPipe.edge_spec (s.ports i).pipe (hO i) true (service r s.store).1 (env i).sinkRdy
      refine ⟨Inv.service_step Port.view hI i hi _ r ?_, ok_upd hO i ((deliver_view _ _ _ _).2 ▸ he.1)⟩
      rw [(deliver_view _ _ _ _).1]
      refine ⟨by simp [Port.view, hp], ?_⟩
      simp only [Port.view, List.append_assoc]
      rw [he.2]; simp [hr]
    · exact hidle
  · exact hidle

theorem cycle_inv {n reqs m0} (env : Nat → Env) (s : Sys) (h : SInv n reqs m0 s) :
    SInv n reqs m0 (cycle n env s) :=
  forPorts_inv _ _ n (fun i s hi hs => portCycle_inv env i hi s hs) n (Nat.le_refl _) s h

theorem init_inv (n extra : Nat) (reqs : Nat → List Req) (m0 : Store) :
    SInv n reqs m0 (init extra reqs m0) := by
  refine ⟨⟨rfl, ?_, ?_, ?_⟩, fun i => IPipe.init_ok _ (Nat.le_add_left 1 extra)⟩
  · intro i; simp [init, Port.view, procs]
  · intro i; simp [init, Port.view, portResps, IPipe.init, Slots.contents_empty]
  · intro e he; simp [init] at he

theorem run_inv (n extra : Nat) (reqs : Nat → List Req) (m0 : Store) (env : Nat → Nat → Env) (T : Nat) :
    SInv n reqs m0 (run n env T (init extra reqs m0)) :=
  foldl_inv _ _ (fun s t hs => cycle_inv (env t) s hs) _ _ (init_inv n extra reqs m0)

end RTL

end PV.Mem
