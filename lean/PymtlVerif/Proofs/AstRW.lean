import PymtlVerif.Model.AstRW
/-!
# Semantics of the update-block AST and lemmas for `Props/C02a.lean`

## What an execution of a block dereferences

A block runs on the component `s`.  An access chain `s.x[ e ].y[ a : b ]` that starts at a name dereferences one concrete
object path per execution: the fields as written, every index with the value its expression has at run time
(`CStep`).  `acc ρ n e`: SOME execution of the AST node `n` performs the access `e` (read or assign the path, call it) —
* every child of a compound node may be executed, any number of times, in any order (any branch outcome of `If` /
  `IfExp` / `BoolOp`, any loop count of `For` / `While`, with or without the `else` clause, cut short anywhere);
* an index expression has an arbitrary run-time value, unless it is a literal (its value) or a name that is constant
  during the execution (`ρ x = some v`: a closure or module-level name the function does not rebind);
* a chain that does not start at a name (`f( s.a ).y`, `concat( s.a, s.b )[0:4]`) is no object path: executing it
  executes its parts;
* the target of an assignment statement (`=`, `@=`, `<<=`, a `for` target) is assigned, not read.

The notions the statements of `Props/C02a.lean` use come first (up to `sliceLast`), the lemmas after them: the names
`_get_full_name` writes down against the paths they denote (`pname_matches`, `topName_matches`); the visitor as a function
(`recs`: what a visit returns when it does not raise, tied to `visit` / `chain` once by `visit_spec`); completeness as a
statement about `recs` (`complete_recs`, from it `body_complete`); the records of a `for`, an `if`, a list of nodes
(`visit_for_iff`, `visit_if_iff`, `visitList_mem`); the dependence on the environment as a set
(`extractBody_congr`); soundness as a statement about `recs` (`sound_recs`, from it `body_sound`); traces against `acc`
(`exec_acc`); from names to objects (`look_reaches`, `lookName_reaches`).
-/
namespace PV.AstRW

/-- a run-time selector: `[k]`, `[a:b]` (a bound that is not given is `none`) -/
inductive RSel where
  | idx (k : Int)
  | slc (a b : Option Int)
deriving DecidableEq, Repr

inductive CStep where
  | fld (a : String)
  | sel (c : RSel)
deriving DecidableEq, Repr

/-- one access of an execution: the path read (`rd`), assigned (`wr`) or called (`fc`) -/
structure Access where
  kind : K
  path : List CStep
deriving DecidableEq, Repr

/-- the names that are constant during the execution, with their (integer) value -/
abbrev REnv := String → Option Int

def idxVal (ρ : REnv) : Node → Int → Prop
  | .num n, k => k = n
  | .name x _, k => ∀ v, ρ x = some v → k = v
  | _, _ => True

def bndVal (ρ : REnv) : Node → Option Int → Prop
  | .nil, b => b = none
  | .num n, b => b = some n
  | .name x _, b => ∀ v, ρ x = some v → b = some v
  | _, _ => True

/-- the concrete paths the chain `n` (which starts at a name) can denote -/
def cpath (ρ : REnv) : Node → List CStep → Prop
  | .name x _, p => p = [.fld x]
  | .attr v a _, p => ∃ q, cpath ρ v q ∧ p = q ++ [.fld a]
  | .sub v (.slice lo up _) _, p => ∃ q a b, cpath ρ v q ∧ bndVal ρ lo a ∧ bndVal ρ up b ∧ p = q ++ [.sel (.slc a b)]
  | .sub v i _, p => ∃ q k, cpath ρ v q ∧ idxVal ρ i k ∧ p = q ++ [.sel (.idx k)]
  | _, _ => False

/-- `del s.x` counts as an assignment of the path (the visitor raises on it: `record`) -/
def accKind : Ctx → K
  | .load => .rd
  | .store => .wr
  | .del => .wr

mutual
def acc (ρ : REnv) : Node → Access → Prop
  | .nil, _ => False
  | .name .., _ => False
  | .num _, _ => False
  | .str, _ => False
  | .attr v a c, e =>
    if rooted v then (∃ p, cpath ρ (.attr v a c) p ∧ e = ⟨accKind c, p⟩) ∨ accIdx ρ v e else acc ρ v e
  | .sub v i c, e =>
    (if rooted v then (∃ p, cpath ρ (.sub v i c) p ∧ e = ⟨accKind c, p⟩) ∨ accIdx ρ v e else acc ρ v e) ∨ acc ρ i e
  | .slice lo up st, e => acc ρ lo e ∨ acc ρ up e ∨ acc ρ st e
  | .call f args kws, e =>
    (if rooted f then (∃ p, cpath ρ f p ∧ e = ⟨.fc, p⟩) ∨ accIdx ρ f e else acc ρ f e) ∨ accList ρ args e ∨ accList ρ kws e
  | .assign ts v, e => accList ρ ts e ∨ acc ρ v e
  | .aug t _ v, e => acc ρ t e ∨ acc ρ v e
  | .for_ t it body orelse, e => acc ρ t e ∨ acc ρ it e ∨ accList ρ body e ∨ accList ρ orelse e
  | .node _ cs, e => accList ρ cs e
/-- the accesses of the index expressions of a chain that starts at a name -/
def accIdx (ρ : REnv) : Node → Access → Prop
  | .attr v _ _, e => accIdx ρ v e
  | .sub v i _, e => accIdx ρ v e ∨ acc ρ i e
  | _, _ => False
def accList (ρ : REnv) : List Node → Access → Prop
  | [], _ => False
  | n :: ns, e => acc ρ n e ∨ accList ρ ns e
end

def boundMatch (σ : Valuation) : Bound → Option Int → Prop
  | .num n, b => b = some n
  | .var c x, b => ∃ v, σ c x = some v ∧ b = some v

/-- `"*"` stands for every index; a literal for itself; `(is_closure, name)` for the value `extract_obj_from_names` finds -/
def selMatch (σ : Valuation) : Idx → RSel → Prop
  | .star, _ => True
  | .num n, .idx k => k = n
  | .var c x, .idx k => σ c x = some k
  | .slice lo up, .slc a b => boundMatch σ lo a ∧ boundMatch σ up b
  | _, _ => False

def stepMatch (σ : Valuation) : NStep → CStep → Prop
  | .fld a, .fld b => a = b
  | .sel i, .sel c => selMatch σ i c
  | _, _ => False

/-- the name, step by step, matches the path -/
inductive Matches (σ : Valuation) : ObjName → List CStep → Prop where
  | nil : Matches σ [] []
  | cons {a : NStep} {b : CStep} {as : ObjName} {bs : List CStep} :
      stepMatch σ a b → Matches σ as bs → Matches σ (a :: as) (b :: bs)

/-- the recorded name denotes the accessed object or one it is part of (`s.x` covers `s.x[2:4]`) -/
def Covers (σ : Valuation) (nm : ObjName) (p : List CStep) : Prop := ∃ pre rest, p = pre ++ rest ∧ Matches σ nm pre

/-- every name the visitor resolves statically is constant during the execution and has the value the lookup will use -/
def Agree (env : Env) (σ : Valuation) (ρ : REnv) : Prop :=
  ∀ x, (x ∈ env.closure → ∃ v, ρ x = some v ∧ σ true x = some v) ∧
       (x ∉ env.closure → x ∈ env.globals → ∃ v, ρ x = some v ∧ σ false x = some v)

def idxMarker (env : Env) : Node → Idx
  | .num n => .num n
  | .name x _ => nameIdx env x
  | _ => .star

/-- the name of a chain, written down from the source (no slices) -/
def pname (env : Env) : Node → Option ObjName
  | .name x _ => some [.fld x]
  | .attr v a _ => (pname env v).map (· ++ [.fld a])
  | .sub _ (.slice ..) _ => none
  | .sub v i _ => (pname env v).map (· ++ [.sel (idxMarker env i)])
  | _ => none

/-- the name `_get_full_name` gives a node: one trailing slice is attached to the last element -/
def topName (env : Env) : Node → Option ObjName
  | .sub v (.slice lo up _) _ => (pname env v).map (· ++ (knownSlice env lo up).map NStep.sel)
  | n => pname env n

def Recorded (σ : Valuation) (evs : List Ev) (e : Access) : Prop :=
  ∃ r, r ∈ evs ∧ r.kind = e.kind ∧ Matches σ r.name e.path

/-- `Agree` for the environment of every statement of the body (the module-level names shrink from statement to statement) -/
def AgreeBody (σ : Valuation) (ρ : REnv) : Env → List Node → Prop
  | _, [] => True
  | env, s :: ss => Agree (enterEnv env s) σ ρ ∧ AgreeBody σ ρ (enterEnv env s) ss

def enterAll (env : Env) : List Node → Env
  | [] => env
  | s :: ss => enterAll (enterEnv env s) ss

/-! ## Deciding `Matches` (for the concrete examples) -/

def boundMatchB (σ : Valuation) : Bound → Option Int → Bool
  | .num n, b => b == some n
  | .var c x, b => match σ c x with | some v => b == some v | none => false

def selMatchB (σ : Valuation) : Idx → RSel → Bool
  | .star, _ => true
  | .num n, .idx k => k == n
  | .var c x, .idx k => σ c x == some k
  | .slice lo up, .slc a b => boundMatchB σ lo a && boundMatchB σ up b
  | _, _ => false

def stepMatchB (σ : Valuation) : NStep → CStep → Bool
  | .fld a, .fld b => a == b
  | .sel i, .sel c => selMatchB σ i c
  | _, _ => false

def matchesB (σ : Valuation) : ObjName → List CStep → Bool
  | [], [] => true
  | a :: as, b :: bs => stepMatchB σ a b && matchesB σ as bs
  | _, _ => false

def recordedB (σ : Valuation) (evs : List Ev) (e : Access) : Bool :=
  evs.any (fun r => r.kind == e.kind && matchesB σ r.name e.path)

/-! ## Where a record comes from: `Src` -/

mutual
def subs : Node → List Node
  | .nil => [.nil]
  | .name x c => [.name x c]
  | .num n => [.num n]
  | .str => [.str]
  | .attr v a c => .attr v a c :: subs v
  | .sub v i c => .sub v i c :: (subs v ++ subs i)
  | .slice a b c => .slice a b c :: (subs a ++ subs b ++ subs c)
  | .call f args kws => .call f args kws :: (subs f ++ subsList args ++ subsList kws)
  | .assign ts v => .assign ts v :: (subsList ts ++ subs v)
  | .aug t o v => .aug t o v :: (subs t ++ subs v)
  | .for_ t it b o => .for_ t it b o :: (subs t ++ subs it ++ subsList b ++ subsList o)
  | .node k cs => .node k cs :: subsList cs
def subsList : List Node → List Node
  | [] => []
  | n :: ns => subs n ++ subsList ns
end

def ctxOf : Node → Option Ctx
  | .attr _ _ c => some c
  | .sub _ _ c => some c
  | _ => none

/-- the record `ev` is justified by a node among `ns`: an attribute / subscript with that name in load (read) or store
(write) context, or a call whose callee has that name -/
def Src (env : Env) (ns : List Node) (ev : Ev) : Prop :=
  (∃ m, m ∈ ns ∧ topName env m = some ev.name ∧
     ((ev.kind = .rd ∧ ctxOf m = some .load) ∨ (ev.kind = .wr ∧ ctxOf m = some .store))) ∨
  (ev.kind = .fc ∧ ∃ f args kws, Node.call f args kws ∈ ns ∧ topName env f = some ev.name)

/-! ## Executions as traces

`Exec ρ ns tr`: executing the nodes `ns` one after the other can produce the trace of accesses `tr`.  The rules are those
of Python, with every choice left open: an execution may stop anywhere (`stop`: exception, `return`, `break`); the children
of a compound node (`node k cs`: `If`, `While`, `IfExp`, `BoolOp`, `BinOp`, `Compare`, ...) run in any order any number of
times (`nodeStep`), which contains every branch outcome and every loop count; a `for` evaluates its iterable once, runs
target and body any number of times, then the `else` clause or not (`break`). -/

/-- the index expressions of a chain, innermost first (the order of evaluation) -/
def idxNodes : Node → List Node
  | .attr v _ _ => idxNodes v
  | .sub v i _ => idxNodes v ++ [i]
  | _ => []

def isLeaf : Node → Bool
  | .nil => true
  | .name .. => true
  | .num _ => true
  | .str => true
  | _ => false

inductive Exec (ρ : REnv) : List Node → List Access → Prop where
  | nil : Exec ρ [] []
  | stop {ns : List Node} : Exec ρ ns []
  | leaf {n : Node} {rest : List Node} {tr : List Access} : isLeaf n = true → Exec ρ rest tr → Exec ρ (n :: rest) tr
  /-- an attribute / subscript chain that starts at a name: the index expressions, then the access itself -/
  | attrR {v : Node} {a : String} {c : Ctx} {rest : List Node} {ti tr : List Access} {p : List CStep} :
      rooted v = true → Exec ρ (idxNodes v) ti → cpath ρ (.attr v a c) p → Exec ρ rest tr →
      Exec ρ (.attr v a c :: rest) (ti ++ [⟨accKind c, p⟩] ++ tr)
  | subR {v i : Node} {c : Ctx} {rest : List Node} {ti tr : List Access} {p : List CStep} :
      rooted v = true → Exec ρ (idxNodes v ++ [i]) ti → cpath ρ (.sub v i c) p → Exec ρ rest tr →
      Exec ρ (.sub v i c :: rest) (ti ++ [⟨accKind c, p⟩] ++ tr)
  | attrN {v : Node} {a : String} {c : Ctx} {rest : List Node} {t tr : List Access} :
      rooted v = false → Exec ρ [v] t → Exec ρ rest tr → Exec ρ (.attr v a c :: rest) (t ++ tr)
  | subN {v i : Node} {c : Ctx} {rest : List Node} {t tr : List Access} :
      rooted v = false → Exec ρ [v, i] t → Exec ρ rest tr → Exec ρ (.sub v i c :: rest) (t ++ tr)
  | slice {a b c : Node} {rest : List Node} {t tr : List Access} :
      Exec ρ [a, b, c] t → Exec ρ rest tr → Exec ρ (.slice a b c :: rest) (t ++ tr)
  /-- a call whose callee is a chain that starts at a name: callee, arguments, keyword arguments, then the call -/
  | callR {f : Node} {args kws rest : List Node} {ti ta tk tr : List Access} {p : List CStep} :
      rooted f = true → Exec ρ (idxNodes f) ti → cpath ρ f p → Exec ρ args ta → Exec ρ kws tk → Exec ρ rest tr →
      Exec ρ (.call f args kws :: rest) (ti ++ ta ++ tk ++ [⟨.fc, p⟩] ++ tr)
  | callN {f : Node} {args kws rest : List Node} {t tr : List Access} :
      rooted f = false → Exec ρ (f :: (args ++ kws)) t → Exec ρ rest tr → Exec ρ (.call f args kws :: rest) (t ++ tr)
  | assign {ts : List Node} {v : Node} {rest : List Node} {tv tt tr : List Access} :
      Exec ρ [v] tv → Exec ρ ts tt → Exec ρ rest tr → Exec ρ (.assign ts v :: rest) (tv ++ tt ++ tr)
  | aug {t v : Node} {o : String} {rest : List Node} {tv tt tr : List Access} :
      Exec ρ [v] tv → Exec ρ [t] tt → Exec ρ rest tr → Exec ρ (.aug t o v :: rest) (tv ++ tt ++ tr)
  /-- `for`: the iterable, then the loop (written with the iterable already evaluated: `nil`) -/
  | forStart {t it : Node} {body orelse rest : List Node} {ti tl : List Access} :
      Exec ρ [it] ti → Exec ρ (.for_ t .nil body orelse :: rest) tl → Exec ρ (.for_ t it body orelse :: rest) (ti ++ tl)
  | forIter {t : Node} {body orelse rest : List Node} {tb tl : List Access} :
      Exec ρ (t :: body) tb → Exec ρ (.for_ t .nil body orelse :: rest) tl →
      Exec ρ (.for_ t .nil body orelse :: rest) (tb ++ tl)
  | forElse {t : Node} {body orelse rest : List Node} {to tr : List Access} :
      Exec ρ orelse to → Exec ρ rest tr → Exec ρ (.for_ t .nil body orelse :: rest) (to ++ tr)
  | forBreak {t : Node} {body orelse rest : List Node} {tr : List Access} :
      Exec ρ rest tr → Exec ρ (.for_ t .nil body orelse :: rest) tr
  | nodeStep {k : Kind} {cs rest : List Node} {c : Node} {tc tl : List Access} :
      c ∈ cs → Exec ρ [c] tc → Exec ρ (.node k cs :: rest) tl → Exec ρ (.node k cs :: rest) (tc ++ tl)
  | nodeDone {k : Kind} {cs rest : List Node} {tr : List Access} :
      Exec ρ rest tr → Exec ρ (.node k cs :: rest) tr

/-! ## The objects a path reaches

`resolve v p`: the object the concrete path `p` reaches from `v` in the elaborated component (what the running block
dereferences). -/

/-- run-time `v[ c ]` -/
def rget (v : Val) (c : RSel) : Option Val :=
  match c with
  | .idx k => match getitem v (.idx k) with | .ok (some r) => some r | _ => none
  | .slc (some a) (some b) => match getitem v (.slc a b) with | .ok (some r) => some r | _ => none
  | .slc _ _ => none

def resolve : Val → List CStep → Option Val
  | v, [] => some v
  | v, .fld a :: p => match getattr v a with | .ok c => resolve c p | .error _ => none
  | v, .sel c :: p => match rget v c with | some r => resolve r p | none => none

/-- a slice is the last step of the path (`look_reaches` needs it: a `"*"` recorded for the slice of a list is looked up
element by element, so a step after the slice would be applied to the elements, not to the sub-list) -/
def sliceLast : List CStep → Bool
  | [] => true
  | [_] => true
  | .sel (.slc ..) :: _ :: _ => false
  | _ :: p => sliceLast p

/-! ## Names against paths, the visitor as a function, completeness -/

theorem Matches.append {σ : Valuation} {a b : ObjName} {p q : List CStep} (h1 : Matches σ a p) (h2 : Matches σ b q) :
    Matches σ (a ++ b) (p ++ q) := by
  induction h1 with
  | nil => simpa using h2
  | cons h _ ih => exact Matches.cons h ih

theorem Matches.covers {σ : Valuation} {nm : ObjName} {p : List CStep} (h : Matches σ nm p) : Covers σ nm p :=
  ⟨p, [], by simp, h⟩

theorem Matches.covers_append {σ : Valuation} {nm : ObjName} {p : List CStep} (h : Matches σ nm p) (r : List CStep) :
    Covers σ nm (p ++ r) := ⟨p, r, rfl, h⟩

theorem boundMatchB_iff (σ : Valuation) (b : Bound) (a : Option Int) : boundMatchB σ b a = true ↔ boundMatch σ b a := by
  cases b with
  | num n => exact beq_iff_eq
  | var c x =>
    simp only [boundMatchB, boundMatch]
    cases σ c x <;> simp

theorem selMatchB_iff (σ : Valuation) (i : Idx) (c : RSel) : selMatchB σ i c = true ↔ selMatch σ i c := by
  cases i <;> cases c <;> simp [selMatchB, selMatch, boundMatchB_iff]

theorem stepMatchB_iff (σ : Valuation) (a : NStep) (b : CStep) : stepMatchB σ a b = true ↔ stepMatch σ a b := by
  cases a <;> cases b <;> simp [stepMatchB, stepMatch, selMatchB_iff]

theorem matchesB_iff (σ : Valuation) : ∀ (nm : ObjName) (p : List CStep), matchesB σ nm p = true ↔ Matches σ nm p
  | [], [] => ⟨fun _ => .nil, fun _ => rfl⟩
  | [], _ :: _ => ⟨nofun, nofun⟩
  | _ :: _, [] => ⟨nofun, nofun⟩
  | a :: as, b :: bs => by
    rw [matchesB, Bool.and_eq_true, stepMatchB_iff, matchesB_iff σ as bs]
    exact ⟨fun ⟨h1, hm⟩ => .cons h1 hm, fun | .cons h1 hm => ⟨h1, hm⟩⟩

theorem recordedB_iff (σ : Valuation) (evs : List Ev) (e : Access) : recordedB σ evs e = true ↔ Recorded σ evs e := by
  simp only [recordedB, List.any_eq_true, Bool.and_eq_true, beq_iff_eq, matchesB_iff, Recorded]

theorem bind_ok {ε α β : Type} {x : Except ε α} {f : α → Except ε β} {b : β} :
    (x >>= f) = .ok b ↔ ∃ a, x = .ok a ∧ f a = .ok b := by
  cases x <;> simp [bind, Except.bind]

theorem ok_bind {ε α β : Type} (a : α) (f : α → Except ε β) : (Except.ok a >>= f) = f a := rfl

@[simp] theorem pure_ok {ε α : Type} (a b : α) : ((pure a : Except ε α) = .ok b) ↔ a = b := by
  simp [pure, Except.pure]

/-- `i` is not a `Slice` node: the side condition of every equation for `.sub v i c` that is not the one for
`.sub v (.slice ..) c` -/
def NotSlice (i : Node) : Prop := ∀ lo up st, i = .slice lo up st → False

theorem slice_or_not (i : Node) : (∃ lo up st, i = .slice lo up st) ∨ NotSlice i := by
  cases i with
  | slice lo up st => exact .inl ⟨lo, up, st, rfl⟩
  | _ => exact .inr fun _ _ _ h => Node.noConfusion h

/-- induction over `Node` with the case `.sub v i c` split by whether `i` is a `Slice` node, as the equations of `visit`,
`chain`, `pname`, `supported` are -/
theorem Node.ind {P : Node → Prop} {PL : List Node → Prop}
    (nil : P .nil) (name : ∀ x c, P (.name x c)) (num : ∀ n, P (.num n)) (str : P .str)
    (attr : ∀ v a c, P v → P (.attr v a c))
    (sub : ∀ v i c, NotSlice i → P v → P i → P (.sub v i c))
    (subSlice : ∀ v lo up st c, P v → P (.slice lo up st) → P (.sub v (.slice lo up st) c))
    (slice : ∀ a b c, P a → P b → P c → P (.slice a b c))
    (call : ∀ f args kws, P f → PL args → PL kws → P (.call f args kws))
    (assign : ∀ ts v, PL ts → P v → P (.assign ts v))
    (aug : ∀ t o v, P t → P v → P (.aug t o v))
    (for_ : ∀ t it b o, P t → P it → PL b → PL o → P (.for_ t it b o))
    (node : ∀ k cs, PL cs → P (.node k cs))
    (lnil : PL []) (lcons : ∀ n ns, P n → PL ns → PL (n :: ns)) : (∀ n, P n) ∧ ∀ ns, PL ns := by
  have sub' : ∀ v i c, P v → P i → P (.sub v i c) := fun v i c hv hi => by
    rcases slice_or_not i with ⟨lo, up, st, rfl⟩ | h
    · exact subSlice v lo up st c hv hi
    · exact sub v i c h hv hi
  exact ⟨Node.rec nil name num str attr sub' slice call assign aug for_ node lnil lcons,
    Node.rec_1 (motive_1 := P) nil name num str attr sub' slice call assign aug for_ node lnil lcons⟩

/-- the index expressions `_get_full_name` visits are all that are not a number or a name; visiting those gives no
record, so the step is: visit the index, note its marker -/
theorem idxStep_eq (env : Env) (op : Op) (i : Node) :
    idxStep env i (fun _ => visit env op i) = (do let e ← visit env op i; pure (e, idxMarker env i)) := by
  cases i <;> rfl

theorem chain_sub_eq (env : Env) (op : Op) (strip : Bool) (v i : Node) (c : Ctx) (hi : NotSlice i) :
    chain env op strip (.sub v i c) = (do
      let e1 ← visit env op i
      let (e2, r, _) ← chain env op false v
      pure (e1 ++ e2, r.map (· ++ [.sel (idxMarker env i)]), [])) := by
  rw [chain.eq_2 _ _ _ _ _ _ hi, idxStep_eq, bind_assoc]; rfl

theorem visit_sub_eq (env : Env) (op : Op) (v i : Node) (c : Ctx) (hi : NotSlice i) :
    visit env op (.sub v i c) = (do
      let e1 ← visit env op i
      let (e2, r, _) ← chain env op false v
      match r with
      | none => do
        let g ← visit env op v
        let g' ← visit env op i
        pure (e1 ++ e2 ++ g ++ g')
      | some nm => do
        let p ← record c op (nm ++ [.sel (idxMarker env i)])
        let e' ← visit env op i
        pure (e1 ++ e2 ++ p ++ e')) := by
  rw [visit.eq_7 _ _ _ _ _ hi, idxStep_eq, bind_assoc]; rfl

section
variable {env : Env} {σ : Valuation} {ρ : REnv}

theorem cpath_sub {v i : Node} {c : Ctx} {p : List CStep} (hi : NotSlice i) :
    cpath ρ (.sub v i c) p ↔ ∃ q k, cpath ρ v q ∧ idxVal ρ i k ∧ p = q ++ [.sel (.idx k)] := by
  rw [cpath.eq_4 _ _ _ _ _ hi]

theorem pname_sub {v i : Node} {c : Ctx} (hi : NotSlice i) :
    pname env (.sub v i c) = (pname env v).map (· ++ [.sel (idxMarker env i)]) :=
  pname.eq_4 _ _ _ _ hi

theorem idxMarker_match (hA : Agree env σ ρ) {i : Node} {k : Int} (hk : idxVal ρ i k) :
    selMatch σ (idxMarker env i) (.idx k) := by
  cases i with
  | num n => exact hk
  | name x c =>
    show selMatch σ (nameIdx env x) (.idx k)
    unfold nameIdx
    split
    · obtain ⟨v, h1, h2⟩ := (hA x).1 ‹_›
      exact (hk v h1) ▸ h2
    · split
      · obtain ⟨v, h1, h2⟩ := (hA x).2 ‹_› ‹_›
        exact (hk v h1) ▸ h2
      · trivial
  | _ => trivial

theorem bound_match (hA : Agree env σ ρ) {lo : Node} {b : Bound} (h : bound? env lo = some b) {a : Option Int}
    (ha : bndVal ρ lo a) : boundMatch σ b a := by
  cases lo with
  | num n => cases h; exact ha
  | name x c =>
    rw [bound?.eq_2] at h
    split at h
    · obtain ⟨v, h1, h2⟩ := (hA x).1 ‹_›
      cases h; exact ⟨v, h2, ha v h1⟩
    · split at h
      · obtain ⟨v, h1, h2⟩ := (hA x).2 ‹_› ‹_›
        cases h; exact ⟨v, h2, ha v h1⟩
      · cases h
  | _ => cases h

theorem pname_matches (hA : Agree env σ ρ) : ∀ (v : Node) {nm : ObjName} {p : List CStep},
    pname env v = some nm → cpath ρ v p → Matches σ nm p
  | .sub v i c => fun h hp => by
    rcases slice_or_not i with ⟨lo, up, st, rfl⟩ | hi
    · cases h
    · rw [pname_sub hi] at h
      obtain ⟨nm', h', rfl⟩ := Option.map_eq_some_iff.1 h
      obtain ⟨q, k, hq, hk, rfl⟩ := (cpath_sub hi).1 hp
      exact (pname_matches hA v h' hq).append (.cons (idxMarker_match hA hk) .nil)
  | .attr v a c => fun h hp => by
    obtain ⟨nm', h', rfl⟩ := Option.map_eq_some_iff.1 h
    obtain ⟨q, hq, rfl⟩ := hp
    exact (pname_matches hA v h' hq).append (.cons rfl .nil)
  | .name x c => fun h hp => by cases h; cases hp; exact .cons rfl .nil
  | .call .. | .str | .nil | .num _ | .slice .. | .assign .. | .aug .. | .for_ .. | .node .. => nofun

end

theorem supChain_sub {v i : Node} {c : Ctx} (h : supChain (.sub v i c) = true) :
    NotSlice i ∧ supported i = true ∧ supChain v = true := by
  rcases slice_or_not i with ⟨lo, up, st, rfl⟩ | hi
  · cases h
  · rw [supChain.eq_4 _ _ _ hi, Bool.and_eq_true] at h
    exact ⟨hi, h⟩

theorem isSliceSub_sub {v i : Node} {c : Ctx} (hi : NotSlice i) : isSliceSub (.sub v i c) = false :=
  isSliceSub.eq_2 _ fun _ lo up st _ e => hi lo up st (Node.sub.inj e).2.1

theorem sliceSub_or_not (n : Node) : (∃ v lo up st c, n = .sub v (.slice lo up st) c) ∨ isSliceSub n = false := by
  cases n with
  | sub v i c =>
    rcases slice_or_not i with ⟨lo, up, st, rfl⟩ | hi
    · exact .inl ⟨v, lo, up, st, c, rfl⟩
    · exact .inr (isSliceSub_sub hi)
  | _ => exact .inr rfl

theorem topName_of_not_sliceSub {env : Env} {n : Node} (h : isSliceSub n = false) : topName env n = pname env n :=
  topName.eq_2 _ _ (by rintro v lo up st c rfl; cases h)

theorem chain_strip_irrel {env : Env} {op : Op} {v : Node} (h : isSliceSub v = false) :
    chain env op true v = chain env op false v := by
  cases v with
  | sub v i c =>
    rcases slice_or_not i with ⟨lo, up, st, rfl⟩ | hi
    · cases h
    · rw [chain_sub_eq _ _ _ _ _ _ hi, chain_sub_eq _ _ _ _ _ _ hi]
  | _ => rfl

theorem knownSlice_single (env : Env) (lo up : Node) : ∃ k, knownSlice env lo up = [k] := by
  unfold knownSlice
  split <;> exact ⟨_, rfl⟩

section
variable {env : Env} {n : Node} {nm : ObjName}

theorem topName_matches {σ : Valuation} {ρ : REnv} (hA : Agree env σ ρ) {p : List CStep} (h : topName env n = some nm)
    (hp : cpath ρ n p) : Matches σ nm p := by
  rcases sliceSub_or_not n with ⟨v, lo, up, st, c, rfl⟩ | hs
  · obtain ⟨nm', h', rfl⟩ := Option.map_eq_some_iff.1 h
    obtain ⟨q, a, b, hq, ha, hb, rfl⟩ := hp
    refine (pname_matches hA v h' hq).append ?_
    unfold knownSlice
    split
    · exact .cons ⟨bound_match hA ‹_› ha, bound_match hA ‹_› hb⟩ .nil
    · exact .cons trivial .nil
  · rw [topName_of_not_sliceSub hs] at h
    exact pname_matches hA n h hp

theorem topName_attr (v : Node) (a : String) (c : Ctx) :
    topName env (.attr v a c) = (pname env v).map (· ++ [.fld a]) := rfl

theorem topName_sub {v i : Node} {c : Ctx} (hi : NotSlice i) :
    topName env (.sub v i c) = (pname env v).map (· ++ [.sel (idxMarker env i)]) := by
  rw [topName_of_not_sliceSub (isSliceSub_sub hi), pname_sub hi]

theorem pname_of_not_rooted : ∀ {v : Node}, rooted v = false → pname env v = none
  | .attr v _ _, h => by rw [pname, pname_of_not_rooted (v := v) h]; rfl
  | .sub v i _, h => by
    rcases slice_or_not i with ⟨lo, up, st, rfl⟩ | hi
    · rfl
    · rw [pname_sub hi, pname_of_not_rooted (v := v) h]; rfl
  | .nil, _ | .num _, _ | .str, _ | .slice .., _ | .call .., _ | .assign .., _ | .aug .., _ | .for_ .., _ | .node .., _ => rfl

theorem topName_of_not_rooted {n : Node} (h : rooted n = false) : topName env n = none := by
  rcases sliceSub_or_not n with ⟨v, lo, up, st, c, rfl⟩ | hs
  · rw [topName.eq_1, pname_of_not_rooted (v := v) h]; rfl
  · rw [topName_of_not_sliceSub hs, pname_of_not_rooted h]

theorem pname_of_supChain : ∀ {v : Node}, supChain v = true → ∃ nm, pname env v = some nm
  | .name x _, _ => ⟨_, rfl⟩
  | .attr v _ _, h => by
    obtain ⟨nm, hn⟩ := pname_of_supChain (v := v) h
    exact ⟨_, by rw [pname, hn]; rfl⟩
  | .sub v i _, h => by
    obtain ⟨hi, _, hv⟩ := supChain_sub h
    obtain ⟨nm, hn⟩ := pname_of_supChain hv
    exact ⟨_, by rw [pname_sub hi, hn]; rfl⟩

theorem topName_of_supChain {n : Node} (h : supChain n = true) : ∃ nm, topName env n = some nm := by
  rcases sliceSub_or_not n with ⟨v, lo, up, st, c, rfl⟩ | hs
  · cases h
  · rw [topName_of_not_sliceSub hs]
    exact pname_of_supChain h

end

/-- `x` raises or returns `a` -/
def Yields {ε α : Type} (x : Except ε α) (a : α) : Prop := ∀ b, x = .ok b → b = a

section
variable {ε α β : Type} {x : Except ε α} {f : α → Except ε β} {a : α} {b : β} {e : ε}

theorem Yields.pure : Yields (pure a : Except ε α) a := fun _ h => by cases h; rfl

theorem Yields.throw : Yields (throw e : Except ε α) a := nofun

theorem Yields.bind (hx : Yields x a) (hf : Yields (f a) b) : Yields (x >>= f) b := by
  cases x with
  | error _ => exact nofun
  | ok a' => cases hx a' rfl; exact hf

end

/-- the record of a named node; a `Del` context raises, so what stands there is open: a write (`d`, as `acc` has it) or
nothing (as `Src` has it) -/
def recOf (d : Bool) (c : Ctx) (op : Op) (nm : ObjName) : List Ev :=
  if c = .del ∧ d = false then [] else [⟨accKind c, nm, op⟩]

theorem record_yields (d : Bool) (c : Ctx) (op : Op) (nm : ObjName) : Yields (record c op nm) (recOf d c op nm) := by
  cases c <;> first | exact .throw | exact .pure

mutual
/-- what a visit that does not raise returns -/
def recs (d : Bool) (env : Env) (op : Op) : Node → List Ev
  | .attr v a c => idxRecs d env op v ++
      (match topName env (.attr v a c) with | none => recs d env op v | some nm => recOf d c op nm)
  | .sub v (.slice lo up st) c => idxRecs d env op v ++
      (match topName env (.sub v (.slice lo up st) c) with | none => recs d env op v | some nm => recOf d c op nm) ++
      recs d env op (.slice lo up st)
  -- the index is visited twice: by `_get_full_name`, then by `self.visit( node.slice )`
  | .sub v i c => recs d env op i ++ idxRecs d env op v ++
      (match topName env (.sub v i c) with | none => recs d env op v | some nm => recOf d c op nm) ++
      recs d env op i
  | .slice lo up st => recs d env op lo ++ recs d env op up ++ recs d env op st
  | .call f args kws => idxRecs d env op f ++
      (match topName env f with | none => recs d env op f | some nm => [⟨.fc, nm, .none⟩]) ++
      recsList d env op args ++ recsList d env op kws
  | .assign ts v => recsList d env op ts ++ recs d env op v
  | .aug t o v => recs d env (.aug o) t ++ recs d env .none v
  | .for_ t it body orelse =>
      recs d env .for_ t ++ recs d env .none it ++ recsList d env .none body ++ recsList d env .none orelse
  | .node _ cs => recsList d env op cs
  | _ => []
/-- the records of the index expressions of a chain, as `_get_full_name` visits them -/
def idxRecs (d : Bool) (env : Env) (op : Op) : Node → List Ev
  | .attr v _ _ => idxRecs d env op v
  | .sub v (.slice ..) _ => idxRecs d env op v
  | .sub v i _ => recs d env op i ++ idxRecs d env op v
  | _ => []
def recsList (d : Bool) (env : Env) (op : Op) : List Node → List Ev
  | [] => []
  | n :: ns => recs d env op n ++ recsList d env op ns
end

theorem recs_sub {d : Bool} {env : Env} {op : Op} {v i : Node} {c : Ctx} (hi : NotSlice i) :
    recs d env op (.sub v i c) = recs d env op i ++ idxRecs d env op v ++
      (match topName env (.sub v i c) with | none => recs d env op v | some nm => recOf d c op nm) ++ recs d env op i :=
  recs.eq_3 _ _ _ _ _ _ hi

theorem idxRecs_sub {d : Bool} {env : Env} {op : Op} {v i : Node} {c : Ctx} (hi : NotSlice i) :
    idxRecs d env op (.sub v i c) = recs d env op i ++ idxRecs d env op v :=
  idxRecs.eq_3 _ _ _ _ _ _ hi

/-- name and slice markers of a chain whose trailing slices are stripped -/
def stripName (env : Env) : Node → Option ObjName × List Idx
  | .sub v (.slice lo up _) _ => ((stripName env v).1, knownSlice env lo up ++ (stripName env v).2)
  | v => (pname env v, [])

section
variable {d : Bool} {env : Env}

theorem stripName_of_not_sliceSub {n : Node} (h : isSliceSub n = false) : stripName env n = (pname env n, []) :=
  stripName.eq_2 _ _ (by rintro v lo up st c rfl; cases h)

/-- the end of `_get_full_name`, on the name and markers of the stripped chain: the name written in the source -/
theorem attach_yields (env : Env) (n : Node) :
    Yields (attachSlices (stripName env n).1 (stripName env n).2) (topName env n) := by
  rcases sliceSub_or_not n with ⟨v, lo, up, st, c, rfl⟩ | hs
  · obtain ⟨k, hk⟩ := knownSlice_single env lo up
    rw [stripName, topName.eq_1, hk]
    rcases sliceSub_or_not v with ⟨v', lo', up', st', c', rfl⟩ | hs'
    · -- a second slice below makes two markers
      obtain ⟨k', hk'⟩ := knownSlice_single env lo' up'
      rw [stripName, hk', pname.eq_3]
      cases (stripName env v').1 <;> first | exact .pure | exact .throw
    · rw [stripName_of_not_sliceSub hs']
      cases pname env v <;> exact .pure
  · rw [stripName_of_not_sliceSub hs, topName_of_not_sliceSub hs]
    cases pname env n <;> exact .pure

def VSpec (d : Bool) (env : Env) (n : Node) : Prop := ∀ op, Yields (visit env op n) (recs d env op n)
def CSpec (d : Bool) (env : Env) (n : Node) : Prop := ∀ op,
  Yields (chain env op false n) (idxRecs d env op n, pname env n, []) ∧
    Yields (chain env op true n) (idxRecs d env op n, stripName env n)
def LSpec (d : Bool) (env : Env) (ns : List Node) : Prop := ∀ op, Yields (visitList env op ns) (recsList d env op ns)

theorem cspec_of {n : Node} (hs : isSliceSub n = false)
    (h : ∀ op, Yields (chain env op false n) (idxRecs d env op n, pname env n, [])) : CSpec d env n :=
  fun op => ⟨h op, by rw [chain_strip_irrel hs, stripName_of_not_sliceSub hs]; exact h op⟩

/-- a visit that does not raise returns `recs`; `_get_full_name` the name written in the source -/
theorem visit_spec (d : Bool) (env : Env) : (∀ n, VSpec d env n ∧ CSpec d env n) ∧ ∀ ns, LSpec d env ns :=
  Node.ind (P := fun n => VSpec d env n ∧ CSpec d env n) (PL := LSpec d env)
    (nil := ⟨fun _ => .pure, cspec_of rfl fun _ => .throw⟩)
    (name := fun _ _ => ⟨fun _ => .pure, cspec_of rfl fun _ => .pure⟩)
    (num := fun _ => ⟨fun _ => .pure, cspec_of rfl fun _ => .throw⟩)
    (str := ⟨fun _ => .pure, cspec_of rfl fun _ => .pure⟩)
    (attr := fun v a c h => ⟨fun op => by
        rw [visit.eq_5, recs, topName_attr]
        refine .bind (h.2 op).1 ?_
        cases pname env v
        · exact .bind (h.1 op) .pure
        · exact .bind (record_yields _ _ _ _) .pure,
      cspec_of rfl fun op => by rw [chain.eq_3]; exact .bind (h.2 op).1 .pure⟩)
    (sub := fun v i c hi hv h => ⟨fun op => by
        rw [visit_sub_eq _ _ _ _ _ hi, recs_sub hi, topName_sub hi]
        refine .bind (h.1 op) (.bind (hv.2 op).1 ?_)
        cases pname env v
        · exact .bind (hv.1 op) (.bind (h.1 op) .pure)
        · exact .bind (record_yields _ _ _ _) (.bind (h.1 op) .pure),
      cspec_of (isSliceSub_sub hi) fun op => by
        rw [chain_sub_eq _ _ _ _ _ _ hi, idxRecs_sub hi, pname_sub hi]
        exact .bind (h.1 op) (.bind (hv.2 op).1 .pure)⟩)
    (subSlice := fun v lo up st c hv h => ⟨fun op => by
        rw [visit.eq_6, recs]
        refine .bind (hv.2 op).2 (.bind (attach_yields env (.sub v (.slice lo up st) c)) ?_)
        cases topName env (.sub v (.slice lo up st) c)
        · exact .bind (hv.1 op) (.bind (h.1 op) .pure)
        · exact .bind (record_yields _ _ _ _) (.bind (h.1 op) .pure),
      fun op => ⟨by rw [chain.eq_1]; exact .throw, by rw [chain.eq_1]; exact .bind (hv.2 op).2 .pure⟩⟩)
    (slice := fun _ _ _ ha hb hc => ⟨fun op => .bind (ha.1 op) (.bind (hb.1 op) (.bind (hc.1 op) .pure)),
      cspec_of rfl fun _ => .throw⟩)
    (call := fun f args kws hf ha hk => ⟨fun op => by
        rw [visit.eq_9, recs]
        refine .bind (hf.2 op).2 (.bind (attach_yields env f) ?_)
        cases topName env f
        · exact .bind (hf.1 op) (.bind (ha op) (.bind (hk op) .pure))
        · exact .bind .pure (.bind (ha op) (.bind (hk op) .pure)),
      cspec_of rfl fun _ => .pure⟩)
    (assign := fun _ _ ht hv => ⟨fun op => .bind (ht op) (.bind (hv.1 op) .pure), cspec_of rfl fun _ => .throw⟩)
    (aug := fun _ _ _ ht hv => ⟨fun _ => .bind (ht.1 _) (.bind (hv.1 _) .pure), cspec_of rfl fun _ => .throw⟩)
    (for_ := fun _ _ _ _ ht hi hb ho => ⟨fun _ => .bind (ht.1 _) (.bind (hi.1 _) (.bind (hb _) (.bind (ho _) .pure))),
      cspec_of rfl fun _ => .throw⟩)
    (node := fun _ _ h => ⟨h, cspec_of rfl fun _ => .throw⟩)
    (lnil := fun _ => .pure)
    (lcons := fun _ _ hn hns op => .bind (hn.1 op) (.bind (hns op) .pure))

theorem visit_recs {op : Op} {n : Node} {evs : List Ev} (h : visit env op n = .ok evs) : evs = recs d env op n :=
  ((visit_spec d env).1 n).1 op evs h

theorem visitList_recs {op : Op} {ns : List Node} {evs : List Ev} (h : visitList env op ns = .ok evs) :
    evs = recsList d env op ns :=
  (visit_spec d env).2 ns op evs h

end

section
variable {σ : Valuation} {e : Access} {a b : List Ev}

theorem Recorded.inl (h : Recorded σ a e) : Recorded σ (a ++ b) e :=
  let ⟨r, hr, h⟩ := h; ⟨r, List.mem_append_left b hr, h⟩

theorem Recorded.inr (h : Recorded σ b e) : Recorded σ (a ++ b) e :=
  let ⟨r, hr, h⟩ := h; ⟨r, List.mem_append_right a hr, h⟩

theorem recOf_true (c : Ctx) (op : Op) (nm : ObjName) : recOf true c op nm = [⟨accKind c, nm, op⟩] := by
  simp [recOf]

end

section
variable {env : Env} {σ : Valuation} {ρ : REnv}

def CVisit (env : Env) (σ : Valuation) (ρ : REnv) (n : Node) : Prop :=
  ∀ op, supported n = true → ∀ e, acc ρ n e → Recorded σ (recs true env op n) e
def CChain (env : Env) (σ : Valuation) (ρ : REnv) (v : Node) : Prop :=
  ∀ op, supChain v = true → ∀ e, accIdx ρ v e → Recorded σ (idxRecs true env op v) e
def CList (env : Env) (σ : Valuation) (ρ : REnv) (ns : List Node) : Prop :=
  ∀ op, supportedList ns = true → ∀ e, accList ρ ns e → Recorded σ (recsList true env op ns) e

/-- what `Attribute`, `Subscript` and `Call` share: the chain `m` over `v` is recorded under its name when it starts at a
name, else its base is visited -/
theorem csite (hA : Agree env σ ρ) {m v : Node} {k : K} {o op : Op} {e : Access} (hv : CVisit env σ ρ v)
    (hc : CChain env σ ρ v) (hm : rooted m = rooted v) (ht : supChain v = true → ∃ nm, topName env m = some nm)
    (hs : (if rooted v then supChain v else supported v) = true)
    (ha : if rooted v then (∃ p, cpath ρ m p ∧ e = ⟨k, p⟩) ∨ accIdx ρ v e else acc ρ v e) :
    Recorded σ (idxRecs true env op v ++
      match topName env m with | none => recs true env op v | some nm => [⟨k, nm, o⟩]) e := by
  cases hr : rooted v <;> rw [hr] at hs ha hm
  · rw [topName_of_not_rooted hm]
    exact (hv op hs e ha).inr
  · obtain ⟨nm, hn⟩ := ht hs
    rw [hn]
    rcases ha with ⟨p, hp, rfl⟩ | ha
    · exact .inr ⟨_, List.mem_singleton_self _, rfl, topName_matches hA hn hp⟩
    · exact (hc op hs e ha).inl

theorem complete_recs (hA : Agree env σ ρ) : (∀ n, CVisit env σ ρ n ∧ CChain env σ ρ n) ∧ ∀ ns, CList env σ ρ ns :=
  Node.ind (P := fun n => CVisit env σ ρ n ∧ CChain env σ ρ n) (PL := CList env σ ρ)
    (nil := ⟨fun _ _ _ => nofun, fun _ _ _ => nofun⟩) (name := fun _ _ => ⟨fun _ _ _ => nofun, fun _ _ _ => nofun⟩)
    (num := fun _ => ⟨fun _ _ _ => nofun, fun _ _ _ => nofun⟩) (str := ⟨fun _ _ _ => nofun, fun _ _ _ => nofun⟩)
    (attr := fun v a c h => ⟨fun op hs e ha => by
        rw [recs]; simp only [recOf_true]
        exact csite hA h.1 h.2 rfl (topName_of_supChain (n := .attr v a c)) hs ha,
      fun op hs e ha => h.2 op hs e ha⟩)
    (sub := fun v i c hi hv h => ⟨fun op hs e ha => by
        rw [supported.eq_7 _ _ _ hi, Bool.and_eq_true] at hs
        rw [recs_sub hi, List.append_assoc (recs ..)]; simp only [recOf_true]
        rcases ha with ha | ha
        · exact (csite (m := .sub v i c) hA hv.1 hv.2 rfl
            (fun hc => topName_of_supChain (n := .sub v i c) (by rw [supChain.eq_4 _ _ _ hi, hs.2, hc]; rfl)) hs.1 ha).inr.inl
        · exact (h.1 op hs.2 e ha).inr,
      fun op hs e ha => by
        obtain ⟨_, hsi, hsv⟩ := supChain_sub hs
        rw [idxRecs_sub hi]
        exact ha.elim (fun ha => (hv.2 op hsv e ha).inr) fun ha => (h.1 op hsi e ha).inl⟩)
    (subSlice := fun v lo up st c hv h => ⟨fun op hs e ha => by
        rw [supported.eq_6] at hs
        simp only [Bool.and_eq_true] at hs
        obtain ⟨⟨⟨hsv, hlo⟩, hup⟩, hst⟩ := hs
        rw [recs]; simp only [recOf_true]
        rcases ha with ha | ha
        · refine (csite (m := .sub v (.slice lo up st) c) hA hv.1 hv.2 rfl (fun hc => ?_) (?_ : (if rooted v then supChain v else supported v) = true) ha).inl
          · obtain ⟨nm, hn⟩ := pname_of_supChain hc
            exact ⟨_, by rw [topName.eq_1, hn]; rfl⟩
          · -- of a rooted `v` under a slice `supported` asks more: `!isSliceSub v && supChain v`
            cases hr : rooted v <;> rw [hr] at hsv
            · exact hsv
            · exact (Bool.and_eq_true_iff.1 hsv).2
        · exact (h.1 op (by rw [supported.eq_8, hlo, hup, hst]; rfl) e ha).inr,
      fun _ hs => nomatch hs⟩)
    (slice := fun _ _ _ ha hb hc => ⟨fun op hs e h => by
        simp only [supported, Bool.and_eq_true] at hs
        rcases h with h | h | h
        · exact (ha.1 op hs.1.1 e h).inl.inl
        · exact (hb.1 op hs.1.2 e h).inr.inl
        · exact (hc.1 op hs.2 e h).inr, fun _ _ _ => nofun⟩)
    (call := fun f args kws hf ha hk => ⟨fun op hs e h => by
        rw [supported.eq_9] at hs
        simp only [Bool.and_eq_true] at hs
        rw [recs]
        rcases h with h | h | h
        · exact (csite hA hf.1 hf.2 rfl topName_of_supChain hs.1.1 h).inl.inl
        · exact (ha op hs.1.2 e h).inr.inl
        · exact (hk op hs.2 e h).inr, fun _ _ _ => nofun⟩)
    (assign := fun _ _ ht hv => ⟨fun op hs e h => by
        simp only [supported, Bool.and_eq_true] at hs
        exact h.elim (fun h => (ht op hs.1 e h).inl) fun h => (hv.1 op hs.2 e h).inr, fun _ _ _ => nofun⟩)
    (aug := fun _ _ _ ht hv => ⟨fun op hs e h => by
        simp only [supported, Bool.and_eq_true] at hs
        exact h.elim (fun h => (ht.1 _ hs.1 e h).inl) fun h => (hv.1 _ hs.2 e h).inr, fun _ _ _ => nofun⟩)
    (for_ := fun _ _ _ _ ht hi hb ho => ⟨fun op hs e h => by
        simp only [supported, Bool.and_eq_true] at hs
        rcases h with h | h | h | h
        · exact (ht.1 _ hs.1.1.1 e h).inl.inl.inl
        · exact (hi.1 _ hs.1.1.2 e h).inr.inl.inl
        · exact (hb _ hs.1.2 e h).inr.inl
        · exact (ho _ hs.2 e h).inr, fun _ _ _ => nofun⟩)
    (node := fun _ _ h => ⟨h, fun _ _ _ => nofun⟩)
    (lnil := fun _ _ _ => nofun)
    (lcons := fun _ _ hn hns op hs e h => by
      simp only [supportedList, Bool.and_eq_true] at hs
      exact h.elim (fun h => (hn.1 op hs.1 e h).inl) fun h => (hns op hs.2 e h).inr)

theorem visit_complete (hA : Agree env σ ρ) {n : Node} {op : Op} {evs : List Ev} (hs : supported n = true)
    (h : visit env op n = .ok evs) {e : Access} (ha : acc ρ n e) : Recorded σ evs e := by
  cases visit_recs (d := true) h
  exact ((complete_recs hA).1 n).1 op hs e ha

def PList (env : Env) (σ : Valuation) (ρ : REnv) (ns : List Node) : Prop :=
  ∀ (op : Op) (evs : List Ev), supportedList ns = true → visitList env op ns = .ok evs →
    ∀ e, accList ρ ns e → Recorded σ evs e

theorem visitList_complete (hA : Agree env σ ρ) (ns : List Node) : PList env σ ρ ns := fun op _ hs h e ha => by
  cases visitList_recs (d := true) h
  exact (complete_recs hA).2 ns op hs e ha

end

section
variable {σ : Valuation} {ρ : REnv}

theorem enterEnv_globals {env : Env} {s : Node} {x : String} (h : x ∈ (enterEnv env s).globals) : x ∈ env.globals :=
  (List.mem_filter.1 h).1

theorem Agree.enter {env : Env} (h : Agree env σ ρ) (s : Node) : Agree (enterEnv env s) σ ρ :=
  fun x => ⟨(h x).1, fun hc hg => (h x).2 hc (enterEnv_globals hg)⟩

theorem extractBody_cons_iff {env : Env} {s : Node} {ss : List Node} {evs : List Ev} :
    extractBody env (s :: ss) = .ok evs ↔
      ∃ a, visit (enterEnv env s) .none s = .ok a ∧ ∃ b, extractBody (enterEnv env s) ss = .ok b ∧ a ++ b = evs := by
  simp only [extractBody, bind_ok, pure_ok]

theorem body_complete : ∀ (body : List Node) {env : Env} {evs : List Ev}, AgreeBody σ ρ env body →
    supportedBody body = true → extractBody env body = .ok evs →
    ∀ e, accList ρ body e → Recorded σ evs e
  | [], _, _, _, _, _, _, ha => ha.elim
  | s :: ss, env, evs, hA, hs, h, e, ha => by
    obtain ⟨a, h1, b, h2, rfl⟩ := extractBody_cons_iff.1 h
    obtain ⟨hs1, hs2⟩ := Bool.and_eq_true_iff.1 hs
    rcases ha with ha | ha
    · exact (visit_complete hA.1 hs1 h1 ha).inl
    · exact (body_complete ss hA.2 hs2 h2 e ha).inr

end

/-! ## The records of a `for`, an `if`, a list of nodes -/

theorem visit_for_iff {env : Env} {op : Op} {t it : Node} {body orelse : List Node} {evs : List Ev} :
    visit env op (.for_ t it body orelse) = .ok evs ↔
      ∃ a b c d, visit env .for_ t = .ok a ∧ visit env .none it = .ok b ∧ visitList env .none body = .ok c ∧
        visitList env .none orelse = .ok d ∧ evs = a ++ b ++ c ++ d := by
  simp only [visit, bind_ok, pure_ok]
  constructor
  · rintro ⟨a, ha, b, hb, c, hc, d, hd, rfl⟩; exact ⟨a, b, c, d, ha, hb, hc, hd, rfl⟩
  · rintro ⟨a, b, c, d, ha, hb, hc, hd, rfl⟩; exact ⟨a, ha, b, hb, c, hc, d, hd, rfl⟩

theorem visitList_cons_iff {env : Env} {op : Op} {t : Node} {ns : List Node} {evs : List Ev} :
    visitList env op (t :: ns) = .ok evs ↔
      ∃ a, visit env op t = .ok a ∧ ∃ b, visitList env op ns = .ok b ∧ a ++ b = evs := by
  simp only [visitList, bind_ok, pure_ok]

theorem visitList_mem {env : Env} {op : Op} : ∀ {cs : List Node} {evs : List Ev}, visitList env op cs = .ok evs →
    ∀ c, c ∈ cs → ∃ e, visit env op c = .ok e ∧ ∀ x, x ∈ e → x ∈ evs
  | n :: ns, evs, h, c, hc => by
    obtain ⟨a, ha, b, hb, rfl⟩ := visitList_cons_iff.1 h
    rcases List.mem_cons.1 hc with rfl | hc
    · exact ⟨a, ha, fun _ => List.mem_append_left b⟩
    · obtain ⟨e, he, hsub⟩ := visitList_mem hb c hc
      exact ⟨e, he, fun x hx => List.mem_append_right a (hsub x hx)⟩

theorem visit_if_iff {env : Env} {op : Op} {t : Node} {body orelse : List Node} {evs : List Ev} :
    visit env op (.node .ifS [t, .node .block body, .node .block orelse]) = .ok evs ↔
      ∃ a c d, visit env op t = .ok a ∧ visitList env op body = .ok c ∧ visitList env op orelse = .ok d ∧
        evs = a ++ c ++ d := by
  show visitList env op _ = _ ↔ _
  simp only [visitList_cons_iff, show visitList env op [] = .ok [] from rfl]
  constructor
  · rintro ⟨a, ha, _, ⟨c, hc, _, ⟨d, hd, _, ⟨⟩, rfl⟩, rfl⟩, rfl⟩
    exact ⟨a, c, d, ha, hc, hd, by rw [List.append_nil, List.append_assoc]⟩
  · rintro ⟨a, c, d, ha, hc, hd, rfl⟩
    exact ⟨a, ha, _, ⟨c, hc, _, ⟨d, hd, [], rfl, rfl⟩, rfl⟩, by rw [List.append_nil, List.append_assoc]⟩

/-! ## The result depends on `self.closure` / `self.globals` as sets only -/

def EnvEq (e1 e2 : Env) : Prop := (∀ x, x ∈ e1.closure ↔ x ∈ e2.closure) ∧ (∀ x, x ∈ e1.globals ↔ x ∈ e2.globals)

section
variable {e1 e2 : Env}

theorem nameIdx_congr (h : EnvEq e1 e2) (x : String) : nameIdx e1 x = nameIdx e2 x := by
  simp only [nameIdx, h.1 x, h.2 x]

theorem idxMarker_congr (h : EnvEq e1 e2) (i : Node) : idxMarker e1 i = idxMarker e2 i := by
  cases i with
  | name x c => exact nameIdx_congr h x
  | _ => rfl

theorem bound_congr (h : EnvEq e1 e2) (n : Node) : bound? e1 n = bound? e2 n := by
  cases n with
  | name x c => simp only [bound?, h.1 x, h.2 x]
  | _ => rfl

theorem knownSlice_congr (h : EnvEq e1 e2) (lo up : Node) : knownSlice e1 lo up = knownSlice e2 lo up := by
  simp only [knownSlice, bound_congr h]

def QVisit (e1 e2 : Env) (n : Node) : Prop := ∀ op, visit e1 op n = visit e2 op n
def QChain (e1 e2 : Env) (n : Node) : Prop := ∀ op strip, chain e1 op strip n = chain e2 op strip n
def QList (e1 e2 : Env) (ns : List Node) : Prop := ∀ op, visitList e1 op ns = visitList e2 op ns

/-- the environment enters `visit` and `chain` only through `idxMarker` and `knownSlice` -/
theorem congr_aux (h : EnvEq e1 e2) : (∀ n, QVisit e1 e2 n ∧ QChain e1 e2 n) ∧ ∀ ns, QList e1 e2 ns :=
  Node.ind (P := fun n => QVisit e1 e2 n ∧ QChain e1 e2 n) (PL := QList e1 e2)
    (nil := ⟨fun _ => rfl, fun _ _ => rfl⟩) (name := fun _ _ => ⟨fun _ => rfl, fun _ _ => rfl⟩)
    (num := fun _ => ⟨fun _ => rfl, fun _ _ => rfl⟩) (str := ⟨fun _ => rfl, fun _ _ => rfl⟩)
    (attr := fun v a c hv => ⟨fun op => by simp only [visit, hv.2 op false, hv.1 op],
      fun op _ => by simp only [chain, hv.2 op false]⟩)
    (sub := fun v i c hi hv hvi => ⟨fun op => by
        rw [visit_sub_eq _ _ _ _ _ hi, visit_sub_eq _ _ _ _ _ hi, hvi.1 op, hv.2 op false, hv.1 op, idxMarker_congr h],
      fun op strip => by
        rw [chain_sub_eq _ _ _ _ _ _ hi, chain_sub_eq _ _ _ _ _ _ hi, hvi.1 op, hv.2 op false, idxMarker_congr h]⟩)
    (subSlice := fun v lo up st c hv hs => ⟨fun op => by
        rw [visit.eq_6, visit.eq_6, hv.2 op true, knownSlice_congr h, hv.1 op, hs.1 op],
      fun op strip => by rw [chain.eq_1, chain.eq_1, hv.2 op true, knownSlice_congr h]⟩)
    (slice := fun a b c ha hb hc => ⟨fun op => by simp only [visit, ha.1 op, hb.1 op, hc.1 op], fun _ _ => rfl⟩)
    (call := fun f args kws hf ha hk => ⟨fun op => by simp only [visit, hf.2 op true, hf.1 op, ha op, hk op],
      fun _ _ => rfl⟩)
    (assign := fun ts v ht hv => ⟨fun op => by simp only [visit, ht op, hv.1 op], fun _ _ => rfl⟩)
    (aug := fun t o v ht hv => ⟨fun op => by simp only [visit, ht.1 _, hv.1 _], fun _ _ => rfl⟩)
    (for_ := fun t it b o ht hi hb ho => ⟨fun op => by simp only [visit, ht.1 _, hi.1 _, hb _, ho _], fun _ _ => rfl⟩)
    (node := fun k cs hcs => ⟨fun op => hcs op, fun _ _ => rfl⟩)
    (lnil := fun _ => rfl)
    (lcons := fun n ns hn hns op => by simp only [visitList, hn.1 op, hns op])

theorem visit_congr (h : EnvEq e1 e2) (op : Op) (n : Node) : visit e1 op n = visit e2 op n :=
  ((congr_aux h).1 n).1 op

theorem enterEnv_congr (h : EnvEq e1 e2) (s : Node) : EnvEq (enterEnv e1 s) (enterEnv e2 s) :=
  ⟨h.1, fun x => by simp only [enterEnv, List.mem_filter, h.2 x]⟩

theorem extractBody_congr : ∀ (body : List Node) {e1 e2 : Env}, EnvEq e1 e2 → extractBody e1 body = extractBody e2 body
  | [], _, _, _ => rfl
  | s :: ss, e1, e2, h => by
    simp only [extractBody]
    rw [visit_congr (enterEnv_congr h s), extractBody_congr ss (enterEnv_congr h s)]

end

/-! ## Soundness: every record is the name of a node of the source in the matching context -/

section
variable {env : Env} {a b : List Node} {n : Node} {ev : Ev}

theorem Src.mono (h : Src env a ev) (hs : ∀ x, x ∈ a → x ∈ b) : Src env b ev :=
  h.imp (fun ⟨m, hm, h⟩ => ⟨m, hs m hm, h⟩) (fun ⟨hk, f, args, kws, hm, h⟩ => ⟨hk, f, args, kws, hs _ hm, h⟩)

theorem Src.inl (h : Src env a ev) : Src env (a ++ b) ev := h.mono fun _ => List.mem_append_left b
theorem Src.inr (h : Src env b ev) : Src env (a ++ b) ev := h.mono fun _ => List.mem_append_right a
theorem Src.tail (h : Src env a ev) : Src env (n :: a) ev := h.mono fun _ => List.mem_cons_of_mem n

def SVisit (env : Env) (n : Node) : Prop := ∀ op ev, ev ∈ recs false env op n → Src env (subs n) ev
def SChain (env : Env) (v : Node) : Prop := ∀ op ev, ev ∈ idxRecs false env op v → Src env (subs v) ev
def SList (env : Env) (ns : List Node) : Prop := ∀ op ev, ev ∈ recsList false env op ns → Src env (subsList ns) ev

theorem mem_recOf {c : Ctx} {op : Op} {nm : ObjName} {ev : Ev} (h : ev ∈ recOf false c op nm) :
    ev.name = nm ∧ ((ev.kind = .rd ∧ c = .load) ∨ (ev.kind = .wr ∧ c = .store)) := by
  cases c <;> simp [recOf] at h <;> simp [h, accKind]

/-- the record of an `Attribute` / `Subscript` node `m` over the base `v` is the name of `m` in its context -/
theorem ssite {m v : Node} {c : Ctx} {op : Op} {ev : Ev} (hv : SVisit env v) (hc : SChain env v) (hm : ctxOf m = some c)
    (h : ev ∈ idxRecs false env op v ++ match topName env m with | none => recs false env op v | some nm => recOf false c op nm) :
    Src env (m :: subs v) ev := by
  rcases List.mem_append.1 h with h | h
  · exact (hc op ev h).tail
  · cases ht : topName env m <;> rw [ht] at h
    · exact (hv op ev h).tail
    · obtain ⟨hn, hk⟩ := mem_recOf h
      exact Or.inl ⟨m, List.mem_cons_self, by rw [ht, hn], hk.imp (.imp_right (hm ▸ congrArg some ·)) (.imp_right (hm ▸ congrArg some ·))⟩

theorem sound_recs : (∀ n, SVisit env n ∧ SChain env n) ∧ ∀ ns, SList env ns :=
  Node.ind (P := fun n => SVisit env n ∧ SChain env n) (PL := SList env)
    (nil := ⟨fun _ _ => nofun, fun _ _ => nofun⟩) (name := fun _ _ => ⟨fun _ _ => nofun, fun _ _ => nofun⟩)
    (num := fun _ => ⟨fun _ _ => nofun, fun _ _ => nofun⟩) (str := ⟨fun _ _ => nofun, fun _ _ => nofun⟩)
    (attr := fun v a c h => ⟨fun op ev hev => ssite h.1 h.2 rfl hev, fun op ev hev => (h.2 op ev hev).tail⟩)
    (sub := fun v i c hi hv h => ⟨fun op ev hev => by
        rw [recs_sub hi, List.append_assoc (recs ..)] at hev
        simp only [List.mem_append (a := ev) (s := recs ..), List.mem_append (a := ev) (t := recs ..)] at hev
        rcases hev with (hev | hev) | hev
        · exact (h.1 op ev hev).inr.tail
        · exact (ssite (m := .sub v i c) hv.1 hv.2 rfl hev).inl
        · exact (h.1 op ev hev).inr.tail,
      fun op ev hev => by
        rw [idxRecs_sub hi] at hev
        exact (List.mem_append.1 hev).elim (fun hev => (h.1 op ev hev).inr.tail) fun hev => (hv.2 op ev hev).inl.tail⟩)
    (subSlice := fun v lo up st c hv h => ⟨fun op ev hev => by
        rw [recs] at hev
        rcases List.mem_append.1 hev with hev | hev
        · exact (ssite (m := .sub v (.slice lo up st) c) hv.1 hv.2 rfl hev).inl
        · exact (h.1 op ev hev).inr.tail,
      fun op ev hev => (hv.2 op ev hev).inl.tail⟩)
    (slice := fun _ _ _ ha hb hc => ⟨fun op ev hev => by
        simp only [recs, List.mem_append] at hev
        rcases hev with (hev | hev) | hev
        · exact (ha.1 op ev hev).inl.inl.tail
        · exact (hb.1 op ev hev).inr.inl.tail
        · exact (hc.1 op ev hev).inr.tail, fun _ _ => nofun⟩)
    (call := fun f args kws hf ha hk => ⟨fun op ev hev => by
        rw [recs] at hev
        simp only [List.mem_append] at hev
        rcases hev with ((hev | hev) | hev) | hev
        · exact (hf.2 op ev hev).inl.inl.tail
        · cases ht : topName env f <;> rw [ht] at hev
          · exact (hf.1 op ev hev).inl.inl.tail
          · cases List.mem_singleton.1 hev
            exact Or.inr ⟨rfl, f, args, kws, List.mem_cons_self, ht⟩
        · exact (ha op ev hev).inr.inl.tail
        · exact (hk op ev hev).inr.tail, fun _ _ => nofun⟩)
    (assign := fun _ _ ht hv => ⟨fun op ev hev =>
        (List.mem_append.1 hev).elim (fun h => (ht op ev h).inl.tail) fun h => (hv.1 op ev h).inr.tail, fun _ _ => nofun⟩)
    (aug := fun _ _ _ ht hv => ⟨fun op ev hev =>
        (List.mem_append.1 hev).elim (fun h => (ht.1 _ ev h).inl.tail) fun h => (hv.1 _ ev h).inr.tail, fun _ _ => nofun⟩)
    (for_ := fun _ _ _ _ ht hi hb ho => ⟨fun op ev hev => by
        simp only [recs, List.mem_append] at hev
        rcases hev with ((hev | hev) | hev) | hev
        · exact (ht.1 _ ev hev).inl.inl.inl.tail
        · exact (hi.1 _ ev hev).inr.inl.inl.tail
        · exact (hb _ ev hev).inr.inl.tail
        · exact (ho _ ev hev).inr.tail, fun _ _ => nofun⟩)
    (node := fun _ _ h => ⟨fun op ev hev => (h op ev hev).tail, fun _ _ => nofun⟩)
    (lnil := fun _ _ => nofun)
    (lcons := fun _ _ hn hns op ev hev =>
      (List.mem_append.1 hev).elim (fun h => (hn.1 op ev h).inl) fun h => (hns op ev h).inr)

theorem visit_sound {n : Node} {op : Op} {evs : List Ev} (h : visit env op n = .ok evs) {ev : Ev} (hev : ev ∈ evs) :
    Src env (subs n) ev := by
  cases visit_recs (d := false) h
  exact (sound_recs.1 n).1 op ev hev

theorem body_sound : ∀ (body : List Node) {env : Env} {evs : List Ev}, extractBody env body = .ok evs →
    ∀ ev, ev ∈ evs → ∃ s env', s ∈ body ∧ (∀ x, x ∈ env'.closure ↔ x ∈ env.closure) ∧ (∀ x, x ∈ env'.globals → x ∈ env.globals) ∧
      Src env' (subs s) ev
  | [], env, evs, h, ev, hev => by cases h; cases hev
  | s :: ss, env, evs, h, ev, hev => by
    obtain ⟨a, h1, b, h2, rfl⟩ := extractBody_cons_iff.1 h
    rcases List.mem_append.1 hev with hev | hev
    · exact ⟨s, enterEnv env s, List.mem_cons_self, fun _ => Iff.rfl, fun _ => enterEnv_globals, visit_sound h1 hev⟩
    · obtain ⟨s', env', hs', hc, hgl, hsrc⟩ := body_sound ss h2 ev hev
      exact ⟨s', env', List.mem_cons_of_mem s hs', hc, fun x hx => enterEnv_globals (hgl x hx), hsrc⟩

end

/-! ## Traces against `acc` -/

variable {ρ : REnv}

theorem accList_append {a b : List Node} {e : Access} : accList ρ (a ++ b) e ↔ accList ρ a e ∨ accList ρ b e := by
  induction a with
  | nil => exact ⟨.inr, fun h => h.resolve_left id⟩
  | cons n ns ih => simp only [List.cons_append, accList, ih, or_assoc]

theorem accList_mem {cs : List Node} {c : Node} {e : Access} (hc : c ∈ cs) (h : acc ρ c e) : accList ρ cs e := by
  induction cs with
  | nil => cases hc
  | cons n ns ih =>
    rcases List.mem_cons.1 hc with rfl | hc
    · exact .inl h
    · exact .inr (ih hc)

theorem accList_idxNodes : ∀ (v : Node) {e : Access}, accList ρ (idxNodes v) e → accIdx ρ v e
  | .attr v a c, e, h => accList_idxNodes v h
  | .sub v i c, e, h => by
    rcases accList_append.1 h with h | h | h
    · exact .inl (accList_idxNodes v h)
    · exact .inr h
    · exact h.elim
  | .nil, _, h | .name .., _, h | .num _, _, h | .str, _, h | .slice .., _, h | .call .., _, h | .assign .., _, h
  | .aug .., _, h | .for_ .., _, h | .node .., _, h => h

theorem accList_cons_trace {n : Node} {rest : List Node} {t tr : List Access} (h : ∀ e, e ∈ t → acc ρ n e)
    (hr : ∀ e, e ∈ tr → accList ρ rest e) : ∀ e, e ∈ t ++ tr → accList ρ (n :: rest) e :=
  List.forall_mem_append.2 ⟨fun e he => .inl (h e he), fun e he => .inr (hr e he)⟩

/-- every access of every execution is an access in the sense of `acc` -/
theorem exec_acc {ns : List Node} {tr : List Access} (h : Exec ρ ns tr) : ∀ e, e ∈ tr → accList ρ ns e := by
  induction h with
  | nil | stop => nofun
  | leaf _ _ ih | forBreak _ ih | nodeDone _ ih => exact fun e he => .inr (ih e he)
  | @attrR v a c _ _ _ p hr _ hp _ ih1 ih2 =>
    refine accList_cons_trace (List.forall_mem_append.2 ⟨fun e he => ?_, fun e he => ?_⟩) ih2 <;> rw [acc, if_pos hr]
    · exact .inr (accList_idxNodes v (ih1 e he))
    · exact .inl ⟨p, hp, List.mem_singleton.1 he⟩
  | @subR v i c _ _ _ p hr _ hp _ ih1 ih2 =>
    refine accList_cons_trace (List.forall_mem_append.2 ⟨fun e he => ?_, fun e he => ?_⟩) ih2 <;> rw [acc, if_pos hr]
    · exact (accList_idxNodes (.sub v i c) (ih1 e he)).imp_left .inr
    · exact .inl (.inl ⟨p, hp, List.mem_singleton.1 he⟩)
  | attrN hr _ _ ih1 ih2 | subN hr _ _ ih1 ih2 =>
    exact accList_cons_trace
      (fun e he => by simpa only [accList, acc, hr, or_false, Bool.false_eq_true, if_false] using ih1 e he) ih2
  | slice _ _ ih1 ih2 =>
    exact accList_cons_trace (fun e he => by simpa only [accList, acc, or_false] using ih1 e he) ih2
  | @callR f args kws _ _ _ _ _ p hr _ hp _ _ _ ih1 ih2 ih3 ih4 =>
    refine accList_cons_trace (List.forall_mem_append.2 ⟨List.forall_mem_append.2 ⟨List.forall_mem_append.2
      ⟨fun e he => ?_, fun e he => ?_⟩, fun e he => ?_⟩, fun e he => ?_⟩) ih4 <;> rw [acc, if_pos hr]
    · exact .inl (.inr (accList_idxNodes f (ih1 e he)))
    · exact .inr (.inl (ih2 e he))
    · exact .inr (.inr (ih3 e he))
    · exact .inl (.inl ⟨p, hp, List.mem_singleton.1 he⟩)
  | @callN f args kws _ _ _ hr _ _ ih1 ih2 =>
    exact accList_cons_trace (fun e he => by
      simpa only [accList, accList_append, acc, hr, Bool.false_eq_true, if_false] using ih1 e he) ih2
  | assign _ _ _ ih1 ih2 ih3 =>
    exact accList_cons_trace (List.forall_mem_append.2
      ⟨fun e he => .inr (by simpa only [accList, or_false] using ih1 e he), fun e he => .inl (ih2 e he)⟩) ih3
  | aug _ _ _ ih1 ih2 ih3 =>
    exact accList_cons_trace (List.forall_mem_append.2
      ⟨fun e he => .inr (by simpa only [accList, or_false] using ih1 e he),
       fun e he => .inl (by simpa only [accList, or_false] using ih2 e he)⟩) ih3
  | forStart _ _ ih1 ih2 =>
    -- the loop itself runs with the iterable already evaluated (`nil`)
    exact List.forall_mem_append.2 ⟨fun e he => .inl (.inr (.inl (by simpa only [accList, or_false] using ih1 e he))),
      fun e he => (ih2 e he).imp_left fun h => h.imp_right fun h => .inr (h.resolve_left id)⟩
  | forIter _ _ ih1 ih2 =>
    exact List.forall_mem_append.2 ⟨fun e he => .inl ((ih1 e he).imp_right fun h => .inr (.inl h)), ih2⟩
  | forElse _ _ ih1 ih2 => exact accList_cons_trace (fun e he => .inr (.inr (.inr (ih1 e he)))) ih2
  | nodeStep hc _ _ ih1 ih2 =>
    exact List.forall_mem_append.2
      ⟨fun e he => .inl (accList_mem hc (by simpa only [accList, or_false] using ih1 e he)), ih2⟩

/-! ## From names to objects -/

theorem resolve_append (v : Val) (p q : List CStep) :
    resolve v (p ++ q) = (resolve v p).bind (fun w => resolve w q) := by
  induction p generalizing v with
  | nil => simp [resolve]
  | cons st p ih =>
    cases st with
    | fld a => simp only [List.cons_append, resolve]; cases getattr v a <;> simp [ih]
    | sel c => simp only [List.cons_append, resolve]; cases rget v c <;> simp [ih]

mutual
theorem flattenObj_reach : ∀ (o : Obj) (u : Val), u ∈ flattenObj o → ∃ q, resolve (.obj o) q = some u
  | .sig .., u, h | .named .., u, h => by simp [flattenObj] at h; subst h; exact ⟨[], rfl⟩
  | .lst xs, u, h => by
    simp only [flattenObj] at h
    exact flattenList_reach xs 0 xs (by simp) u h
  | .other _, u, h | .none, u, h => by simp [flattenObj] at h
/-- an element of the flattened suffix `ys = all.drop k` is reached through its index in `all` -/
theorem flattenList_reach : ∀ (ys : List Obj) (k : Nat) (all : List Obj), all.drop k = ys → ∀ u, u ∈ flattenList ys →
    ∃ q, resolve (.obj (.lst all)) q = some u
  | [], k, all, _, u, h => by simp [flattenList] at h
  | y :: ys, k, all, hd, u, h => by
    simp only [flattenList, List.mem_append] at h
    rcases h with h | h
    · obtain ⟨q, hq⟩ := flattenObj_reach y u h
      refine ⟨.sel (.idx k) :: q, ?_⟩
      have hk : all[k]? = some y := by
        have := congrArg List.head? hd
        simpa [List.head?_drop] using this
      simp [resolve, rget, getitem, listIdx, hk, hq, pure, Except.pure]
    · refine flattenList_reach ys (k + 1) all ?_ u h
      rw [← List.drop_drop, hd]; simp
end

theorem lookEnd_reach (v u : Val) (h : u ∈ lookEnd v) : ∃ q, resolve v q = some u := by
  cases v with
  | obj o => exact flattenObj_reach o u h
  | slc id lo hi => cases List.mem_singleton.1 h; exact ⟨[], rfl⟩
  | func f => cases h

theorem mem_flattenList {xs : List Obj} {u : Val} : u ∈ flattenList xs ↔ ∃ y, y ∈ xs ∧ u ∈ flattenObj y := by
  induction xs with
  | nil => simp [flattenList]
  | cons x xs ih => simp [flattenList, ih]

theorem listIdx_mem {α : Type} {xs : List α} {k : Int} {x : α} (h : listIdx xs k = some x) : x ∈ xs := by
  unfold listIdx at h
  split at h
  · exact List.mem_of_getElem? h
  · split at h
    · exact List.mem_of_getElem? h
    · cases h

theorem listSlice_mem {α : Type} {xs : List α} {a b : Int} {x : α} (h : x ∈ listSlice xs a b) : x ∈ xs :=
  List.mem_of_mem_drop (List.mem_of_mem_take h)

theorem lookAll_mem {σ : Valuation} {st : List NStep} : ∀ {vs : List Val} {ws : List Val}, lookAll σ st vs = .ok ws →
    ∀ v, v ∈ vs → ∃ w', look σ st v = .ok w' ∧ ∀ x, x ∈ w' → x ∈ ws
  | y :: ys, ws, h, v, hv => by
    rw [lookAll, bind_ok] at h
    obtain ⟨a, ha, h⟩ := h
    obtain ⟨b, hb, h⟩ := bind_ok.1 h
    cases h
    rcases List.mem_cons.1 hv with rfl | hv
    · exact ⟨a, ha, fun _ => List.mem_append_left b⟩
    · obtain ⟨w', hw', hs⟩ := lookAll_mem hb v hv
      exact ⟨w', hw', fun x hx => List.mem_append_right a (hs x hx)⟩

theorem boundVal_of_match {σ : Valuation} {b : Bound} {a : Option Int} (h : boundMatch σ b a) :
    ∃ k, a = some k ∧ boundVal σ b = .ok k := by
  cases b with
  | num n => exact ⟨n, h, rfl⟩
  | var c x =>
    obtain ⟨v, h1, h2⟩ := h
    exact ⟨v, h2, by rw [boundVal, h1]; rfl⟩

theorem isNone_iff {v : Val} : v.isNone = true ↔ v = .obj .none := by
  cases v with
  | obj o => cases o <;> simp [Val.isNone]
  | _ => simp [Val.isNone]

theorem look_nil (σ : Valuation) (v : Val) : look σ [] v = .ok (lookEnd v) := by
  rw [look]
  split
  · cases isNone_iff.1 ‹_›; rfl
  · rfl

theorem rget_none {c : RSel} : rget (.obj .none) c = none := by
  cases c with
  | idx k => rfl
  | slc a b => cases a <;> cases b <;> rfl

theorem rget_named {id : Nat} {fs : List (String × Obj)} {c : RSel} : rget (.obj (.named id fs)) c = none := by
  cases c with
  | idx k => rfl
  | slc a b => cases a <;> cases b <;> rfl

theorem not_isNone_of_rget {v r : Val} {c : RSel} (h : rget v c = some r) : ¬ v.isNone = true := fun hn => by
  cases isNone_iff.1 hn; rw [rget_none] at h; cases h

theorem rget_idx {v r : Val} {k : Int} (h : rget v (.idx k) = some r) : getitem v (.idx k) = .ok (some r) := by
  simp only [rget] at h
  split at h
  · cases h; assumption
  · cases h

theorem rget_slc {v r : Val} {a b : Option Int} (h : rget v (.slc a b) = some r) :
    ∃ va vb, a = some va ∧ b = some vb ∧ getitem v (.slc va vb) = .ok (some r) := by
  cases a <;> cases b <;> simp only [rget] at h <;> try cases h
  split at h
  · cases h; exact ⟨_, _, rfl, rfl, ‹_›⟩
  · cases h

theorem sliceLast_tail {b : CStep} {bs : List CStep} (h : sliceLast (b :: bs) = true) : sliceLast bs = true := by
  cases bs with
  | nil => rfl
  | cons c cs =>
    cases b with
    | fld a => exact h
    | sel s => cases s with
      | idx k => exact h
      | slc a b => cases h

theorem sliceLast_slc {a b : Option Int} {bs : List CStep} (h : sliceLast (.sel (.slc a b) :: bs) = true) : bs = [] := by
  cases bs with
  | nil => rfl
  | cons c cs => cases h

section
variable {σ : Valuation} {v r : Val} {rest : List NStep} {ws : List Val}

theorem look_fld {a : String} (hg : getattr v a = .ok r) (hl : look σ (.fld a :: rest) v = .ok ws) :
    look σ rest r = .ok ws := by
  rw [look, if_neg (fun h => by cases isNone_iff.1 h; cases hg), hg] at hl
  exact hl

theorem look_sel {i : Idx} {c : RSel} (hi : i ≠ .star) (hm : selMatch σ i c) (hr : rget v c = some r)
    (hl : look σ (.sel i :: rest) v = .ok ws) : look σ rest r = .ok ws := by
  have hn := not_isNone_of_rget hr
  cases i with
  | star => exact absurd rfl hi
  | num n =>
    cases c with
    | slc a b => cases hm
    | idx k =>
      cases (hm : k = n)
      rw [look, if_neg hn, rget_idx hr] at hl
      exact hl
  | var cl x =>
    cases c with
    | slc a b => cases hm
    | idx k =>
      have hb : boundVal σ (.var cl x) = .ok k := by rw [boundVal, (hm : σ cl x = some k)]; rfl
      rw [look, if_neg hn, hb, ok_bind, rget_idx hr] at hl
      exact hl
  | slice lo up =>
    cases c with
    | idx k => cases hm
    | slc a b =>
      obtain ⟨va, vb, rfl, rfl, hg⟩ := rget_slc hr
      obtain ⟨_, h1, hva⟩ := boundVal_of_match hm.1
      obtain ⟨_, h2, hvb⟩ := boundVal_of_match hm.2
      cases h1; cases h2
      rw [look, if_neg hn, hva, ok_bind, hvb, ok_bind, hg] at hl
      exact hl

end

/-- when the recorded name matches the path, every NamedObject reached is reachable from one of the objects
`lookup_variable` / `expand_array_index` put into the set: the recorded object is the accessed one, one it is a part of (a
field, bit or slice of it), or, for a list, one of its elements -/
theorem look_reaches {σ : Valuation} : ∀ {nm : ObjName} {p : List CStep}, Matches σ nm p → sliceLast p = true →
    ∀ {v0 v : Val} {ws : List Val}, resolve v0 p = some v → look σ nm v0 = .ok ws →
    ∀ u, u ∈ lookEnd v → ∃ w, w ∈ ws ∧ ∃ q, resolve w q = some u := by
  intro nm p hm
  induction hm with
  | nil =>
    intro _ v0 v ws hr hl u hu
    cases hr
    rw [look_nil] at hl; cases hl
    exact ⟨u, hu, [], rfl⟩
  | @cons a b as bs hstep hrest ih =>
    intro hsl v0 v ws hr hl u hu
    have hsl' := sliceLast_tail hsl
    have hr0 := hr
    cases a with
    | fld f =>
      cases b with
      | sel c => cases hstep
      | fld g =>
        cases (hstep : f = g)
        rw [resolve] at hr
        split at hr
        · exact ih hsl' hr (look_fld ‹_› hl) u hu
        · cases hr
    | sel i =>
      cases b with
      | fld g => cases i <;> cases hstep
      | sel c =>
        rw [resolve] at hr
        split at hr
        case h_2 => cases hr
        rename_i r hrg
        by_cases hi : i = .star
        · subst hi
          rw [look, if_neg (not_isNone_of_rget hrg)] at hl
          split at hl
          · -- `Signal[*]` is the signal itself
            cases hl
            obtain ⟨q', hq'⟩ := lookEnd_reach v u hu
            refine ⟨v0, List.mem_singleton_self _, (.sel c :: bs) ++ q', ?_⟩
            rw [resolve_append, hr0]; exact hq'
          · obtain ⟨cs, hcs, hl⟩ := bind_ok.1 hl
            cases v0 with
            | obj o =>
              cases o with
              | lst xs =>
                cases hcs
                cases c with
                | idx k =>
                  have hg := rget_idx hrg
                  rw [getitem] at hg
                  cases hx : listIdx xs k with
                  | none => rw [hx] at hg; cases hg
                  | some x =>
                    rw [hx] at hg; cases hg
                    obtain ⟨w', hw', hsub⟩ := lookAll_mem hl (.obj x) (List.mem_map_of_mem (listIdx_mem hx))
                    obtain ⟨w, hw, q, hq⟩ := ih hsl' hr hw' u hu
                    exact ⟨w, hsub w hw, q, hq⟩
                | slc a b =>
                  -- a slice of the list is the last step: its elements are elements of the list
                  cases sliceLast_slc hsl
                  cases hrest
                  cases hr
                  obtain ⟨va, vb, rfl, rfl, hg⟩ := rget_slc hrg
                  cases hg
                  obtain ⟨y, hy, huy⟩ := mem_flattenList.1 hu
                  obtain ⟨w', hw', hsub⟩ := lookAll_mem hl (.obj y) (List.mem_map_of_mem (listSlice_mem hy))
                  rw [look_nil] at hw'; cases hw'
                  exact ⟨u, hsub u huy, [], rfl⟩
              | _ => cases hcs
            | _ => cases hcs
        · exact ih hsl' hr (look_sel hi hstep hrg hl) u hu

/-- from names to objects: a record that matches a path `s.<p>` of the component `.named id fs`, looked up by
`extract_obj_from_names`, yields (when the lookup does not raise) an object from which every NamedObject the path reaches can be
reached -/
theorem lookName_reaches {σ : Valuation} {id : Nat} {fs : List (String × Obj)} {funcs : List String}
    {nm : ObjName} {p : List CStep} (hm : Matches σ nm (.fld "s" :: p)) (hsl : sliceLast p = true)
    {v : Val} (hr : resolve (.obj (.named id fs)) p = some v) {ws : List Val}
    (hl : lookName σ (.named id fs) funcs nm = .ok ws) :
    ∀ u, u ∈ lookEnd v → ∃ w, w ∈ ws ∧ ∃ q, resolve w q = some u := by
  cases hm with
  | @cons a _ as bs hstep hrest =>
    cases a with
    | sel i => cases i <;> cases hstep
    | fld f =>
      cases (hstep : f = "s")
      rw [lookName, if_pos rfl] at hl
      -- a component cannot be indexed, so the path, hence the name, goes on with a field
      have hdrop : as.dropWhile isSel = as := by
        cases hrest with
        | nil => rfl
        | @cons a' b' _ _ hstep' _ =>
          cases a' with
          | fld g => rfl
          | sel i =>
            cases b' with
            | fld g => cases i <;> cases hstep'
            | sel c =>
              rw [resolve, rget_named] at hr
              cases hr
      rw [hdrop] at hl
      exact look_reaches hrest hsl hr hl

end PV.AstRW
