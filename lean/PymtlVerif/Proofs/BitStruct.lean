import PymtlVerif.Model.BitStruct
import PymtlVerif.Proofs.Pack
import PymtlVerif.Props.C05  -- `concat_spec`, `get_slice`: what `concat` and a slice of a `Bits` return
/-!
Helper lemmas about `Model/BitStruct.lean`: the code-shaped packing functions equal
the structural specification, the bijection, the layout with explicit offsets.
(The heap / copy-semantics lemmas are in `Proofs/BitStructHeap.lean`.)

A struct `pair a b` and a list `acons x xs` are packed the same way, `hi * 2 ^ w + lo` with `lo` of width
`w` (`hi, lo = a, b` resp. `xs, x`); `cat_div`, `Nat.mul_add_mod_of_lt` and the `slice_*` lemmas say what there is to know about
that form (`cat_div` and `slice_slice` are `Proofs/Pack.lean` in this spelling and for the model's `slice`), and `Ty.arrInd` lets
a proof about types treat `arr (k+1) T` as it treats `pair`.

The layout is stated through `Part v T f F o` (`f : F` sits at bits `[o, o + F.width)` of the packed `v : T`): the one-step
parts of a struct and of a list (`part_pair`, `part_acons`) compose by `Part.trans`, which is how a field, an element
(`part_field`, `part_elem`) or anything deeper is located; `Part.within` finds a part in any word that holds the value (all leaves
at once: `leaf_layout_at`); `Part.getSlice` reads a part back through `Bits.__getitem__`.
-/
namespace PV.BitStruct
open PV.Bits (B catSpec catSpec_append)

theorem cat_div (a b w : Nat) (hb : b < 2 ^ w) : (a * 2 ^ w + b) / 2 ^ w = a := by
  rw [Nat.add_comm, Nat.mul_comm, Pack.cat_div hb]

theorem div_sub_add_div (b e u w : Nat) (h : u + w ≤ e) : b / 2 ^ (e - (u + w)) / 2 ^ w = b / 2 ^ (e - u) := by
  rw [Nat.div_div_eq_div_mul, ← Nat.pow_add, Nat.sub_add_eq, Nat.sub_add_cancel (Nat.le_sub_of_add_le' h)]

theorem slice_eq (b lo w : Nat) : slice b lo w = b / 2 ^ lo % 2 ^ w := by
  rw [slice, Nat.shiftRight_eq_div_pow]

theorem slice_zero_of_lt (b w : Nat) (h : b < 2 ^ w) : slice b 0 w = b := by
  rw [slice_eq, Nat.pow_zero, Nat.div_one, Nat.mod_eq_of_lt h]

theorem slice_slice (b lo w o w' : Nat) (h : o + w' ≤ w) :
    slice (slice b lo w) o w' = slice b (lo + o) w' := by
  rw [slice_eq, slice_eq, slice_eq, Pack.field_field _ _ _ _ _ h]

theorem sum_rep (k : Nat) (xs : List Nat) : (rep k xs).sum = k * xs.sum := by
  induction k with
  | zero => rw [rep, Nat.zero_mul]; rfl
  | succ k ih => rw [rep, List.sum_append, ih, Nat.succ_mul, Nat.add_comm]

theorem width_eq_sum_leaves (T : Ty) : T.width = T.leaves.sum := by
  induction T with
  | bits n => exact (Nat.add_zero n).symm
  | unit => rfl
  | pair a b iha ihb => rw [Ty.width, Ty.leaves, List.sum_append, iha, ihb]
  | arr k t ih => rw [Ty.width, Ty.leaves, sum_rep, ih]

theorem iterN_add (w : Nat) (f : Nat → Nat) (hf : ∀ s, f s = s + w) (k s : Nat) :
    iterN f k s = s + k * w := by
  induction k generalizing s with
  | zero => rw [iterN, Nat.zero_mul]; rfl
  | succ k ih => rw [iterN, ih, hf, Nat.succ_mul, Nat.add_assoc, Nat.add_comm w]

theorem nbitsFrom_eq (T : Ty) (s : Nat) : nbitsFrom T s = s + T.width := by
  induction T generalizing s with
  | bits n => rfl
  | unit => rfl
  | pair a b iha ihb => rw [nbitsFrom, iha, ihb, Ty.width, Nat.add_assoc]
  | arr k t ih => exact iterN_add t.width _ ih k s

theorem nbitsPy_eq (T : Ty) : nbitsPy T = T.width := by rw [nbitsPy, nbitsFrom_eq, Nat.zero_add]

theorem toBits_width {v T} (h : HasTy v T) : (toBits v).1 = T.width := by
  induction h with
  | bits n v h => rfl
  | unit => rfl
  | pair ha hb iha ihb => simp only [toBits, Ty.width, iha, ihb]
  | anil => exact (Nat.zero_mul _).symm
  | acons hx hxs ihx ihxs => simp only [toBits, Ty.width, ihx, ihxs, Nat.succ_mul]

theorem leafVals_widths {v T} (h : HasTy v T) : (leafVals v).map (·.1) = T.leaves := by
  induction h with
  | bits n v h => rfl
  | unit => rfl
  | pair ha hb iha ihb => rw [leafVals, List.map_append, iha, ihb, Ty.leaves]
  | anil => rfl
  | acons hx hxs ihx ihxs => rw [leafVals, List.map_append, ihx, ihxs, Ty.leaves, Ty.leaves, rep]

theorem catSpec_concatArgs (v : Val) : catSpec (concatArgs v) = toBits v := by
  induction v with
  | bits n v => simp [concatArgs, catSpec, toBits]
  | unit => rfl
  | pair a b iha ihb => rw [concatArgs, catSpec_append, iha, ihb, toBits]
  | anil => rfl
  | acons x xs ihx ihxs => rw [concatArgs, catSpec_append, ihx, ihxs, toBits]

theorem concatArgs_valid {v T} (h : HasTy v T) : ∀ x ∈ concatArgs v, x.v < 2 ^ x.n := by
  induction h with
  | bits n v h => intro x hx; cases List.mem_singleton.1 hx; exact h
  | unit => intro x hx; cases hx
  | pair _ _ iha ihb => intro x hx; exact (List.mem_append.1 hx).elim (iha x) (ihb x)
  | anil => intro x hx; cases hx
  | acons _ _ ihx ihxs => intro x hx; exact (List.mem_append.1 hx).elim (ihxs x) (ihx x)

theorem toBits_lt {v T} (h : HasTy v T) : (toBits v).2 < 2 ^ T.width := by
  rw [← toBits_width h, ← catSpec_concatArgs]
  exact PV.Bits.catSpec_lt _ (concatArgs_valid h)

/-- `to_bits` of a typed value: the structural packing, as a `Bits` of the class width;
a ValueError when the width is not a legal `Bits` width -/
theorem toBitsPy_eq {v T} (h : HasTy v T) :
    (1 ≤ T.width ∧ T.width < 1024 → toBitsPy v = .ok ⟨T.width, (toBits v).2⟩) ∧
    (T.width = 0 ∨ T.width ≥ 1024 → toBitsPy v = .error .range) := by
  have hs := PV.C05.concat_spec (concatArgs v) (concatArgs_valid h)
  rw [catSpec_concatArgs, toBits_width h] at hs
  exact ⟨hs.1, hs.2.1⟩

/-- induction over types with a list type seen as `HasTy` sees it: empty, or one element more
(`PV.BStructProg.Ty.arrCases` is the coarser view the generators take: a list type, or anything else) -/
theorem Ty.arrInd {motive : Ty → Prop} (bits : ∀ n, motive (.bits n)) (unit : motive .unit)
    (pair : ∀ A B, motive A → motive B → motive (.pair A B)) (anil : ∀ T, motive (.arr 0 T))
    (acons : ∀ k T, motive T → motive (.arr k T) → motive (.arr (k + 1) T)) : ∀ T, motive T
  | .bits n => bits n
  | .unit => unit
  | .pair A B => pair A B (arrInd bits unit pair anil acons A) (arrInd bits unit pair anil acons B)
  | .arr k T => by
      induction k with
      | zero => exact anil T
      | succ k ih => exact acons k T (arrInd bits unit pair anil acons T) ih

theorem fromBits_arr_succ (k : Nat) (T : Ty) (b : Nat) : fromBits (.arr (k + 1) T) b =
    .acons (fromBits T (b % 2 ^ T.width)) (fromBits (.arr k T) (b / 2 ^ T.width)) := rfl

theorem hasTy_fromBits (T : Ty) : ∀ b, HasTy (fromBits T b) T := by
  induction T using Ty.arrInd with
  | bits n => exact fun b => .bits n _ (Nat.mod_lt _ (Nat.two_pow_pos n))
  | unit => exact fun _ => .unit
  | pair A B ihA ihB => exact fun b => .pair (ihA _) (ihB _)
  | anil T => exact fun _ => .anil
  | acons k T ihT ihk => exact fun b => .acons (ihT _) (ihk _)

theorem from_to {v T} (h : HasTy v T) : fromBits T (toBits v).2 = v := by
  induction h with
  | bits n v h => rw [toBits, fromBits, Nat.mod_eq_of_lt h]
  | unit => rfl
  | pair ha hb iha ihb =>
    simp only [toBits, fromBits]
    rw [toBits_width hb, cat_div _ _ _ (toBits_lt hb), Nat.mul_add_mod_of_lt (toBits_lt hb), iha, ihb]
  | anil => rfl
  | acons hx hxs ihx ihxs =>
    simp only [toBits, fromBits_arr_succ]
    rw [toBits_width hx, cat_div _ _ _ (toBits_lt hx), Nat.mul_add_mod_of_lt (toBits_lt hx), ihx, ihxs]

theorem to_from_mod (T : Ty) : ∀ b, (toBits (fromBits T b)).2 = b % 2 ^ T.width := by
  have cat : ∀ b u w : Nat, b / 2 ^ w % 2 ^ u * 2 ^ w + b % 2 ^ w = b % 2 ^ (u + w) := fun b u w => by
    rw [Nat.add_comm u, Nat.pow_add, Nat.mod_mul, Nat.add_comm, Nat.mul_comm]
  induction T using Ty.arrInd with
  | bits n => exact fun _ => rfl
  | unit => exact fun b => (Nat.mod_one b).symm
  | pair A B ihA ihB =>
    intro b
    simp only [fromBits, toBits]
    rw [toBits_width (hasTy_fromBits B _), ihA, ihB, Nat.mod_mod]
    exact cat b _ _
  | anil T => exact fun b => by rw [Ty.width, Nat.zero_mul]; exact (Nat.mod_one b).symm
  | acons k T ihT ihk =>
    intro b
    simp only [fromBits_arr_succ, toBits]
    rw [toBits_width (hasTy_fromBits T _), ihk, ihT, Nat.mod_mod]
    exact (cat b _ _).trans (congrArg (b % 2 ^ ·) (Nat.succ_mul k _).symm)

theorem to_from : ∀ (T : Ty) (b : Nat), b < 2 ^ T.width → (toBits (fromBits T b)).2 = b := by
  intro T b hb
  rw [to_from_mod, Nat.mod_eq_of_lt hb]

theorem eq_iff_bits {v w : Val} {T : Ty} (hv : HasTy v T) (hw : HasTy w T) :
    v = w ↔ (toBits v).2 = (toBits w).2 :=
  ⟨fun h => by rw [h], fun h => by rw [← from_to hv, ← from_to hw, h]⟩

/-- `to_from_mod` on the side of the argument; the form in which `fromBitsAt_eq` drops the bits above a field -/
theorem fromBits_mod (T : Ty) (b : Nat) : fromBits T (b % 2 ^ T.width) = fromBits T b := by
  rw [← to_from_mod, from_to (hasTy_fromBits T b)]

/-! ### the generated `from_bits` (slices counted down from `total_nbits`) equals the specification -/

/-- the round taken last (the lowest slice) supplies element 0 -/
theorem iterArr_succ (f : Nat → Val × Nat) (k e : Nat) (acc : Val) : iterArr f (k + 1) e acc =
    (.acons (f (iterArr f k e acc).2).1 (iterArr f k e acc).1, (f (iterArr f k e acc).2).2) := by
  induction k generalizing e acc with
  | zero => rfl
  | succ k ih => rw [iterArr, ih, iterArr]

/-- `[T]*(k+1)` below `e` unpacks as a struct would: elements `k … 1` as `[T]*k`, then element 0 below them -/
theorem fromBitsAt_arr_succ (k : Nat) (T : Ty) (e b : Nat) : fromBitsAt (.arr (k + 1) T) e b =
    (.acons (fromBitsAt T (fromBitsAt (.arr k T) e b).2 b).1 (fromBitsAt (.arr k T) e b).1,
     (fromBitsAt T (fromBitsAt (.arr k T) e b).2 b).2) :=
  iterArr_succ _ k e .anil

theorem fromBitsAt_eq (T : Ty) : ∀ e b, T.width ≤ e →
    fromBitsAt T e b = (fromBits T (b / 2 ^ (e - T.width)), e - T.width) := by
  induction T using Ty.arrInd with
  | bits n => intro e b _; rw [fromBitsAt, slice_eq, fromBits, Ty.width]
  | unit => exact fun _ _ _ => rfl
  | pair A B ihA ihB =>
    intro e b h
    simp only [Ty.width] at h ⊢
    simp only [fromBitsAt, fromBits]
    rw [ihA e b (Nat.le_trans (Nat.le_add_right _ _) h), ihB _ b (Nat.le_sub_of_add_le' h), fromBits_mod, div_sub_add_div b e _ _ h, Nat.sub_sub]
  | anil T => intro e b _; rw [Ty.width, Nat.zero_mul]; rfl
  | acons k T ihT ihk =>
    intro e b h
    simp only [Ty.width] at h ihk ⊢
    rw [Nat.succ_mul] at h ⊢
    rw [fromBitsAt_arr_succ, fromBits_arr_succ, ihk e b (Nat.le_trans (Nat.le_add_right _ _) h), ihT _ b (Nat.le_sub_of_add_le' h), fromBits_mod,
      div_sub_add_div b e _ _ h, Nat.sub_sub]

theorem fromBitsAt_snd (T : Ty) (e b : Nat) (h : T.width ≤ e) : (fromBitsAt T e b).2 = e - T.width := by
  rw [fromBitsAt_eq T e b h]

theorem hasTy_fromBitsAt (T : Ty) (e b : Nat) (h : T.width ≤ e) : HasTy (fromBitsAt T e b).1 T := by
  rw [fromBitsAt_eq T e b h]; exact hasTy_fromBits T _

/-- `from_bits` of a `Bits` of the class width is the structural unpacking; any other width fails the assertion -/
theorem fromBitsPy_eq (T : Ty) (n b : Nat) :
    (n = T.width → fromBitsPy T ⟨n, b⟩ = .ok (fromBits T b)) ∧
    (n ≠ T.width → fromBitsPy T ⟨n, b⟩ = .error .assert) := by
  constructor
  · intro h
    subst h
    rw [fromBitsPy, nbitsPy_eq, if_neg (fun h => h rfl), fromBitsAt_eq T _ b (Nat.le_refl _),
      Nat.sub_self, Nat.pow_zero, Nat.div_one]
  · intro h
    rw [fromBitsPy, nbitsPy_eq, if_pos (fun e => h e.symm)]

theorem hasTy_of_fromBitsPy {T : Ty} {b : B} {v : Val} (h : fromBitsPy T b = .ok v) : HasTy v T := by
  obtain ⟨n, x⟩ := b
  by_cases hn : n = T.width
  · rw [(fromBitsPy_eq T n x).1 hn] at h; cases h; exact hasTy_fromBits T x
  · rw [(fromBitsPy_eq T n x).2 hn] at h; cases h

theorem fromBitsPy_toBits {v T} (h : HasTy v T) : fromBitsPy T ⟨T.width, (toBits v).2⟩ = .ok v := by
  rw [(fromBitsPy_eq T T.width _).1 rfl, from_to h]

theorem toBitsPy_fromBits (T : Ty) (b : Nat) (hb : b < 2 ^ T.width) (hw : 1 ≤ T.width ∧ T.width < 1024) :
    toBitsPy (fromBits T b) = .ok ⟨T.width, b⟩ := by
  rw [(toBitsPy_eq (hasTy_fromBits T b)).1 hw, to_from T b hb]

/-- `f : F` is the part of `v : T` that occupies bits `[o, o + F.width)` of the packed `v` -/
structure Part (v : Val) (T : Ty) (f : Val) (F : Ty) (o : Nat) : Prop where
  ty : HasTy f F
  le : o + F.width ≤ T.width
  eq : slice (toBits v).2 o F.width = (toBits f).2

theorem Part.refl {v T} (h : HasTy v T) : Part v T v T 0 :=
  ⟨h, Nat.le_of_eq (Nat.zero_add _), slice_zero_of_lt _ _ (toBits_lt h)⟩

theorem Part.within {v T f F o} (q : Part v T f F o) {P p : Nat} (h : slice P p T.width = (toBits v).2) :
    slice P (p + o) F.width = (toBits f).2 := by
  rw [← slice_slice _ _ _ _ _ q.le, h, q.eq]

theorem Part.trans {v T f F g G o o'} (p : Part v T f F o) (q : Part f F g G o') : Part v T g G (o + o') :=
  ⟨q.ty, Nat.le_trans (Nat.le_of_eq (Nat.add_assoc _ _ _)) (Nat.le_trans (Nat.add_le_add_left q.le o) p.le), q.within p.eq⟩

/-- the two parts of `hi * 2 ^ w + lo`: a struct's first field above the rest, a list's tail above element 0 -/
theorem part_cat {v T hi HI lo LO} (hh : HasTy hi HI) (hl : HasTy lo LO) (hw : T.width = HI.width + LO.width)
    (e : (toBits v).2 = (toBits hi).2 * 2 ^ LO.width + (toBits lo).2) :
    Part v T hi HI LO.width ∧ Part v T lo LO 0 := by
  have hl' := toBits_lt hl
  refine ⟨⟨hh, by rw [hw, Nat.add_comm]; exact Nat.le_refl _, ?_⟩, ⟨hl, by rw [hw, Nat.zero_add]; exact Nat.le_add_left _ _, ?_⟩⟩
  · rw [slice_eq, e, cat_div _ _ _ hl', Nat.mod_eq_of_lt (toBits_lt hh)]
  · rw [slice_eq, e, Nat.pow_zero, Nat.div_one, Nat.mul_add_mod_of_lt hl']

theorem part_pair {a b A B} (ha : HasTy a A) (hb : HasTy b B) :
    Part (.pair a b) (.pair A B) a A B.width ∧ Part (.pair a b) (.pair A B) b B 0 :=
  part_cat ha hb rfl (by simp only [toBits, toBits_width hb])

theorem part_acons {x xs k T} (hx : HasTy x T) (hxs : HasTy xs (.arr k T)) :
    Part (.acons x xs) (.arr (k + 1) T) xs (.arr k T) T.width ∧ Part (.acons x xs) (.arr (k + 1) T) x T 0 :=
  part_cat hxs hx (Nat.succ_mul _ _) (by simp only [toBits, toBits_width hx])

theorem part_field {v T} (h : HasTy v T) {i : Nat} {f : Val} {F : Ty}
    (h1 : fieldVal v i = some f) (h2 : fieldTy T i = some F) : Part v T f F (fieldOff T i) := by
  fun_induction fieldVal v i generalizing T with
  | case1 a b => cases h with | pair ha hb => cases h1; cases h2; exact (part_pair ha hb).1
  | case2 a b i ih =>
    cases h with | pair ha hb => exact Nat.zero_add (fieldOff _ i) ▸ (part_pair ha hb).2.trans (ih hb h1 h2)
  | case3 => cases h1

theorem part_elem {v T n} (h : HasTy v (.arr n T)) {k : Nat} {x : Val} (h1 : elemVal v k = some x) :
    Part v (.arr n T) x T (k * T.width) := by
  fun_induction elemVal v k generalizing n with
  | case1 y ys => cases h with | acons hy hys => cases h1; rw [Nat.zero_mul]; exact (part_acons hy hys).2
  | case2 y ys k ih =>
    cases h with | acons hy hys => rw [Nat.succ_mul, Nat.add_comm (k * _)]; exact (part_acons hy hys).1.trans (ih hys h1)
  | case3 => cases h1

/-- a part `f` of `v` is what `to_bits()[o : o + w]` returns -/
theorem Part.getSlice {v f : Val} {T F : Ty} {o : Nat} (p : Part v T f F o) (hv : HasTy v T) (hw : T.width < 1024) (hF1 : 1 ≤ F.width) :
    ∃ P Q, toBitsPy v = .ok P ∧ toBitsPy f = .ok Q ∧
      PV.Bits.getSlice P (some (o : Int)) (some ((o + F.width : Nat) : Int)) none = .ok Q := by
  have hT := Nat.le_trans (Nat.le_add_left _ o) p.le
  refine ⟨⟨T.width, _⟩, ⟨F.width, _⟩, (toBitsPy_eq hv).1 ⟨Nat.le_trans hF1 hT, hw⟩, (toBitsPy_eq p.ty).1 ⟨hF1, Nat.lt_of_le_of_lt hT hw⟩, ?_⟩
  rw [PV.C05.get_slice T.width _ o (o + F.width) (Nat.lt_add_of_pos_right hF1) p.le, ← p.eq, slice_eq, Nat.add_sub_cancel_left]

theorem width_eq_sum_fields : ∀ (T : Ty), T.IsRec → T.width = ((fieldTys T).map Ty.width).sum
  | .unit, _ => rfl
  | .pair A B, h => by
      rw [Ty.width, fieldTys, List.map_cons, List.sum_cons, width_eq_sum_fields B h]
  | .bits _, h => h.elim
  | .arr _ _, h => h.elim

theorem fieldOff_eq_sum : ∀ (T : Ty), T.IsRec → ∀ i, i < (fieldTys T).length →
    fieldOff T i = (((fieldTys T).drop (i + 1)).map Ty.width).sum
  | .pair _ B, h, 0, _ => width_eq_sum_fields B h
  | .pair _ B, h, i + 1, hi => fieldOff_eq_sum B h i (Nat.lt_of_succ_lt_succ hi)
  | .unit, _, _, hi => absurd hi (Nat.not_lt_zero _)
  | .bits _, h, _, _ => h.elim
  | .arr _ _, h, _, _ => h.elim

/-- pointwise relation between the leaf offset table and the leaf values -/
def LeavesAt (P : Nat) : List (Nat × Nat) → List (Nat × Nat) → Prop
  | [], [] => True
  | (off, w) :: os, (n, x) :: vs => w = n ∧ slice P off w = x ∧ LeavesAt P os vs
  | _, _ => False

theorem LeavesAt_append {P : Nat} {o1 v1 o2 v2 : List (Nat × Nat)} (h1 : LeavesAt P o1 v1) (h2 : LeavesAt P o2 v2) :
    LeavesAt P (o1 ++ o2) (v1 ++ v2) := by
  fun_induction LeavesAt P o1 v1 with
  | case1 => exact h2
  | case2 off w os n x vs ih => exact ⟨h1.1, h1.2.1, ih h1.2.2⟩
  | case3 => exact h1.elim

theorem leaf_layout_at {v T} (h : HasTy v T) : ∀ (P o : Nat), slice P o T.width = (toBits v).2 →
    LeavesAt P (leafOffs T o) (leafVals v) := by
  induction h with
  | bits n v h => exact fun P o hs => ⟨rfl, hs, trivial⟩
  | unit | anil => exact fun _ _ _ => trivial
  | pair ha hb iha ihb =>
    exact fun P o hs => LeavesAt_append (iha P _ ((part_pair ha hb).1.within hs)) (ihb P _ ((part_pair ha hb).2.within hs))
  | acons hx hxs ihx ihxs =>
    exact fun P o hs => LeavesAt_append (ihx P _ ((part_acons hx hxs).2.within hs)) (ihxs P _ ((part_acons hx hxs).1.within hs))

theorem eqPy_refl (v : Val) : eqPy v v = true := by
  induction v with
  | bits n x => simp [eqPy]
  | unit | anil => rfl
  | pair a b iha ihb => simp [eqPy, iha, ihb]
  | acons x xs ihx ihxs => simp [eqPy, ihx, ihxs]

theorem eqPy_iff (v w : Val) : eqPy v w = true ↔ v = w := by
  refine ⟨fun h => ?_, fun h => h ▸ eqPy_refl v⟩
  fun_induction eqPy v w with
  | case1 n v m w => simp only [Bool.and_eq_true, beq_iff_eq] at h; rw [h.1, h.2]
  | case2 => rfl
  | case3 a b c d iha ihb => simp only [Bool.and_eq_true] at h; rw [iha h.1, ihb h.2]
  | case4 => rfl
  | case5 x xs y ys ihx ihxs => simp only [Bool.and_eq_true] at h; rw [ihx h.1, ihxs h.2]
  | case6 => cases h

theorem eqPy_eq_decide (v w : Val) : eqPy v w = decide (v = w) := by
  rw [Bool.eq_iff_iff, eqPy_iff, decide_eq_true_eq]

theorem hasTy_iff (v : Val) (T : Ty) : hasTy v T = true ↔ HasTy v T := by
  constructor
  · intro h
    fun_induction hasTy v T with
    | case1 n v m => simp only [Bool.and_eq_true, beq_iff_eq, decide_eq_true_eq] at h; rw [← h.1]; exact .bits n v h.2
    | case2 => exact .unit
    | case3 a b A B iha ihb => simp only [Bool.and_eq_true] at h; exact .pair (iha h.1) (ihb h.2)
    | case4 => exact .anil
    | case5 x xs k T ihx ihxs => simp only [Bool.and_eq_true] at h; exact .acons (ihx h.1) (ihxs h.2)
    | case6 => cases h
  · intro h
    induction h with
    | bits n v h => simp [hasTy, h]
    | unit => rfl
    | pair _ _ iha ihb => simp [hasTy, iha, ihb]
    | anil => rfl
    | acons _ _ ihx ihxs => simp [hasTy, ihx, ihxs]

end PV.BitStruct
