import PymtlVerif.Model.CallGraph
import PymtlVerif.Proofs.ListFacts
/-!
# Lemmas about `Model/CallGraph.lean` (the `dfs` expansion of `@s.func` calls in `_collect_vars`)

`Reach` is the reflexive-transitive closure of `calls`, `ReachPlus` the transitive one.  `dfs` and `callsLoop` call each
other; the unit of every argument is the loop `callsLoop (dfs T n) anc vs` (a forest below the path `anc`), of which
`visit` is the instance `anc = []`.

* `Visits T anc vs r`, `Raises T anc vs` — what the loop does, without fuel: it succeeds and visits `r`, or it meets a
                      callee that is on its path;
* `callsLoop_dfs`   — the bridge, proved once: with a duplicate-free path of functions and `fuel + |path| ≥ F + 1` the
                      result of the loop is described by the two relations, and is never `fuel` (pigeonhole `fuel_pos`);
* `Visits.mem`      — a successful loop visits exactly the functions reachable from its callees; `Visits.acyclic`: none of
                      them is on the path or on a cycle;
* `Raises.cycle`    — a raising loop exhibits a reachable function on a call cycle (invariant: every member of the path
                      reaches every pending callee through at least one call);
* `callsLoop_dfs_stable` — any two sufficient amounts of fuel give the same result (`callsLoop_congr`);
* `visit_*`          — the instances for all calls of one block, the form `Props/C02c.lean` uses;
* `loop_cases`, `loop_spec`, `enter_get` — the accumulating dict loop: whether it raises, what it leaves in the dicts
                      (`State.get`: the reads and the writes entry of a key side by side, as the code treats them).
-/
namespace PV.CallGraph

/-- `f` can be reached from `u` through zero or more calls (`@s.func` function ids of one component): the closure
that Proofs/Methods.lean calls `PV.Methods.Reach T.calls`, here with the step at the head -/
inductive Reach (T : Table) : Nat → Nat → Prop
  | refl (u : Nat) : Reach T u u
  | step {u v w : Nat} : v ∈ T.calls u → Reach T v w → Reach T u w

def ReachPlus (T : Table) (u w : Nat) : Prop := ∃ v, v ∈ T.calls u ∧ Reach T v w

def ReachFrom (T : Table) (roots : List Nat) (f : Nat) : Prop := ∃ c, c ∈ roots ∧ Reach T c f

theorem field_of_ge {T : Table} {u : Nat} (g : Func → List Nat) (h : T.F ≤ u) : (T.funcs[u]?.map g).getD [] = [] := by
  rw [List.getElem?_eq_none h]; rfl

theorem calls_of_ge {T : Table} {u : Nat} (h : T.F ≤ u) : T.calls u = [] := field_of_ge _ h
theorem reads_of_ge {T : Table} {u : Nat} (h : T.F ≤ u) : T.reads u = [] := field_of_ge _ h
theorem writes_of_ge {T : Table} {u : Nat} (h : T.F ≤ u) : T.writes u = [] := field_of_ge _ h

theorem lt_of_mem_field {T : Table} {f x : Nat} {g : Func → List Nat} (h : x ∈ (T.funcs[f]?.map g).getD []) :
    f < T.F :=
  Nat.lt_of_not_le fun hge => List.not_mem_nil (field_of_ge g hge ▸ h)

theorem lt_of_mem_reads {T : Table} {f x : Nat} (h : x ∈ T.reads f) : f < T.F := lt_of_mem_field h
theorem lt_of_mem_writes {T : Table} {f x : Nat} (h : x ∈ T.writes f) : f < T.F := lt_of_mem_field h
theorem lt_of_mem_calls {T : Table} {f x : Nat} (h : x ∈ T.calls f) : f < T.F := lt_of_mem_field h
theorem Reach.trans {T : Table} {u v w : Nat} (h1 : Reach T u v) (h2 : Reach T v w) : Reach T u w := by
  induction h1 with
  | refl => exact h2
  | step hc _ ih => exact Reach.step hc (ih h2)

theorem Reach.tail {T : Table} {u v w : Nat} (h1 : Reach T u v) (h2 : w ∈ T.calls v) : Reach T u w :=
  h1.trans (Reach.step h2 (Reach.refl w))

theorem reach_of_ge {T : Table} {u f : Nat} (h : T.F ≤ u) (hr : Reach T u f) : f = u := by
  cases hr with
  | refl => rfl
  | step hc _ => exact absurd (calls_of_ge h ▸ hc) List.not_mem_nil

theorem ReachPlus.of_pred {T : Table} {f p : Nat} (h1 : Reach T f p) (h2 : f ∈ T.calls p) : ReachPlus T f f := by
  cases h1 with
  | refl => exact ⟨f, h2, Reach.refl f⟩
  | step hc hr => exact ⟨_, hc, hr.tail h2⟩

theorem ReachFrom.cons_iff {T : Table} {v : Nat} {vs : List Nat} {f : Nat} :
    ReachFrom T (v :: vs) f ↔ f = v ∨ ReachFrom T (T.calls v) f ∨ ReachFrom T vs f := by
  constructor
  · rintro ⟨c, hc, hr⟩
    rcases List.mem_cons.mp hc with rfl | hc
    · cases hr with
      | refl => exact .inl rfl
      | step hc hr' => exact .inr (.inl ⟨_, hc, hr'⟩)
    · exact .inr (.inr ⟨c, hc, hr⟩)
  · rintro (rfl | ⟨c, hc, hr⟩ | ⟨c, hc, hr⟩)
    · exact ⟨f, List.mem_cons_self, Reach.refl f⟩
    · exact ⟨v, List.mem_cons_self, Reach.step hc hr⟩
    · exact ⟨c, List.mem_cons_of_mem _ hc, hr⟩

theorem dfs_succ_lt {T : Table} {n : Nat} {anc : List Nat} {u : Nat} (hu : u < T.F) :
    dfs T (n + 1) anc u = match callsLoop (dfs T n) anc (T.calls u) with
      | .error e => .error e
      | .ok r => .ok (u :: r) := by
  simp only [dfs, hu, ↓reduceIte]
  cases callsLoop (dfs T n) anc (T.calls u) <;> rfl

theorem dfs_succ_ge {T : Table} {n : Nat} {anc : List Nat} {u : Nat} (hu : T.F ≤ u) :
    dfs T (n + 1) anc u = .ok [] := by
  simp [dfs, Nat.not_lt.mpr hu]

/-- `Visits T anc vs r`: the loop over the callees `vs` below the path `anc` succeeds and visits `r` (no fuel) -/
inductive Visits (T : Table) : List Nat → List Nat → List Nat → Prop
  | nil {anc} : Visits T anc [] []
  | ext {anc v vs rs} : v ∉ anc → T.F ≤ v → Visits T anc vs rs → Visits T anc (v :: vs) rs
  | call {anc v vs r rs} : v ∉ anc → v < T.F → Visits T (v :: anc) (T.calls v) r → Visits T anc vs rs →
      Visits T anc (v :: vs) (v :: (r ++ rs))

/-- `Raises T anc vs`: the loop meets a callee that is on its path -/
inductive Raises (T : Table) : List Nat → List Nat → Prop
  | back {anc v vs} : v ∈ anc → Raises T anc (v :: vs)
  | inner {anc v vs} : Raises T (v :: anc) (T.calls v) → Raises T anc (v :: vs)
  | later {anc v vs} : Raises T anc vs → Raises T anc (v :: vs)

theorem Visits.mem {T : Table} {anc vs r : List Nat} (h : Visits T anc vs r) (f : Nat) :
    f ∈ r ↔ f < T.F ∧ ReachFrom T vs f := by
  induction h with
  | nil => exact ⟨nofun, fun ⟨_, _, h, _⟩ => nomatch h⟩
  | ext _ hge _ ih =>
    rw [ih, ReachFrom.cons_iff]
    refine and_congr_right fun hf => ⟨fun h => .inr (.inr h), ?_⟩
    rintro (rfl | ⟨_, hc, _⟩ | h)
    · exact absurd hf (Nat.not_lt.mpr hge)
    · exact absurd (calls_of_ge hge ▸ hc) List.not_mem_nil
    · exact h
  | call _ hv _ _ ih1 ih2 =>
    rw [List.mem_cons, List.mem_append, ih1, ih2, ReachFrom.cons_iff]
    constructor
    · rintro (rfl | ⟨hf, h⟩ | ⟨hf, h⟩)
      · exact ⟨hv, .inl rfl⟩
      · exact ⟨hf, .inr (.inl h)⟩
      · exact ⟨hf, .inr (.inr h)⟩
    · rintro ⟨hf, h | h | h⟩
      · exact .inl h
      · exact .inr (.inl ⟨hf, h⟩)
      · exact .inr (.inr ⟨hf, h⟩)

theorem Visits.acyclic {T : Table} {anc vs r : List Nat} (h : Visits T anc vs r) :
    ∀ {f}, ReachFrom T vs f → f ∉ anc ∧ ¬ ReachPlus T f f := by
  induction h with
  | nil => exact fun ⟨_, h, _⟩ => nomatch h
  | ext hv hge _ ih =>
    intro f hf
    obtain rfl | ⟨_, hc, _⟩ | hf := ReachFrom.cons_iff.mp hf
    · exact ⟨hv, fun ⟨_, hc, _⟩ => absurd (calls_of_ge hge ▸ hc) List.not_mem_nil⟩
    · exact absurd (calls_of_ge hge ▸ hc) List.not_mem_nil
    · exact ih hf
  | call hv _ _ _ ih1 ih2 =>
    intro f hf
    obtain rfl | hf | hf := ReachFrom.cons_iff.mp hf
    · -- `ReachPlus T v v` and `ReachFrom T (T.calls v) v` are the same existential, and `v` heads the path below `v`: the
      -- first conjunct is carried along for this step
      exact ⟨hv, fun hcyc => (ih1 hcyc).1 List.mem_cons_self⟩
    · exact ⟨fun ha => (ih1 hf).1 (List.mem_cons_of_mem _ ha), (ih1 hf).2⟩
    · exact ih2 hf

/-- invariant: every member of the path reaches every pending callee through at least one call -/
theorem Raises.cycle {T : Table} {anc vs : List Nat} (h : Raises T anc vs) :
    (∀ a ∈ anc, ∀ v ∈ vs, ReachPlus T a v) → ∃ f, ReachFrom T vs f ∧ ReachPlus T f f := by
  induction h with
  | @back _ v _ hv => exact fun hinv => ⟨v, ReachFrom.cons_iff.mpr (.inl rfl), hinv v hv v List.mem_cons_self⟩
  | @inner anc v vs _ ih =>
    intro hinv
    obtain ⟨f, hf, hcyc⟩ := ih fun a ha w hw =>
      (List.mem_cons.mp ha).elim (fun h => h ▸ ⟨w, hw, Reach.refl w⟩)
        fun ha => let ⟨c, hc, hr⟩ := hinv a ha v List.mem_cons_self; ⟨c, hc, hr.tail hw⟩
    exact ⟨f, ReachFrom.cons_iff.mpr (.inr (.inl hf)), hcyc⟩
  | later _ ih =>
    intro hinv
    obtain ⟨f, hf, hcyc⟩ := ih fun a ha w hw => hinv a ha w (List.mem_cons_of_mem _ hw)
    exact ⟨f, ReachFrom.cons_iff.mpr (.inr (.inr hf)), hcyc⟩

/-- pigeonhole: a duplicate-free path of functions leaves the fuel positive -/
theorem fuel_pos {F n : Nat} {anc : List Nat} (hn : anc.Nodup) (hlt : ∀ a ∈ anc, a < F) (hlen : F + 1 ≤ n + anc.length) :
    ∃ k, n = k + 1 := by
  have hle : anc.length ≤ F := length_le_of_nodup_lt F hn hlt
  match n, hlen with
  | 0, hlen => exact absurd (Nat.le_trans (Nat.zero_add anc.length ▸ hlen) hle) (Nat.not_succ_le_self _)
  | k + 1, _ => exact ⟨k, rfl⟩

/-- what the two relations say of a result of the loop -/
def Sound (T : Table) (anc vs : List Nat) : Except Err (List Nat) → Prop
  | .ok r => Visits T anc vs r
  | .error e => e = .cycle ∧ Raises T anc vs

/-- the bridge from the fuel recursion to the two relations.  With a duplicate-free path of functions and
`fuel + |path| ≥ F + 1` the fuel is never what stops the loop (pigeonhole: the path cannot outgrow `F`).  Induction on the
fuel, and inside it on the callees: `i` is the outer hypothesis, for the calls of `v` below the path `v :: anc` with one unit
of fuel less, `ih` the inner one, for the remaining callees `vs`. -/
theorem callsLoop_dfs {T : Table} : ∀ (n : Nat) {anc : List Nat}, anc.Nodup → (∀ a ∈ anc, a < T.F) →
    T.F + 1 ≤ n + anc.length → ∀ (vs : List Nat), Sound T anc vs (callsLoop (dfs T n) anc vs) := by
  intro n
  induction n with
  | zero => intro anc hn hlt hlen; nomatch fuel_pos hn hlt hlen
  | succ n ihn =>
    intro anc hn hlt hlen vs
    induction vs with
    | nil => exact .nil
    | cons v vs ih =>
      unfold callsLoop
      split
      · next hv => exact ⟨rfl, .back hv⟩
      · next hv =>
        revert ih
        by_cases hvF : v < T.F
        · have i := ihn (List.nodup_cons.mpr ⟨hv, hn⟩) (List.forall_mem_cons.mpr ⟨hvF, hlt⟩)
            (Nat.add_right_comm n 1 _ ▸ hlen) (T.calls v)
          rw [dfs_succ_lt hvF]
          revert i
          cases callsLoop (dfs T n) (v :: anc) (T.calls v) with
          | error e1 => exact fun i _ => ⟨i.1, .inner i.2⟩
          | ok r1 =>
            cases callsLoop (dfs T (n + 1)) anc vs with
            | error e2 => exact fun _ ih => ⟨ih.1, .later ih.2⟩
            | ok r2 => exact fun i ih => .call hv hvF i ih
        · rw [dfs_succ_ge (Nat.le_of_not_lt hvF)]
          cases callsLoop (dfs T (n + 1)) anc vs with
          | error e2 => exact fun ih => ⟨ih.1, .later ih.2⟩
          | ok r2 => exact fun ih => .ext hv (Nat.le_of_not_lt hvF) ih

theorem visit_sound (T : Table) (roots : List Nat) : Sound T [] roots (visit T roots) :=
  callsLoop_dfs (T.F + 1) List.nodup_nil nofun (Nat.le_refl _) roots

theorem visit_ok_mem {T : Table} {roots vis : List Nat} (h : visit T roots = .ok vis) (f : Nat) :
    f ∈ vis ↔ (f < T.F ∧ ReachFrom T roots f) :=
  Visits.mem (h ▸ visit_sound T roots) f

theorem visit_err_cycle {T : Table} {roots : List Nat} {e : Err} (h : visit T roots = .error e) : e = .cycle :=
  (h ▸ visit_sound T roots : Sound T [] roots (.error e)).1

theorem visit_ne_fuel {T : Table} {roots : List Nat} : visit T roots ≠ .error .fuel :=
  fun h => nomatch visit_err_cycle h

theorem visit_err_iff {T : Table} {roots : List Nat} :
    (∃ e, visit T roots = .error e) ↔ ∃ f, ReachFrom T roots f ∧ ReachPlus T f f := by
  refine ⟨fun ⟨e, h⟩ => (h ▸ visit_sound T roots : Sound T [] roots (.error e)).2.cycle nofun, fun ⟨f, hf, hcyc⟩ => ?_⟩
  cases hv : visit T roots with
  | error e => exact ⟨e, rfl⟩
  | ok vis => exact absurd hcyc (Visits.acyclic (hv ▸ visit_sound T roots) hf).2

theorem visit_flatMap {T : Table} {roots vis : List Nat} (h : visit T roots = .ok vis) {g : Nat → List Nat}
    (hg : ∀ {f x}, x ∈ g f → f < T.F) (x : Nat) : x ∈ vis.flatMap g ↔ ∃ f, ReachFrom T roots f ∧ x ∈ g f := by
  simp only [List.mem_flatMap, visit_ok_mem h]
  exact ⟨fun ⟨f, ⟨_, hr⟩, hx⟩ => ⟨f, hr, hx⟩, fun ⟨f, hr, hx⟩ => ⟨f, ⟨hg hx, hr⟩, hx⟩⟩

/-- the loop only asks `rec` about callees that are not on the path -/
theorem callsLoop_congr {rec rec' : List Nat → Nat → Except Err (List Nat)} {anc : List Nat} {vs : List Nat}
    (h : ∀ v ∈ vs, v ∉ anc → rec (v :: anc) v = rec' (v :: anc) v) : callsLoop rec anc vs = callsLoop rec' anc vs := by
  induction vs with
  | nil => rfl
  | cons v vs ih =>
    unfold callsLoop
    split
    · rfl
    · next hv => rw [h v List.mem_cons_self hv, ih fun w hw => h w (List.mem_cons_of_mem _ hw)]

theorem callsLoop_dfs_stable {T : Table} : ∀ (n m : Nat) {anc : List Nat}, anc.Nodup → (∀ a ∈ anc, a < T.F) →
    T.F + 1 ≤ n + anc.length → T.F + 1 ≤ m + anc.length → ∀ (vs : List Nat),
      callsLoop (dfs T n) anc vs = callsLoop (dfs T m) anc vs := by
  intro n
  induction n with
  | zero => intro m anc hn hlt hlen; nomatch fuel_pos hn hlt hlen
  | succ n ih =>
    intro m anc hn hlt hlen hlen' vs
    obtain ⟨m, rfl⟩ := fuel_pos hn hlt hlen'
    refine callsLoop_congr fun v _ hv => ?_
    by_cases hvF : v < T.F
    · rw [dfs_succ_lt hvF, dfs_succ_lt hvF, ih m (List.nodup_cons.mpr ⟨hv, hn⟩) (List.forall_mem_cons.mpr ⟨hvF, hlt⟩)
        (Nat.add_right_comm n 1 _ ▸ hlen) (Nat.add_right_comm m 1 _ ▸ hlen')]
    · rw [dfs_succ_ge (Nat.le_of_not_lt hvF), dfs_succ_ge (Nat.le_of_not_lt hvF)]

theorem Dict.get_set (d : Dict) (k k' : Nat) (v : List Nat) : (d.set k v).get k' = if k = k' then v else d.get k' := by
  induction d with
  | nil => rfl
  | cons a rest ih =>
    unfold Dict.set
    split
    · next h => subst h; unfold Dict.get; split <;> rfl
    · next h =>
      unfold Dict.get
      split
      · next h' => subst h'; rw [if_neg (Ne.symm h)]
      · exact ih

theorem Dict.get_orInto (d : Dict) (k k' : Nat) (v : List Nat) :
    (d.orInto k v).get k' = d.get k' ++ if k = k' then v else [] := by
  induction d with
  | nil => unfold Dict.orInto Dict.get; split <;> rfl
  | cons a rest ih =>
    unfold Dict.orInto
    split
    · next h => subst h; unfold Dict.get; split <;> simp
    · next h =>
      unfold Dict.get
      split
      · next h' => subst h'; rw [if_neg (Ne.symm h), List.append_nil]
      · exact ih

/-- the two entries of a block side by side: `all_upblk_reads[k]`, `all_upblk_writes[k]` -/
abbrev State.get (st : State) (k : Nat) : List Nat × List Nat := (st.reads.get k, st.writes.get k)

/-- the two entries `p` with the reads and the writes of the visited functions `vis` appended -/
def Table.adds (T : Table) (p : List Nat × List Nat) (vis : List Nat) : List Nat × List Nat :=
  (p.1 ++ vis.flatMap T.reads, p.2 ++ vis.flatMap T.writes)

theorem merge_foldl (T : Table) (k : Nat) (isff : Bool) : ∀ (vis : List Nat) (st : State),
    let st' := vis.foldl (State.merge T k isff) st
    st'.get k = T.adds (st.get k) vis ∧ (∀ k', k' ≠ k → st'.get k' = st.get k') ∧
    st'.marks = st.marks ++ (if isff then (vis.flatMap T.writes).map T.top else []) := by
  intro vis
  induction vis with
  | nil => intro st; simp [Table.adds]
  | cons f rest ih =>
    intro st
    obtain ⟨h1, h2, h3⟩ := ih (State.merge T k isff st f)
    simp only [List.foldl_cons]
    refine ⟨?_, fun k' hk' => ?_, ?_⟩
    · rw [h1]
      simp only [Table.adds, State.merge, Dict.get_orInto, if_pos, List.flatMap_cons, List.append_assoc]
    · rw [h2 k' hk']
      simp only [State.get, State.merge, Dict.get_orInto, if_neg (Ne.symm hk'), List.append_nil]
    · rw [h3, State.merge, List.flatMap_cons]
      cases isff <;> simp

/-- the signals one block marks -/
def marksOf (T : Table) (b : Blk) : List Nat :=
  match expand T b with
  | .ok e => e.marks
  | .error _ => []

theorem marksOf_ok {T : Table} {b : Blk} {e : Expanded} (h : expand T b = .ok e) : marksOf T b = e.marks := by
  rw [marksOf, h]

theorem expand_ok_of_visit {T : Table} {b : Blk} {vis : List Nat} (h : visit T b.calls = .ok vis) :
    expand T b = .ok (expandWith T b vis) := by
  simp [expand, h]

theorem expand_ok_inv {T : Table} {b : Blk} {e : Expanded} (h : expand T b = .ok e) :
    ∃ vis, visit T b.calls = .ok vis ∧ e = expandWith T b vis := by
  unfold expand at h
  split at h
  · cases h
  · next vis hv => cases h; exact ⟨vis, hv, rfl⟩

theorem expand_err_inv {T : Table} {b : Blk} {e : Err} (h : expand T b = .error e) : visit T b.calls = .error e := by
  unfold expand at h
  split at h
  · next e' hv => cases h; exact hv
  · cases h

theorem block_spec {T : Table} {st st' : State} {kb : Nat × Blk} (h : State.block T st kb = .ok st') :
    ∃ vis, visit T kb.2.calls = .ok vis ∧ st'.get kb.1 = T.adds (st.get kb.1) vis ∧
      (∀ k', k' ≠ kb.1 → st'.get k' = st.get k') ∧ st'.marks = st.marks ++ (expandWith T kb.2 vis).marks := by
  unfold State.block at h
  split at h
  · cases h
  · next vis hv => cases h; exact ⟨vis, hv, merge_foldl T kb.1 kb.2.isff vis st⟩

abbrev keys (blocks : List (Nat × Blk)) : List Nat := blocks.map Prod.fst

theorem loop_cons_ok {T : Table} {st st' : State} {kb : Nat × Blk} {rest : List (Nat × Blk)}
    (h : loop T st (kb :: rest) = .ok st') : ∃ st1, State.block T st kb = .ok st1 ∧ loop T st1 rest = .ok st' := by
  unfold loop at h
  split at h
  · cases h
  · next st1 h1 => exact ⟨st1, h1, h⟩

/-- the loop succeeds and every block's expansion does, or it raises what the expansion of one of its blocks raises -/
theorem loop_cases {T : Table} (blocks : List (Nat × Blk)) : ∀ (st : State),
    (∃ st', loop T st blocks = .ok st' ∧ ∀ kb ∈ blocks, ∃ e, expand T kb.2 = .ok e) ∨
    (∃ e, loop T st blocks = .error e ∧ ∃ kb ∈ blocks, expand T kb.2 = .error e) := by
  induction blocks with
  | nil => exact fun st => .inl ⟨st, rfl, List.forall_mem_nil _⟩
  | cons kb rest ih =>
    intro st
    rw [loop, State.block]
    cases hv : visit T kb.2.calls with
    | error e => exact .inr ⟨e, rfl, kb, List.mem_cons_self, by rw [expand, hv]⟩
    | ok vis =>
      obtain ⟨st', h, hall⟩ | ⟨e, h, kb', hkb', he⟩ := ih _
      · exact .inl ⟨st', h, List.forall_mem_cons.2 ⟨⟨_, expand_ok_of_visit hv⟩, hall⟩⟩
      · exact .inr ⟨e, h, kb', List.mem_cons_of_mem _ hkb', he⟩

/-- what the loop does to the dicts: a block's entries get the reads / writes of the functions it reaches appended (the keys
being distinct, no later block appends to them), other keys are untouched, the marks of the blocks are appended in order -/
theorem loop_spec {T : Table} : ∀ (blocks : List (Nat × Blk)) (st st' : State),
    loop T st blocks = .ok st' →
      ((keys blocks).Nodup → ∀ kb ∈ blocks, ∃ vis, visit T kb.2.calls = .ok vis ∧ st'.get kb.1 = T.adds (st.get kb.1) vis) ∧
      (∀ k, k ∉ keys blocks → st'.get k = st.get k) ∧
      st'.marks = st.marks ++ blocks.flatMap (fun kb => marksOf T kb.2) := by
  intro blocks
  induction blocks with
  | nil =>
    intro st st' h
    cases h
    exact ⟨fun _ _ h => (List.not_mem_nil h).elim, fun _ _ => rfl, (List.append_nil _).symm⟩
  | cons kb rest ih =>
    intro st st' h
    obtain ⟨st1, h1, h⟩ := loop_cons_ok h
    obtain ⟨vis, hv, b1, b2, b3⟩ := block_spec h1
    obtain ⟨i1, i2, i3⟩ := ih st1 st' h
    refine ⟨fun hnd kb' hkb' => ?_, ?_, ?_⟩
    · obtain ⟨hk, hnd'⟩ := List.nodup_cons.mp hnd
      rcases List.mem_cons.mp hkb' with rfl | hkb'
      · exact ⟨vis, hv, (i2 _ hk).trans b1⟩
      · obtain ⟨e', he', j⟩ := i1 hnd' kb' hkb'
        exact ⟨e', he', by rw [j, b2 _ fun heq => hk (heq ▸ List.mem_map_of_mem hkb')]⟩
    · intro k hk'
      obtain ⟨hk1, hk2⟩ := not_or.mp (mt List.mem_cons.mpr hk')
      exact (i2 k hk2).trans (b2 k hk1)
    · rw [i3, b3, List.flatMap_cons, marksOf_ok (expand_ok_of_visit hv), List.append_assoc]

theorem enter_notin : ∀ (blocks : List (Nat × Blk)) (st : State) (k : Nat), k ∉ keys blocks →
    (blocks.foldl State.enter st).get k = st.get k := by
  intro blocks
  induction blocks with
  | nil => exact fun st k _ => rfl
  | cons kb rest ih =>
    intro st k hk
    obtain ⟨hk1, hk2⟩ := not_or.mp (mt List.mem_cons.mpr hk)
    rw [List.foldl_cons, ih _ k hk2]
    simp only [State.get, State.enter, Dict.get_set, if_neg (Ne.symm hk1)]

theorem enter_get : ∀ (blocks : List (Nat × Blk)) (st : State), (keys blocks).Nodup → ∀ kb ∈ blocks,
    (blocks.foldl State.enter st).get kb.1 = (kb.2.reads, kb.2.writes) := by
  intro blocks
  induction blocks with
  | nil => exact fun st _ kb h => nomatch h
  | cons kb0 rest ih =>
    intro st hnd kb hkb
    obtain ⟨hk, hnd'⟩ := List.nodup_cons.mp hnd
    rw [List.foldl_cons]
    rcases List.mem_cons.mp hkb with rfl | hkb
    · rw [enter_notin rest _ kb.1 hk]
      simp only [State.get, State.enter, Dict.get_set, if_pos]
    · exact ih _ hnd' kb hkb

theorem enter_marks : ∀ (blocks : List (Nat × Blk)) (st : State), (blocks.foldl State.enter st).marks = st.marks := by
  intro blocks
  induction blocks with
  | nil => intro st; rfl
  | cons kb rest ih => intro st; simp only [List.foldl_cons]; rw [ih]; rfl

end PV.CallGraph
