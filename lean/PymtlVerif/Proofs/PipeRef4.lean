import PymtlVerif.Proofs.PipeRef3
/-!
Refinement proof, part 4: consequences of the invariant in terms of observables only (register file, proc2mngr
messages on the interface, commit pulses), and an environment that satisfies the assumption for every
program (the assumption is not vacuous).
-/
namespace PV.Pipe
open PV.TinyRV0 (W32 Mem loadWord storeWord rget rset)

/-- proc2mngr messages sent on the interface during a trace -/
def sent : State → List EnvIn → List Nat
  | _, [] => []
  | s, i :: is => (if (out s i).proc2mngr_en then [(out s i).proc2mngr_msg] else []) ++ sent (next s i) is

theorem envRun_out (E : Env) (s : State) (envs : List EnvIn) : (envRun E s envs).out = E.out ++ sent s envs := by
  induction envs generalizing E s with
  | nil => simp [envRun, sent]
  | cons i is ih => simp [envRun, sent, ih, envNext, List.append_assoc]

/-- what an observer of the architectural state sees at each commit: the register file after the edge
and the proc2mngr messages received so far (including the one sent in that cycle) -/
def commitObs : Env → State → List EnvIn → List (List Nat × List Nat)
  | _, _, [] => []
  | E, s, i :: is =>
    (if commit_inst s i then [((next s i).rf, (envNext E i (out s i)).out)] else []) ++
      commitObs (envNext E i (out s i)) (next s i) is

/-- the ISA's register file and output stream after instructions `c+1 .. c+k` -/
def isaObs (p : Prog) (c k : Nat) : List (List Nat × List Nat) :=
  (List.range k).map fun j => ((isaAt p (c + j + 1)).regs, (isaAt p (c + j + 1)).out)

theorem isaObs_succ (p : Prog) (c k : Nat) :
    isaObs p c (k + 1) = ((isaAt p (c + 1)).regs, (isaAt p (c + 1)).out) :: isaObs p (c + 1) k := by
  simp only [isaObs, List.range_succ_eq_map, List.map_cons, List.map_map]
  simp only [Nat.add_zero, List.cons.injEq, true_and]
  apply List.map_congr_left
  intro j _
  simp only [Function.comp]
  rw [show c + (j + 1) + 1 = c + 1 + j + 1 by omega]

theorem commitObs_eq {p : Prog} {N : Nat} (hR : Runs p N) :
    ∀ (envs : List EnvIn) {s : State} {E : Env} {c : Nat}, Inv p N s E c → EnvTrace p E s envs →
      c + commitCount s envs ≤ N → commitObs E s envs = isaObs p c (commitCount s envs)
  | [], _, _, _, _, _, _ => by simp [commitObs, commitCount, isaObs]
  | i :: is, s, E, c, I, hT, hc => by
    obtain ⟨hE, hT'⟩ := hT
    have I' := inv_step hR I hE
    simp only [commitCount] at hc ⊢
    have ih := commitObs_eq hR is I' hT' (by simp only [c']; omega)
    simp only [commitObs, ih]
    rcases Bool.eq_false_or_eq_true (commit_inst s i) with h | h
    · have hc' : c' s i c = c + 1 := by simp [c', h]
      rw [hc'] at I' ⊢
      simp only [h, if_true, Bool.toNat_true, Nat.add_comm 1, isaObs_succ]
      rw [I'.rf (by simp [h] at hc; omega), I'.out (by simp [h] at hc; omega)]
      rfl
    · have hc' : c' s i c = c := by simp [c', h]
      rw [hc']
      simp [h]

/-- answer everything as early as the protocol allows, always ready -/
def idealIn (p : Prog) (E : Env) (s : State) : EnvIn where
  reset := false
  imem_req_rdy := true
  imem_resp_en := !E.ipend.isEmpty && !s.imemresp_q.full
  imem_resp_data := loadWord p.mem0 (E.ipend.headD 0)
  dmem_req_rdy := true
  dmem_resp_en := !E.dresp.isEmpty && !s.dmemresp_q.full
  dmem_resp_data := (E.dresp.headD none).getD 0
  mngr2proc_en := !E.src.isEmpty && !s.mngr2proc_q.full
  mngr2proc_msg := E.src.headD 0
  proc2mngr_rdy := true
  xcel_req_rdy := true
  xcel_resp_en := false
  xcel_resp_data := 0

def idealTrace (p : Prog) : Nat → Env → State → List EnvIn
  | 0, _, _ => []
  | n + 1, E, s =>
    let i := idealIn p E s
    i :: idealTrace p n (envNext E i (out s i)) (next s i)

theorem offer_ok {α : Type} (L : List α) (q : BypQ) (d : α) (h : (!L.isEmpty && !q.full) = true) :
    q.enq_rdy false = true ∧ ∃ a rest, L = a :: rest ∧ L.headD d = a := by
  obtain ⟨full, _⟩ := q
  cases L <;> cases full <;> simp_all [BypQ.enq_rdy]

theorem ideal_ok (p : Prog) (E : Env) (s : State) : envOk p E (idealIn p E s) (out s (idealIn p E s)) := by
  refine ⟨rfl, fun h => ?_, fun h => ?_, fun h => ?_⟩
  · obtain ⟨hf, a, rest, hL, hd⟩ := offer_ok _ _ 0 h
    exact ⟨hf, a, rest, hL, congrArg (loadWord p.mem0) hd⟩
  · obtain ⟨hf, r, rest, hL, hd⟩ := offer_ok _ _ none h
    exact ⟨hf, r, rest, hL, fun v hv => (congrArg (·.getD 0) (hd.trans hv) : _)⟩
  · obtain ⟨hf, v, rest, hL, hd⟩ := offer_ok _ _ 0 h
    exact ⟨hf, v, rest, hL, hd⟩

theorem idealTrace_ok (p : Prog) : ∀ (n : Nat) (E : Env) (s : State), EnvTrace p E s (idealTrace p n E s)
  | 0, _, _ => trivial
  | n + 1, E, s => ⟨ideal_ok p E s, idealTrace_ok p n _ _⟩

end PV.Pipe
