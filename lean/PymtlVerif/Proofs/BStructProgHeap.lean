import PymtlVerif.Proofs.BStructProg
import PymtlVerif.Proofs.BitStructHeap
/-!
Helper lemmas for `Props/C06g.lean`, heap-level part: the canonical `@=` / `<<=` / `_flip` / clone /
`__init__` programs of `Model/BStructProg.lean` evaluate to the heap functions of `Model/BitStruct.lean`.
-/
namespace PV.BStructProg
open PV.BitStruct
open PV.Bits (B Reg)

/-- the tree shape of an instance of a class of shape `T` (independent of the heap) -/
inductive IShape : Inst → Ty → Prop
  | leaf (c n : Nat) : IShape (.leaf c) (.bits n)
  | unit : IShape .unit .unit
  | pair {a b A B} : IShape a A → IShape b B → IShape (.pair a b) (.pair A B)
  | anil {T} : IShape .anil (.arr 0 T)
  | acons {x xs k T} : IShape x T → IShape xs (.arr k T) → IShape (.acons x xs) (.arr (k+1) T)

theorem ishape_of_hasTy (h : Heap) : ∀ (i : Inst) (T : Ty), HasTy (read h i) T → IShape i T := by
  intro i
  induction i with
  | leaf c => intro T ht; cases ht; exact .leaf _ _
  | unit => intro T ht; cases ht; exact .unit
  | anil => intro T ht; cases ht; exact .anil
  | pair a b iha ihb => intro T ht; cases ht with | pair h1 h2 => exact .pair (iha _ h1) (ihb _ h2)
  | acons a b iha ihb => intro T ht; cases ht with | acons h1 h2 => exact .acons (iha _ h1) (ihb _ h2)

theorem ishape_not_list {x : Inst} {A : Ty} (h : IShape x A) (ha : isArr A = false) : isListI x = false := by
  cases h with
  | anil => cases ha
  | acons _ _ => cases ha
  | _ => rfl

theorem getI_append (v : Inst) (p q : Path) : getI v (p ++ q) = (getI v p).bind (getI · q) := by
  induction p generalizing v with
  | nil => rfl
  | cons s p ih =>
    simp only [List.cons_append, getI]
    cases stepI v s with
    | none => rfl
    | some w => exact ih w

theorem getI_snoc {root : Inst} {p : Path} {x : Inst} (h : getI root p = some x) (s : Step) :
    getI root (p ++ [s]) = stepI x s := by
  rw [getI_append, h]
  show (stepI x s).bind (getI · []) = _
  cases stepI x s <;> rfl

abbrev TailI := Tail fieldI
abbrev ETailI := Tail elemI

theorem TailI.get {s a b : Inst} {i : Nat} (h : TailI s (.pair a b) i) : getI s [.fld i] = some a :=
  (congrArg (Option.bind · _) (h.head rfl)).trans rfl

/-- `self.<p> OP= other.<p>`: the function `progOf` maps over the element paths (written there as a `fun`) -/
def dup (p : Path) : Path × Path := (p, p)

theorem runAug_append (op : Heap → Nat → Nat → Except Err Heap) (env : HEnv) (l1 l2 : List (Path × Path)) (h : Heap) :
    runAug op env h (l1 ++ l2) =
      match runAug op env h l1 with
      | .ok h1 => runAug op env h1 l2
      | .error e => .error e := by
  induction l1 generalizing h with
  | nil => rfl
  | cons st rest ih =>
    simp only [List.cons_append, runAug]
    cases getI env.self st.1 with
    | none => rfl
    | some a =>
      cases getI env.other st.2 with
      | none => rfl
      | some b =>
        simp only []
        cases elemOp op h a b with
        | error e => rfl
        | ok h1 => exact ih h1

theorem aug_arr (op : Heap → Nat → Nat → Except Err Heap) (env : HEnv) (t : Ty) (q : Path) (X Y : Inst)
    (hX : getI env.self q = some X) (hY : getI env.other q = some Y)
    (ih : ∀ (h : Heap) (x y : Inst) (p : Path), IShape x t → IShape y t → getI env.self p = some x → getI env.other p = some y →
      runAug op env h ((elemPaths t p).map dup) = zipWithM op h x y) :
    ∀ (k s : Nat) (h : Heap) (xs ys : Inst), IShape xs (.arr k t) → IShape ys (.arr k t) → ETailI X xs s → ETailI Y ys s →
      runAug op env h ((flatFrom (fun j => elemPaths t (q ++ [.idx j])) s k).map dup) = zipWithM op h xs ys := by
  intro k
  induction k with
  | zero => intro s h xs ys h1 h2 _ _; cases h1; cases h2; rfl
  | succ k ihk =>
    intro s h xs ys h1 h2 t1 t2
    cases h1 with | acons hx hr =>
    cases h2 with | acons hy hr' =>
    simp only [flatFrom, List.map_append, zipWithM]
    rw [runAug_append, ih h _ _ _ hx hy ((getI_snoc hX (.idx s)).trans (t1.head rfl)) ((getI_snoc hY (.idx s)).trans (t2.head rfl))]
    cases zipWithM op h _ _ with
    | error e => rfl
    | ok h1' => exact ihk (s + 1) h1' _ _ hr hr' (t1.tail fun _ => rfl) (t2.tail fun _ => rfl)

theorem aug_elem (op : Heap → Nat → Nat → Except Err Heap) (env : HEnv) : ∀ (A : Ty) (h : Heap) (x y : Inst) (p : Path),
    IShape x A → IShape y A → getI env.self p = some x → getI env.other p = some y →
    runAug op env h ((elemPaths A p).map dup) = zipWithM op h x y := by
  intro A
  induction A using Ty.arrCases with
  | elem A ha =>
    intro h x y p hx _ gx gy
    simp only [elemPaths_elem ha, List.map, runAug, dup, gx, gy, elemOp, ishape_not_list hx ha]
    cases zipWithM op h x y <;> rfl
  | arr k t iht =>
    intro h x y p hx hy gx gy
    exact aug_arr op env t p x y gx gy iht k 0 h x y hx hy (Tail.refl x) (Tail.refl y)

theorem aug_fields (op : Heap → Nat → Nat → Except Err Heap) (dst src : Inst) {R : Ty} (hf : Fields R) :
    ∀ (i : Nat) (h : Heap) (c d : Inst), IShape c R → IShape d R → TailI dst c i → TailI src d i →
    runAug op ⟨dst, src⟩ h ((fieldElemPaths R i).map dup) = zipWithM op h c d := by
  induction hf with
  | unit => intro i h c d h1 h2 _ _; cases h1; cases h2; rfl
  | @pair A R _ ih =>
    intro i h c d h1 h2 t1 t2
    cases h1 with | pair ha hb =>
    cases h2 with | pair ha' hb' =>
    simp only [fieldElemPaths, List.map_append, zipWithM]
    rw [runAug_append, aug_elem op ⟨dst, src⟩ A h _ _ _ ha ha' t1.get t2.get]
    cases zipWithM op h _ _ with
    | error e => rfl
    | ok h1' => exact ih (i + 1) h1' _ _ hb hb' (t1.tail fun _ => rfl) (t2.tail fun _ => rfl)

theorem ishape_convert {T : Ty} {h h1 : Heap} {src tmp : Inst} (e : convert T h src = .ok (h1, tmp)) : IShape tmp T := by
  unfold convert at e
  split at e
  · cases e
  · split at e
    · cases e
    · rename_i v hv
      rw [show tmp = (build h v).2 from congrArg Prod.snd (Except.ok.inj e).symm]
      exact ishape_of_hasTy _ _ T ((build_spec h v).2.symm ▸ hasTy_of_fromBitsPy hv)

/-- `_flip` is a statement list like `@=`, run on the instance and itself with a leaf statement that ignores its source -/
theorem flip_eq_zipWithM (h : Heap) (a : Inst) : PV.BitStruct.flip h a = zipWithM (fun h d _ => leafFlip h d) h a a := by
  induction a generalizing h with
  | leaf d => rfl
  | unit | anil => rfl
  | pair a b iha ihb | acons a b iha ihb =>
    simp only [PV.BitStruct.flip, zipWithM, iha]
    cases zipWithM _ h a a with
    | error e => rfl
    | ok h1 => exact ihb h1

theorem runFlip_eq_runAug (self : Inst) (ps : List Path) (h : Heap) :
    runFlip self h ps = runAug (fun h d _ => leafFlip h d) ⟨self, self⟩ h (ps.map dup) := by
  induction ps generalizing h with
  | nil => rfl
  | cons p rest ih =>
    simp only [runFlip, List.map, runAug, dup]
    cases getI self p with
    | none => rfl
    | some a =>
      simp only [elemOp, ← flip_eq_zipWithM]
      cases isListI a with
      | true => rfl
      | false =>
        simp only [Bool.false_eq_true, ↓reduceIte]
        cases PV.BitStruct.flip h a with
        | error e => rfl
        | ok h1 => exact ih h1

theorem flip_fields (self : Inst) {R : Ty} (hf : Fields R) (h : Heap) (hs : IShape self R) :
    runFlip self h (fieldElemPaths R 0) = PV.BitStruct.flip h self := by
  rw [runFlip_eq_runAug, flip_eq_zipWithM]
  exact aug_fields _ self self hf 0 h self self hs hs (Tail.refl self) (Tail.refl self)

/-- the argument list of a struct instance -/
def chainI : Inst → Inst
  | .pair a b => .acons a (chainI b)
  | _ => .anil

theorem clone_arr (env : HEnv) (t : Ty) (X : Inst) (f : Nat → Expr)
    (ih : ∀ (h : Heap) (j : Nat) (x : Inst), elemI X j = some x → IShape x t → evalH env h (f j) = some (PV.BitStruct.clone h x)) :
    ∀ (k s : Nat) (h : Heap) (xs : Inst), IShape xs (.arr k t) → ETailI X xs s →
      evalH env h (unroll.go f s k) = some (PV.BitStruct.clone h xs) := by
  intro k
  induction k with
  | zero => intro s h xs h1 _; cases h1; rfl
  | succ k ihk =>
    intro s h xs h1 t1
    cases h1 with | acons hx hr =>
    simp only [unroll.go, evalH, PV.BitStruct.clone]
    rw [ih h s _ (t1.head rfl) hx]
    simp only []
    rw [ihk (s + 1) _ _ hr (t1.tail fun _ => rfl)]

theorem clone_elem (self other : Inst) : ∀ (A : Ty) (h : Heap) (x : Inst) (p : Path),
    IShape x A → getI self p = some x → evalH ⟨self, other⟩ h (unroll .clone A p) = some (PV.BitStruct.clone h x) := by
  intro A
  induction A using Ty.arrCases with
  | elem A ha =>
    intro h x p hx gx
    simp only [unroll_elem ha, evalH, gx, Option.bind_some, ishape_not_list hx ha, Bool.false_eq_true, ↓reduceIte]
  | arr k t iht =>
    intro h x p hx gx
    exact clone_arr ⟨self, other⟩ t x _ (fun h' j y hj hy => iht h' y _ hy ((getI_snoc gx (.idx j)).trans hj))
      k 0 h x hx (Tail.refl x)

theorem clone_fields (self other : Inst) {R : Ty} (hf : Fields R) : ∀ (i : Nat) (h : Heap) (c : Inst),
    IShape c R → TailI self c i →
    evalH ⟨self, other⟩ h (cloneArgs R i) = some ((PV.BitStruct.clone h c).1, chainI (PV.BitStruct.clone h c).2) := by
  induction hf with
  | unit => intro i h c h1 _; cases h1; rfl
  | @pair A R _ ih =>
    intro i h c h1 t1
    cases h1 with | pair ha hb =>
    simp only [cloneArgs, evalH, PV.BitStruct.clone]
    rw [clone_elem self other A h _ _ ha t1.get]
    simp only []
    rw [ih (i + 1) _ _ hb (t1.tail fun _ => rfl)]
    rfl

/-- `self.__class__( <clones> )` = the generated `__init__` applied to the field-wise clone -/
theorem evalClone_eq {T : Ty} (hf : Fields T) (h : Heap) (self : Inst) (hs : IShape self T) :
    evalClone T (cloneArgs T 0) h self =
      newI (PV.BitStruct.clone h self).1 T (chainI (PV.BitStruct.clone h self).2) := by
  simp only [evalClone, evalH]
  rw [clone_fields self self hf 0 h self hs (Tail.refl self)]
  rfl

/-- one field: `_type_f(x)` re-wraps a Bits in a new object, `x or …` keeps the object
(`xs`: leaves of the fields made so far, `ys`: of the arguments still to come) -/
theorem wrapI_spec {h hk : Heap} (A : Ty) (a : Inst) (ht : HasTy (PV.BitStruct.read hk a) A) {xs ys : List Nat}
    (f : Fresh h hk (xs ++ (cells a ++ ys))) :
    ∃ h1 a', wrapI hk A a = some (h1, a') ∧ PV.BitStruct.read h1 a' = PV.BitStruct.read hk a ∧
      Fresh h h1 (xs ++ (cells a' ++ ys)) ∧ Fresh hk h1 [] := by
  cases A with
  | bits n =>
    cases a with
    | leaf c =>
      cases ht
      refine ⟨_, _, if_pos rfl, ?_, f.renew (hk.cell c).cur, (Fresh.alloc hk (hk.cell c).cur).sublist (List.nil_sublist _)⟩
      simp only [PV.BitStruct.read]; rw [alloc_cell_new]
    | _ => cases ht
  | _ => exact ⟨hk, a, rfl, rfl, f, Fresh.nil hk⟩

/-- `C(a0, a1, …)` on argument objects `c` that are new since `h` and pairwise distinct: the new instance reads like the
arguments and its leaves are so again (a leaf of a non-Bits argument is kept, a Bits argument gets a newer object) -/
theorem newI_spec {R : Ty} (hf : Fields R) : ∀ {h : Heap} (hk : Heap) (c : Inst) (xs : List Nat),
    HasTy (PV.BitStruct.read hk c) R → Fresh h hk (xs ++ cells c) →
    ∃ h2 i2, newI hk R (chainI c) = some (h2, i2) ∧ PV.BitStruct.read h2 i2 = PV.BitStruct.read hk c ∧
      Fresh h h2 (xs ++ cells i2) ∧ Fresh hk h2 [] := by
  induction hf with
  | unit =>
    intro h hk c xs ht f
    cases ishape_of_hasTy hk c _ ht
    exact ⟨hk, .unit, rfl, rfl, f, Fresh.nil hk⟩
  | @pair A R _ ih =>
    intro h hk c xs ht f
    cases ishape_of_hasTy hk c _ ht with | @pair a b _ _ _ _ =>
    cases ht with | pair hta htb =>
    obtain ⟨h1, a', e1, r1, f1, x1⟩ := wrapI_spec A a hta f
    have hrb := x1.read_old fun c hc => (f.range c (List.mem_append_right _ (List.mem_append_right _ hc))).2
    obtain ⟨h2, r', e2, r2, f2, x2⟩ := ih h1 b (xs ++ cells a') (hrb ▸ htb) (by rw [List.append_assoc]; exact f1)
    refine ⟨h2, .pair a' r', by simp only [chainI, newI, e1, e2], ?_, by rw [cells, ← List.append_assoc]; exact f2, x1.append x2⟩
    simp only [PV.BitStruct.read]
    rw [r2, hrb, x2.read_old fun c hc => (f1.range c (List.mem_append_right _ (List.mem_append_left _ hc))).2, r1]

theorem evalClone_spec {T : Ty} (hf : Fields T) (h : Heap) (self : Inst)
    (ht : HasTy (PV.BitStruct.read h self) T) (hin : InHeap h self) :
    ∃ h' i', evalClone T (cloneArgs T 0) h self = some (h', i') ∧
      PV.BitStruct.read h' i' = PV.BitStruct.read h self ∧ Fresh h h' (cells i') := by
  rw [evalClone_eq hf h self (ishape_of_hasTy h self T ht), clone_eq_build h self hin]
  obtain ⟨f, r⟩ := build_spec h (PV.BitStruct.read h self)
  obtain ⟨h2, i2, e, rd, f2, _⟩ := newI_spec hf _ _ [] (r.symm ▸ ht) f
  exact ⟨h2, i2, e, rd.trans r, f2⟩

/-- the arguments from position `k` on are the fields of `c` -/
def ArgsAt (args : List (Option Inst)) (c : Inst) (k : Nat) : Prop :=
  ∀ j x, fieldI c j = some x → args[k + j]? = some (some x)

theorem ArgsAt.head {args : List (Option Inst)} {a b : Inst} {k : Nat} (h : ArgsAt args (.pair a b) k) :
    args[k]? = some (some a) := h 0 a rfl

theorem ArgsAt.tail {args : List (Option Inst)} {a b : Inst} {k : Nat} (h : ArgsAt args (.pair a b) k) :
    ArgsAt args b (k + 1) := fun j x hx => by
  rw [Nat.add_right_comm]; exact h (j + 1) x hx

/-- the right-hand side the generator writes for a field of type `A` taking argument `k` -/
def initRhs : Ty → Nat → Rhs
  | .bits n, k => .wrap n k
  | A, k => .orDflt k (dfltExpr A)

theorem initStmts_pair (A R : Ty) (i : Nat) : initStmts (.pair A R) i = ⟨i, initRhs A i⟩ :: initStmts R (i + 1) := by
  cases A <;> rfl

theorem evalInit_cons (args : List (Option Inst)) (h : Heap) (k : Nat) (rhs : Rhs) (rest : List InitStmt) :
    evalInit args h k (⟨k, rhs⟩ :: rest) =
      match evalRhs h args rhs with
      | some (h1, a) =>
          match evalInit args h1 (k + 1) rest with
          | some (h2, r) => some (h2, .pair a r)
          | none => none
      | none => none := by
  rw [evalInit, if_neg (fun h => h rfl)]; rfl

theorem evalRhs_given {args : List (Option Inst)} {a : Inst} {A : Ty} {k : Nat} (hs : IShape a A)
    (hd : args[k]? = some (some a)) (h : Heap) : evalRhs h args (initRhs A k) = wrapI h A a := by
  cases hs <;> simp only [initRhs, evalRhs, hd, wrapI]

/-- called with every argument, the `__init__` program is `newI` (what `C( … )` means in the other programs) -/
theorem init_given (args : List (Option Inst)) {R : Ty} (hf : Fields R) : ∀ (k : Nat) (h : Heap) (c : Inst),
    IShape c R → ArgsAt args c k → evalInit args h k (initStmts R k) = newI h R (chainI c) := by
  induction hf with
  | unit => intro k h c hs _; cases hs; rfl
  | @pair A R _ ih =>
    intro k h c hs ha
    cases hs with | @pair a b _ _ hsa hsb =>
    rw [initStmts_pair, evalInit_cons, evalRhs_given hsa ha.head, chainI, newI]
    cases wrapI h A a with
    | none => rfl
    | some r => simp only [ih (k + 1) r.1 b hsb ha.tail]; rfl

theorem paste_eval (env : HEnv) (e : Expr) (z : Val) (he : ∀ h, evalH env h e = some (build h z)) :
    ∀ (k : Nat) (h : Heap), evalH env h (dfltExpr.pasteN e k) = some (build h (consN z k)) := by
  intro k
  induction k with
  | zero => intro h; rfl
  | succ k ih => intro h; simp only [dfltExpr.pasteN, evalH, consN, build, he, ih]

theorem dflt_eval (env : HEnv) : ∀ (A : Ty) (h : Heap), evalH env h (dfltExpr A) = some (build h (zeroV A)) := by
  intro A
  induction A using Ty.arrCases with
  | elem A ha =>
    intro h
    cases A with
    | arr _ _ => cases ha
    | _ => rfl
  | arr k t iht => intro h; exact paste_eval env _ _ iht k h

theorem evalRhs_default {args : List (Option Inst)} {k : Nat} (hd : args[k]? = some none) (A : Ty) (h : Heap) :
    evalRhs h args (initRhs A k) = some (build h (zeroV A)) := by
  cases A with
  | bits n => simp only [initRhs, evalRhs, hd]; rfl
  | _ => simp only [initRhs, evalRhs, hd, dflt_eval]

theorem init_default (args : List (Option Inst)) {R : Ty} (hf : Fields R) : ∀ (k : Nat) (h : Heap),
    (∀ j, j < nFields R → args[k + j]? = some none) →
    evalInit args h k (initStmts R k) = some (build h (zeroV R)) := by
  induction hf with
  | unit => intro k h _; rfl
  | @pair A R _ ih =>
    intro k h ha
    have tl := fun h1 => ih (k + 1) h1 fun j hj => by
      rw [Nat.add_right_comm]; exact ha (j + 1) (Nat.succ_lt_succ hj)
    rw [initStmts_pair, evalInit_cons, evalRhs_default (k := k) (ha 0 (Nat.succ_pos _))]
    simp only [tl]
    rfl

end PV.BStructProg
