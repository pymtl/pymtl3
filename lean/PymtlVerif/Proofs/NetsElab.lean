import PymtlVerif.Proofs.Nets
/-!
# The verdict of `elaborate` (`Model/Nets.lean`; C08, C09)

* well-formed designs have a symmetric `rel`;
* the verdict of `elaborate` is a function of the undirected edge *set* (and of the set of
  components in which a pair is connected);
* `_check_upblk_writes` fires iff two different blocks write related objects;
* the decision tables (operators, port directions) against declarative readings;
* `elaborate_first`: the stage at which `elaborate` stops is the first whose defect the design has.
-/
namespace PV.Nets

def Design.SlicesOk (D : Design) : Prop := ∀ o ∈ D.objs, SliceOk o

theorem Design.obj_eq_getElem (D : Design) {i : Nat} (hi : i < D.objs.length) : D.obj i = D.objs[i] :=
  (List.getElem_eq_getD default).symm

theorem Design.obj_sliceOk {D : Design} (h : D.SlicesOk) (i : Nat) : SliceOk (D.obj i) := by
  by_cases hi : i < D.objs.length
  · rw [D.obj_eq_getElem hi]; exact h _ (List.getElem_mem hi)
  · unfold Design.obj
    rw [List.getD_eq_getElem?_getD, List.getElem?_eq_none (Nat.le_of_not_lt hi)]
    exact fun s hs => nomatch hs

theorem Design.rel_symm {D : Design} (h : D.SlicesOk) (i j : Nat) : D.rel i j = D.rel j i :=
  related_symm _ _ (D.obj_sliceOk h i) (D.obj_sliceOk h j)

theorem normEdge_of_step {e : Edge} {a b : Nat} (he : (a, b) = e ∨ (b, a) = e) :
    normEdge e = normEdge (a, b) := by
  rcases he with rfl | rfl
  · rfl
  · exact normEdge_swap (a, b)

def Design.withConns (D : Design) (c : List (Nat × Nat × Nat)) : Design := { D with conns := c }

/-- the rounds look at the objects only -/
theorem pass_withConns (D : Design) (c : List (Nat × Nat × Nat)) :
    ∀ (pending : List (List Nat)) (st : RState), pass (D.withConns c) pending st = pass D pending st
  | [], _ => rfl
  | N :: rest, st => by
    have : stepNet (D.withConns c) st N = stepNet D st N := rfl
    simp only [pass, this, pass_withConns D c rest]

theorem rounds_withConns (D : Design) (c : List (Nat × Nat × Nat)) :
    ∀ (f : Nat) (st : RState), rounds (D.withConns c) f st = rounds D f st
  | 0, _ => rfl
  | f+1, st => by simp only [rounds, pass_withConns, rounds_withConns D c f]

theorem resolve_withConns (D : Design) (c : List (Nat × Nat × Nat))
    (hstep : ∀ a b, Step (D.withConns c).edges a b ↔ Step D.edges a b) : resolve (D.withConns c) = resolve D := by
  have h : (D.withConns c).nets = D.nets := nets_congr hstep
  unfold resolve
  rw [rounds_withConns, h, (by unfold initMarks; rw [h]; rfl : initMarks (D.withConns c) = initMarks D)]

theorem elaborate_congr (D : Design) (c : List (Nat × Nat × Nat))
    (hstep : ∀ a b, Step (D.withConns c).edges a b ↔ Step D.edges a b)
    (hconn : ∀ p u v, connectedIn (D.withConns c) p u v = connectedIn D p u v) :
    elaborate (D.withConns c) = elaborate D := by
  have hres := resolve_withConns D c hstep
  have hedge : ∀ u v, edgeErr (D.withConns c) u v = edgeErr D u v := by
    intro u v
    unfold edgeErr
    simp only [hconn]
    rfl
  have hport : ∀ hd, portNetErrs (D.withConns c) hd = portNetErrs D hd := by
    intro hd
    unfold portNetErrs
    simp only [funext (adj_simple_congr hstep), hedge]
  have h1 : opErrs (D.withConns c) = opErrs D := rfl
  have h4 : upblkErrs (D.withConns c) = upblkErrs D := rfl
  have h5 : portUpblkErrs (D.withConns c) = portUpblkErrs D := rfl
  unfold elaborate
  simp only [h1, h4, h5, hasLoop_congr hstep, hres, hport]

theorem connectedIn_iff (D : Design) (p u v : Nat) :
    connectedIn D p u v = true ↔ ((u, v, p) ∈ D.conns ∨ (v, u, p) ∈ D.conns) := by
  unfold connectedIn
  simp only [List.any_eq_true, Bool.and_eq_true, Bool.or_eq_true, beq_iff_eq]
  constructor
  · rintro ⟨⟨a, b, c⟩, he, rfl, (⟨rfl, rfl⟩ | ⟨rfl, rfl⟩)⟩
    · exact Or.inl he
    · exact Or.inr he
  · rintro (h | h)
    · exact ⟨_, h, rfl, Or.inl ⟨rfl, rfl⟩⟩
    · exact ⟨_, h, rfl, Or.inr ⟨rfl, rfl⟩⟩

/-- a step of the edges is a connect statement, either way round -/
theorem step_edges_iff (D : Design) (a b : Nat) :
    Step D.edges a b ↔ ∃ p, (a, b, p) ∈ D.conns ∨ (b, a, p) ∈ D.conns := by
  simp only [Step, Design.edges, List.mem_map, Prod.mk.injEq, Prod.exists, exists_and_right,
    exists_eq_right_right, exists_eq_right, exists_or]

/-- swap the two sides of the connect statements selected by `p` (by position) -/
def flipConns (p : Nat → Bool) (c : List (Nat × Nat × Nat)) : List (Nat × Nat × Nat) :=
  c.mapIdx (fun i e => if p i then (e.2.1, e.1, e.2.2) else e)

theorem mem_flipConns (p : Nat → Bool) (c : List (Nat × Nat × Nat)) (u v q : Nat) :
    ((u, v, q) ∈ flipConns p c ∨ (v, u, q) ∈ flipConns p c) ↔ ((u, v, q) ∈ c ∨ (v, u, q) ∈ c) :=
  mem_mapIdx_swap (fun e : Nat × Nat × Nat => (e.2.1, e.1, e.2.2)) (fun _ => rfl) p c (u, v, q)

theorem step_flipConns (D : Design) (p : Nat → Bool) (a b : Nat) :
    Step (D.withConns (flipConns p D.conns)).edges a b ↔ Step D.edges a b := by
  rw [step_edges_iff, step_edges_iff]
  exact exists_congr (mem_flipConns p D.conns a b)

/-! ## well-formed designs

`WF` keeps the part of `Design.wf` (what the driver checks before answering) that the theorems use;
the range checks on connect statements, hosts and reads are not needed. -/

structure Design.WF (D : Design) : Prop where
  slices : D.SlicesOk
  keyInj : ∀ i j, i < D.objs.length → j < D.objs.length → (D.obj i).key = (D.obj j).key → i = j
  wrange : ∀ w ∈ D.writes, w.2 < D.objs.length
  wsig : ∀ w ∈ D.writes, (D.obj w.2).kind ≠ .const

theorem wf_sound {D : Design} (h : D.wf = true) : D.WF := by
  unfold Design.wf at h
  simp only [Bool.and_eq_true, decide_eq_true_eq, List.all_eq_true, bne_iff_ne, ne_eq] at h
  obtain ⟨⟨⟨⟨hk, hs⟩, _⟩, hb⟩, _⟩ := h
  have hw : ∀ w ∈ D.writes, w.2 < D.objs.length ∧ ¬ (D.obj w.2).kind = .const := by
    rintro ⟨b, o⟩ hw
    obtain ⟨blk, hblk, op, hw'⟩ := (D.mem_writes b o).mp hw
    exact (hb blk (List.mem_of_getElem? hblk)).1.2 (o, op) hw'
  refine ⟨?_, ?_, fun w h => (hw w h).1, fun w h => (hw w h).2⟩
  · intro o ho s hsl
    have := hs o ho
    rw [hsl] at this
    exact of_decide_eq_true this
  · intro i j hi hj hkey
    have hnd : (D.objs.map Obj.key).Nodup := hk ▸ nodup_dedup _
    rw [D.obj_eq_getElem hi, D.obj_eq_getElem hj] at hkey
    refine (List.getElem_inj (i := i) (j := j) (h₀ := ?_) (h₁ := ?_) hnd).mp ?_
    · rw [List.length_map]; exact hi
    · rw [List.length_map]; exact hj
    · rw [List.getElem_map, List.getElem_map]; exact hkey

theorem Design.WF.final {D : Design} (hwf : D.WF) {st : RState} (h : resolve D = .ok st) : Final D st :=
  (resolve_sound (D.rel_symm hwf.slices)).ok h

/-- two different update blocks write related objects -/
def BlockConflict (D : Design) : Prop :=
  ∃ b1 o1 b2 o2, (b1, o1) ∈ D.writes ∧ (b2, o2) ∈ D.writes ∧ b1 ≠ b2 ∧ D.rel o1 o2 = true

theorem mem_writersOf (D : Design) (o b : Nat) : b ∈ writersOf D o ↔ (b, o) ∈ D.writes := by
  unfold writersOf
  rw [mem_dedup]
  simp only [List.mem_map, List.mem_filter, beq_iff_eq]
  exact ⟨fun ⟨⟨_, _⟩, ⟨hw, e1⟩, e2⟩ => e1 ▸ e2 ▸ hw, fun h => ⟨(b, o), ⟨h, rfl⟩, rfl⟩⟩

theorem mem_writtenObjs (D : Design) (o : Nat) : o ∈ writtenObjs D ↔ ∃ b, (b, o) ∈ D.writes := by
  unfold writtenObjs
  rw [mem_dedup]
  simp only [List.mem_map]
  exact ⟨fun ⟨⟨b, _⟩, hw, e⟩ => ⟨b, e ▸ hw⟩, fun ⟨b, hw⟩ => ⟨(b, o), hw, rfl⟩⟩

theorem properAnc_iff (a b : Obj) : properAnc a b = true ↔
    a.sid = b.sid ∧ a.slice = none ∧ a.fields <+: b.fields ∧ (a.fields.length < b.fields.length ∨ b.slice.isSome = true) := by
  unfold properAnc
  simp only [Bool.and_eq_true, Bool.or_eq_true, beq_iff_eq, decide_eq_true_eq, Option.isNone_iff_eq_none,
    isPrefix_iff, and_assoc]

theorem sibOverlap_iff (a b : Obj) : sibOverlap a b = true ↔
    a.sid = b.sid ∧ a.fields = b.fields ∧ ∃ x y, a.slice = some x ∧ b.slice = some y ∧ overlap x y = true := by
  unfold sibOverlap
  simp only [Bool.and_eq_true, beq_iff_eq, and_assoc]
  cases a.slice <;> cases b.slice <;> simp

theorem related_of_struct {x o : Obj} (hx : x.kind ≠ .const) (ho : o.kind ≠ .const)
    (h : properAnc x o = true ∨ sibOverlap x o = true) : related x o = true := by
  rw [related_iff]
  rcases h with h | h
  · obtain ⟨hsid, hsl, hp, _⟩ := (properAnc_iff x o).mp h
    refine ⟨hx, ho, hsid, ?_⟩
    rw [hsl]
    cases o.slice
    · exact Or.inl hp
    · exact hp
  · obtain ⟨hsid, hf, a, b, ha, hb, hov⟩ := (sibOverlap_iff x o).mp h
    refine ⟨hx, ho, hsid, ?_⟩
    rw [ha, hb]
    exact ⟨hf, hov⟩

theorem struct_of_related {x o : Obj} (h : related x o = true) (hkey : x.key ≠ o.key) :
    properAnc x o = true ∨ properAnc o x = true ∨ sibOverlap x o = true := by
  obtain ⟨_, _, hsid, hm⟩ := (related_iff x o).mp h
  simp only [properAnc_iff, sibOverlap_iff]
  -- different objects whose paths are prefixes of each other: one path is strictly shorter
  have anc : ∀ {a b : Obj}, a.sid = b.sid → a.slice = none → b.slice = none → a.key ≠ b.key → a.fields <+: b.fields →
      a.fields.length < b.fields.length := by
    intro a b h1 h2 h3 hk hp
    refine Nat.lt_of_not_le (fun hl => hk ?_)
    unfold Obj.key
    rw [h1, hp.eq_of_length_le hl, h2, h3]
  cases hX : x.slice with
  | none =>
    cases hO : o.slice with
    | none =>
      rw [hX, hO] at hm
      rcases hm with hm | hm
      · exact Or.inl ⟨hsid, rfl, hm, Or.inl (anc hsid hX hO hkey hm)⟩
      · exact Or.inr (Or.inl ⟨hsid.symm, rfl, hm, Or.inl (anc hsid.symm hO hX (Ne.symm hkey) hm)⟩)
    | some b =>
      rw [hX, hO] at hm
      exact Or.inl ⟨hsid, rfl, hm, Or.inr rfl⟩
  | some a =>
    cases hO : o.slice with
    | none =>
      rw [hX, hO] at hm
      exact Or.inr (Or.inl ⟨hsid.symm, rfl, hm, Or.inr rfl⟩)
    | some b =>
      rw [hX, hO] at hm
      exact Or.inr (Or.inr ⟨hsid, hm.1, a, b, rfl, rfl, hm.2⟩)

theorem sibOverlap_symm {x o : Obj} (hx : SliceOk x) (ho : SliceOk o) (h : sibOverlap x o = true) : sibOverlap o x = true := by
  obtain ⟨h1, h2, a, b, ha, hb, hov⟩ := (sibOverlap_iff x o).mp h
  exact (sibOverlap_iff o x).mpr ⟨h1.symm, h2.symm, b, a, hb, ha, overlap_symm a b (hx a ha) (ho b hb) ▸ hov⟩

theorem upblkErrObj_iff (D : Design) (o : Nat) : upblkErrObj D o = true ↔
    1 < (writersOf D o).length ∨ ∃ x ∈ writtenObjs D, x ≠ o ∧
      (properAnc (D.obj x) (D.obj o) = true ∨ sibOverlap (D.obj x) (D.obj o) = true) ∧
      (writersOf D x).head? ≠ (writersOf D o).head? := by
  unfold upblkErrObj
  simp only [Bool.or_eq_true, decide_eq_true_eq, List.any_eq_true, Bool.and_eq_true, bne_iff_ne, ne_eq, and_assoc]

/-- `_check_upblk_writes` raises iff two different blocks write related objects -/
theorem upblk_iff (D : Design) (hwf : D.WF) : upblkErrs D ≠ [] ↔ BlockConflict D := by
  have hne : upblkErrs D ≠ [] ↔ ∃ o ∈ writtenObjs D, upblkErrObj D o = true := by
    unfold upblkErrs
    rw [← List.any_eq_true]
    split <;> simp [*]
  rw [hne]
  -- the block the code compares for a written object: the first that writes it
  have first : ∀ {b o}, (b, o) ∈ D.writes → ∃ c, (writersOf D o).head? = some c ∧ (c, o) ∈ D.writes := by
    intro b o h
    cases hl : writersOf D o with
    | nil => exact absurd ((mem_writersOf D o b).mpr h) (hl ▸ List.not_mem_nil)
    | cons c r => exact ⟨c, rfl, (mem_writersOf D o c).mp (hl ▸ List.mem_cons_self ..)⟩
  have written : ∀ {b o}, (b, o) ∈ D.writes → o ∈ writtenObjs D := fun h => (mem_writtenObjs D _).mpr ⟨_, h⟩
  have two : ∀ {o b1 b2}, (b1, o) ∈ D.writes → (b2, o) ∈ D.writes → b1 ≠ b2 →
      ∃ o' ∈ writtenObjs D, upblkErrObj D o' = true := fun {o b1 b2} h1 h2 hne =>
    ⟨o, written h1, (upblkErrObj_iff D o).mpr (Or.inl
      (length_ge_two_of_mem ((mem_writersOf D o b1).mpr h1) ((mem_writersOf D o b2).mpr h2) hne))⟩
  constructor
  · rintro ⟨o, ho, hf⟩
    obtain ⟨bo, hbo⟩ := (mem_writtenObjs D o).mp ho
    rcases (upblkErrObj_iff D o).mp hf with hf | ⟨x, hx, _, hst, hhead⟩
    · obtain ⟨b1, b2, h1, h2, hne⟩ := two_of_length (nodup_dedup _) hf
      exact ⟨b1, o, b2, o, (mem_writersOf D o b1).mp h1, (mem_writersOf D o b2).mp h2, hne,
        related_self _ (hwf.wsig (bo, o) hbo) (D.obj_sliceOk hwf.slices o)⟩
    · obtain ⟨bx, hbx⟩ := (mem_writtenObjs D x).mp hx
      obtain ⟨c1, hc1, hm1⟩ := first hbx
      obtain ⟨c2, hc2, hm2⟩ := first hbo
      exact ⟨c1, x, c2, o, hm1, hm2, fun e => hhead (by rw [hc1, hc2, e]),
        related_of_struct (hwf.wsig (bx, x) hbx) (hwf.wsig (bo, o) hbo) hst⟩
  · rintro ⟨b1, o1, b2, o2, h1, h2, hne, hrel⟩
    by_cases ho : o1 = o2
    · subst ho; exact two h1 h2 hne
    · obtain ⟨c1, hc1, hm1⟩ := first h1
      obtain ⟨c2, hc2, hm2⟩ := first h2
      by_cases hcc : c1 = c2
      · -- the same first block: `b1` or `b2` is a second writer of its object
        subst hcc
        by_cases hb : b1 = c1
        · exact two h2 hm2 (hb ▸ hne.symm)
        · exact two h1 hm1 hb
      · have hheads : (writersOf D o1).head? ≠ (writersOf D o2).head? := by
          rw [hc1, hc2]; exact fun e => hcc (Option.some.inj e)
        have hk : (D.obj o1).key ≠ (D.obj o2).key := fun e =>
          ho (hwf.keyInj o1 o2 (hwf.wrange (b1, o1) h1) (hwf.wrange (b2, o2) h2) e)
        rcases struct_of_related hrel hk with hs | hs | hs
        · exact ⟨o2, written h2, (upblkErrObj_iff D o2).mpr (Or.inr ⟨o1, written h1, ho, Or.inl hs, hheads⟩)⟩
        · exact ⟨o1, written h1, (upblkErrObj_iff D o1).mpr (Or.inr ⟨o2, written h2, Ne.symm ho, Or.inl hs, hheads.symm⟩)⟩
        · exact ⟨o2, written h2, (upblkErrObj_iff D o2).mpr (Or.inr ⟨o1, written h1, ho, Or.inr hs, hheads⟩)⟩

/-- update block `b` writes an object that contains bit `bit` -/
def BlkDrives (D : Design) (b : Nat) (bit : Bit) : Prop := ∃ o, (b, o) ∈ D.writes ∧ covers (D.obj o) bit

theorem flatMap_filterMap_ne_nil {α β γ : Type} (l : List α) (g : α → List β) (f : α → β → Option γ) :
    l.flatMap (fun a => (g a).filterMap (f a)) ≠ [] ↔ ∃ a ∈ l, ∃ b ∈ g a, ¬ f a b = none := by
  rw [Ne, List.flatMap_eq_nil_iff]
  simp only [List.filterMap_eq_nil_iff, Classical.not_forall]
  exact ⟨fun ⟨a, ha, b, hb, h⟩ => ⟨a, ha, b, hb, h⟩, fun ⟨a, ha, b, hb, h⟩ => ⟨a, ha, b, hb, h⟩⟩

theorem ite_elim {α : Type} {P : α → Prop} {c : Prop} [Decidable c] {a b : α} (ha : P a) (hb : P b) :
    P (if c then a else b) :=
  iteInduction (fun _ => ha) (fun _ => hb)

/-- the assignment a block may make to a signal: `@=` in `update`; `<<=` on a top-level signal in
`update_ff` -/
def LegalOp (ff : Bool) (op : Op) (isTop : Bool) : Prop :=
  (ff = false ∧ op = .at) ∨ (ff = true ∧ op = .ff ∧ isTop = true)

theorem opErr_none_iff (ff : Bool) (op : Op) (isTop : Bool) : opErr ff op isTop = none ↔ LegalOp ff op isTop := by
  constructor
  · intro h
    cases ff <;> cases op
    case false.at => exact Or.inl ⟨rfl, rfl⟩
    case true.ff =>
      cases isTop
      · cases h
      · exact Or.inr ⟨rfl, rfl, rfl⟩
    all_goals cases h
  · rintro (⟨rfl, rfl⟩ | ⟨rfl, rfl, rfl⟩) <;> rfl

theorem opErr_class (ff : Bool) (op : Op) (isTop : Bool) (e : Err) (h : opErr ff op isTop = some e) :
    (ff = false ∧ e = .updateBlockWrite) ∨ (ff = true ∧ op ≠ .ff ∧ e = .updateFFBlockWrite) ∨
    (ff = true ∧ op = .ff ∧ isTop = false ∧ e = .updateFFNonTop) := by
  cases ff
  · exact Or.inl ⟨rfl, by cases op <;> cases h <;> rfl⟩
  · cases op
    case ff => cases isTop <;> cases h; exact Or.inr (Or.inr ⟨rfl, rfl, rfl, rfl⟩)
    all_goals cases h; exact Or.inr (Or.inl ⟨rfl, nofun, rfl⟩)

def OpDefect (D : Design) : Prop :=
  ∃ b ∈ D.blks, ∃ w ∈ b.writes, ¬ LegalOp b.ff w.2 (D.obj w.1).isTop

theorem opErrs_iff (D : Design) : opErrs D ≠ [] ↔ OpDefect D := by
  unfold opErrs OpDefect
  simp only [flatMap_filterMap_ne_nil, opErr_none_iff]

/-- what a block of component `h` may read: anything but a wire of another component -/
def LegalRead (D : Design) (h o : Nat) : Prop := (D.obj o).kind = .wire → (D.obj o).host = h

/-- what a block of component `h` may write: its own output ports and wires, the input ports of
its children -/
def LegalWrite (D : Design) (h o : Nat) : Prop :=
  match (D.obj o).kind with
  | .inp => D.parent (D.obj o).host = some h
  | .outp => (D.obj o).host = h
  | .wire => (D.obj o).host = h
  | .const => True

theorem ite_some_none {α : Type} {c : Prop} [Decidable c] {a : α} : (if c then some a else none) = none ↔ ¬ c := by
  split
  · next h => exact ⟨fun e => (nomatch e), fun n => absurd h n⟩
  · next h => exact ⟨fun _ => h, fun _ => rfl⟩

theorem ite_some_eq {α : Type} {c : Prop} [Decidable c] {a e : α} (h : (if c then some a else none) = some e) : e = a := by
  split at h
  · exact (Option.some.inj h).symm
  · cases h

theorem readErr_none_iff (D : Design) (h o : Nat) : readErr D h o = none ↔ LegalRead D h o := by
  unfold readErr LegalRead
  simp only [ite_some_none, Bool.and_eq_true, beq_iff_eq, bne_iff_ne, ne_eq, not_and, Decidable.not_not]

theorem writeErr_none_iff (D : Design) (h o : Nat) : writeErr D h o = none ↔ LegalWrite D h o := by
  unfold writeErr LegalWrite
  cases hk : (D.obj o).kind <;> simp only [hk, ite_some_none, bne_iff_ne, ne_eq, Decidable.not_not]

theorem readErr_type (D : Design) (h o : Nat) (e : Err) (he : readErr D h o = some e) : e = .signalType 1 :=
  ite_some_eq he

theorem writeErr_type (D : Design) (h o : Nat) (e : Err) (he : writeErr D h o = some e) :
    ((D.obj o).kind = .inp ∧ e = .signalType 2) ∨ ((D.obj o).kind = .outp ∧ e = .signalType 3) ∨
    ((D.obj o).kind = .wire ∧ e = .signalType 4) := by
  unfold writeErr at he
  cases hk : (D.obj o).kind <;> simp only [hk] at he
  · exact Or.inl ⟨rfl, ite_some_eq he⟩
  · exact Or.inr (Or.inl ⟨rfl, ite_some_eq he⟩)
  · exact Or.inr (Or.inr ⟨rfl, ite_some_eq he⟩)
  · cases he

def PortUpblkDefect (D : Design) : Prop :=
  (∃ b ∈ D.blks, ∃ r ∈ b.reads, ¬ LegalRead D b.host r) ∨ (∃ b ∈ D.blks, ∃ w ∈ b.writes, ¬ LegalWrite D b.host w.1)

theorem portUpblkErrs_iff (D : Design) : portUpblkErrs D ≠ [] ↔ PortUpblkDefect D := by
  unfold portUpblkErrs PortUpblkDefect
  rw [Ne, List.append_eq_nil_iff, Classical.not_and_iff_not_or_not]
  simp only [← Ne.eq_1, flatMap_filterMap_ne_nil, readErr_none_iff, writeErr_none_iff]

/-- the data flows `_check_port_in_nets` allows along one connection, `u` being nearer to the
writer than `v`: inside a component to its output ports and wires (or from an output port back to
an input port when the connection was made in the parent); from a child's output port up to the
parent's output ports and wires; from the parent down into a child's input port; from an output
port of one child to an input port of a sibling -/
def LegalFlow (D : Design) (u v : Nat) : Prop :=
  let ku := (D.obj u).kind; let kv := (D.obj v).kind
  let wh := (D.obj u).host; let rh := (D.obj v).host
  (wh = rh ∧ (kv = .outp ∨ kv = .wire ∨
      (ku = .outp ∧ kv = .inp ∧ ∃ p, D.parent wh = some p ∧ connectedIn D p u v = true))) ∨
  (wh ≠ rh ∧ D.parent wh = some rh ∧ ku = .outp ∧ (kv = .outp ∨ kv = .wire)) ∨
  (wh ≠ rh ∧ D.parent wh ≠ some rh ∧ D.parent rh = some wh ∧ kv = .inp) ∨
  (wh ≠ rh ∧ D.parent wh ≠ some rh ∧ D.parent rh ≠ some wh ∧ D.parent wh = D.parent rh ∧ ku = .outp ∧ kv = .inp)

/-- the branches of `edgeErr` and the disjuncts of `LegalFlow` are guarded by the same tests -/
theorem edgeErr_none_iff (D : Design) (u v : Nat) : edgeErr D u v = none ↔ LegalFlow D u v := by
  unfold edgeErr LegalFlow
  simp only [beq_iff_eq, Bool.or_eq_true, Bool.and_eq_true]
  cases D.parent (D.obj u).host <;> grind

theorem edgeErr_type (D : Design) (u v : Nat) (e : Err) (he : edgeErr D u v = some e) :
    e = .invalidConnection ∨ ∃ k, 5 ≤ k ∧ k ≤ 9 ∧ e = .signalType k := by
  let P : Option Err → Prop := fun o => ∀ e, o = some e →
    e = .invalidConnection ∨ ∃ k, 5 ≤ k ∧ k ≤ 9 ∧ e = .signalType k
  have hn : P none := fun e h => nomatch h
  have hi : P (some .invalidConnection) := fun e h => Or.inl (Option.some.inj h).symm
  have ht : ∀ k, 5 ≤ k → k ≤ 9 → P (some (.signalType k)) :=
    fun k h1 h2 e h => Or.inr ⟨k, h1, h2, (Option.some.inj h).symm⟩
  refine (?_ : P (edgeErr D u v)) e he
  -- every leaf of the decision tree is `none`, `invalidConnection` or a Type 5–9 error
  unfold edgeErr
  refine ite_elim (ite_elim hn (ite_elim ?_ (ht 5 (by decide) (by decide))))
    (ite_elim (ite_elim hn (ht 6 (by decide) (by decide)))
      (ite_elim (ite_elim hn (ht 7 (by decide) (by decide)))
        (ite_elim (ite_elim hn (ht 8 (by decide) (by decide))) (ht 9 (by decide) (by decide)))))
  cases D.parent (D.obj u).host with
  | none => exact hi
  | some p => exact ite_elim hn hi

/-- a net none of whose members is driven from elsewhere -/
def NoWriter (D : Design) : Prop := ∃ N ∈ D.nets, ∀ x ∈ N, ¬ Src D (rep N) x

/-- a connection that is walked from a net's writer in a direction the port table forbids
(what the walk lists: `Props/C09.lean: port_walk_spec`) -/
def PortNetDefect (D : Design) : Prop :=
  ∃ st, resolve D = .ok st ∧ ∃ wn ∈ st.headed,
    ∃ p ∈ walk (fun u => sortDedup (adj (simple D.edges) u)) (wn.2.length + 1) [wn.1] [wn.1], ¬ LegalFlow D p.1 p.2

theorem resolve_error_iff (D : Design) (hsym : ∀ i j, D.rel i j = D.rel j i) :
    ((∃ e, resolve D = .error e) ↔ Bad D) ∧ ∀ e, resolve D = .error e → e = .multiWriter :=
  ⟨error_iff_bad (resolve_sound hsym), fun _ he => ((resolve_sound hsym).error he).1⟩

theorem resolve_headless_iff (D : Design) (hwf : D.WF) {st : RState}
    (hr : resolve D = .ok st) : st.headless ≠ [] ↔ NoWriter D := by
  have hF := hwf.final hr
  exact ⟨fun h => let ⟨N, hN⟩ := List.exists_mem_of_ne_nil _ h; ⟨N, (hF.headless_iff N).mp hN⟩,
    fun ⟨N, h⟩ => List.ne_nil_of_mem ((hF.headless_iff N).mpr h)⟩

theorem portNetErrs_iff (D : Design) (hd : List (Nat × List Nat)) :
    portNetErrs D hd ≠ [] ↔ ∃ wn ∈ hd,
      ∃ p ∈ walk (fun u => sortDedup (adj (simple D.edges) u)) (wn.2.length + 1) [wn.1] [wn.1], ¬ LegalFlow D p.1 p.2 := by
  unfold portNetErrs
  simp only [flatMap_filterMap_ne_nil, edgeErr_none_iff]

/-- a structural defect, stated without reference to any processing order except for the walk of
`PortNetDefect` (the resolved nets it starts from are order-free: `Final.headed_iff`) -/
def Defect (D : Design) : Prop :=
  OpDefect D ∨ HasCycle (simple D.edges) ∨ Bad D ∨ BlockConflict D ∨ PortUpblkDefect D ∨ NoWriter D ∨ PortNetDefect D

/-- one stage of `elaborate`: its error list `l` is non-empty exactly when the design has the stage's defect `Q`; then `a` is
the outcome, otherwise the later stages decide -/
theorem stage {α β : Type} {P : β → Prop} {Q : Prop} {l : List α} (hQ : l ≠ [] ↔ Q) {a b : β} (ha : Q → l ≠ [] → P a)
    (hb : ¬ Q → P b) : P (if !l.isEmpty then a else b) := by
  cases l with
  | nil => exact hb fun h => hQ.mpr h rfl
  | cons x r => exact ha (hQ.mp (List.cons_ne_nil _ _)) (List.cons_ne_nil _ _)

/-- `elaborate` stops at the first stage whose defect the design has and reports that stage's
errors; it accepts when the design has none. A property of the outcome is proved by proving it of
each stage's report, given the defect found there and that the earlier stages' defects are absent -/
theorem elaborate_first {P : Outcome → Prop} (D : Design) (hwf : D.WF)
    (s1 : OpDefect D → opErrs D ≠ [] → P ⟨1, opErrs D, [], []⟩)
    (s2 : ¬ OpDefect D → HasCycle (simple D.edges) → P ⟨2, [.invalidConnection], [], []⟩)
    (s3 : ¬ OpDefect D → ¬ HasCycle (simple D.edges) → Bad D → P ⟨3, [.multiWriter], [], []⟩)
    (s4 : ¬ OpDefect D → ¬ HasCycle (simple D.edges) → ¬ Bad D → BlockConflict D → upblkErrs D ≠ [] →
      ∀ hd hl, P ⟨4, upblkErrs D, hd, hl⟩)
    (s5 : ¬ OpDefect D → ¬ HasCycle (simple D.edges) → ¬ Bad D → ¬ BlockConflict D → PortUpblkDefect D →
      portUpblkErrs D ≠ [] → ∀ hd hl, P ⟨5, portUpblkErrs D, hd, hl⟩)
    (s6 : ¬ OpDefect D → ¬ HasCycle (simple D.edges) → ¬ Bad D → ¬ BlockConflict D → ¬ PortUpblkDefect D → NoWriter D →
      ∀ hd hl, P ⟨6, [.noWriter], hd, hl⟩)
    (s7 : ¬ OpDefect D → ¬ HasCycle (simple D.edges) → ¬ Bad D → ¬ BlockConflict D → ¬ PortUpblkDefect D → ¬ NoWriter D →
      PortNetDefect D → ∀ hd hl, portNetErrs D hd ≠ [] → P ⟨7, portNetErrs D hd, hd, hl⟩)
    (s0 : ¬ Defect D → ∀ hd hl, P ⟨0, [], hd, hl⟩) : P (elaborate D) := by
  unfold elaborate
  apply stage (opErrs_iff D) s1; intro n1
  cases h2 : hasLoop D.edges with
  | true => exact s2 n1 ((cyc_iff _).mp h2)
  | false =>
    have n2 : ¬ HasCycle (simple D.edges) := fun h => Bool.false_ne_true (h2 ▸ (cyc_iff _).mpr h)
    cases hr : resolve D with
    | error e =>
      obtain ⟨rfl, hb⟩ := (resolve_sound (D.rel_symm hwf.slices)).error hr
      exact s3 n1 n2 hb
    | ok st =>
      have n3 : ¬ Bad D := (hwf.final hr).not_bad
      -- the walk of the last stage starts from the nets resolved here
      have h7 : portNetErrs D st.headed ≠ [] ↔ PortNetDefect D := (portNetErrs_iff D _).trans
        ⟨fun h => ⟨st, hr, h⟩, fun ⟨st', hr', h⟩ => by cases hr.symm.trans hr'; exact h⟩
      apply stage (upblk_iff D hwf) (fun h hne => s4 n1 n2 n3 h hne _ _); intro n4
      apply stage (portUpblkErrs_iff D) (fun h hne => s5 n1 n2 n3 n4 h hne _ _); intro n5
      apply stage (resolve_headless_iff D hwf hr) (fun h _ => s6 n1 n2 n3 n4 n5 h _ _); intro n6
      apply stage h7 (fun h hne => s7 n1 n2 n3 n4 n5 n6 h _ _ hne); intro n7
      refine s0 ?_ _ _
      rintro (h | h | h | h | h | h | h)
      · exact n1 h
      · exact n2 h
      · exact n3 h
      · exact n4 h
      · exact n5 h
      · exact n6 h
      · exact n7 h

theorem verdict_iff (D : Design) (hwf : D.WF) : (elaborate D).verdict.isSome = true ↔ Defect D := by
  have hv : ∀ {k : Nat} {es : List Err} {hd : List (Nat × List Nat)} {hl : List (List Nat)}, es ≠ [] →
      (Outcome.mk k es hd hl).verdict.isSome = true := by
    intro k es hd hl h
    cases es with
    | nil => exact absurd rfl h
    | cons => rfl
  refine elaborate_first D hwf (P := fun o => o.verdict.isSome = true ↔ _) ?_ ?_ ?_ ?_ ?_ ?_ ?_ ?_
  · exact fun h hne => iff_of_true (hv hne) (.inl h)
  · exact fun _ h => iff_of_true rfl (.inr (.inl h))
  · exact fun _ _ h => iff_of_true rfl (.inr (.inr (.inl h)))
  · exact fun _ _ _ h hne _ _ => iff_of_true (hv hne) (.inr (.inr (.inr (.inl h))))
  · exact fun _ _ _ _ h hne _ _ => iff_of_true (hv hne) (.inr (.inr (.inr (.inr (.inl h)))))
  · exact fun _ _ _ _ _ h _ _ => iff_of_true rfl (.inr (.inr (.inr (.inr (.inr (.inl h))))))
  · exact fun _ _ _ _ _ _ h _ _ hne => iff_of_true (hv hne) (.inr (.inr (.inr (.inr (.inr (.inr h))))))
  · exact fun h _ _ => iff_of_false (fun h' => nomatch h') h

def Err.isOp : Err → Bool
  | .updateBlockWrite | .updateFFBlockWrite | .updateFFNonTop => true
  | _ => false

/-- the error the model reports is of the class of a defect the design has; that it is the first such
stage is `elaborate_first`, which this follows from -/
theorem verdict_class (D : Design) (hwf : D.WF) (e : Err) (h : (elaborate D).verdict = some e) :
    (OpDefect D ∧ e.isOp = true) ∨
    (HasCycle (simple D.edges) ∧ e = .invalidConnection) ∨
    ((Bad D ∨ BlockConflict D) ∧ e = .multiWriter) ∨
    (PortUpblkDefect D ∧ ∃ k, 1 ≤ k ∧ k ≤ 4 ∧ e = .signalType k) ∨
    (NoWriter D ∧ e = .noWriter) ∨
    (PortNetDefect D ∧ (e = .invalidConnection ∨ ∃ k, 5 ≤ k ∧ k ≤ 9 ∧ e = .signalType k)) := by
  -- every error a stage reports, not only the first, is of the stage's class
  refine elaborate_first D hwf (P := fun o => e ∈ o.errs → _) ?_ ?_ ?_ ?_ ?_ ?_ ?_ ?_ (List.mem_of_mem_head? h)
  · intro h1 _ hm
    simp only [opErrs, List.mem_flatMap, List.mem_filterMap] at hm
    obtain ⟨b, _, w, _, hs⟩ := hm
    refine .inl ⟨h1, ?_⟩
    rcases opErr_class _ _ _ _ hs with ⟨_, rfl⟩ | ⟨_, _, rfl⟩ | ⟨_, _, _, rfl⟩ <;> rfl
  · exact fun _ h2 hm => .inr (.inl ⟨h2, List.mem_singleton.mp hm⟩)
  · exact fun _ _ h3 hm => .inr (.inr (.inl ⟨.inl h3, List.mem_singleton.mp hm⟩))
  · intro _ _ _ h4 _ _ _ hm
    refine .inr (.inr (.inl ⟨.inr h4, ?_⟩))
    unfold upblkErrs at hm
    split at hm
    · exact List.mem_singleton.mp hm
    · cases hm
  · intro _ _ _ _ h5 _ _ _ hm
    refine .inr (.inr (.inr (.inl ⟨h5, ?_⟩)))
    simp only [portUpblkErrs, List.mem_append, List.mem_flatMap, List.mem_filterMap] at hm
    rcases hm with ⟨b, _, r, _, hs⟩ | ⟨b, _, w, _, hs⟩
    · exact ⟨1, by decide, by decide, readErr_type _ _ _ _ hs⟩
    · rcases writeErr_type _ _ _ _ hs with ⟨_, rfl⟩ | ⟨_, rfl⟩ | ⟨_, rfl⟩
      · exact ⟨2, by decide, by decide, rfl⟩
      · exact ⟨3, by decide, by decide, rfl⟩
      · exact ⟨4, by decide, by decide, rfl⟩
  · exact fun _ _ _ _ _ h6 _ _ hm => .inr (.inr (.inr (.inr (.inl ⟨h6, List.mem_singleton.mp hm⟩))))
  · intro _ _ _ _ _ _ h7 _ _ _ hm
    refine .inr (.inr (.inr (.inr (.inr ⟨h7, ?_⟩))))
    simp only [portNetErrs, List.mem_flatMap, List.mem_filterMap] at hm
    obtain ⟨_, _, p, _, hs⟩ := hm
    exact edgeErr_type _ _ _ _ hs
  · exact fun _ _ _ hm => nomatch hm

end PV.Nets
