import PymtlVerif.Model.SVMod
import PymtlVerif.Proofs.Sched
import PymtlVerif.Proofs.SVEqns
import PymtlVerif.Proofs.ListFacts
/-!
Theorems about the module level of the SystemVerilog model (`Model/SVMod.lean`):

* `singleDriver_sound` / `singleDriver_complete`: the pairwise rectangle-overlap test `singleDriver`
  is exactly (the converse for non-empty rectangles) "no position (variable, element, bit) has two driving processes";
* the scheduling theory of `Proofs/Sched.lean` instantiated for flattened designs: when the
  processes of a design are *represented* by abstract blocks (hypothesis `Represents vw`: under an
  abstraction `vw` of the simulation state — the raw store, or the store restricted as needed —
  executing process `i` acts as the run function of block `i`) that are well-formed and swept in a
  topological order, a state no process changes is the state after one sweep from any state with the same
  undriven variables; if the blocks are moreover single-writer, one sweep reaches such a state, a second sweep
  changes nothing, every store `settleN` returns is that state, and any other topological sweep order
  gives the same store.

What is *assumed*, not proved, here: the frame / dependency properties of `exec` (they are the
hypotheses `Blk.Wf` of the representing blocks and `Represents`); that the blocks are single-writer and
topologically ordered (nothing derives `SingleWriter bs` from `singleDriver ws = true`); and, for termination of
`settleN` within two sweeps, that equal abstractions of the stores after the first and second sweep mean equal
cell lists (`settleN` compares the association lists `cells`, which is finer than equality of all
`get`s; for the raw view it is enough that the second sweep creates no store cell, but under the raw view a
process that assigns a declared vector has no well-formed block: see the non-vacuity section).
-/
namespace PV.SV

theorem mem_drivers {ws : List (List WR)} {x : String} {e b k : Nat} :
    k ∈ drivers ws x e b ↔ ∃ a, (a, k) ∈ ws.zipIdx ∧ ∃ r ∈ a, r.has x e b := by
  simp only [drivers, List.mem_map, List.mem_filter, List.any_eq_true, decide_eq_true_eq, Prod.exists,
    exists_eq_right]

theorem drivers_nodup (ws : List (List WR)) (x : String) (e b : Nat) : (drivers ws x e b).Nodup := by
  have hs : (drivers ws x e b).Sublist (ws.zipIdx.map (·.2)) := List.Sublist.map _ List.filter_sublist
  exact List.Pairwise.sublist hs (List.zipIdx_map_snd .. ▸ List.nodup_range')

theorem driverConflicts_eq_nil (ws : List (List WR)) :
    driverConflicts ws = [] ↔
      ∀ a i, (a, i) ∈ ws.zipIdx → ∀ c j, (c, j) ∈ ws.zipIdx → i < j →
        ∀ r ∈ a, ∀ r' ∈ c, r'.overlap r = false := by
  simp only [driverConflicts, List.flatMap_eq_nil_iff, Prod.forall]
  refine forall₂_congr fun a i => forall_congr' fun _ => forall₂_congr fun c j => forall_congr' fun _ => ?_
  by_cases hij : i < j
  · rw [if_pos hij]
    cases hf : a.find? (fun r => c.any (·.overlap r)) with
    | none =>
      simp only [List.find?_eq_none, List.any_eq_true, not_exists, not_and, Bool.not_eq_true] at hf
      exact iff_of_true rfl fun _ => hf
    | some r =>
      refine iff_of_false (List.cons_ne_nil _ _) fun h => ?_
      have hp := List.find?_some hf
      obtain ⟨r', hr', hov⟩ := List.any_eq_true.mp hp
      exact Bool.false_ne_true ((h hij r (List.mem_of_find?_eq_some hf) r' hr').symm.trans hov)
  · rw [if_neg hij]
    exact iff_of_true rfl fun h => absurd h hij

theorem overlap_iff {a b : WR} : a.overlap b = true ↔
    a.x = b.x ∧ a.e0 < b.e1 ∧ b.e0 < a.e1 ∧ a.b0 < b.b1 ∧ b.b0 < a.b1 := by
  simp only [WR.overlap, Bool.and_eq_true, beq_iff_eq, decide_eq_true_eq, and_assoc]

theorem overlap_of_has {r r' : WR} {x : String} {e b : Nat} (h : r.has x e b) (h' : r'.has x e b) :
    r'.overlap r = true := by
  obtain ⟨hx, h1, h2, h3, h4⟩ := h
  obtain ⟨hx', h1', h2', h3', h4'⟩ := h'
  exact overlap_iff.mpr ⟨hx'.trans hx.symm, Nat.lt_of_le_of_lt h1' h2, Nat.lt_of_le_of_lt h1 h2',
    Nat.lt_of_le_of_lt h3' h4, Nat.lt_of_le_of_lt h3 h4'⟩

def WR.NonEmpty (r : WR) : Prop := r.e0 < r.e1 ∧ r.b0 < r.b1

theorem interval_meet {a0 a1 b0 b1 : Nat} (ha : a0 < a1) (hb : b0 < b1) (h1 : a0 < b1) (h2 : b0 < a1) :
    ∃ e, (a0 ≤ e ∧ e < a1) ∧ b0 ≤ e ∧ e < b1 :=
  ⟨max a0 b0, ⟨Nat.le_max_left .., Nat.max_lt.mpr ⟨ha, h2⟩⟩, Nat.le_max_right .., Nat.max_lt.mpr ⟨h1, hb⟩⟩

theorem has_of_overlap {r r' : WR} (hne : r.NonEmpty) (hne' : r'.NonEmpty) (h : r'.overlap r = true) :
    ∃ e b, r.has r.x e b ∧ r'.has r.x e b := by
  obtain ⟨hx, h1, h2, h3, h4⟩ := overlap_iff.mp h
  obtain ⟨e, he, he'⟩ := interval_meet hne.1 hne'.1 h2 h1
  obtain ⟨b, hb, hb'⟩ := interval_meet hne.2 hne'.2 h4 h3
  exact ⟨e, b, ⟨rfl, he.1, he.2, hb⟩, hx, he'.1, he'.2, hb'⟩

theorem conflict_of_two {ws : List (List WR)} {x : String} {e b i j : Nat}
    (hi : i ∈ drivers ws x e b) (hj : j ∈ drivers ws x e b) (hij : i < j) : driverConflicts ws ≠ [] := by
  intro hnil
  obtain ⟨a, ha, r, hr, hrx⟩ := mem_drivers.mp hi
  obtain ⟨c, hc, r', hr', hrx'⟩ := mem_drivers.mp hj
  exact Bool.false_ne_true
    (((driverConflicts_eq_nil ws).mp hnil a i ha c j hc hij r hr r' hr').symm.trans (overlap_of_has hrx hrx'))

theorem singleDriver_sound (ws : List (List WR)) (h : singleDriver ws = true) (x : String) (e b : Nat) :
    (drivers ws x e b).length ≤ 1 := by
  have hnil : driverConflicts ws = [] := List.isEmpty_iff.mp h
  refine length_le_one_of_all_eq (drivers_nodup ws x e b) fun i hi j hj => ?_
  rcases Nat.lt_trichotomy i j with hlt | heq | hlt
  · exact absurd hnil (conflict_of_two hi hj hlt)
  · exact heq
  · exact absurd hnil (conflict_of_two hj hi hlt)

theorem singleDriver_complete (ws : List (List WR)) (hne : ∀ w ∈ ws, ∀ r ∈ w, r.NonEmpty)
    (h : singleDriver ws = false) : ∃ x e b, 2 ≤ (drivers ws x e b).length := by
  have mem := fun {a i} (h : (a, i) ∈ ws.zipIdx) => List.mem_of_getElem? (List.mk_mem_zipIdx_iff_getElem?.mp h)
  apply Classical.byContradiction
  intro hno
  -- otherwise no two rectangles of different processes overlap, and the test passes
  have hnil := (driverConflicts_eq_nil ws).mpr fun a i ha c j hc hij r hr r' hr' =>
    Bool.eq_false_iff.mpr fun hov => by
      obtain ⟨e, b, h1, h2⟩ := has_of_overlap (hne a (mem ha) r hr) (hne c (mem hc) r' hr') hov
      exact hno ⟨r.x, e, b, length_ge_two_of_mem (mem_drivers.mpr ⟨a, ha, r, hr, h1⟩)
        (mem_drivers.mpr ⟨c, hc, r', hr', h2⟩) (Nat.ne_of_lt hij)⟩
  exact Bool.false_ne_true (h.symm.trans (List.isEmpty_iff.mpr hnil))

theorem singleDriver_iff (ws : List (List WR)) (hne : ∀ w ∈ ws, ∀ r ∈ w, r.NonEmpty) :
    singleDriver ws = true ↔ ∀ x e b, (drivers ws x e b).length ≤ 1 := by
  refine ⟨singleDriver_sound ws, fun h => ?_⟩
  cases hs : singleDriver ws with
  | true => rfl
  | false =>
    obtain ⟨x, e, b, h2⟩ := singleDriver_complete ws hne hs
    exact absurd (Nat.le_trans h2 (h x e b)) (by decide)


example : singleDriver [[⟨"x", 0, 1, 0, 4⟩], [⟨"x", 0, 1, 4, 8⟩, ⟨"y", 0, 2, 0, 8⟩]] = true := by decide
example : singleDriver [[⟨"x", 0, 1, 0, 5⟩], [⟨"x", 0, 1, 4, 8⟩]] = false := by decide
example : drivers [[⟨"x", 0, 1, 0, 5⟩], [⟨"x", 0, 1, 4, 8⟩]] "x" 0 4 = [0, 1] := by decide
/-- an empty rectangle can be reported although it drives nothing: `NonEmpty` is needed for the converse -/
example : singleDriver [[⟨"x", 5, 3, 0, 8⟩], [⟨"x", 0, 10, 0, 8⟩]] = false := by decide

end PV.SV

namespace PV.Sched
variable {Var Val : Type}

/-- sweep until `stable` says that nothing changed: the loop of `PV.SV.settleN` over abstract blocks.  `settleN` itself tests
    the cell lists, which is not a function of the abstract state, so its own facts (`settleN_view`, `settleN_terminates`) are
    proved on it directly. -/
def sweepN (stable : St Var Val → St Var Val → Bool) (bs : List (Blk Var Val)) :
    Nat → St Var Val → Option (St Var Val)
  | 0, _ => none
  | n + 1, s => if stable (runList bs s) s then some (runList bs s) else sweepN stable bs n (runList bs s)

theorem sweepN_eq (stable : St Var Val → St Var Val → Bool) (bs : List (Blk Var Val))
    (hwf : ∀ b ∈ bs, b.Wf) (hsw : SingleWriter bs) (htopo : Topo bs)
    (n : Nat) (s r : St Var Val) (h : sweepN stable bs n s = some r) : r = runList bs s := by
  induction n generalizing s with
  | zero => cases h
  | succ n ih =>
    unfold sweepN at h
    split at h
    · exact (Option.some.inj h).symm
    · rw [ih _ h, settle_topo bs hwf hsw htopo]

theorem sweepN_terminates (stable : St Var Val → St Var Val → Bool) (hrefl : ∀ s, stable s s = true)
    (bs : List (Blk Var Val)) (hwf : ∀ b ∈ bs, b.Wf) (hsw : SingleWriter bs) (htopo : Topo bs)
    (n : Nat) (s : St Var Val) : sweepN stable bs (n + 2) s = some (runList bs s) := by
  unfold sweepN
  split
  · rfl
  · unfold sweepN
    rw [settle_topo bs hwf hsw htopo, hrefl]
    rfl

end PV.Sched

namespace PV.SV
open PV.Sched

def view (s : XS) : St Key Nat := fun k => s.σ.get k

theorem settleN_two (castB : Bool) (Γ : Env) (ps : List Proc) (n : Nat) (s : XS)
    (h : (runProcs castB Γ ps (runProcs castB Γ ps s)).σ.cells = (runProcs castB Γ ps s).σ.cells) :
    ∃ r, settleN castB Γ ps (n + 2) s = some r := by
  by_cases h1 : ((runProcs castB Γ ps s).σ.cells == s.σ.cells) = true
  · exact ⟨_, if_pos h1⟩
  · exact ⟨_, (if_neg h1).trans (if_pos (h ▸ beq_self_eq_true _))⟩

section design
/- `vw` is the abstraction of a simulation state the blocks work on: the raw store `view`, or a
   restriction of it (e.g. every cell taken modulo the declared width of its variable, so that the
   bits above the width, which `poke` preserves, are not part of the state). -/
variable {Var Val : Type} (vw : XS → St Var Val)

def Sim (castB : Bool) (Γ : Env) (p : Proc) (b : Blk Var Val) : Prop :=
  ∀ s : XS, vw (exec castB Γ p.body s) = b.run (vw s)

def Represents (castB : Bool) (Γ : Env) : List Proc → List (Blk Var Val) → Prop
  | [], [] => True
  | p :: ps, b :: bs => Sim vw castB Γ p b ∧ Represents castB Γ ps bs
  | _, _ => False

variable {vw} {castB : Bool} {Γ : Env} {ps : List Proc} {bs : List (Blk Var Val)}

theorem Represents.induction {motive : ∀ ps bs, Represents vw castB Γ ps bs → Prop} (nil : motive [] [] trivial)
    (cons : ∀ {p ps b bs} (hs : Sim vw castB Γ p b) (h : Represents vw castB Γ ps bs), motive ps bs h →
      motive (p :: ps) (b :: bs) ⟨hs, h⟩) :
    ∀ ps bs h, motive ps bs h := by
  intro ps
  induction ps with
  | nil => intro bs h; cases bs with
    | nil => exact nil
    | cons _ _ => exact h.elim
  | cons p ps ih => intro bs h; cases bs with
    | nil => exact h.elim
    | cons b bs => exact cons h.1 h.2 (ih bs h.2)

/-- no process changes the view of `t` exactly when no block changes it -/
theorem Represents.fixed_iff (h : Represents vw castB Γ ps bs) (t : XS) :
    (∀ p ∈ ps, vw (exec castB Γ p.body t) = vw t) ↔ ∀ b ∈ bs, b.run (vw t) = vw t := by
  induction ps, bs, h using Represents.induction with
  | nil => exact ⟨fun _ _ => nofun, fun _ _ => nofun⟩
  | cons hs _ ih => rw [List.forall_mem_cons, List.forall_mem_cons, ih, hs t]

theorem view_runProcs
    (h : Represents vw castB Γ ps bs) (s : XS) : vw (runProcs castB Γ ps s) = runList bs (vw s) := by
  induction ps, bs, h using Represents.induction generalizing s with
  | nil => rfl
  | cons hs _ ih => exact (ih _).trans (congrArg (runList _) (hs s))

theorem design_fixed_point (hrep : Represents vw castB Γ ps bs) (hwf : ∀ b ∈ bs, b.Wf)
    (hsw : SingleWriter bs) (htopo : Topo bs) (s : XS) :
    ∀ p ∈ ps, vw (exec castB Γ p.body (runProcs castB Γ ps s)) = vw (runProcs castB Γ ps s) := by
  rw [hrep.fixed_iff, view_runProcs hrep]
  exact fixed_point_of_topo bs hwf hsw htopo (vw s)

section
variable (hrep : Represents vw castB Γ ps bs) (hwf : ∀ b ∈ bs, b.Wf) (hsw : SingleWriter bs) (htopo : Topo bs)
include hrep hwf hsw htopo

theorem design_sweep_idempotent (s : XS) :
    vw (runProcs castB Γ ps (runProcs castB Γ ps s)) = vw (runProcs castB Γ ps s) := by
  rw [view_runProcs hrep, view_runProcs hrep]
  exact settle_topo bs hwf hsw htopo (vw s)

omit hsw in
theorem design_fixpoint_unique (s t : XS)
    (hin : ∀ k, (∀ b ∈ bs, ¬ b.W k) → vw t k = vw s k)
    (ht : ∀ p ∈ ps, vw (exec castB Γ p.body t) = vw t) :
    vw t = vw (runProcs castB Γ ps s) := by
  rw [view_runProcs hrep]
  exact fixed_eq_sweep bs hwf htopo _ _ hin ((hrep.fixed_iff t).mp ht)

theorem design_order_independent {ps' : List Proc} {bs' : List (Blk Var Val)} (hrep' : Represents vw castB Γ ps' bs')
    (hperm : bs.Perm bs') (htopo' : Topo bs') (s : XS) :
    vw (runProcs castB Γ ps' s) = vw (runProcs castB Γ ps s) := by
  rw [view_runProcs hrep, view_runProcs hrep']
  exact (schedule_independent bs bs' hperm hwf hsw htopo htopo' (vw s)).symm

theorem settleN_view (n : Nat) (s r : XS)
    (h : settleN castB Γ ps n s = some r) : vw r = vw (runProcs castB Γ ps s) := by
  induction n generalizing s with
  | zero => cases h
  | succ n ih =>
    by_cases h1 : ((runProcs castB Γ ps s).σ.cells == s.σ.cells) = true
    · rw [← Option.some.inj ((if_pos h1).symm.trans h)]
    · rw [ih _ ((if_neg h1).symm.trans h)]
      exact design_sweep_idempotent hrep hwf hsw htopo s

/-- if moreover, for the stores after the first and the second sweep, equal
    abstractions mean equal cell lists (`hinj`), `settleN` returns after at most two sweeps -/
theorem settleN_terminates (n : Nat) (s : XS)
    (hinj : vw (runProcs castB Γ ps (runProcs castB Γ ps s)) = vw (runProcs castB Γ ps s) →
      (runProcs castB Γ ps (runProcs castB Γ ps s)).σ.cells = (runProcs castB Γ ps s).σ.cells) :
    ∃ r, settleN castB Γ ps (n + 2) s = some r ∧ vw r = vw (runProcs castB Γ ps s) := by
  obtain ⟨r, hr⟩ := settleN_two castB Γ ps n s (hinj (design_sweep_idempotent hrep hwf hsw htopo s))
  exact ⟨r, hr, settleN_view hrep hwf hsw htopo _ s r hr⟩

end

end design

/-! ### termination of `settleN` in two sweeps

`settleN` compares the association lists of the two stores. Equal values in all cells give equal
lists when the two lists have the same keys in the same order, without duplicates. -/

theorem cells_eq_map (l : List (Key × Nat)) (hnd : (l.map (·.1)).Nodup) :
    l = (l.map (·.1)).map fun k => (k, Store.getL k l) := by
  induction l with
  | nil => rfl
  | cons kv l ih =>
    obtain ⟨k, v⟩ := kv
    obtain ⟨hk, hnd⟩ := List.nodup_cons.mp hnd
    rw [List.map_cons, List.map_cons]
    congr 1
    · exact congrArg (Prod.mk k) (if_pos rfl).symm
    · exact (ih hnd).trans
        (List.map_congr_left fun k2 h2 => congrArg (Prod.mk k2) (if_neg fun (e : k = k2) => hk (e ▸ h2)).symm)

theorem cells_eq_of_getL_eq (l l' : List (Key × Nat)) (hk : l.map (·.1) = l'.map (·.1))
    (hnd : (l.map (·.1)).Nodup) (hg : ∀ k, Store.getL k l = Store.getL k l') : l = l' := by
  rw [cells_eq_map l hnd, cells_eq_map l' (hk ▸ hnd), hk]
  exact List.map_congr_left fun k _ => congrArg (Prod.mk k) (hg k)

/-- the same for the raw store view: it is enough that the second sweep creates no store cell (same
    keys, in the same order, no duplicates). Under `view` a process that assigns a declared vector has no well-formed
    block (`poke` keeps the old bits above the width: see the non-vacuity section), so this is not about such designs. -/
theorem settleN_terminates_raw {castB : Bool} {Γ : Env} {ps : List Proc} {bs : List (Blk Key Nat)}
    (hrep : Represents view castB Γ ps bs) (hwf : ∀ b ∈ bs, b.Wf)
    (hsw : SingleWriter bs) (htopo : Topo bs) (n : Nat) (s : XS)
    (hkeys : (runProcs castB Γ ps (runProcs castB Γ ps s)).σ.cells.map (·.1)
              = (runProcs castB Γ ps s).σ.cells.map (·.1))
    (hnd : ((runProcs castB Γ ps s).σ.cells.map (·.1)).Nodup) :
    ∃ r, settleN castB Γ ps (n + 2) s = some r ∧ view r = view (runProcs castB Γ ps s) :=
  settleN_terminates hrep hwf hsw htopo n s (fun hv =>
    cells_eq_of_getL_eq _ _ hkeys (hkeys ▸ hnd) (fun k => congrFun hv k))

section
open PV.SVProofs
variable {Γ : Env} {x : String} {w : Nat} (castB : Bool)

theorem readLoc_whole (σ : Store) : readLoc σ ⟨x, 0, 0, .vec w, [], true⟩ = σ.get (x, 0) % 2 ^ w := by
  show σ.get (x, 0) / 2 ^ 0 % 2 ^ w = _
  rw [Nat.pow_zero, Nat.div_one]

variable (hx : Γ x = some ⟨.vec w, []⟩)
include hx

theorem loc_ident_vec (σ : Store) : loc castB Γ σ (.ident x) = some ⟨x, 0, 0, .vec w, [], true⟩ := by
  rw [loc_ident, hx]

/-- taken modulo `2 ^ w` because `poke` keeps the bits of the old value above `w` -/
theorem get_exec_blocking_vec (r : Expr) (s : XS) (k : Key) :
    (exec castB Γ (.blocking (.ident x) r) s).σ.get k % 2 ^ w
      = if k = (x, 0) then eval castB Γ s.σ (max w (selfWidth Γ r)) r % 2 ^ w else s.σ.get k % 2 ^ w := by
  have he : (exec castB Γ (.blocking (.ident x) r) s).σ
      = writeLoc s.σ ⟨x, 0, 0, .vec w, [], true⟩ (evalRhs castB Γ s.σ w r) := by
    unfold exec
    rw [loc_ident_vec castB hx]
    rfl
  rw [he]
  by_cases hk : k = (x, 0)
  · rw [if_pos hk, hk, ← readLoc_whole]
    exact (readLoc_writeLoc _ _ _ rfl rfl).trans (Nat.mod_mod _ _)
  · rw [if_neg hk]
    exact congrArg (· % 2 ^ w) (Store.get_set_ne _ _ k _ hk)

end

/-! ### non-vacuity: a two-process design  `assign b = a;  always_comb c = b + 8'd1;`

The abstraction is the store with every cell taken modulo 2^8 (all three variables are 8 bits wide);
with the raw `view` the blocks would not be well-formed, because `poke` keeps the bits of the old
value above the width of the target. -/

def exΓ : Env := fun x => if x = "a" ∨ x = "b" ∨ x = "c" then some ⟨.vec 8, []⟩ else none
def exP1 : Proc := ⟨.assign, "p1", .blocking (.ident "b") (.ident "a")⟩
def exP2 : Proc := ⟨.comb, "p2", .blocking (.ident "c") (.bin .add (.ident "b") (.lit 8 1))⟩
def mview (s : XS) : St Key Nat := fun k => s.σ.get k % 256
def exB1 : Blk Key Nat := ⟨fun k => k = ("a", 0), fun k => k = ("b", 0), fun t k => if k = ("b", 0) then t ("a", 0) else t k⟩
def exB2 : Blk Key Nat := ⟨fun k => k = ("b", 0), fun k => k = ("c", 0), fun t k => if k = ("c", 0) then (t ("b", 0) + 1) % 256 else t k⟩

theorem exΓ_a : exΓ "a" = some ⟨.vec 8, []⟩ := if_pos (.inl rfl)
theorem exΓ_b : exΓ "b" = some ⟨.vec 8, []⟩ := if_pos (.inr (.inl rfl))
theorem exΓ_c : exΓ "c" = some ⟨.vec 8, []⟩ := if_pos (.inr (.inr rfl))

theorem exSim1 (castB : Bool) : Sim mview castB exΓ exP1 exB1 := by
  intro s
  funext k
  refine (get_exec_blocking_vec castB exΓ_b _ s k).trans ?_
  rw [eval, SVProofs.evalC_ident_vec exΓ_a, Nat.mod_mod]
  rfl

theorem exSim2 (castB : Bool) : Sim mview castB exΓ exP2 exB2 := by
  intro s
  funext k
  refine (get_exec_blocking_vec castB exΓ_c _ s k).trans ?_
  have add : ∀ W S, evalC castB exΓ s.σ W S (.bin .add (.ident "b") (.lit 8 1))
      = (evalC castB exΓ s.σ W S (.ident "b") + evalC castB exΓ s.σ W S (.lit 8 1)) % 2 ^ W :=
    fun W S => SVProofs.evalC_bin ..
  -- the sum is taken in `max 8 _` bits and then cut to the 8 bits of the target
  rw [eval, add, SVProofs.evalC_ident_vec exΓ_b, SVProofs.evalC_lit,
    Nat.mod_mod_of_dvd _ (Nat.pow_dvd_pow 2 (Nat.le_max_left 8 _))]
  rfl

theorem exWf1 : exB1.Wf := wf_assign (by decide) id

theorem exWf2 : exB2.Wf := wf_assign (by decide) fun x => (x + 1) % 256

theorem exRep (castB : Bool) : Represents mview castB exΓ [exP1, exP2] [exB1, exB2] :=
  ⟨exSim1 castB, exSim2 castB, trivial⟩

theorem exSW : SingleWriter [exB1, exB2] :=
  List.pairwise_pair.mpr fun v (hb : v = ("b", 0)) (hc : v = ("c", 0)) => absurd (hb.symm.trans hc) (by decide)

theorem exTopo : Topo [exB1, exB2] :=
  List.pairwise_pair.mpr fun v (ha : v = ("a", 0)) (hc : v = ("c", 0)) => absurd (ha.symm.trans hc) (by decide)

/-- the other order is not topological: the hypothesis `Topo` can fail -/
example : ¬ Topo [exB2, exB1] := fun h => List.pairwise_pair.mp h ("b", 0) rfl rfl

theorem exWf : ∀ b ∈ [exB1, exB2], b.Wf := by simp [exWf1, exWf2]

example (castB : Bool) (s : XS) :
    mview (runProcs castB exΓ [exP1, exP2] (runProcs castB exΓ [exP1, exP2] s))
      = mview (runProcs castB exΓ [exP1, exP2] s) :=
  design_sweep_idempotent (exRep castB) exWf exSW exTopo s

example (castB : Bool) (n : Nat) (s r : XS) (h : settleN castB exΓ [exP1, exP2] n s = some r) :
    mview r ("c", 0) = (s.σ.get ("a", 0) % 256 + 1) % 256 := by
  rw [settleN_view (exRep castB) exWf exSW exTopo n s r h, view_runProcs (exRep castB)]
  rfl

end PV.SV
