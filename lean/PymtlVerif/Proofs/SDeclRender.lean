import PymtlVerif.Model.SDeclPath
/-!
# Operand rendering: token order, the rendered reference of an object path (C03)

`OPath.sexp` builds the enclosing levels of a signal (sub-component, interfaces) with `OPath.head` and `goIfcs`; `Scope` says what
such an expression looks like, `OPath.scope_ok` shows it of `OPath.scope` once, and each backend reads a `Scope` node by node
(`rend_scope` here, `yRend_scope` in `SDeclYosys`; `constructAll_scope` in `SDeclGen` is the typed construction of the same object).
-/
namespace PV.SDecl
open PV.SV PV.Names

theorem pushFrames_reverse (frames : List Frame) :
    (pushFrames frames).reverse = frames.reverse.flatMap fun f => Tk.attr f.name :: f.idxs.map Tk.idx := by
  induction frames with
  | nil => rfl
  | cons f fs ih =>
    simp [pushFrames, ih]

theorem tokens_eq (sl : Option (Nat × Nat)) (frames : List Frame) :
    tokens sl frames = (frames.reverse.flatMap fun f => Tk.attr f.name :: f.idxs.map Tk.idx) ++ sliceTk sl := by
  simp only [tokens, List.reverse_append, pushFrames_reverse]
  cases sl with
  | none => simp [sliceTk]
  | some p => simp [sliceTk]

/-- wires exist in the current component only -/
def OPath.WireLocal (p : OPath) : Prop := p.isWire = true → p.comp = none ∧ p.ifcs = []

/-- the enclosing levels: the sub-component (if any), then the interfaces -/
def OPath.outer (p : OPath) : List (String × List Nat) := (match p.comp with | some c => [c] | none => []) ++ p.ifcs

theorem OPath.levels_eq (p : OPath) : p.levels = p.outer ++ [(p.sigName, p.sigIdx)] := rfl

/-- the attribute node the next level gets: `curAttr` directly on the component, `subAttr` / `ifcAttr` below it -/
inductive AttrOn : SExp → (SExp → String → SExp) → Prop
  | cur : AttrOn .cur .curAttr
  | sub (e : SExp) : AttrOn e .subAttr
  | ifc (e : SExp) : AttrOn e .ifcAttr

/-- `e` walks down enclosing levels (sub-component, interfaces): `ns` their names, outermost first, `q` their list indices in order -/
inductive Scope : SExp → List String → List Nat → Prop
  | cur : Scope .cur [] []
  | attr {e mk ns q} (a : String) : AttrOn e mk → Scope e ns q → Scope (mk e a) (ns ++ [a]) q
  | compIdx {e ns q} (i : Nat) : Scope e ns q → Scope (.compIdx e i) ns (q ++ [i])
  | ifcIdx {e ns q} (i : Nat) : Scope e ns q → Scope (.ifcIdx e i) ns (q ++ [i])

theorem Scope.idxs {mk : SExp → Nat → SExp} (hmk : ∀ {e ns q} (i : Nat), Scope e ns q → Scope (mk e i) ns (q ++ [i]))
    {e ns q} (ix : List Nat) (h : Scope e ns q) : Scope (ix.foldl mk e) ns (q ++ ix) := by
  induction ix generalizing e q with
  | nil => rwa [List.append_nil]
  | cons i ix ih => simpa using ih (hmk i h)

/-- the enclosing levels of a path and the attribute node its signal gets -/
def OPath.scope (p : OPath) : SExp × (SExp → String → SExp) := goIfcs p.head.1 p.head.2 p.ifcs

theorem OPath.sexp_eq (p : OPath) : p.sexp = p.packed.foldl PStep.sexp
    (p.sigIdx.foldl (if p.isWire then SExp.wireIdx else SExp.portIdx) (p.scope.2 p.scope.1 p.sigName)) := rfl

theorem scope_goIfcs {e mk ns q} (h : Scope e ns q) (hmk : AttrOn e mk) (ifcs : List (String × List Nat)) :
    Scope (goIfcs e mk ifcs).1 (ns ++ ifcs.map (·.1)) (q ++ ifcs.flatMap (·.2)) ∧
      AttrOn (goIfcs e mk ifcs).1 (goIfcs e mk ifcs).2 := by
  induction ifcs generalizing e mk ns q with
  | nil => simpa [goIfcs] using And.intro h hmk
  | cons l rest ih =>
    simpa [goIfcs, List.append_assoc] using ih (Scope.idxs .ifcIdx l.2 (.attr l.1 hmk h)) (.ifc _)

theorem OPath.scope_ok (p : OPath) :
    Scope p.scope.1 (p.outer.map (·.1)) (p.outer.flatMap (·.2)) ∧ AttrOn p.scope.1 p.scope.2 := by
  unfold OPath.scope OPath.head OPath.outer
  cases p.comp with
  | none => exact scope_goIfcs .cur .cur _
  | some c => exact scope_goIfcs (Scope.idxs .compIdx c.2 (.attr c.1 .cur .cur)) (.sub _) _

theorem rend_attr {e mk} (h : AttrOn e mk) (a : String) (fin : Bool) :
    rend (mk e a) fin = (rend e false).bind fun s => appAttr fin s a := by
  cases h
  · cases fin <;> rfl
  · rfl
  · rfl

theorem rend_scope {e ns q} (h : Scope e ns q) : rend e false = some ⟨⟨ns, []⟩, q⟩ := by
  induction h with
  | cur => rfl
  | attr a hmk _ ih => rw [rend_attr hmk, ih]; rfl
  | compIdx i _ ih => exact congrArg (Option.map _) ih
  | ifcIdx i _ ih => exact congrArg (Option.map _) ih

/-- steps after the signal's attribute: list indices of the port / wire, then the packed steps -/
inductive TStep where
  | port (i : Nat)
  | wire (i : Nat)
  | packed (s : PStep)

def TStep.sexp (e : SExp) : TStep → SExp
  | .port i => .portIdx e i
  | .wire i => .wireIdx e i
  | .packed s => s.sexp e

def TStep.sel : TStep → Sel
  | .port i => .idx i
  | .wire i => .idx i
  | .packed s => s.sel

/-- every step emits the queued indices of the enclosing levels before its own select, except an index into a list of wires
(`rtlir_tr_wire_array_index` does not look at the queue): there the queue has to be empty already (`hw`) -/
theorem rend_tstep (e : SExp) (t : TStep) (st : RSt) (h : rend e false = some st)
    (hw : (∃ i, t = .wire i) → st.q = []) (fin : Bool) :
    rend (t.sexp e) fin = some ⟨⟨st.ref.id, st.ref.sels ++ st.q.map Sel.idx ++ [t.sel]⟩, []⟩ := by
  cases t with
  | port i => exact congrArg (Option.map _) h
  | wire i =>
    have hq := hw ⟨i, rfl⟩
    simp [TStep.sexp, TStep.sel, rend, h, hq]
  | packed s => cases s <;> exact congrArg (Option.map _) h

theorem rend_tsteps (ts : List TStep) (hne : ts ≠ []) (e : SExp) (st : RSt) (h : rend e false = some st)
    (hw : (∃ i, TStep.wire i ∈ ts) → st.q = []) (fin : Bool) :
    rend (ts.foldl TStep.sexp e) fin = some ⟨⟨st.ref.id, st.ref.sels ++ st.q.map Sel.idx ++ ts.map TStep.sel⟩, []⟩ := by
  induction ts generalizing e st with
  | nil => exact (hne rfl).elim
  | cons t ts ih =>
    have hw1 : (∃ i, t = .wire i) → st.q = [] := by
      rintro ⟨i, rfl⟩; exact hw ⟨i, by simp⟩
    by_cases hts : ts = []
    · subst hts
      simpa using rend_tstep e t st h hw1 fin
    · have h1 := rend_tstep e t st h hw1 false
      have := ih hts (t.sexp e) _ h1 (by intro _; rfl)
      simpa [List.append_assoc] using this

def OPath.tsteps (p : OPath) : List TStep :=
  p.sigIdx.map (if p.isWire then TStep.wire else TStep.port) ++ p.packed.map TStep.packed

theorem foldl_tsteps (p : OPath) (e : SExp) :
    p.tsteps.foldl TStep.sexp e
      = p.packed.foldl PStep.sexp (p.sigIdx.foldl (if p.isWire then SExp.wireIdx else SExp.portIdx) e) := by
  unfold OPath.tsteps
  rw [List.foldl_append, List.foldl_map, List.foldl_map]
  cases p.isWire <;> rfl

theorem tsteps_sel (p : OPath) : p.tsteps.map TStep.sel = p.sigIdx.map Sel.idx ++ p.packed.map PStep.sel := by
  unfold OPath.tsteps
  cases p.isWire <;> simp [TStep.sel, Function.comp_def]

/-- **the rendered operand of an object path**: the `__`-joined names of all levels, then ALL list indices in the order of the
levels (outermost first, inside one level in the order of its dimensions), then the selects into the data type; the queue is
left empty -/
theorem render_opath (p : OPath) (hw : p.WireLocal) :
    render p.sexp = some ⟨⟨p.names, p.allIdx.map Sel.idx ++ p.packed.map PStep.sel⟩, []⟩ := by
  obtain ⟨hsc, hmk⟩ := p.scope_ok
  rw [render, p.sexp_eq, ← foldl_tsteps, OPath.names, OPath.allIdx, p.levels_eq]
  by_cases hts : p.tsteps = []
  · -- the signal's attribute is the outermost node: the queue is emitted there
    obtain ⟨h1, h2⟩ : p.sigIdx = [] ∧ p.packed = [] := by simpa [OPath.tsteps] using hts
    rw [hts, List.foldl_nil, rend_attr hmk, rend_scope hsc, h1, h2]
    simp [appAttr]
  · -- a wire has no enclosing levels, so nothing is queued when its first index is rendered
    have hq : (∃ i, TStep.wire i ∈ p.tsteps) → p.outer.flatMap (·.2) = [] := by
      rintro ⟨i, hi⟩
      have hwire : p.isWire = true := by
        cases hiw : p.isWire with
        | true => rfl
        | false => simp [OPath.tsteps, hiw] at hi
      obtain ⟨hc, hi'⟩ := hw hwire
      simp [OPath.outer, hc, hi']
    rw [rend_tsteps p.tsteps hts _ _ (rend_scope (.attr p.sigName hmk hsc)) hq true, tsteps_sel]
    simp

end PV.SDecl
