import PymtlVerif.Proofs.PipeGhost
import PymtlVerif.Proofs.ListFacts
/-!
# Corollaries of the ghost invariant `J` (`Proofs/PipeGhost.lean`)

For every model state `s` and ghost state `g` with `J s g`, hence (`Reach.inv`) for every `(s, g)` reachable from the
power-on state under ANY environment input list (resets at any time): no instruction is duplicated or lost,
instructions move in order, the drop unit drops exactly the responses of squashed fetches.
-/
namespace PV.Pipe

def Reach (s : State) (g : Ghost) : Prop := ∃ envs, grun State.init {} envs = (s, g)

theorem reach_run (envs : List EnvIn) : Reach (grun State.init {} envs).1 (grun State.init {} envs).2 :=
  ⟨envs, rfl⟩
theorem Reach.inv {s : State} {g : Ghost} (h : Reach s g) : J s g := by
  obtain ⟨envs, e⟩ := h
  have := J_run envs
  rw [e] at this; exact this
theorem Reach.state {s : State} {g : Ghost} (h : Reach s g) : ∃ envs, s = runS State.init envs := by
  obtain ⟨envs, e⟩ := h
  exact ⟨envs, by rw [← grun_fst State.init {} envs, e]⟩
theorem reach_of_runS (envs : List EnvIn) : ∃ g, Reach (runS State.init envs) g :=
  ⟨(grun State.init {} envs).2, envs, by rw [← grun_fst State.init {} envs]⟩
theorem Reach.step {s : State} {g : Ghost} (h : Reach s g) (i : EnvIn) : Reach (next s i) (gnext s g i) := by
  obtain ⟨envs, e⟩ := h
  exact ⟨envs ++ [i], by rw [grun_append, e]; rfl⟩

section
variable {s : State} {g : Ghost}

/-- committed tags, then the tags in W, M, X, D, the drop unit, F: a subsequence of the tags issued since
the last reset -/
theorem commits_sublist (h : J s g) :
    List.Sublist
      (g.commits ++ opt [g.tW] s.val_W ++ opt [g.tM] s.val_M ++ opt [g.tX] s.val_X ++ opt [g.tD] s.val_D
        ++ opt [g.tWait] s.drop_wait ++ opt [g.tF] s.val_F)
      (List.range' g.base (g.nxt - g.base)) := by
  rw [← h.W, ← h.M, ← h.X, h.F]
  refine List.Sublist.append (List.Sublist.append ?_ (List.Sublist.refl _)) (List.Sublist.refl _)
  refine List.Sublist.trans (l₂ := g.outD.map (·.1) ++ opt [g.tD] s.val_D) ?_ ?_
  · exact List.Sublist.append (List.Sublist.map _ List.filter_sublist) (List.Sublist.refl _)
  · rw [← h.D]; exact List.Sublist.map _ List.filter_sublist

theorem tags_increasing (h : J s g) :
    List.Pairwise (· < ·)
      (g.commits ++ opt [g.tW] s.val_W ++ opt [g.tM] s.val_M ++ opt [g.tX] s.val_X ++ opt [g.tD] s.val_D
        ++ opt [g.tWait] s.drop_wait ++ opt [g.tF] s.val_F) :=
  List.Pairwise.sublist (commits_sublist h) List.pairwise_lt_range'

theorem fate_partition (j : J s g) :
    List.Perm
      (g.commits ++ (g.outD.filter (·.2)).map (·.1) ++ g.sqF ++
        (opt [g.tW] s.val_W ++ opt [g.tM] s.val_M ++ opt [g.tX] s.val_X ++ opt [g.tD] s.val_D ++ opt [g.tF] s.val_F))
      (List.range' g.base (g.nxt - g.base)) := by
  -- count each tag: every clause of `J` is an equation between counts, the two filters of a log split its count
  rw [List.perm_iff_count]
  intro a
  have cF := congrArg (List.count a) j.F
  have cd := congrArg (List.count a) j.drop
  have cD := congrArg (List.count a) j.D
  have cX := congrArg (List.count a) j.X
  have cM := congrArg (List.count a) j.M
  have cW := congrArg (List.count a) j.W
  have s1 := count_map_filter_split a g.consumedF (·.1) (·.2)
  have s2 := count_map_filter_split a g.outD (·.1) (·.2)
  simp only [List.count_append] at *
  omega

theorem squashed_are_younger (h : J s g) (i : EnvIn) (hq : osquash_X s i = true) :
    (s.val_D = true → g.tX < g.tD) ∧ (s.val_F = true → g.tX < g.tF) ∧
    (i.reset = false → (gnext s g i).outX = g.outX ++ [g.tX]) := by
  obtain ⟨hx, hs, _⟩ := osquash_X_origin s i hq
  have t := tags_increasing h
  rw [hx] at t
  refine ⟨fun hd => ?_, fun hf => ?_, fun hr => ?_⟩
  · rw [hd] at t
    exact lt_of_pairwise_append (List.pairwise_append.1 (List.pairwise_append.1 t).1).1 (by simp) (by simp)
  · rw [hf] at t
    exact lt_of_pairwise_append t (by simp) (by simp)
  · simp [gnext, hr, next_val_X, hx, hs]

/-- only squashed fetches are dropped (that all of them are, in order, is `J.drop` itself) -/
theorem drop_exact (j : J s g) : ∀ e ∈ g.consumedF, e.2 = true → e.1 ∈ g.sqF := by
  intro e he h2
  rw [j.drop]
  exact List.mem_append_left _ (List.mem_map.2 ⟨e, List.mem_filter.2 ⟨he, h2⟩, rfl⟩)

end

/-- a real dequeue (`en` and `rdy`) of the instruction-response queue is a WAIT-drop, a squash-drop, a
delivery to D, or happens while F holds no fetch at all (a response nobody waits for: before the first fetch after power-on or a reset); the ghost log
`consumedF` records exactly the first three -/
theorem deq_accounted (s : State) (g : Ghost) (i : EnvIn) (hr : i.reset = false)
    (hen : drop_in_en s i = true) (hrdy : drop_in_rdy s i = true) :
    (s.drop_wait = true ∧ (gnext s g i).consumedF = g.consumedF ++ [(g.tWait, true)]) ∨
    (s.drop_wait = false ∧ squash_F s i = true ∧ (gnext s g i).consumedF = g.consumedF ++ [(g.tF, true)]) ∨
    (s.drop_wait = false ∧ next_val_F s i = true ∧ (gnext s g i).consumedF = g.consumedF ++ [(g.tF, false)]) ∨
    (s.drop_wait = false ∧ s.val_F = false ∧ (gnext s g i).consumedF = g.consumedF) := by
  have hl := dropOut_length s i (g.tWait, true) (g.tF, false) (g.tF, true)
  rw [consumedF_next hr]
  unfold dropOut at hl ⊢
  cases hw : s.drop_wait
  · cases hq : squash_F s i
    · cases hn : next_val_F s i
      · -- nothing is logged: by `dropOut_length` no fetch is outstanding
        cases hv : s.val_F
        · simp
        · simp [hw, hq, hn, hen, hrdy, hv] at hl
      · simp
    · simp [hrdy]
  · simp [hrdy]

/-- conversely the ghost log `consumedF` grows only on a real dequeue -/
theorem consumed_is_deq (s : State) (g : Ghost) (i : EnvIn) (hr : i.reset = false)
    (h : (gnext s g i).consumedF ≠ g.consumedF) : drop_in_en s i = true ∧ drop_in_rdy s i = true := by
  have hl := dropOut_length s i (g.tWait, true) (g.tF, false) (g.tF, true)
  -- the log grew by `dropOut`, which is empty unless the dequeue is real
  cases hd : drop_in_en s i && drop_in_rdy s i
  · rw [hd, Bool.false_and, Bool.toNat_false, List.length_eq_zero_iff] at hl
    rw [consumedF_next hr, hl, List.append_nil] at h
    exact absurd rfl h
  · exact Bool.and_eq_true _ _ ▸ hd

end PV.Pipe
