import PymtlVerif.Model.HierHook
/-!
# Vocabulary of the statements of `Props/C14h.lean`

Histories of construct code that reaches the hook (`HStep`, `HSteps`), and the invariant they keep (`HInv`).
-/
namespace PV.Hier

/-- what construct code may put into a value stored on `s`: an object of the design, or a new object
(never seen by the hook, no attributes yet); never `s` itself -/
def Placeable (st : HSt) (root s u : Nat) : Prop :=
  u ≠ s ∧ (HReach st root (.obj u) ∨ (st.dsl u = none ∧ st.attrs u = []))

/-- One statement of construct code that reaches the hook.
* `bind`: `s.a = v` for an attribute name `s` does not have yet (an existing hardware field raises
  `FieldReassignError` or is the no-op of assigning the same object), `v` an object, a (nested) list,
  an existing list of the design (`s.k = s.l`), anything else;
* `iadd`: `s.a += extra` (any number of times, nested lists in `extra`, `s.a` possibly shared with
  another attribute). -/
inductive HStep (root : Nat) : HSt → HSt → Prop where
  | bind {st st' : HSt} {s : Nat} {a : String} {v : HVal} :
      HReach st root (.obj s) → isPublic a = true → (st.attrs s).lookup a = none →
      (∀ u ix, hgetPath v ix = some (.obj u) → Placeable st root s u) →
      assign st s a v = .ok st' → HStep root st st'
  | iadd {st st' : HSt} {s : Nat} {a : String} {extra : List HVal} :
      HReach st root (.obj s) → isPublic a = true →
      (∀ e ∈ extra, ∀ u ix, hgetPath e ix = some (.obj u) → Placeable st root s u) →
      (∀ w u ix, (st.attrs s).lookup a = some w → hgetPath w ix = some (.obj u) → u ≠ s) →
      iadd st s a extra = .ok st' → HStep root st st'

inductive HSteps (root : Nat) : HSt → HSt → Prop where
  | refl (st : HSt) : HSteps root st st
  | tail {st st' st'' : HSt} : HSteps root st st' → HStep root st' st'' → HSteps root st st''

/-- **every object of the design has a name, and the name evaluates back to the object** -/
def HInv (st : HSt) (root : Nat) : Prop :=
  ∀ o, HReach st root (.obj o) → ∃ d, st.dsl o = some d ∧ hresolve st root d.full = some (.obj o)

end PV.Hier
