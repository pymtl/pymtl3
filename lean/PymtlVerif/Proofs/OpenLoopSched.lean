import PymtlVerif.Proofs.Scc
import PymtlVerif.Proofs.OpenLoopRun
/-!
Static part of `Model/OpenLoop.lean`: the dictionaries, the edge sets, the SCC-level schedule on the (possibly cyclic)
condensation built from `E`, `update_schedule`, and the shape of `schedule` the run-time lemmas need (`SchedOK`).
-/
namespace PV.OpenLoop
open PV.Scc

/-- `vertices` after the shuffle is a duplicate-free list of exactly the members of `V` -/
structure InputOK (inp : Input) : Prop where
  nodup : inp.order.Nodup
  mem : ∀ v, v ∈ inp.order ↔ v ∈ verts inp

/-- both inclusions are bounded quantifications, so `decide` can check them on a concrete input -/
theorem InputOK.of_subsets {inp : Input} (h : inp.order.Nodup) (h1 : ∀ v ∈ inp.order, v ∈ verts inp)
    (h2 : ∀ v ∈ verts inp, v ∈ inp.order) : InputOK inp := ⟨h, fun v => ⟨h1 v, h2 v⟩⟩

/-- iterating a set / the intra-SCC BFS only permutes -/
structure EnvOK (env : Env) : Prop where
  row_mem : ∀ r x, x ∈ env.rowOrd r ↔ x ∈ r
  row_nodup : ∀ r, r.Nodup → (env.rowOrd r).Nodup
  intra_mem : ∀ g x, x ∈ env.intra g ↔ x ∈ g
  intra_nodup : ∀ g, g.Nodup → (env.intra g).Nodup

/-- the keys of `method_callee_mapping` in insertion order -/
def rawKeys (inp : Input) : List Nat := inp.ports.map (·.2) ++ inp.ifcs.flatMap (fun x => [x.rawM, x.rawR])

/-- `method_callee_mapping` when no assert fires -/
def mapList (inp : Input) : Map :=
  (inp.ifcs.reverse.flatMap (fun x => [(x.rawR, x.rdy), (x.rawM, x.meth)])) ++ inp.ports.reverse.map (fun p => (p.2, p.1))

theorem addPort_fresh {m : Map} {p : Nat × Nat} (h : p.2 ∉ m.map (·.1)) : addPort (some m) p = some ((p.2, p.1) :: m) := by
  rw [addPort, Option.bind_some, lookup_none_of_not_key h]; rfl

theorem addIfc_fresh {m : Map} {x : Ifc} (h : x.rawM ∉ m.map (·.1)) :
    addIfc (some m) x = some ((x.rawR, x.rdy) :: (x.rawM, x.meth) :: m) := by
  rw [addIfc, Option.bind_some, lookup_none_of_not_key h]; rfl

/-- Invariant of both loops: the keys bound so far, in insertion order, followed by the keys still to come are pairwise
different. -/
theorem foldl_addPort : ∀ (ps : List (Nat × Nat)) (m : Map), ((m.map (·.1)).reverse ++ ps.map (·.2)).Nodup →
    ps.foldl addPort (some m) = some (ps.reverse.map (fun p => (p.2, p.1)) ++ m) := by
  intro ps
  induction ps with
  | nil => intro m _; rfl
  | cons p ps ih =>
    intro m h
    have hfresh : p.2 ∉ m.map (·.1) := fun hm =>
      (List.nodup_append.mp h).2.2 _ (List.mem_reverse.mpr hm) _ List.mem_cons_self rfl
    rw [List.foldl_cons, addPort_fresh hfresh, ih]
    · rw [List.reverse_cons, List.map_append, List.append_assoc]; rfl
    · rw [List.map_cons, List.reverse_cons, List.append_assoc]; exact h

theorem foldl_addIfc : ∀ (xs : List Ifc) (m : Map), ((m.map (·.1)).reverse ++ xs.flatMap (fun x => [x.rawM, x.rawR])).Nodup →
    xs.foldl addIfc (some m) = some (xs.reverse.flatMap (fun x => [(x.rawR, x.rdy), (x.rawM, x.meth)]) ++ m) := by
  intro xs
  induction xs with
  | nil => intro m _; rfl
  | cons x xs ih =>
    intro m h
    have hfresh : x.rawM ∉ m.map (·.1) := fun hm =>
      (List.nodup_append.mp h).2.2 _ (List.mem_reverse.mpr hm) _ List.mem_cons_self rfl
    rw [List.foldl_cons, addIfc_fresh hfresh, ih]
    · rw [List.reverse_cons, List.flatMap_append, List.append_assoc]; rfl
    · rw [List.map_cons, List.map_cons, List.reverse_cons, List.reverse_cons, List.append_assoc, List.append_assoc]; exact h

theorem foldl_addIfc_none (xs : List Ifc) : xs.foldl addIfc none = none := foldl_bind_none _ xs

theorem calleeMap_of_nodup (inp : Input) (h : (rawKeys inp).Nodup) : calleeMap inp = some (mapList inp) := by
  unfold calleeMap mapList
  rw [foldl_addPort inp.ports [] (List.nodup_append.mp h).1, List.append_nil, foldl_addIfc]
  simpa [rawKeys, Function.comp_def] using h

theorem mapList_keys_eq (inp : Input) : (mapList inp).map (·.1) = (rawKeys inp).reverse := by
  unfold mapList rawKeys
  simp only [List.map_append, List.reverse_append, List.map_reverse, List.map_map, List.map_flatMap, List.reverse_flatMap]
  congr 1

theorem mapList_keys_nodup (inp : Input) (h : (rawKeys inp).Nodup) : ((mapList inp).map (·.1)).Nodup := by
  rw [mapList_keys_eq]; exact (List.reverse_perm _).nodup_iff.mpr h

theorem through_of_mem {m : Map} {k v : Nat} (hnd : (m.map (·.1)).Nodup) (h : (k, v) ∈ m) : through m k = v := by
  unfold through; rw [lookup_of_nodup_keys hnd h]; rfl

theorem through_of_not_key {m : Map} {k : Nat} (h : k ∉ m.map (·.1)) : through m k = k := by
  unfold through; rw [lookup_none_of_not_key h]; rfl

theorem through_mapList (inp : Input) (h : (rawKeys inp).Nodup) :
    (∀ p ∈ inp.ports, through (mapList inp) p.2 = p.1) ∧
    (∀ x ∈ inp.ifcs, through (mapList inp) x.rawM = x.meth ∧ through (mapList inp) x.rawR = x.rdy) ∧
    (∀ k, k ∉ rawKeys inp → through (mapList inp) k = k) := by
  have hnd := mapList_keys_nodup inp h
  refine ⟨fun p hp => through_of_mem hnd (List.mem_append_right _ (List.mem_map.mpr ⟨p, List.mem_reverse.mpr hp, rfl⟩)),
    fun x hx => ?_, fun k hk => through_of_not_key fun hm => hk (List.mem_reverse.mp (mapList_keys_eq inp ▸ hm))⟩
  have hm : ∀ e ∈ [(x.rawR, x.rdy), (x.rawM, x.meth)], e ∈ mapList inp := fun e he =>
    List.mem_append_left _ (List.mem_flatMap.mpr ⟨x, List.mem_reverse.mpr hx, he⟩)
  exact ⟨through_of_mem hnd (hm _ (List.mem_cons_of_mem _ List.mem_cons_self)), through_of_mem hnd (hm _ List.mem_cons_self)⟩

theorem guardMap_eq (inp : Input) : guardMap inp = inp.ifcs.reverse.map (fun x => (x.meth, x.rdy)) := by
  rw [guardMap, List.foldl_flip_cons_eq_append, List.append_nil, List.map_reverse]

theorem through_guardMap (inp : Input) (h : (inp.ifcs.map (·.meth)).Nodup) :
    (∀ x ∈ inp.ifcs, through (guardMap inp) x.meth = x.rdy) ∧
    (∀ k, k ∉ inp.ifcs.map (·.meth) → through (guardMap inp) k = k) := by
  rw [guardMap_eq]
  have hk : (inp.ifcs.reverse.map (fun x => (x.meth, x.rdy))).map (·.1) = (inp.ifcs.map (·.meth)).reverse := by
    simp [List.map_reverse]
  refine ⟨?_, ?_⟩
  · intro x hx
    apply through_of_mem (by rw [hk]; exact (List.reverse_perm _).nodup_iff.mpr h)
    exact List.mem_map.mpr ⟨x, List.mem_reverse.mpr hx, rfl⟩
  · intro k hk'
    apply through_of_not_key
    rw [hk]; intro hm; exact hk' (List.mem_reverse.mp hm)

theorem mem_gEdges (inp : Input) (cm : Map) (e : Nat × Nat) :
    e ∈ gEdges inp cm ↔ (e.1 ∈ verts inp ∧ e.2 ∈ verts inp) ∧
      (e ∈ inp.cons ∨ ∃ c ∈ inp.tlc, mapPair cm (guardMap inp) c = e) := by
  simp only [gEdges, inV, List.mem_append, List.mem_filter, List.mem_map, Bool.and_eq_true, decide_eq_true_eq]
  rw [← or_and_right, and_comm]

theorem mem_eEdges (inp : Input) (cm : Map) (e : Nat × Nat) :
    e ∈ eEdges inp cm ↔ (∃ x ∈ inp.ifcs, e = (x.rdy, x.meth)) ∨ e ∈ gEdges inp cm := by
  simp only [eEdges, ifcEdges, List.mem_append, List.mem_map, eq_comm]

theorem eEdges_in_verts (inp : Input) (cm : Map) (e : Nat × Nat) (h : e ∈ eEdges inp cm) : e.1 ∈ verts inp ∧ e.2 ∈ verts inp := by
  rcases (mem_eEdges inp cm e).mp h with ⟨x, hx, rfl⟩ | h
  · have hm : ∀ y ∈ [x.meth, x.rdy], y ∈ verts inp := fun y hy =>
      List.mem_append_right _ (List.mem_append_right _ (List.mem_flatMap.mpr ⟨x, hx, hy⟩))
    exact ⟨hm _ (List.mem_cons_of_mem _ List.mem_cons_self), hm _ List.mem_cons_self⟩
  · exact ((mem_gEdges inp cm e).mp h).1

/-- the fields of a successful `static`, each in terms of the earlier ones -/
structure StaticEqs (inp : Input) (env : Env) (st : Static) : Prop where
  cmap : calleeMap inp = some st.cmap
  kos : st.kos = kosaraju (adjOf (gEdges inp st.cmap)) (adjTOf (gEdges inp st.cmap)) inp.order
  t3 : st.t3 = topo pickFirst (gnOf env (gnewE st.kos.vmap (eEdges inp st.cmap))) st.kos.sccs.length
  len : st.t3.out.length = st.kos.sccs.length
  update : st.update = entries st.kos.sccs env.intra st.t3.out 0
  schedule : st.schedule = st.update.map (slotOf (portVerts inp)) ++ (ffsLayout inp.ff).map Slot.ff

theorem static_ok {inp : Input} {env : Env} {st : Static} (h : static inp env = .ok st) : StaticEqs inp env st := by
  unfold static at h
  split at h
  · cases h
  · next hc =>
    dsimp only at h
    split at h
    · cases h
    · next hlen =>
      cases h
      -- `dsimp only` reduces the projections of the record, after which both sides are the same term
      refine ⟨hc, ?_, ?_, Decidable.of_not_not hlen, ?_, ?_⟩ <;> dsimp only

theorem static_err_sched {inp : Input} {env : Env} : static inp env = .error .schedAssert ↔
    ∃ cm, calleeMap inp = some cm ∧
      let k := kosaraju (adjOf (gEdges inp cm)) (adjTOf (gEdges inp cm)) inp.order
      (topo pickFirst (gnOf env (gnewE k.vmap (eEdges inp cm))) k.sccs.length).out.length ≠ k.sccs.length := by
  constructor
  · intro h
    unfold static at h
    split at h
    · cases h
    · next cm hc =>
      dsimp only at h
      split at h
      · next hlen => exact ⟨cm, hc, hlen⟩
      · cases h
  · rintro ⟨cm, hc, hlen⟩
    unfold static
    rw [hc]
    exact if_pos hlen

theorem static_err_map {inp : Input} {env : Env} (h : static inp env = .error .mapAssert) : calleeMap inp = none := by
  unfold static at h
  split at h
  · assumption
  · dsimp only at h
    split at h <;> cases h

theorem wf_of_ok {inp : Input} (ok : InputOK inp) (cm : Map) :
    WF (adjOf (gEdges inp cm)) (adjTOf (gEdges inp cm)) inp.order :=
  wf_adjOf inp.order (gEdges inp cm) ok.nodup (fun e he => by
    obtain ⟨⟨h1, h2⟩, _⟩ := (mem_gEdges inp cm e).mp he
    exact ⟨(ok.mem _).mpr h1, (ok.mem _).mpr h2⟩)

theorem static_kos {inp : Input} {env : Env} {st : Static} (ok : InputOK inp) (h : static inp env = .ok st) :
    WF (adjOf (gEdges inp st.cmap)) (adjTOf (gEdges inp st.cmap)) inp.order ∧
    KosFacts (adjOf (gEdges inp st.cmap)) inp.order st.kos :=
  ⟨wf_of_ok ok _, (static_ok h).kos ▸ kosaraju_facts (wf_of_ok ok _)⟩

theorem gnOf_spec {env : Env} (eok : EnvOK env) (vm E : List (Nat × Nat)) : GnSpec vm (gnOf env (gnewE vm E)) E := by
  have spec : GnSpec vm (rowOf (gnewE vm E)) E := gnSpec_foldl vm E
  exact ⟨fun i => eok.row_nodup _ (spec.1 i), fun i j => (eok.row_mem _ j).trans (spec.2 i j)⟩

theorem gnOf_wf {inp : Input} {env : Env} (ok : InputOK inp) (eok : EnvOK env) {cm : Map} {k : Kos}
    (f : KosFacts (adjOf (gEdges inp cm)) inp.order k) :
    Mamba.WF (gnOf env (gnewE k.vmap (eEdges inp cm))) k.sccs.length := by
  intro i _ j hj
  obtain ⟨e, he, _, _, rfl⟩ := ((gnOf_spec eok k.vmap (eEdges inp cm)).2 i j).mp hj
  exact f.vscc_lt ((ok.mem _).mpr (eEdges_in_verts inp cm e he).2)

theorem gnOf_wf_of_ok {inp : Input} {env : Env} (ok : InputOK inp) (eok : EnvOK env) (cm : Map) :
    let k := kosaraju (adjOf (gEdges inp cm)) (adjTOf (gEdges inp cm)) inp.order
    Mamba.WF (gnOf env (gnewE k.vmap (eEdges inp cm))) k.sccs.length :=
  gnOf_wf ok eok (kosaraju_facts (wf_of_ok ok cm))

/-! ## `update_schedule` -/

/-- the vertices an entry of `update_schedule` stands for: itself, or `tmp_schedule` of its SCC -/
def grpMembers (intra : List Nat → List Nat) (g : List Nat) : List Nat :=
  match g with
  | [u] => [u]
  | g => intra g

theorem entries_members (sccs : List (List Nat)) (intra : List Nat → List Nat) (sched : List Nat) (id : Nat) :
    (entries sccs intra sched id).map Entry.members = sched.map (fun i => grpMembers intra (sccs.getD i [])) := by
  -- the cases of `entries.induct`, here and in `entries_ids`: `case2` the group is a single vertex `u`, `case3` it is not
  fun_induction entries sccs intra sched id with
  | case1 => rfl
  | case2 i rest id u hu ih => simp only [List.map_cons, ih, Entry.members, grpMembers, hu]
  | case3 i rest id hne ih =>
    simp only [List.map_cons, ih, Entry.members]
    congr 1
    unfold grpMembers
    split
    · next u hu => exact absurd hu (hne u)
    · rfl

theorem update_members {inp : Input} {env : Env} {st : Static} (h : static inp env = .ok st) :
    st.update.map Entry.members = st.t3.out.map (fun i => grpMembers env.intra (st.kos.sccs.getD i [])) := by
  rw [(static_ok h).update]; exact entries_members _ _ _ _

theorem grpMembers_mem {env : Env} (eok : EnvOK env) (g : List Nat) (x : Nat) : x ∈ grpMembers env.intra g ↔ x ∈ g := by
  unfold grpMembers
  split
  · rfl
  · exact eok.intra_mem _ _

theorem grpMembers_nodup {env : Env} (eok : EnvOK env) (g : List Nat) (h : g.Nodup) : (grpMembers env.intra g).Nodup := by
  unfold grpMembers
  split
  · exact h
  · exact eok.intra_nodup _ h

/-- the ids of the SCC wrappers are increasing (so no two wrappers are equal as schedule entries) -/
theorem entries_ids (sccs : List (List Nat)) (intra : List Nat → List Nat) : ∀ (sched : List Nat) (id : Nat),
    (∀ e ∈ entries sccs intra sched id, ∀ k ms, e = Entry.grp k ms → id < k) ∧
    (entries sccs intra sched id).Pairwise (fun a b => ∀ k ms k' ms', a = Entry.grp k ms → b = Entry.grp k' ms' → k < k') := by
  intro sched id
  fun_induction entries sccs intra sched id with
  | case1 => exact ⟨nofun, .nil⟩
  | case2 i rest id u hu ih =>
    exact ⟨List.forall_mem_cons.mpr ⟨fun _ _ h => (nomatch h), ih.1⟩,
      List.pairwise_cons.mpr ⟨fun _ _ _ _ _ _ h => (nomatch h), ih.2⟩⟩
  | case3 i rest id hne ih =>
    obtain ⟨h1, h2⟩ := ih
    exact ⟨List.forall_mem_cons.mpr ⟨fun k ms h => by cases h; exact Nat.lt_succ_self _,
        fun e he k ms hk => Nat.lt_of_succ_lt (h1 e he k ms hk)⟩,
      List.pairwise_cons.mpr ⟨fun b hb k ms k' ms' hk hk' => by cases hk; exact h1 b hb k' ms' hk', h2⟩⟩

/-- the vertices a slot of `schedule` stands for -/
def Slot.members : Slot → List Nat
  | .port v => [v]
  | .blk v => [v]
  | .scc _ ms => ms
  | .ff _ => []

theorem slotOf_members (pv : List Nat) (e : Entry) : (slotOf pv e).members = e.members := by
  cases e with
  | one v =>
    simp only [slotOf]
    split <;> rfl
  | grp id ms => rfl

/-- the facts about a successful `static` that the theorems use -/
structure StaticFacts (inp : Input) (env : Env) (st : Static) : Prop where
  /-- `scc_schedule` lists every group exactly once -/
  sched_nodup : st.t3.out.Nodup
  sched_mem : ∀ i, i ∈ st.t3.out ↔ i < st.kos.sccs.length
  up_len : st.update.length = st.t3.out.length
  /-- entry `q` of `update_schedule` stands for the members of group `scc_schedule[q]` -/
  up_mem : ∀ q (hq : q < st.update.length) (hq' : q < st.t3.out.length) x,
    x ∈ st.update[q].members ↔ x ∈ st.kos.sccs.getD st.t3.out[q] []
  /-- every vertex is in the group `v_SCC` says, and only there -/
  grp : ∀ x ∈ verts inp, ∀ i, i < st.kos.sccs.length → (x ∈ st.kos.sccs.getD i [] ↔ vscc st.kos.vmap x = i)
  grp_verts : ∀ i, i < st.kos.sccs.length → ∀ x ∈ st.kos.sccs.getD i [], x ∈ verts inp
  vlt : ∀ x ∈ verts inp, vscc st.kos.vmap x < st.kos.sccs.length
  /-- every edge of `E` between two groups goes forward in `scc_schedule` -/
  order : ∀ e ∈ eEdges inp st.cmap, vscc st.kos.vmap e.1 ≠ vscc st.kos.vmap e.2 →
    ∃ pre post, st.t3.out = pre ++ vscc st.kos.vmap e.1 :: post ∧ vscc st.kos.vmap e.2 ∈ post

theorem static_facts {inp : Input} {env : Env} {st : Static} (ok : InputOK inp) (eok : EnvOK env)
    (h : static inp env = .ok st) : StaticFacts inp env st := by
  obtain ⟨wf, f⟩ := static_kos ok h
  obtain ⟨inv, _⟩ := topo_simple (gnOf_wf ok eok f) pickFirst
  rw [← (static_ok h).t3] at inv
  have hmemall := inv.length_eq_iff.mp (static_ok h).len
  have hupmap := update_members h
  have hV : ∀ {x}, x ∈ verts inp → x ∈ inp.order := (ok.mem _).mpr
  refine ⟨inv.out_nodup, fun i => ⟨inv.lt i, hmemall i⟩, by rw [← List.length_map (f := Entry.members), hupmap, List.length_map], ?_,
    fun x hx i _ => ⟨fun hm => (f.of_mem_getD wf hm).2, fun e => e ▸ f.mem_getD_vscc (hV hx)⟩,
    fun i _ x hx => (ok.mem x).mp (f.of_mem_getD wf hx).1, fun x hx => f.vscc_lt (hV hx), ?_⟩
  · intro q hq hq' x
    have := List.getElem_of_eq hupmap (i := q) (by rw [List.length_map]; exact hq)
    rw [List.getElem_map, List.getElem_map] at this
    rw [this]; exact grpMembers_mem eok _ _
  · intro e he hne
    have hv := eEdges_in_verts inp _ e he
    exact inv.edge_forward (f.vscc_lt (hV hv.1)) (((gnOf_spec eok _ _).2 _ _).mpr ⟨e, he, hne, rfl, rfl⟩)
      (hmemall _ (f.vscc_lt (hV hv.2)))

/-- index form of `StaticFacts.order` -/
theorem StaticFacts.order_idx {inp : Input} {env : Env} {st : Static} (sf : StaticFacts inp env st)
    (e : Nat × Nat) (he : e ∈ eEdges inp st.cmap) (hne : vscc st.kos.vmap e.1 ≠ vscc st.kos.vmap e.2) :
    ∃ q1 q2, q1 < q2 ∧ ∃ (h2 : q2 < st.update.length), ∃ (h1 : q1 < st.update.length),
      e.1 ∈ st.update[q1].members ∧ e.2 ∈ st.update[q2].members := by
  obtain ⟨pre, post, hpp, hj⟩ := sf.order e he hne
  obtain ⟨q1, q2, hlt, h2, h1, g1, g2⟩ := getElem_of_split hpp hj
  obtain ⟨hv1, hv2⟩ := eEdges_in_verts inp _ e he
  refine ⟨q1, q2, hlt, sf.up_len ▸ h2, sf.up_len ▸ h1, ?_, ?_⟩
  · rw [sf.up_mem _ _ h1, g1]
    exact (sf.grp _ hv1 _ (sf.vlt _ hv1)).mpr rfl
  · rw [sf.up_mem _ _ h2, g2]
    exact (sf.grp _ hv2 _ (sf.vlt _ hv2)).mpr rfl

/-- every vertex is a member of exactly one entry of `update_schedule` -/
theorem StaticFacts.partition {inp : Input} {env : Env} {st : Static} (sf : StaticFacts inp env st)
    (ok : InputOK inp) (eok : EnvOK env) (h : static inp env = .ok st) :
    (st.update.flatMap Entry.members).Nodup ∧ (∀ x, x ∈ st.update.flatMap Entry.members ↔ x ∈ verts inp) ∧
    (∀ e ∈ st.update, e.members ≠ []) ∧ st.update.Nodup := by
  obtain ⟨wf, f⟩ := static_kos ok h
  have hupmap := update_members h
  have hg : ∀ i ∈ st.t3.out, st.kos.sccs[i]? = some (st.kos.sccs.getD i []) :=
    fun i hi => getElem?_getD [] ((sf.sched_mem i).mp hi)
  -- the scheduled groups are non-empty and pairwise disjoint
  have hne : ∀ i ∈ st.t3.out, ∃ a, a ∈ grpMembers env.intra (st.kos.sccs.getD i []) := fun i hi =>
    (List.exists_mem_of_ne_nil _ ((f.partition wf).1 _ (List.mem_of_getElem? (hg i hi)))).imp
      fun a ha => (grpMembers_mem eok _ a).mpr ha
  have hdisj : ∀ i ∈ st.t3.out, ∀ j ∈ st.t3.out, ∀ x, x ∈ grpMembers env.intra (st.kos.sccs.getD i []) →
      x ∈ grpMembers env.intra (st.kos.sccs.getD j []) → i = j := fun i hi j hj x hx hx' =>
    f.disj i j _ _ (hg i hi) (hg j hj) x ((grpMembers_mem eok _ x).mp hx) ((grpMembers_mem eok _ x).mp hx')
  refine ⟨?_, fun x => ?_, fun e he hnil => ?_, ?_⟩
  · rw [List.flatMap_def, hupmap]
    refine List.pairwise_flatten.mpr ⟨fun l hl => ?_, List.pairwise_map.mpr ?_⟩
    · obtain ⟨i, hi, rfl⟩ := List.mem_map.mp hl
      exact grpMembers_nodup eok _ (f.nodup _ (List.mem_of_getElem? (hg i hi)))
    · exact List.Pairwise.imp_of_mem (fun hi hj hij x hx y hy e => hij (hdisj _ hi _ hj x hx (e ▸ hy))) sf.sched_nodup
  · rw [List.flatMap_def, hupmap, List.mem_flatten]
    constructor
    · rintro ⟨l, hl, hx⟩
      obtain ⟨i, hi, rfl⟩ := List.mem_map.mp hl
      exact sf.grp_verts i ((sf.sched_mem i).mp hi) x ((grpMembers_mem eok _ x).mp hx)
    · intro hx
      have hi := sf.vlt x hx
      exact ⟨_, List.mem_map.mpr ⟨_, (sf.sched_mem _).mpr hi, rfl⟩,
        (grpMembers_mem eok _ x).mpr ((sf.grp x hx _ hi).mpr rfl)⟩
  · obtain ⟨i, hi, hie⟩ := List.mem_map.mp (hupmap ▸ List.mem_map_of_mem (f := Entry.members) he)
    obtain ⟨a, ha⟩ := hne i hi
    rw [hie, hnil] at ha
    cases ha
  · apply nodup_of_map (f := Entry.members)
    rw [hupmap]
    refine nodup_map_of_inj_on sf.sched_nodup fun i hi j hj hij => ?_
    obtain ⟨a, ha⟩ := hne i hi
    exact hdisj i hi j hj a ha (hij ▸ ha)

/-! ## `ffs`, and the shape of `schedule` -/

theorem ffsLayout_head (c : FfCfg) : (ffsLayout c).head? = some FfFn.constFalse := rfl

theorem ffsLayout_ne_nil (c : FfCfg) : ffsLayout c ≠ [] := fun h => by
  have := ffsLayout_head c
  rw [h] at this; cases this

/-- appending a duplicate-free segment whose members all carry the tag `n` to a list with tags below `n` -/
theorem nodup_append_tag {α : Type} (t : α → Nat) {l m : List α} {n : Nat} (hl : l.Nodup ∧ ∀ a ∈ l, t a < n)
    (hm : m.Nodup) (ht : ∀ a ∈ m, t a = n) : (l ++ m).Nodup ∧ ∀ a ∈ l ++ m, t a < n + 1 :=
  ⟨List.nodup_append.mpr ⟨hl.1, hm, fun a ha b hb e => Nat.lt_irrefl n (by have := hl.2 a ha; rwa [e, ht b hb] at this)⟩,
   fun a ha => (List.mem_append.mp ha).elim (fun h => Nat.lt_succ_of_lt (hl.2 a h)) (fun h => ht a h ▸ Nat.lt_succ_self _)⟩

/-- an optional entry of `ffs` as such a segment -/
theorem nodup_opt {α : Type} (t : α → Nat) (b : Bool) (x : α) :
    (if b then [x] else []).Nodup ∧ ∀ a ∈ (if b then [x] else []), t a = t x := by
  cases b
  · exact ⟨List.nodup_nil, nofun⟩
  · exact ⟨List.pairwise_singleton _ x, fun a ha => List.mem_singleton.mp ha ▸ rfl⟩

/-- the seven segments of `ffs` hold the seven constructors of `FfFn` in their order -/
theorem ffsLayout_nodup (c : FfCfg) (h1 : c.ffBlocks.Nodup) (h2 : c.flips.Nodup) : (ffsLayout c).Nodup := by
  have hb : (c.ffBlocks.map FfFn.ffBlk).Nodup := nodup_map_of_inj_on h1 (fun a _ b _ e => FfFn.ffBlk.inj e)
  have hf : (c.flips.map FfFn.flip).Nodup := nodup_map_of_inj_on h2 (fun a _ b _ e => FfFn.flip.inj e)
  have opt := nodup_opt FfFn.ctorIdx
  have s0 : [FfFn.constFalse].Nodup ∧ ∀ a ∈ [FfFn.constFalse], a.ctorIdx < 1 :=
    ⟨List.pairwise_singleton _ _, fun a ha => List.mem_singleton.mp ha ▸ Nat.zero_lt_one⟩
  have s1 := nodup_append_tag _ s0 (opt c.printTrace .printLineTrace).1 (opt _ _).2
  have s2 := nodup_append_tag _ s1 hb (fun a ha => by obtain ⟨_, _, rfl⟩ := List.mem_map.mp ha; rfl)
  have s3 := nodup_append_tag _ s2 (opt c.vcd .vcd).1 (opt _ _).2
  have s4 := nodup_append_tag _ s3 (opt c.textwave .textwave).1 (opt _ _).2
  have s5 := nodup_append_tag _ s4 hf (fun a ha => by obtain ⟨_, _, rfl⟩ := List.mem_map.mp ha; rfl)
  exact (nodup_append_tag _ s5 (opt c.clearCl .clearCl).1 (opt _ _).2).1

/-- the entry of `update_schedule` a slot of `schedule` was made from (`ffs` entries come from none) -/
def Slot.entry? : Slot → Option Entry
  | .port v | .blk v => some (.one v)
  | .scc id ms => some (.grp id ms)
  | .ff _ => none

theorem entry?_slotOf (pv : List Nat) (e : Entry) : (slotOf pv e).entry? = some e := by
  cases e with
  | one v => rw [slotOf]; split <;> rfl
  | grp id ms => rfl

theorem slotOf_inj (pv : List Nat) (a b : Entry) (h : slotOf pv a = slotOf pv b) : a = b :=
  Option.some.inj (by rw [← entry?_slotOf pv a, h, entry?_slotOf])

theorem slotOf_not_ff (pv : List Nat) (a : Entry) (f : FfFn) : slotOf pv a ≠ Slot.ff f := fun h => by
  have := entry?_slotOf pv a
  rw [h] at this; cases this

theorem schedOK_of_static {inp : Input} {env : Env} {st : Static} (ok : InputOK inp) (eok : EnvOK env)
    (h : static inp env = .ok st) (h1 : inp.ff.ffBlocks.Nodup) (h2 : inp.ff.flips.Nodup) : SchedOK st.schedule := by
  have hs := (static_ok h).schedule
  obtain ⟨_, _, _, hund⟩ := (static_facts ok eok h).partition ok eok h
  refine ⟨List.Nodup.sublist List.filter_sublist ?_, ?_⟩
  · -- the whole schedule lists no entry twice
    rw [hs, List.nodup_append]
    refine ⟨nodup_map_of_inj_on hund (fun a _ b _ => slotOf_inj _ a b),
      nodup_map_of_inj_on (ffsLayout_nodup _ h1 h2) (fun a _ b _ e => Slot.ff.inj e), ?_⟩
    intro a ha b hb hab
    obtain ⟨e, _, rfl⟩ := List.mem_map.mp ha
    obtain ⟨f, _, rfl⟩ := List.mem_map.mp hb
    exact slotOf_not_ff _ e f hab
  · rw [hs, List.getLast?_append, List.getLast?_map]
    cases hl : (ffsLayout inp.ff).getLast? with
    | none => exact absurd (List.getLast?_eq_none_iff.mp hl) (ffsLayout_ne_nil _)
    | some f => exact ⟨Slot.ff f, by simp, rfl⟩

end PV.OpenLoop
