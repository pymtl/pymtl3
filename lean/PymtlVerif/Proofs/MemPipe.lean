import PymtlVerif.Model.Mem
/-!
The slot pipelines of `Model/Mem.lean` (`DelayPipeDeqCL`, `DelayPipeSendCL`, `InelasticDelayPipe`) read as FIFO queues through
`Slots.contents`: one law per operation, then arbitrary operation histories.
-/
namespace PV.Mem

namespace Slots
variable {α : Type}

theorem rot_concat (d : Slots α) (x : Option α) : rot (d ++ [x]) = x :: d := by
  simp only [rot, List.getLast?_concat, List.dropLast_concat]

theorem setLast_concat (d : Slots α) (x v : Option α) : setLast (d ++ [x]) v = d ++ [v] := by
  simp only [setLast, List.getLast?_concat, List.dropLast_concat]

theorem contents_concat (d : Slots α) (x : Option α) : contents (d ++ [x]) = x.toList ++ contents d := by
  cases x <;> simp [contents]

theorem contents_cons (x : Option α) (t : Slots α) : contents (x :: t) = contents t ++ x.toList := by
  cases x <;> simp [contents]

theorem contents_empty (n : Nat) : (empty n : Slots α).contents = [] := by
  simp [empty, contents]

theorem headFree_spec {p : Slots α} (h : p.headFree = true) : ∃ t, p = none :: t := by
  unfold headFree at h
  split at h
  · exact ⟨_, rfl⟩
  · cases h

theorem contents_rot (p : Slots α) (h : p.getLast? = some none) : p.rot.contents = p.contents := by
  obtain ⟨d, rfl⟩ := List.getLast?_eq_some_iff.mp h
  rw [rot_concat, contents_cons, contents_concat]; exact List.append_nil _

theorem contents_take (p : Slots α) (o : Option α) (h : p.getLast? = some o) :
    o.toList ++ ((p.setLast none).rot).contents = p.contents := by
  obtain ⟨d, rfl⟩ := List.getLast?_eq_some_iff.mp h
  rw [setLast_concat, rot_concat, contents_cons, contents_concat]; exact congrArg (o.toList ++ ·) (List.append_nil _)

/-- the line `p1` of `IPipe.edge`: with two slots or more the last slot is not the head slot, so an enqueue leaves it alone -/
theorem enq_spec (p : Slots α) (c : Bool) (x : α) (hlen : 2 ≤ p.length) (hfree : c = true → p.headFree = true) :
    let p1 := if c then p.setHead (some x) else p
    p1.length = p.length ∧ p1.getLast? = p.getLast? ∧ p1.contents = p.contents ++ (if c then [x] else []) := by
  cases c with
  | false => exact ⟨rfl, rfl, (List.append_nil _).symm⟩
  | true =>
    obtain ⟨t, rfl⟩ := headFree_spec (hfree rfl)
    cases t with
    | nil => exact absurd hlen (Nat.not_succ_le_self 1)
    | cons b t => exact ⟨rfl, rfl, by simp only [if_true, setHead, contents_cons, Option.toList, List.append_nil]⟩

/-- the line `p2` of `IPipe.edge`: what is sent, followed by what stays, is what was there -/
theorem send_spec (p : Slots α) (v r : Bool) (o : Option α) (h : p.getLast? = some (if v then o else none)) :
    let p2 := if v then (if r then (p.setLast none).rot else p) else p.rot
    p2.length = p.length ∧ (if v && r then o else none).toList ++ p2.contents = p.contents := by
  obtain ⟨d, rfl⟩ := List.getLast?_eq_some_iff.mp h
  cases v with
  | false => exact ⟨by rw [rot_concat, List.length_append]; rfl, contents_rot _ h⟩
  | true =>
    cases r with
    | false => exact ⟨rfl, rfl⟩
    | true => exact ⟨by rw [setLast_concat, rot_concat, List.length_append]; rfl, contents_take _ o h⟩

end Slots

namespace DeqPipe
variable {α : Type}

theorem tick_contents (p : Slots α) : (tick p).contents = p.contents := by
  unfold tick
  split
  · next h => exact Slots.contents_rot p h
  · rfl

theorem enq_contents (p : Slots α) (x : α) (h : enqRdy p = true) : (enq p x).contents = p.contents ++ [x] := by
  obtain ⟨t, rfl⟩ := Slots.headFree_spec h
  simp only [enq, Slots.setHead, Slots.contents_cons, Option.toList, List.append_nil]

theorem enq_fifo {p : Slots α} {x : α} {acc out : List α} (hr : enqRdy p = true) (h : out ++ p.contents = acc) :
    out ++ (enq p x).contents = acc ++ [x] := by
  rw [enq_contents p x hr, ← List.append_assoc, h]

theorem deq_contents (p p' : Slots α) (x : α) (h : deq p = some (x, p')) : p.contents = x :: p'.contents := by
  unfold deq at h
  split at h
  · next y hy =>
    obtain ⟨rfl, rfl⟩ := Prod.mk.inj (Option.some.inj h)
    obtain ⟨d, rfl⟩ := List.getLast?_eq_some_iff.mp hy
    rw [Slots.setLast_concat, Slots.contents_concat, Slots.contents_concat]; rfl
  · cases h

end DeqPipe

namespace SendPipe
variable {α : Type}

theorem tick_contents (rdy : Bool) (p : Slots α) :
    (tick rdy p).2.toList ++ (tick rdy p).1.contents = p.contents := by
  unfold tick
  split
  · next x hx =>
    cases rdy with
    | true => exact Slots.contents_take p (some x) hx
    | false => rfl
  · next h => exact Slots.contents_rot p h
  · rfl

/-- `enq` and `enq.rdy` of the two CL pipes are the same functions (`setHead`, `headFree`), so the lemmas of `DeqPipe`
about them apply as they stand -/
theorem enq_contents (p : Slots α) (x : α) (h : enqRdy p = true) : (enq p x).contents = p.contents ++ [x] :=
  DeqPipe.enq_contents p x h

end SendPipe

namespace IPipe
variable {α : Type}

/-- the registered handshake signals agree with the slots -/
structure OK (q : IPipe α) : Prop where
  len : 2 ≤ q.slots.length
  last : q.slots.getLast? = some (if q.sendVal then q.sendMsg else none)
  rdy : q.recvRdy = true → q.slots.headFree = true

theorem init_ok (d : Nat) (hd : 1 ≤ d) : (init d : IPipe α).OK :=
  ⟨by rw [init, Slots.empty, List.length_replicate]; exact Nat.succ_le_succ hd,
   by rw [init, Slots.empty, List.replicate_succ', List.getLast?_concat]; rfl,
   fun h => nomatch h⟩

/-- One clock edge keeps `OK` and acts on the queue as an enqueue (if `recv.val & recv.rdy`) followed by a dequeue
(if `send.val & send.rdy`): `Slots.enq_spec` then `Slots.send_spec`; the new registers are read off the new slots. -/
theorem edge_spec (q : IPipe α) (hq : q.OK) (recvVal : Bool) (msg : α) (sinkRdy : Bool) :
    (q.edge recvVal msg sinkRdy).1.OK ∧
    (q.edge recvVal msg sinkRdy).2.toList ++ (q.edge recvVal msg sinkRdy).1.slots.contents =
      q.slots.contents ++ (if q.recvRdy && recvVal then [msg] else []) := by
  have h1 := Slots.enq_spec q.slots (q.recvRdy && recvVal) msg hq.len (fun h => hq.rdy (Bool.and_eq_true_iff.mp h).1)
  have h2 := Slots.send_spec _ q.sendVal sinkRdy q.sendMsg (h1.2.1.trans hq.last)
  have hlen := (h2.1.trans h1.1).symm ▸ hq.len
  have hc := h2.2.trans h1.2.2
  rw [edge]
  split
  · next x hx => exact ⟨⟨hlen, hx, id⟩, hc⟩
  · next hx =>
    -- no message in the last slot: with two slots or more there is a last slot, so it holds `none`
    refine ⟨⟨hlen, ?_, id⟩, hc⟩
    generalize (if q.sendVal = true then if sinkRdy = true then _ else _ else _) = p2 at hlen hx ⊢
    show p2.getLast? = some none
    cases hl : p2.getLast? with
    | none => rw [List.getLast?_eq_none_iff.mp hl] at hlen; exact absurd hlen (Nat.not_succ_le_zero 1)
    | some y =>
      cases y with
      | none => rfl
      | some z => exact absurd hl (hx z)

end IPipe

/-! ### arbitrary operation histories on the pipes

An operation that is not enabled (`enq` on a full head slot, `deq` on an empty last slot) is
skipped, as the callers do after testing `rdy`. `acc` collects the accepted messages, `out` the
messages that left the pipe. -/

inductive DeqOp (α : Type) where
  | tick | enq (x : α) | deq

inductive SendOp (α : Type) where
  | tick (sinkRdy : Bool) | enq (x : α)

namespace DeqPipe
variable {α : Type}

def runOps : List (DeqOp α) → Slots α → List α → List α → Slots α × List α × List α
  | [], p, acc, out => (p, acc, out)
  | .tick :: ops, p, acc, out => runOps ops (tick p) acc out
  | .enq x :: ops, p, acc, out =>
    if enqRdy p then runOps ops (enq p x) (acc ++ [x]) out else runOps ops p acc out
  | .deq :: ops, p, acc, out =>
    match deq p with
    | some (x, p') => runOps ops p' acc (out ++ [x])
    | none => runOps ops p acc out

theorem runOps_fifo (ops : List (DeqOp α)) : ∀ (p : Slots α) (acc out : List α),
    out ++ p.contents = acc →
    (runOps ops p acc out).2.2 ++ (runOps ops p acc out).1.contents = (runOps ops p acc out).2.1 := by
  induction ops with
  | nil => exact fun _ _ _ h => h
  | cons op ops ih =>
    intro p acc out h
    cases op with
    | tick => exact ih _ _ _ (by rw [tick_contents, h])
    | enq x =>
      rw [runOps]
      split
      · next hr =>
        exact ih _ _ _ (DeqPipe.enq_fifo hr h)
      · exact ih _ _ _ h
    | deq =>
      rw [runOps]
      split
      · next x p' hd =>
        exact ih _ _ _ (by rw [List.append_assoc, ← h, deq_contents p p' x hd]; rfl)
      · exact ih _ _ _ h

end DeqPipe

namespace SendPipe
variable {α : Type}

def runOps : List (SendOp α) → Slots α → List α → List α → Slots α × List α × List α
  | [], p, acc, out => (p, acc, out)
  | .tick rdy :: ops, p, acc, out => runOps ops (tick rdy p).1 acc (out ++ (tick rdy p).2.toList)
  | .enq x :: ops, p, acc, out =>
    if enqRdy p then runOps ops (enq p x) (acc ++ [x]) out else runOps ops p acc out

theorem runOps_fifo (ops : List (SendOp α)) : ∀ (p : Slots α) (acc out : List α),
    out ++ p.contents = acc →
    (runOps ops p acc out).2.2 ++ (runOps ops p acc out).1.contents = (runOps ops p acc out).2.1 := by
  induction ops with
  | nil => exact fun _ _ _ h => h
  | cons op ops ih =>
    intro p acc out h
    cases op with
    | tick rdy => exact ih _ _ _ (by rw [List.append_assoc, tick_contents, h])
    | enq x =>
      rw [runOps]
      split
      · next hr =>
        exact ih _ _ _ (DeqPipe.enq_fifo hr h)
      · exact ih _ _ _ h

end SendPipe

namespace IPipe
variable {α : Type}

/-- a history of clock edges `(recv.val, recv.msg, send.rdy)` -/
def runEdges : List (Bool × α × Bool) → IPipe α → List α → List α → IPipe α × List α × List α
  | [], q, acc, out => (q, acc, out)
  | (v, msg, rdy) :: es, q, acc, out =>
    runEdges es (q.edge v msg rdy).1 (acc ++ (if q.recvRdy && v then [msg] else []))
      (out ++ (q.edge v msg rdy).2.toList)

theorem runEdges_fifo (es : List (Bool × α × Bool)) (q : IPipe α) (acc out : List α)
    (hq : q.OK) (h : out ++ q.slots.contents = acc) :
    (runEdges es q acc out).2.2 ++ (runEdges es q acc out).1.slots.contents = (runEdges es q acc out).2.1 := by
  induction es generalizing q acc out with
  | nil => exact h
  | cons e es ih =>
    have he := edge_spec q hq e.1 e.2.1 e.2.2
    exact ih _ _ _ he.1
      (by rw [List.append_assoc, he.2, ← List.append_assoc, h])

end IPipe

end PV.Mem
