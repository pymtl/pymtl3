import PymtlVerif.Proofs.SccBfs
/-!
What `kosaraju_scc` returns: the groups are the strongly connected components, `v_SCC` maps every vertex to the index of
its group, the condensation `G_new` has exactly the inter-group edges, and every such edge goes from an earlier created
group to a later created one (so the condensation is acyclic).
-/
namespace PV.Scc

/-- summary of phase 1 + phase 2 for the model's `kosaraju` -/
structure KosFacts (G : Graph) (V : List Nat) (k : Kos) : Prop where
  vscc_mem : ∀ x ∈ V, ∃ g, k.sccs[vscc k.vmap x]? = some g ∧ x ∈ g
  /-- `v_SCC[x]` never raises KeyError -/
  lookup_some : ∀ x ∈ V, ∃ i, k.vmap.lookup x = some i
  /-- a group contains only vertices, and is the component of one of them -/
  comp : ∀ g ∈ k.sccs, ∃ r ∈ V, ∀ x, x ∈ g ↔ Mutual G x r
  nodup : ∀ g ∈ k.sccs, g.Nodup
  disj : ∀ (i j : Nat) (gi gj : List Nat), k.sccs[i]? = some gi → k.sccs[j]? = some gj → ∀ x, x ∈ gi → x ∈ gj → i = j
  order : ∀ (i j : Nat) (gi gj : List Nat), k.sccs[i]? = some gi → k.sccs[j]? = some gj → ∀ u ∈ gi, ∀ v ∈ gj, v ∈ G u → i ≤ j

theorem kosaraju_facts {G GT : Graph} {V : List Nat} (wf : WF G GT V) : KosFacts G V (kosaraju G GT V) := by
  obtain ⟨⟨_, hscc, hnd, _, hlater, hvmap⟩, hall⟩ := phase2_inv wf
  have key : ∀ x ∈ V, ∃ i g, (kosaraju G GT V).vmap.lookup x = some i ∧ (kosaraju G GT V).sccs[i]? = some g ∧ x ∈ g :=
    fun x hx => hvmap x (hall x hx)
  -- `disj` and `order` both come from the one `Pairwise` field `later` of the invariant, read by index
  have hlt : ∀ (i j : Nat) (gi gj : List Nat), (kosaraju G GT V).sccs[i]? = some gi → (kosaraju G GT V).sccs[j]? = some gj →
      i < j → ∀ v ∈ gj, v ∉ gi ∧ ∀ u ∈ G v, u ∉ gi := by
    intro i j gi gj hi hj hij
    obtain ⟨hi', rfl⟩ := List.getElem?_eq_some_iff.mp hi
    obtain ⟨hj', rfl⟩ := List.getElem?_eq_some_iff.mp hj
    exact List.pairwise_iff_getElem.mp hlater i j hi' hj' hij
  refine ⟨?_, fun x hx => let ⟨i, _, hl, _⟩ := key x hx; ⟨i, hl⟩, hscc, hnd, ?_, ?_⟩
  · intro x hx
    obtain ⟨i, g, hl, hi, hxg⟩ := key x hx
    exact ⟨g, by unfold vscc; rw [hl]; exact hi, hxg⟩
  · intro i j gi gj hi hj x hxi hxj
    rcases Nat.lt_trichotomy i j with h | h | h
    · exact absurd hxi (hlt i j gi gj hi hj h x hxj).1
    · exact h
    · exact absurd hxj (hlt j i gj gi hj hi h x hxi).1
  · intro i j gi gj hi hj u hu v hv he
    exact Nat.le_of_not_lt fun h => (hlt j i gj gi hj hi h u hu).2 v he hv

namespace KosFacts
variable {G GT : Graph} {V : List Nat} {k : Kos}

theorem vscc_lt (f : KosFacts G V k) {x : Nat} (hx : x ∈ V) : vscc k.vmap x < k.sccs.length := by
  obtain ⟨g, hg, _⟩ := f.vscc_mem x hx
  exact (List.getElem?_eq_some_iff.mp hg).1

theorem mem_iff_vscc (f : KosFacts G V k) {x i : Nat} {g : List Nat} (hx : x ∈ V) (hg : k.sccs[i]? = some g) :
    x ∈ g ↔ vscc k.vmap x = i := by
  obtain ⟨g', hg', hxg'⟩ := f.vscc_mem x hx
  constructor
  · intro hxg; exact f.disj _ _ _ _ hg' hg x hxg' hxg
  · intro h; rw [h, hg] at hg'; cases hg'; exact hxg'

theorem of_mem_getD (f : KosFacts G V k) (wf : WF G GT V) {x i : Nat} (h : x ∈ k.sccs.getD i []) :
    x ∈ V ∧ vscc k.vmap x = i := by
  rw [List.getD_eq_getElem?_getD] at h
  cases hg : k.sccs[i]? with
  | none => rw [hg] at h; exact absurd h List.not_mem_nil
  | some g =>
    rw [hg] at h
    obtain ⟨r, hrV, hr⟩ := f.comp g (List.mem_of_getElem? hg)
    have hx := ra_src_mem wf ((hr x).mp h).1 hrV
    exact ⟨hx, (f.mem_iff_vscc hx hg).mp h⟩

theorem mem_getD_vscc (f : KosFacts G V k) {x : Nat} (hx : x ∈ V) : x ∈ k.sccs.getD (vscc k.vmap x) [] := by
  obtain ⟨g, hg, hxg⟩ := f.vscc_mem x hx
  rw [List.getD_eq_getElem?_getD, hg]; exact hxg

theorem vscc_eq_iff (f : KosFacts G V k) {x y : Nat} (hx : x ∈ V) (hy : y ∈ V) :
    vscc k.vmap x = vscc k.vmap y ↔ Mutual G x y := by
  obtain ⟨g, hg, hxg⟩ := f.vscc_mem x hx
  obtain ⟨r, _, hr⟩ := f.comp g (List.mem_of_getElem? hg)
  constructor
  · intro h
    have hyg : y ∈ g := (f.mem_iff_vscc hy hg).mpr h.symm
    exact ((hr x).mp hxg).trans ((hr y).mp hyg).symm
  · intro h
    have hyg : y ∈ g := (hr y).mpr (h.symm.trans ((hr x).mp hxg))
    exact ((f.mem_iff_vscc hy hg).mp hyg).symm

/-- creation order: an edge between different groups goes from the earlier created group to the later one -/
theorem edge_order (f : KosFacts G V k) (wf : WF G GT V) {u v : Nat} (he : v ∈ G u) (hne : vscc k.vmap u ≠ vscc k.vmap v) :
    vscc k.vmap u < vscc k.vmap v := by
  obtain ⟨gu, hgu, hu⟩ := f.vscc_mem u (wf.src u v he)
  obtain ⟨gv, hgv, hv⟩ := f.vscc_mem v (wf.dst u v he)
  exact Nat.lt_of_le_of_ne (f.order _ _ _ _ hgu hgv u hu v hv he) hne

end KosFacts

/-- the edges `u → v` with `u` in `V`, in the iteration order of `for u in V: for v in G[u]` -/
def edgeList (G : Graph) (V : List Nat) : List (Nat × Nat) := V.flatMap (fun u => (G u).map (fun v => (u, v)))

theorem mem_edgeList {G : Graph} {V : List Nat} {u v : Nat} : (u, v) ∈ edgeList G V ↔ u ∈ V ∧ v ∈ G u := by
  simp [edgeList]

theorem gnew_eq_foldl (G : Graph) (V : List Nat) (vm : List (Nat × Nat)) :
    gnewRows G V vm = (edgeList G V).foldl (fun rows e => addEdge vm rows e.1 e.2) [] := by
  unfold gnewRows edgeList
  generalize ([] : List (List Nat)) = g0
  induction V generalizing g0 with
  | nil => rfl
  | cons u V ih =>
    simp only [List.foldl_cons, List.flatMap_cons, List.foldl_append, List.foldl_map]
    exact ih _

theorem rowOf_setRow (rows : List (List Nat)) (i : Nat) (r : List Nat) (j : Nat) :
    rowOf (setRow rows i r) j = if j = i then r else rowOf rows j := by
  unfold rowOf
  fun_induction setRow rows i r generalizing j with
  | case1 r => cases j <;> rfl
  | case2 k r ih => cases j with
    | zero => rfl
    | succ j => simp only [List.getD_cons_succ, ih j, Nat.succ_eq_add_one, Nat.add_right_cancel_iff, List.getD_nil]
  | case3 x xs r => cases j <;> rfl
  | case4 x xs k r ih => cases j with
    | zero => rfl
    | succ j => simp only [List.getD_cons_succ, ih j, Nat.succ_eq_add_one, Nat.add_right_cancel_iff]

theorem mem_addEdge (vm : List (Nat × Nat)) (rows : List (List Nat)) (u v i j : Nat) :
    j ∈ rowOf (addEdge vm rows u v) i ↔ j ∈ rowOf rows i ∨ (vscc vm u ≠ vscc vm v ∧ i = vscc vm u ∧ j = vscc vm v) := by
  unfold addEdge
  by_cases hc : vscc vm u ≠ vscc vm v ∧ vscc vm v ∉ rowOf rows (vscc vm u)
  · rw [if_pos hc, rowOf_setRow]
    by_cases hi : i = vscc vm u
    · rw [if_pos hi, List.mem_append, List.mem_singleton, hi]
      exact or_congr_right ⟨fun h => ⟨hc.1, rfl, h⟩, fun h => h.2.2⟩
    · rw [if_neg hi]
      exact ⟨.inl, fun h => h.elim id fun h => absurd h.2.1 hi⟩
  · rw [if_neg hc]
    refine ⟨.inl, fun h => h.elim id fun ⟨h1, h2, h3⟩ => ?_⟩
    rw [h2, h3]
    exact Decidable.of_not_not fun hn => hc ⟨h1, hn⟩

theorem nodup_addEdge (vm : List (Nat × Nat)) (rows : List (List Nat)) (u v i : Nat) (h : (rowOf rows i).Nodup) :
    (rowOf (addEdge vm rows u v) i).Nodup := by
  unfold addEdge
  by_cases hc : vscc vm u ≠ vscc vm v ∧ vscc vm v ∉ rowOf rows (vscc vm u)
  · rw [if_pos hc, rowOf_setRow]
    by_cases hi : i = vscc vm u
    · rw [if_pos hi, ← hi]
      refine List.nodup_append.mpr ⟨h, List.nodup_cons.mpr ⟨List.not_mem_nil, List.nodup_nil⟩, ?_⟩
      rintro a ha _ hb rfl
      exact hc.2 (hi ▸ List.mem_singleton.mp hb ▸ ha)
    · rw [if_neg hi]; exact h
  · rw [if_neg hc]; exact h

/-- `gn` holds exactly the pairs of different group indices of the edges in `S`, each once -/
def GnSpec (vm : List (Nat × Nat)) (gn : Graph) (S : List (Nat × Nat)) : Prop :=
  (∀ i, (gn i).Nodup) ∧ ∀ i j, j ∈ gn i ↔ ∃ e ∈ S, vscc vm e.1 ≠ vscc vm e.2 ∧ i = vscc vm e.1 ∧ j = vscc vm e.2

theorem mem_foldl_addEdge (vm : List (Nat × Nat)) (i j : Nat) : ∀ (es : List (Nat × Nat)) (rows : List (List Nat)),
    j ∈ rowOf (es.foldl (fun rows e => addEdge vm rows e.1 e.2) rows) i ↔
      j ∈ rowOf rows i ∨ ∃ e ∈ es, vscc vm e.1 ≠ vscc vm e.2 ∧ i = vscc vm e.1 ∧ j = vscc vm e.2
  | [], rows => by simp
  | e :: es, rows => by
    rw [List.foldl_cons, mem_foldl_addEdge vm i j es, mem_addEdge]
    simp only [List.mem_cons, exists_eq_or_imp, or_assoc]

theorem nodup_foldl_addEdge (vm : List (Nat × Nat)) (i : Nat) : ∀ (es : List (Nat × Nat)) (rows : List (List Nat)),
    (rowOf rows i).Nodup → (rowOf (es.foldl (fun rows e => addEdge vm rows e.1 e.2) rows) i).Nodup
  | [], _, h => h
  | e :: es, rows, h => nodup_foldl_addEdge vm i es _ (nodup_addEdge vm rows e.1 e.2 i h)

/-- the rows built from an edge sequence `E`, starting with none, are the condensation of `E` -/
theorem gnSpec_foldl (vm E : List (Nat × Nat)) : GnSpec vm (rowOf (E.foldl (fun rows e => addEdge vm rows e.1 e.2) [])) E := by
  have h0 : ∀ i, rowOf [] i = [] := fun _ => List.getD_nil
  refine ⟨fun i => nodup_foldl_addEdge vm i E [] (h0 i ▸ List.nodup_nil), fun i j => ?_⟩
  rw [mem_foldl_addEdge, h0]
  exact or_iff_right List.not_mem_nil

theorem gnew_spec (G : Graph) (V : List Nat) (vm : List (Nat × Nat)) :
    (∀ i, (rowOf (gnewRows G V vm) i).Nodup) ∧
    ∀ i j, j ∈ rowOf (gnewRows G V vm) i ↔ i ≠ j ∧ ∃ u ∈ V, ∃ v ∈ G u, vscc vm u = i ∧ vscc vm v = j := by
  have := gnSpec_foldl vm (edgeList G V)
  rw [← gnew_eq_foldl] at this
  refine ⟨this.1, ?_⟩
  intro i j
  rw [this.2]
  constructor
  · rintro ⟨⟨u, v⟩, he, h1, rfl, rfl⟩
    obtain ⟨hu, hv⟩ := mem_edgeList.mp he
    exact ⟨h1, u, hu, v, hv, rfl, rfl⟩
  · rintro ⟨h1, u, hu, v, hv, rfl, rfl⟩
    exact ⟨(u, v), mem_edgeList.mpr ⟨hu, hv⟩, h1, rfl, rfl⟩

theorem gnew_increasing {G GT : Graph} {V : List Nat} (wf : WF G GT V) {i j : Nat}
    (h : j ∈ (kosaraju G GT V).gn i) : i < j ∧ j < (kosaraju G GT V).sccs.length := by
  have f := kosaraju_facts wf
  obtain ⟨hne, u, hu, v, hv, h1, h2⟩ := ((gnew_spec G V (kosaraju G GT V).vmap).2 i j).mp h
  subst h1; subst h2
  exact ⟨f.edge_order wf hv hne, f.vscc_lt (wf.dst u v hv)⟩

end PV.Scc
