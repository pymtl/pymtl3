/-!
# Reading a text back in one way only

Rendered names are told apart by reading them back. `Reads good code Tl` says that a text made of the code of a good
object and a rest satisfying `Tl` determines both. The codes here are not prefix-free (`ab` and `abc` are both names):
what makes the reading unique is what may FOLLOW a code, so the notion is relative to `Tl`. It is obtained from a
`clash` condition on character lists (`append_unique`) or from a character class (`Reads.of_class`), carried over a
fixed word in front (`Reads.prefix`) and over lists of codes, written one after the other (`Reads.flatMap`) or with a
separator between them (`Reads.intercalate`).

Two kinds of codes recur in the names pymtl3 renders and have their clash conditions here. Pieces joined by `__`: a parameter
value or field name must not end in `_` and may be followed by anything after `__` (`value_clash`); a path segment may end in `_`
when the next one never starts with `_` (`seg_clash`). Decimal numbers: all digits, followed by a non-digit (`reads_digits`).
-/
namespace PV.Parse

section reading
variable {α β : Type}

/-- If a non-empty `d` can never at once extend a segment (`Sg a`, `Sg (a ++ d)`) and begin a tail (`Tl (d ++ T)`, `Tl T`),
then `a ++ T` determines the segment `a` and the tail `T`. -/
theorem append_unique {Sg Tl : List α → Prop}
    (clash : ∀ a d T, Sg a → Sg (a ++ d) → Tl (d ++ T) → Tl T → d = [])
    {a a' T T' : List α} (ha : Sg a) (ha' : Sg a') (hT : Tl T) (hT' : Tl T') (h : a ++ T = a' ++ T') :
    a = a' ∧ T = T' := by
  rcases List.append_eq_append_iff.mp h with ⟨d, rfl, rfl⟩ | ⟨d, rfl, rfl⟩
  · have := clash a d T' ha ha' hT hT'
    subst this
    simp
  · have := clash a' d T ha' ha hT' hT
    subst this
    simp

/-- the rest does not go on with a `p`-character -/
def Stops (p : α → Prop) (T : List α) : Prop := ∀ c ∈ T.head?, ¬ p c

theorem stops_nil (p : α → Prop) : Stops p [] := fun _ h => nomatch h

theorem stops_cons (p : α → Prop) {c : α} (h : ¬ p c) (T : List α) : Stops p (c :: T) :=
  fun _ e => Option.some.inj e ▸ h

theorem all_clash (p : α → Prop) (a d T : List α) (_ : ∀ c ∈ a, p c) (hs : ∀ c ∈ a ++ d, p c)
    (ht : Stops p (d ++ T)) (_ : Stops p T) : d = [] := by
  cases d with
  | nil => rfl
  | cons c d => exact (ht c (by simp) (hs c (by simp))).elim

theorem append_unique_of_all (p : α → Prop) {a a' T T' : List α} (ha : ∀ c ∈ a, p c) (ha' : ∀ c ∈ a', p c)
    (hT : Stops p T) (hT' : Stops p T') (h : a ++ T = a' ++ T') : a = a' ∧ T = T' :=
  append_unique (Sg := fun a => ∀ c ∈ a, p c) (all_clash p) ha ha' hT hT' h

/-- a text that is the code of a good object followed by a rest satisfying `Tl` determines the object and the rest -/
def Reads (good : β → Prop) (code : β → List α) (Tl : List α → Prop) : Prop :=
  ∀ ⦃x y s t⦄, good x → good y → Tl s → Tl t → code x ++ s = code y ++ t → x = y ∧ s = t

variable {good : β → Prop} {code : β → List α} {Tl : List α → Prop}

theorem Reads.of_clash {Sg : List α → Prop} (clash : ∀ a d T, Sg a → Sg (a ++ d) → Tl (d ++ T) → Tl T → d = [])
    (hSg : ∀ x, good x → Sg (code x)) (hinj : ∀ x y, good x → good y → code x = code y → x = y) :
    Reads good code Tl := fun x y _ _ hx hy hs ht h =>
  (append_unique clash (hSg x hx) (hSg y hy) hs ht h).imp_left (hinj x y hx hy)

theorem Reads.of_class (p : α → Prop) (hp : ∀ x, good x → ∀ c ∈ code x, p c)
    (hinj : ∀ x y, good x → good y → code x = code y → x = y) : Reads good code (Stops p) :=
  .of_clash (all_clash p) hp hinj

theorem Reads.prefix (h : Reads good code Tl) (w : List α) : Reads good (fun x => w ++ code x) Tl :=
  fun _ _ _ _ hx hy hs ht e =>
    h hx hy hs ht (List.append_cancel_left ((List.append_assoc ..).symm.trans (e.trans (List.append_assoc ..))))

/-- what follows a code in a list of codes is a tail: nothing is one, and so is a further code with whatever comes after it -/
theorem tail_flatMap (hnil : Tl []) (hcons : ∀ x T, good x → Tl (code x ++ T)) :
    ∀ r : List β, (∀ x ∈ r, good x) → Tl (r.flatMap code)
  | [], _ => hnil
  | x :: _, hr => hcons x _ (hr x (.head _))

/-- **codes written one after the other**: the list is read back when each code is, is not empty, and what follows
a code (nothing, or a further code) is a tail -/
theorem Reads.flatMap (h : Reads good code Tl) (hne : ∀ x, good x → code x ≠ []) (hnil : Tl [])
    (hcons : ∀ x T, good x → Tl (code x ++ T)) :
    ∀ p q : List β, (∀ x ∈ p, good x) → (∀ x ∈ q, good x) → p.flatMap code = q.flatMap code → p = q := by
  intro p
  induction p with
  | nil =>
    intro q _ hq e
    cases q with
    | nil => rfl
    | cons y q => exact absurd (List.append_eq_nil_iff.mp (List.flatMap_cons.symm.trans e.symm)).1 (hne y (hq y (.head _)))
  | cons x p ih =>
    intro q hp hq e
    cases q with
    | nil => exact absurd (List.append_eq_nil_iff.mp (List.flatMap_cons.symm.trans e)).1 (hne x (hp x (.head _)))
    | cons y q =>
      obtain ⟨hx, hp'⟩ := List.forall_mem_cons.mp hp
      obtain ⟨hy, hq'⟩ := List.forall_mem_cons.mp hq
      rw [List.flatMap_cons, List.flatMap_cons] at e
      obtain ⟨rfl, e2⟩ := h hx hy (tail_flatMap hnil hcons p hp') (tail_flatMap hnil hcons q hq') e
      rw [ih q hp' hq' e2]

theorem intercalate_cons (sep t : List α) (ts : List (List α)) :
    sep.intercalate (t :: ts) = t ++ ts.flatMap (sep ++ ·) := by
  induction ts generalizing t with
  | nil => simp
  | cons u ts ih => simp [ih u]

/-- **`sep.join` is injective** on lists of good objects whose codes are read back, when what follows a code (nothing,
or the separator and a further code) is a tail. -/
theorem Reads.intercalate (h : Reads good code Tl) (sep : List α) (hne : ∀ x, good x → code x ≠ []) (hnil : Tl [])
    (hcons : ∀ x T, good x → Tl (sep ++ code x ++ T)) :
    ∀ p q : List β, (∀ x ∈ p, good x) → (∀ x ∈ q, good x) →
      sep.intercalate (p.map code) = sep.intercalate (q.map code) → p = q := by
  have hne' : ∀ x, good x → sep ++ code x ≠ [] := fun x hx e => hne x hx (List.append_eq_nil_iff.mp e).2
  intro p q hp hq e
  cases p with
  | nil =>
    cases q with
    | nil => rfl
    | cons y q =>
      rw [List.map_cons, intercalate_cons] at e
      exact absurd (List.append_eq_nil_iff.mp e.symm).1 (hne y (hq y (.head _)))
  | cons x p =>
    cases q with
    | nil =>
      rw [List.map_cons, intercalate_cons] at e
      exact absurd (List.append_eq_nil_iff.mp e).1 (hne x (hp x (.head _)))
    | cons y q =>
      -- with a separator in front of the text, the codes `sep ++ code x` are written one after the other
      refine (h.prefix sep).flatMap hne' hnil hcons _ _ hp hq ?_
      simpa only [List.map_cons, intercalate_cons, List.flatMap_map, List.flatMap_cons, List.append_assoc] using
        congrArg (sep ++ ·) e

end reading

/-- `__` does not occur -/
def NoDunder (a : List Char) : Prop := ∀ p q, a ≠ p ++ '_' :: '_' :: q

/-- no `__` and no `_` at the end: a value may not END in `_` because what follows the next `__` may start with one -/
def NoSepL (a : List Char) : Prop := NoDunder a ∧ ∀ p, a ≠ p ++ ['_']

theorem noDunder_of_not_mem (a : List Char) (h : '_' ∉ a) : NoDunder a :=
  fun p _ e => h (e ▸ List.mem_append_right p List.mem_cons_self)

theorem noSepL_of_not_mem (a : List Char) (h : '_' ∉ a) : NoSepL a :=
  ⟨noDunder_of_not_mem a h, fun p e => h (e ▸ List.mem_append_right p List.mem_cons_self)⟩

/-- what may follow a value: nothing, or the separator -/
def ValueTail (T : List Char) : Prop := T = [] ∨ ∃ r, T = '_' :: '_' :: r

/-- `d` is `_` (then the value ends in `_`) or starts with `__` -/
theorem value_clash (a d T : List Char) (_ : NoSepL a) (hs : NoSepL (a ++ d)) (ht : ValueTail (d ++ T)) (_ : ValueTail T) :
    d = [] := by
  cases d with
  | nil => rfl
  | cons c d =>
    obtain ⟨r, e⟩ := ht.resolve_left (List.cons_ne_nil _ _)
    cases d with
    | nil => exact absurd (by rw [(List.cons.inj e).1]) (hs.2 a)
    | cons c2 d => exact absurd (by rw [(List.cons.inj e).1, (List.cons.inj (List.cons.inj e).2).1]) (hs.1 a d)

/-- what may follow a segment: nothing, or the separator followed by something that does not start with `_` (so a segment,
unlike a value, may end in `_`) -/
def SegTail (T : List Char) : Prop := T = [] ∨ ∃ r, T = '_' :: '_' :: r ∧ r.head? ≠ some '_'

theorem seg_clash (a d T : List Char) (_ : NoDunder a) (hs : NoDunder (a ++ d)) (ht : SegTail (d ++ T))
    (hT : SegTail T) : d = [] := by
  cases d with
  | nil => rfl
  | cons c d =>
    obtain ⟨r, e, hr⟩ := ht.resolve_left (List.cons_ne_nil _ _)
    cases d with
    | nil =>
      -- `T` goes on with `_`, so it is the separator and `r` starts with `_`
      rcases hT with hT | ⟨r', hT, _⟩
      · rw [hT] at e; simp at e
      · rw [hT] at e
        simp only [List.cons_append, List.nil_append, List.cons.injEq, true_and] at e
        exact absurd (by rw [← e.2]; rfl) hr
    | cons c2 d => exact absurd (by rw [(List.cons.inj e).1, (List.cons.inj (List.cons.inj e).2).1]) (hs a d)

theorem toDigits_inj {n m : Nat} (h : Nat.toDigits 10 n = Nat.toDigits 10 m) : n = m :=
  Nat.ofDigitChars_ten_toDigits.symm.trans ((congrArg (Nat.ofDigitChars 10 · 0) h).trans Nat.ofDigitChars_ten_toDigits)

theorem toDigits_isDigit (n : Nat) : ∀ c ∈ Nat.toDigits 10 n, c.isDigit = true :=
  fun _ => Nat.isDigit_of_mem_toDigits (by decide) (by decide)

theorem toDigits_no_underscore (i : Nat) : '_' ∉ Nat.toDigits 10 i :=
  fun h => absurd (toDigits_isDigit i _ h) (by decide)

theorem toString_toList (i : Nat) : (toString i).toList = Nat.toDigits 10 i := by
  rw [Nat.toString_eq_repr, Nat.toList_repr]

theorem toDigits_head (n : Nat) : ∃ c r, Nat.toDigits 10 n = c :: r ∧ c.isDigit = true := by
  cases h : Nat.toDigits 10 n with
  | nil => exact absurd h Nat.toDigits_ne_nil
  | cons c r => exact ⟨c, r, rfl, toDigits_isDigit n c (h ▸ .head _)⟩

/-- the class of `reads_digits`, under a name so that `Stops IsDigit` can be written -/
abbrev IsDigit (c : Char) : Prop := c.isDigit = true

theorem reads_digits : Reads (fun _ : Nat => True) (Nat.toDigits 10) (Stops IsDigit) :=
  .of_class _ (fun n _ => toDigits_isDigit n) fun _ _ _ _ => toDigits_inj

end PV.Parse
