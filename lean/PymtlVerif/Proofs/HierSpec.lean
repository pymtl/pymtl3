import PymtlVerif.Model.Hier
/-!
# Vocabulary of the statements of `Props/C14.lean`

Which prefixes of a name evaluate to a NamedObject / Component / Signal, and which names `render` is
injective on.
-/
namespace PV.Hier

/-- all proper prefixes, shortest first -/
def properPrefixes {α} : List α → List (List α)
  | [] => []
  | a :: l => [] :: (properPrefixes l).map (a :: ·)

/-- does the expression `q` evaluate to a value satisfying `P`? -/
def names (P : PyVal → Bool) (root : Desc) (q : Name) : Bool :=
  match resolve root q with
  | some st => P st.2
  | none => false

abbrev namesObj := names PyVal.isObj
abbrev namesComp := names PyVal.isComp
abbrev namesSig := names PyVal.isSig

def objPrefixes (root : Desc) (full : Name) : List Name := (properPrefixes full).filter (namesObj root)

/-- slot / field names of ASCII letters, digits and underscores (Python also allows other letters: names with those are not covered) -/
def IdentLike (a : String) : Prop := ∀ c ∈ a.toList, c.isAlphanum = true ∨ c = '_'

/-- a full name: the top `s` followed by attribute / index / slice tokens with identifier-like names -/
def WFName (n : Name) : Prop :=
  ∃ tl, n = .root :: tl ∧ ∀ t ∈ tl, t ≠ .root ∧ ∀ a, t = .attr a → IdentLike a

end PV.Hier
