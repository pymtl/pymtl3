import PymtlVerif.Model.Rtl
import PymtlVerif.Proofs.Sched
/-!
Bridge between the executable RTL model (`Model/Rtl.lean`) and the abstract scheduling theory
(`Proofs/Sched.lean`): every concrete block denotes an abstract block whose footprints are its
syntactic bit ranges; the Boolean checks the driver runs (`topoB`, `singleWriterB`, `noSelf`) are sound for the
corresponding abstract predicates (`watchOKB` is dealt with in `Props/C11.lean`).
-/
namespace PV.Rtl
open PV.Sched

def inRngs (rs : List Rng) (v : Var) : Prop := ∃ r ∈ rs, r.has v

theorem inRngs_append {xs ys : List Rng} {v : Var} : inRngs (xs ++ ys) v ↔ inRngs xs v ∨ inRngs ys v := by
  simp only [inRngs, List.mem_append, or_and_right, exists_or]

theorem inRngs_flatMap {α : Type} {l : List α} {f : α → List Rng} {a : α} {v : Var} (ha : a ∈ l) (h : inRngs (f a) v) :
    inRngs (l.flatMap f) v :=
  let ⟨r, hr, hv⟩ := h; ⟨r, List.mem_flatMap.mpr ⟨a, ha, hr⟩, hv⟩

theorem overlap_of_common (a b : Rng) (v : Var) (ha : a.has v) (hb : b.has v) : a.overlap b = true := by
  obtain ⟨h1, h2, h3⟩ := ha
  obtain ⟨g1, g2, g3⟩ := hb
  simp only [Rng.overlap, Bool.and_eq_true, beq_iff_eq, decide_eq_true_eq]
  exact ⟨⟨h1.symm.trans g1, Nat.lt_of_le_of_lt h2 g3⟩, Nat.lt_of_le_of_lt g2 h3⟩

/-- `noSelf`, `topoB`, `singleWriterB` and `entriesTopoB` all unfold to `(!rngsOverlap ..) = true`: hence this form of the hypothesis -/
theorem not_overlap {xs ys : List Rng} (h : (!rngsOverlap xs ys) = true) : ∀ v, inRngs xs v → ¬ inRngs ys v := by
  intro v ⟨x, hx, hxv⟩ ⟨y, hy, hyv⟩
  rw [rngsOverlap, List.any_eq_true.mpr ⟨x, hx, List.any_eq_true.mpr ⟨y, hy, overlap_of_common x y v hxv hyv⟩⟩] at h
  cases h

theorem common_of_overlap (a b : Rng) (ha : 0 < a.w) (hb : 0 < b.w) (h : a.overlap b = true) :
    a.has (a.sig, max a.lo b.lo) ∧ b.has (a.sig, max a.lo b.lo) := by
  simp only [Rng.overlap, Bool.and_eq_true, beq_iff_eq, decide_eq_true_eq] at h
  exact ⟨⟨rfl, Nat.le_max_left .., Nat.max_lt.mpr ⟨Nat.lt_add_of_pos_right ha, h.2⟩⟩,
    h.1.1, Nat.le_max_right .., Nat.max_lt.mpr ⟨h.1.2, Nat.lt_add_of_pos_right hb⟩⟩

theorem rngsOverlap_true (xs ys : List Rng) (hx : ∀ r ∈ xs, 0 < r.w) (hy : ∀ r ∈ ys, 0 < r.w)
    (h : rngsOverlap xs ys = true) : ∃ v, inRngs xs v ∧ inRngs ys v := by
  obtain ⟨x, hxm, h2⟩ := List.any_eq_true.mp h
  obtain ⟨y, hym, h3⟩ := List.any_eq_true.mp h2
  have hc := common_of_overlap x y (hx x hxm) (hy y hym) h3
  exact ⟨_, ⟨x, hxm, hc.1⟩, ⟨y, hym, hc.2⟩⟩

theorem rngsOverlap_comm (xs ys : List Rng) : rngsOverlap xs ys = rngsOverlap ys xs := by
  have hc : ∀ a b : Rng, a.overlap b = b.overlap a := fun a b => by
    rw [Rng.overlap, Rng.overlap, Bool.and_right_comm, BEq.comm]
  rw [Bool.eq_iff_iff]
  unfold rngsOverlap
  simp only [List.any_eq_true]
  constructor
  · intro ⟨x, hx, y, hy, h⟩; exact ⟨y, hy, x, hx, by rw [hc]; exact h⟩
  · intro ⟨y, hy, x, hx, h⟩; exact ⟨x, hx, y, hy, by rw [hc]; exact h⟩

theorem rngsOverlap_flatMap {α : Type} {f g : α → List Rng} {xs ys : List α}
    (h : rngsOverlap (xs.flatMap f) (ys.flatMap g) = true) : ∃ a ∈ xs, ∃ b ∈ ys, rngsOverlap (f a) (g b) = true := by
  unfold rngsOverlap at h
  simp only [List.any_eq_true, List.mem_flatMap] at h
  obtain ⟨x, ⟨a, ha, hx⟩, y, ⟨b, hb, hy⟩, hxy⟩ := h
  refine ⟨a, ha, b, hb, ?_⟩
  unfold rngsOverlap
  simp only [List.any_eq_true]
  exact ⟨x, hx, y, hy, hxy⟩

theorem bitsToNat_congr (f g : Nat → Bool) (w : Nat) (h : ∀ i, i < w → f i = g i) :
    bitsToNat f w = bitsToNat g w := by
  induction w with
  | zero => rfl
  | succ w ih =>
    simp only [bitsToNat]
    rw [ih (fun i hi => h i (Nat.lt_succ_of_lt hi)), h w (Nat.lt_succ_self w)]

theorem eval_congr (e : Expr) (s s' : St) (h : ∀ v, inRngs e.reads v → s v = s' v) :
    e.eval s = e.eval s' := by
  induction e with
  | const w v => rfl
  | rd r =>
    exact bitsToNat_congr _ _ _ fun i hi =>
      h _ ⟨r, List.mem_singleton_self r, rfl, Nat.le_add_right .., Nat.add_lt_add_left hi _⟩
  | not w e ih => simp only [Expr.eval, ih h]
  | bin op w a b iha ihb =>
    simp only [Expr.eval, iha fun v hv => h v (inRngs_append.mpr (.inl hv)), ihb fun v hv => h v (inRngs_append.mpr (.inr hv))]
  | mux c a b ihc iha ihb =>
    simp only [Expr.eval, ihc fun v hv => h v (inRngs_append.mpr (.inl (inRngs_append.mpr (.inl hv)))),
      iha fun v hv => h v (inRngs_append.mpr (.inl (inRngs_append.mpr (.inr hv)))),
      ihb fun v hv => h v (inRngs_append.mpr (.inr hv))]
  | cat a wb b iha ihb =>
    simp only [Expr.eval, iha fun v hv => h v (inRngs_append.mpr (.inl hv)), ihb fun v hv => h v (inRngs_append.mpr (.inr hv))]

/-! Both kinds of assignment overwrite the target bits with a value computed from some state: `Asg.run` from the state
it updates, `Asg.runFF` from the fixed pre-edge state. `a.run` is `a.write fun a s => a.e.eval s` and `a.runFF cur` is
`a.write fun a _ => a.e.eval cur`, both by `rfl`: the two lemmas below are applied to `Blk.run` and `Blk.runFF` as they stand. -/
section Write
variable (val : Asg → St → Nat)

def Asg.write (a : Asg) (s : St) : St :=
  fun v => if a.tgt.has v then (val a s).testBit (v.2 - a.tgt.lo) else s v

theorem foldl_write_frame (as : List Asg) (s : St) (v : Var) (h : ∀ a ∈ as, ¬ a.tgt.has v) :
    (as.foldl (fun s a => a.write val s) s) v = s v := by
  induction as generalizing s with
  | nil => rfl
  | cons a as ih =>
    rw [List.foldl_cons, ih _ (fun b hb => h b (List.mem_cons_of_mem _ hb))]
    exact if_neg (h a List.mem_cons_self)

/-- two runs that agree on a set `X` on which the written values depend agree, afterwards, on `X` and on everything written -/
theorem foldl_write_dep (as : List Asg) (X : Var → Prop) (s s' : St)
    (hval : ∀ a ∈ as, ∀ t t', (∀ v, X v → t v = t' v) → val a t = val a t') (hX : ∀ v, X v → s v = s' v) :
    ∀ v, (X v ∨ inRngs (as.map (·.tgt)) v) →
      (as.foldl (fun s a => a.write val s) s) v = (as.foldl (fun s a => a.write val s) s') v := by
  induction as generalizing X s s' with
  | nil => exact fun v hv => hv.elim (hX v) fun ⟨_, ha, _⟩ => nomatch ha
  | cons a as ih =>
    intro v hv
    have hev : val a s = val a s' := hval a List.mem_cons_self s s' hX
    refine ih (fun u => X u ∨ a.tgt.has u) (a.write val s) (a.write val s')
      (fun c hc t t' ht => hval c (List.mem_cons_of_mem _ hc) t t' fun u hu => ht u (.inl hu)) (fun u hu => ?_) v ?_
    · by_cases ht : a.tgt.has u
      · simp only [Asg.write, if_pos ht, hev]
      · simp only [Asg.write, if_neg ht]
        exact hu.elim (hX u) fun h => absurd h ht
    · rcases hv with hv | ⟨c, hc, hcv⟩
      · exact .inl (.inl hv)
      · rcases List.mem_cons.mp hc with rfl | hc
        · exact .inl (.inr hcv)
        · exact .inr ⟨c, hc, hcv⟩

end Write

theorem mem_writes {b : Blk} {a : Asg} (ha : a ∈ b.asgs) : a.tgt ∈ b.writes := List.mem_map_of_mem ha

theorem Blk.run_frame (b : Blk) (s : St) (v : Var) (h : ¬ inRngs b.writes v) : b.run s v = s v :=
  foldl_write_frame (fun a s => a.e.eval s) b.asgs s v fun a ha hv => h ⟨a.tgt, mem_writes ha, hv⟩

theorem Blk.run_dep (b : Blk) (s s' : St) (h : ∀ v, inRngs b.reads v → s v = s' v) (v : Var) (hv : inRngs b.writes v) :
    b.run s v = b.run s' v :=
  foldl_write_dep (fun a s => a.e.eval s) b.asgs (inRngs b.reads) s s'
    (fun a ha t t' ht => eval_congr a.e t t' fun u hu => ht u (inRngs_flatMap ha hu)) h v (.inr hv)

def denote (b : Blk) : Sched.Blk Var Bool :=
  { R := inRngs b.reads, W := inRngs b.writes, run := b.run }

theorem denote_wf (b : Blk) (h : b.noSelf = true) : (denote b).Wf :=
  ⟨Blk.run_frame b, Blk.run_dep b, not_overlap h⟩

theorem runBlocks_eq (bs : List Blk) (s : St) : runBlocks bs s = runList (bs.map denote) s := by
  rw [runList, List.foldl_map]; rfl

theorem runBlocks_frame (scc : List Blk) (s : St) (v : Var) (hv : ∀ b ∈ scc, ¬ inRngs b.writes v) :
    runBlocks scc s v = s v :=
  runBlocks_eq scc s ▸ runList_frame_of _ (List.forall_mem_map.mpr fun b _ => Blk.run_frame b) s v (List.forall_mem_map.mpr hv)

theorem pairwiseB_iff {α : Type} (p : α → α → Bool) (l : List α) :
    pairwiseB p l = true ↔ l.Pairwise (fun a b => p a b = true) := by
  induction l with
  | nil => simp [pairwiseB]
  | cons x xs ih =>
    simp only [pairwiseB, Bool.and_eq_true, List.all_eq_true, List.pairwise_cons, ih]

/-- `topoB` and `singleWriterB` are this check, for a choice of the two footprints -/
theorem pairwiseB_disjoint {α : Type} (f g : α → List Rng) {l : List α}
    (h : pairwiseB (fun a c => !rngsOverlap (f a) (g c)) l = true) :
    l.Pairwise fun a c => ∀ v, inRngs (f a) v → ¬ inRngs (g c) v :=
  ((pairwiseB_iff _ l).mp h).imp not_overlap

theorem topoB_sound (bs : List Blk) (h : topoB bs = true) : Topo (bs.map denote) :=
  List.pairwise_map.mpr (pairwiseB_disjoint Blk.reads Blk.writes h)

theorem singleWriterB_sound (bs : List Blk) (h : singleWriterB bs = true) : SingleWriter (bs.map denote) :=
  List.pairwise_map.mpr (pairwiseB_disjoint Blk.writes Blk.writes h)

end PV.Rtl
