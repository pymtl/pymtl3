import PymtlVerif.Model.Kahn
/-!
What `Model/Kahn.lean` (`kahn`, any tie-break) guarantees: the invariant `Good` of the emitted list gives a duplicate-free
schedule that respects every edge whose target is scheduled (`kahn_sound`, C02), and every vertex left over when the loop
stops has an edge into it from a vertex that was not emitted (`kahn_leftover`).
-/
namespace PV.Kahn
variable {α : Type} [DecidableEq α]

/-- invariant of the accumulated (reversed) output: no duplicates, and every emitted vertex had all its
    predecessors emitted strictly earlier -/
def Good (E : List (α × α)) : List α → Prop
  | [] => True
  | v :: done => v ∉ done ∧ (∀ e ∈ E, e.2 = v → e.1 ∈ done) ∧ Good E done

theorem mem_ready {V : List α} {E : List (α × α)} {done : List α} {v : α} :
    v ∈ ready V E done ↔ v ∈ V ∧ v ∉ done ∧ ∀ e ∈ E, e.2 = v → e.1 ∈ done := by
  simp only [ready, List.mem_filter, Bool.and_eq_true, decide_eq_true_eq, List.all_eq_true]

theorem kahn_succ (pick : List α → Nat) (V : List α) (E : List (α × α)) (fuel : Nat) (done : List α) :
    (ready V E done = [] ∧ kahn pick V E (fuel + 1) done = done.reverse) ∨
    ∃ h : pick (ready V E done) % (ready V E done).length < (ready V E done).length,
      kahn pick V E (fuel + 1) done = kahn pick V E fuel ((ready V E done)[pick (ready V E done) % (ready V E done).length] :: done) := by
  rw [kahn]
  split
  · next hr => exact .inl ⟨hr, rfl⟩
  · next r rs hr => exact .inr ⟨hr ▸ Nat.mod_lt _ (Nat.succ_pos _), by simp only [hr]⟩

theorem kahn_good (pick : List α → Nat) (V : List α) (E : List (α × α)) :
    ∀ (fuel : Nat) (done : List α), Good E done → ∃ out, kahn pick V E fuel done = out.reverse ∧ Good E out := by
  intro fuel
  induction fuel with
  | zero => intro done h; exact ⟨done, rfl, h⟩
  | succ fuel ih =>
    intro done h
    rcases kahn_succ pick V E fuel done with ⟨_, hk⟩ | ⟨hlt, hk⟩
    · exact ⟨done, hk, h⟩
    · obtain ⟨_, hnd, hp⟩ := mem_ready.mp (List.getElem_mem hlt)
      rw [hk]
      exact ih _ ⟨hnd, hp, h⟩

omit [DecidableEq α] in
theorem good_suffix {E : List (α × α)} : ∀ (a b : List α), Good E (a ++ b) → Good E b
  | [], _, h => h
  | _ :: a, b, h => good_suffix a b h.2.2

omit [DecidableEq α] in
theorem good_order (E : List (α × α)) (out : List α) (hg : Good E out) (e : α × α) (he : e ∈ E) (hin : e.2 ∈ out) :
    ∃ pre post, out = pre ++ e.2 :: post ∧ e.1 ∈ post := by
  obtain ⟨pre, post, rfl⟩ := List.append_of_mem hin
  exact ⟨pre, post, rfl, (good_suffix pre _ hg).2.1 e he rfl⟩

omit [DecidableEq α] in
theorem good_pred {E : List (α × α)} {done : List α} (hg : Good E done) (e : α × α) (he : e ∈ E) (h : e.2 ∈ done) : e.1 ∈ done := by
  obtain ⟨pre, post, rfl, hm⟩ := good_order E done hg e he h
  exact List.mem_append_right _ (List.mem_cons_of_mem _ hm)

omit [DecidableEq α] in
theorem good_pairwise {E : List (α × α)} : ∀ (done : List α), Good E done → done.Pairwise (fun a b => a ≠ b ∧ (a, b) ∉ E)
  | [], _ => .nil
  | v :: done, ⟨hv, _, hg'⟩ => List.pairwise_cons.mpr
    ⟨fun x hx => ⟨fun h => hv (h ▸ hx), fun he => hv (good_pred hg' (v, x) he hx)⟩, good_pairwise done hg'⟩

omit [DecidableEq α] in
theorem good_nodup (E : List (α × α)) : ∀ (out : List α), Good E out → out.Nodup :=
  fun out h => (good_pairwise out h).imp And.left

omit [DecidableEq α] in
theorem good_full {E : List (α × α)} {V done : List α} (hg : Good E done) (hsub : ∀ x ∈ done, x ∈ V)
    (hlen : V.length ≤ done.length) : ∀ v ∈ V, v ∈ done := fun _ hv => Classical.byContradiction fun hnot =>
  Nat.not_succ_le_self _ (Nat.le_trans
    ((List.nodup_cons.mpr ⟨hnot, good_nodup E done hg⟩).length_le_of_subset (List.forall_mem_cons.mpr ⟨hv, hsub⟩)) hlen)

omit [DecidableEq α] in
theorem good_reverse (E : List (α × α)) (out : List α) (hg : Good E out) :
    out.reverse.Nodup ∧ ∀ e ∈ E, e.2 ∈ out → ∃ pre post, out.reverse = pre ++ e.1 :: post ∧ e.2 ∈ post := by
  refine ⟨List.pairwise_reverse.mpr ((good_nodup E out hg).imp Ne.symm), fun e he hin => ?_⟩
  obtain ⟨pre, post, hpp, hmem⟩ := good_order E out hg e he hin
  obtain ⟨p1, p2, hp12⟩ := List.append_of_mem hmem
  refine ⟨p2.reverse, p1.reverse ++ e.2 :: pre.reverse, ?_, List.mem_append_right _ (List.mem_cons_self ..)⟩
  rw [hpp, hp12]
  simp [List.reverse_append]

/-- whatever the tie-break, the schedule has no duplicates and respects every edge whose target was scheduled -/
theorem kahn_sound (pick : List α → Nat) (V : List α) (E : List (α × α)) (fuel : Nat) :
    (kahn pick V E fuel []).Nodup ∧
    ∀ e ∈ E, e.2 ∈ kahn pick V E fuel [] →
      ∃ pre post, kahn pick V E fuel [] = pre ++ e.1 :: post ∧ e.2 ∈ post := by
  obtain ⟨out, hout, hg⟩ := kahn_good pick V E fuel [] trivial
  rw [hout]
  exact ⟨(good_reverse E out hg).1, fun e he hin => (good_reverse E out hg).2 e he (List.mem_reverse.mp hin)⟩

theorem not_ready {V : List α} {E : List (α × α)} {done : List α} {v : α}
    (hv : v ∈ V) (hnd : v ∉ done) (hnr : v ∉ ready V E done) : ∃ e ∈ E, e.2 = v ∧ e.1 ∉ done :=
  Decidable.byContradiction fun h => hnr (mem_ready.mpr ⟨hv, hnd, fun e he hev =>
    Decidable.byContradiction fun hn => h ⟨e, he, hev, hn⟩⟩)

/-- when Kahn's loop stops (for lack of ready vertices or of fuel = |V|), every vertex of `V` it did not emit has
an edge of `E` into it whose source it did not emit. The source need not lie in `V` (nothing asks the end points of `E` to);
when they all do, this is the situation in which `check_schedule` raises UpblkCyclicError. -/
theorem kahn_leftover (pick : List α → Nat) (V : List α) (E : List (α × α)) :
    ∀ (fuel : Nat) (done : List α), Good E done → (∀ x ∈ done, x ∈ V) → V.length ≤ fuel + done.length →
      ∀ v ∈ V, v ∉ kahn pick V E fuel done → ∃ e ∈ E, e.2 = v ∧ e.1 ∉ kahn pick V E fuel done := by
  intro fuel
  induction fuel with
  | zero =>
    intro done hg hsub hlen v hv hnot
    rw [kahn, List.mem_reverse] at hnot
    exact absurd (good_full hg hsub (by rwa [Nat.zero_add] at hlen) v hv) hnot
  | succ fuel ih =>
    intro done hg hsub hlen v hv hnot
    rcases kahn_succ pick V E fuel done with ⟨hr, hk⟩ | ⟨hlt, hk⟩
    · rw [hk, List.mem_reverse] at hnot
      obtain ⟨e, he, h1, h2⟩ := not_ready hv hnot (hr ▸ List.not_mem_nil)
      exact ⟨e, he, h1, by rwa [hk, List.mem_reverse]⟩
    · obtain ⟨hinV, hnd, hp⟩ := mem_ready.mp (List.getElem_mem hlt)
      rw [hk] at hnot ⊢
      exact ih (_ :: done) ⟨hnd, hp, hg⟩ (List.forall_mem_cons.mpr ⟨hinV, hsub⟩)
        (by rw [List.length_cons]; omega) v hv hnot

end PV.Kahn
