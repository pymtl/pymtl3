import PymtlVerif.Proofs.Pipe
/-!
# A ghost "tag" machine on top of `Model/Pipe.lean` and its inductive invariant

Every fetch (every time the F stage register is enabled) gets a fresh tag `nxt`.  The ghost state follows the
tag through F, the drop unit, D, X, M, W using ONLY the model's own control signals (`reg_en_*`, `next_val_*`,
`squash_*`, `drop_in_rdy`, `commit_inst`) and logs every hand-over.  The ghost state never influences the
model (`grun_fst`).  `J` relates the logs: what leaves one stage is exactly what enters the next, in order.
`J` holds in the power-on state and is preserved by EVERY cycle under EVERY environment input (reset included),
hence in every reachable state (`J_run`).
-/
namespace PV.Pipe

structure Ghost where
  /-- first tag issued after the last reset cycle -/
  base : Nat := 0
  /-- next fresh tag -/
  nxt : Nat := 0
  /-- tag held by F (meaningful iff `val_F`), D, X, M, W, and of the squashed fetch the drop unit waits for
  (meaningful iff `drop_wait`) -/
  tF : Nat := 0
  tD : Nat := 0
  tX : Nat := 0
  tM : Nat := 0
  tW : Nat := 0
  tWait : Nat := 0
  /-- `(tag, dropped)`: a response taken out of `imemresp_q` on behalf of that fetch -/
  consumedF : List (Nat × Bool) := []
  /-- fetches squashed while in F -/
  sqF : List Nat := []
  /-- `(tag, squashed)` leaving D (either into X or squashed) -/
  outD : List (Nat × Bool) := []
  /-- tags leaving X, M, W (W = commit) -/
  outX : List Nat := []
  outM : List Nat := []
  commits : List Nat := []
deriving Repr, DecidableEq

theorem range'_snoc {b n : Nat} (h : b ≤ n) : List.range' b (n + 1 - b) = List.range' b (n - b) ++ [n] := by
  have e : n + 1 - b = (n - b) + 1 := by omega
  rw [e, List.range'_1_concat]
  congr 2; omega

/-- one ghost cycle; every signal is the model's, evaluated at `(s, i)` -/
def gnext (s : State) (g : Ghost) (i : EnvIn) : Ghost :=
  if i.reset then
    { g with base := g.nxt, consumedF := [], sqF := [], outD := [], outX := [], outM := [], commits := [] }
  else
    { base := g.base
      nxt := if reg_en_F s i then g.nxt + 1 else g.nxt
      tF := if reg_en_F s i then g.nxt else g.tF
      tD := if reg_en_D s i then g.tF else g.tD
      tX := if reg_en_X s i then g.tD else g.tX
      tM := if reg_en_M s i then g.tX else g.tM
      tW := if reg_en_W s i then g.tM else g.tW
      tWait := if !s.drop_wait && squash_F s i && !drop_in_rdy s i then g.tF else g.tWait
      consumedF := g.consumedF ++
        (if s.drop_wait then (if drop_in_rdy s i then [(g.tWait, true)] else [])
         else if squash_F s i && drop_in_rdy s i then [(g.tF, true)]
         else if next_val_F s i then [(g.tF, false)] else [])
      sqF := g.sqF ++ opt [g.tF] (squash_F s i)
      outD := g.outD ++ opt [(g.tD, squash_D s i)] (s.val_D && reg_en_D s i)
      outX := g.outX ++ opt [g.tX] (next_val_X s i)
      outM := g.outM ++ opt [g.tM] (next_val_M s i)
      commits := g.commits ++ opt [g.tW] (commit_inst s i) }

def grun : State → Ghost → List EnvIn → State × Ghost
  | s, g, [] => (s, g)
  | s, g, i :: is => grun (next s i) (gnext s g i) is

theorem grun_fst (s : State) (g : Ghost) (envs : List EnvIn) : (grun s g envs).1 = runS s envs := by
  induction envs generalizing s g with
  | nil => rfl
  | cons i is ih => simp [grun, runS, ih]

theorem grun_append (s : State) (g : Ghost) (a b : List EnvIn) :
    grun s g (a ++ b) = grun (grun s g a).1 (grun s g a).2 b := by
  induction a generalizing s g with
  | nil => rfl
  | cons i is ih => simp [grun, ih]

/-- the inductive invariant: every log is the next stage's log plus what that stage currently holds -/
structure J (s : State) (g : Ghost) : Prop where
  base : g.base ≤ g.nxt
  F : List.range' g.base (g.nxt - g.base) =
        g.consumedF.map (·.1) ++ opt [g.tWait] s.drop_wait ++ opt [g.tF] s.val_F
  drop : g.sqF = (g.consumedF.filter (·.2)).map (·.1) ++ opt [g.tWait] s.drop_wait
  D : (g.consumedF.filter (fun e => !e.2)).map (·.1) = g.outD.map (·.1) ++ opt [g.tD] s.val_D
  X : (g.outD.filter (fun e => !e.2)).map (·.1) = g.outX ++ opt [g.tX] s.val_X
  M : g.outX = g.outM ++ opt [g.tM] s.val_M
  W : g.outM = g.commits ++ opt [g.tW] s.val_W
  wait : s.drop_wait = true → s.val_D = false ∧ s.val_X = false

theorem J_init : J State.init {} := by
  constructor <;> simp [State.init]

theorem J_reset (s : State) (g : Ghost) (i : EnvIn) (hr : i.reset = true) : J (next s i) (gnext s g i) := by
  obtain ⟨a, b, c, d, e, f⟩ := next_reset s i hr
  constructor <;> simp [gnext, hr, a, b, c, d, e, f]

section step
variable {s : State} {g : Ghost} {i : EnvIn}

/-- `gnext` writes the body of `dropOut` out for `consumedF`; this folds it, so that `drop_unit` and `dropOut_length` apply -/
theorem consumedF_next (hr : i.reset = false) :
    (gnext s g i).consumedF = g.consumedF ++ dropOut s i (g.tWait, true) (g.tF, false) (g.tF, true) := by
  rw [gnext, if_neg (ne_true_of_eq_false hr)]; rfl

/-- one cycle of the drop unit on `(tag, dropped)` pairs: the responses consumed plus the squashed fetch still waited
for are a one-place buffer behind F; the fetch that leaves F joins it marked dropped iff squashed.  `J`'s clauses `F`,
`drop`, `D` see this equation through `map fst`, through the dropped pairs and through the others.  It is `drop_unit`
on these pairs (`hwq` from `J.wait`) -/
theorem drop_step (hr : i.reset = false) (hwq : s.drop_wait = true → squash_F s i = false) :
    (gnext s g i).consumedF ++ opt [((gnext s g i).tWait, true)] (next s i).drop_wait =
      g.consumedF ++ opt [(g.tWait, true)] s.drop_wait ++ opt [(g.tF, false)] (next_val_F s i) ++
        opt [(g.tF, true)] (squash_F s i) := by
  rw [consumedF_next hr, List.append_assoc, List.append_assoc g.consumedF, List.append_assoc g.consumedF,
    drop_unit (g.tWait, true) (g.tF, false) (g.tF, true) hr hwq, ← apply_ite (·, true), gnext,
    if_neg (ne_true_of_eq_false hr)]

theorem J_step (h : J s g) (i : EnvIn) : J (next s i) (gnext s g i) := by
  rcases Bool.eq_false_or_eq_true i.reset with hr | hr
  · exact J_reset s g i hr
  obtain ⟨vF, vD, vX, vM, vW, -⟩ := next_vals s i hr
  -- in WAIT no squash can happen (X is empty)
  have hP := drop_step (g := g) hr fun hw => squash_F_of_val_X s i (h.wait hw).2
  have hPF := congrArg (List.map (·.1)) hP
  have hPd := congrArg (fun l => (l.filter (·.2)).map (·.1)) hP
  have hPD := congrArg (fun l => (l.filter (fun e => !e.2)).map (·.1)) hP
  simp only [List.filter_append, List.map_append, filter_opt, map_opt, Bool.not_true, Bool.and_false, Bool.not_false,
    Bool.and_true, opt_false, List.append_nil] at hPF hPd hPD
  constructor
  case W => rw [vW, gnext, if_neg (ne_true_of_eq_false hr)]; exact stage_step h.W (reg_en_W_of_next_val_M s i)
  case M => rw [vM, gnext, if_neg (ne_true_of_eq_false hr)]; exact stage_step h.M (reg_en_M_of_next_val_X s i)
  case X =>
    rw [vX, gnext, if_neg (ne_true_of_eq_false hr)]
    simp only [List.filter_append, List.map_append, filter_opt, map_opt, next_val_D_eq]
    exact stage_step h.X (reg_en_X_of_next_val_D s i)
  case D =>
    rw [vD, hPD, gnext, if_neg (ne_true_of_eq_false hr)]
    simp only [List.map_append, map_opt]
    exact stage_step h.D (reg_en_D_of_next_val_F s i)
  case drop => rw [hPd, ← h.drop, gnext, if_neg (ne_true_of_eq_false hr)]
  case base => have := h.base; rw [gnext, if_neg (ne_true_of_eq_false hr)]; simp only; split <;> omega
  case F =>
    -- the F register itself: a fresh tag enters whenever it is enabled; what leaves it enters the drop unit
    have hF := stage_step (tin := g.nxt) (ein := reg_en_F s i) (en := reg_en_F s i) h.F id
    rw [hPF, List.append_assoc _ (opt _ (next_val_F s i)), ← leaves_F, vF, gnext, if_neg (ne_true_of_eq_false hr)]
    simp only
    cases he : reg_en_F s i
    · simpa [he] using hF
    · rw [if_pos rfl, range'_snoc h.base]; simpa [he] using hF
  case wait => exact wait_next s i hr h.wait

end step

theorem J_grun {s : State} {g : Ghost} (h : J s g) (envs : List EnvIn) : J (grun s g envs).1 (grun s g envs).2 := by
  induction envs generalizing s g with
  | nil => exact h
  | cons i is ih => exact ih (J_step h i)

theorem J_run (envs : List EnvIn) : J (grun State.init {} envs).1 (grun State.init {} envs).2 :=
  J_grun J_init envs

end PV.Pipe
