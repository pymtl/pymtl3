import PymtlVerif.Proofs.TC
/-!
C10 helper lemmas about the *final* annotated tree: the enforcer only ever changes the width of
implicit nodes, so every explicitly sized node of the tree the checker leaves behind carries exactly
the annotation it got when it was visited; and every sub-expression of an accepted expression is itself
accepted in the same environment, every sub-expression in a value position (`vsubs`) of a clean one clean.
-/
namespace PV.TC

theorem subs_eq (e : Expr) : subs e = e :: (kidsE e).flatMap subs := by
  cases e <;> simp [subs, kidsE]

theorem Chk.subs {Γ : Env} : ∀ (e : Expr) {t : AT}, Chk Γ e t → ∀ e' ∈ PV.TC.subs e, ∃ t', Chk Γ e' t' := by
  intro e
  induction e with
  | sig _ _ | num _ | lv _ | tmp _ => intro t h e' he'; cases List.mem_singleton.mp he'; exact ⟨t, h⟩
  | un _ a ih | cast _ a ih | red _ a ih | ext _ _ a _ ih | idx _ _ a ih =>
    intro t h e' he'
    rcases List.mem_cons.mp he' with rfl | he'
    · exact ⟨t, h⟩
    · cases h; exact ih ‹_› e' he'
  | bin _ l r ihl ihr | cmp _ l r ihl ihr | cat l r ihl ihr | slc _ _ l r ihl ihr =>
    intro t h e' he'
    rcases List.mem_cons.mp he' with rfl | he'
    · exact ⟨t, h⟩
    · cases h; exact (List.mem_append.mp he').elim (ihl ‹_› e') (ihr ‹_› e')
  | ite c a b ihc iha ihb =>
    intro t h e' he'
    rcases List.mem_cons.mp he' with rfl | he'
    · exact ⟨t, h⟩
    · cases h
      exact (List.mem_append.mp he').elim (fun h => (List.mem_append.mp h).elim (ihc ‹_› e') (iha ‹_› e')) (ihb ‹_› e')

theorem vsubs_clean (Γ : Env) : ∀ (e : Expr), issuesE Γ e = [] → ∀ e' ∈ vsubs e, issuesE Γ e' = [] := by
  intro e
  induction e with
  | sig _ _ | num _ | lv _ | tmp _ | slc _ _ _ _ _ _ => intro h e' he'; cases List.mem_singleton.mp he'; exact h
  | un _ a ih | cast _ a ih | ext _ _ a _ ih =>
    intro h e' he'
    rcases List.mem_cons.mp he' with rfl | he'
    · exact h
    · simp only [issuesE, List.append_eq_nil_iff] at h; exact ih h.1 e' he'
  | red op a ih =>
    intro h e' he'
    rcases List.mem_cons.mp he' with rfl | he'
    · exact h
    · exact ih h e' he'
  | bin _ l r ihl ihr | cmp _ l r ihl ihr | cat l r ihl ihr =>
    intro h e' he'
    rcases List.mem_cons.mp he' with rfl | he'
    · exact h
    simp only [issuesE, List.append_eq_nil_iff] at h
    rcases List.mem_append.mp he' with he' | he'
    · exact ihl h.1.1 e' he'
    · exact ihr h.1.2 e' he'
  | ite c a b ihc iha ihb =>
    intro h e' he'
    rcases List.mem_cons.mp he' with rfl | he'
    · exact h
    simp only [issuesE, List.append_eq_nil_iff] at h
    rcases List.mem_append.mp he' with he' | he'
    · rcases List.mem_append.mp he' with he' | he'
      · by_cases hio : intOnly c = true
        · rw [if_pos hio] at he'; cases he'
        · rw [if_neg hio] at he' h
          exact ihc h.1.1.1 e' he'
      · exact iha h.1.1.2 e' he'
    · exact ihb h.1.2 e' he'
  | idx x w i ih =>
    intro h e' he'
    rcases List.mem_cons.mp he' with rfl | he'
    · exact h
    · simp only [issuesE, List.append_eq_nil_iff] at h
      by_cases hio : intOnly i = true
      · rw [if_pos hio] at he'; cases he'
      · rw [if_neg hio] at he' h
        exact ih h.2 e' he'

theorem pos_sublist {α : Type} {c : Prop} [Decidable c] {l l' : List α} (h : l.Sublist l') : (if c then [] else l).Sublist l' := by
  split
  · exact List.nil_sublist _
  · exact h

/-- the value positions are among the sub-expressions, in the same order -/
theorem vsubs_sublist : ∀ (e : Expr), (vsubs e).Sublist (subs e) := by
  intro e
  induction e with
  | sig _ _ | num _ | lv _ | tmp _ => exact List.Sublist.refl _
  | un op a ih | cast n a ih | ext k ty a n ih | red op a ih => exact ih.cons_cons _
  | bin op l r ihl ihr | cmp op l r ihl ihr | cat l r ihl ihr => exact (ihl.append ihr).cons_cons _
  | ite c a b ihc iha ihb => exact (((pos_sublist ihc).append iha).append ihb).cons_cons _
  | idx x w i ih => exact (pos_sublist ih).cons_cons _
  | slc x w lo hi _ _ => exact (List.nil_sublist _).cons_cons _

/-- the (sub-expression, annotation) pairs of an expression and its annotated tree, in preorder; a tree whose
    shape does not fit the expression counts as a leaf (`checkE` never builds one) -/
def nodes : Expr → AT → List (Expr × Ann)
  | e@(.un _ a), .n1 an k => (e, an) :: nodes a k
  | e@(.bin _ l r), .n2 an k1 k2 => (e, an) :: (nodes l k1 ++ nodes r k2)
  | e@(.cmp _ l r), .n2 an k1 k2 => (e, an) :: (nodes l k1 ++ nodes r k2)
  | e@(.ite c a b), .ite an kc ka kb => (e, an) :: (nodes c kc ++ nodes a ka ++ nodes b kb)
  | e@(.cast _ a), .n1 an k => (e, an) :: nodes a k
  | e@(.ext _ _ a _), .n1 an k => (e, an) :: nodes a k
  | e@(.red _ a), .n1 an k => (e, an) :: nodes a k
  | e@(.cat l r), .n2 an k1 k2 => (e, an) :: (nodes l k1 ++ nodes r k2)
  | e@(.idx _ _ i), .idx an k => (e, an) :: nodes i k
  | e@(.slc _ _ lo hi), .n2 an k1 k2 => (e, an) :: (nodes lo k1 ++ nodes hi k2)
  | e, t => [(e, t.ann)]

theorem nodes_of_leaf (e : Expr) (t : AT) (h : kidsE e = []) : nodes e t = [(e, t.ann)] := by
  cases e <;> cases h <;> cases t <;> rfl

/-- every node of a tree that descends (by enforcements) from the tree the checker built for `e` carries
    the annotation its sub-expression gets when checked on its own, up to the width of implicit nodes.
    At a node the rule hands on a child it may have enforced (`s1 : Sim tl k1` from the inverted rule); composed with the
    descent below the node (`h1`) the child's own tree descends to what is there, which is the induction hypothesis. -/
theorem Chk.nodes_sim {Γ : Env} {e : Expr} {t0 : AT} (h : Chk Γ e t0) : ∀ t, Sim t0 t →
    ∀ p ∈ nodes e t, ∃ t', Chk Γ p.1 t' ∧ SimA t'.ann p.2 := by
  induction h with
  | sig | num | lv | tmp =>
    intro t hs p hp
    rw [nodes_of_leaf _ t rfl] at hp
    cases List.mem_singleton.mp hp
    exact ⟨_, by constructor <;> assumption, hs.ann⟩
  | un _ h ih | cast _ h ih | red _ h ih =>
    intro t hs p hp
    cases hs with | n1 ha h1 =>
    rcases List.mem_cons.mp hp with rfl | hp
    -- the rule is applied first: it fixes the tree whose annotation `ha` speaks of
    · exact ⟨_, by constructor; exact h, by exact ha⟩
    · exact ih _ h1 p hp
  | ext ty h hr ih =>
    intro t hs p hp
    obtain ⟨rfl, -⟩ := extRule_ok hr
    cases hs with | n1 ha h1 =>
    rcases List.mem_cons.mp hp with rfl | hp
    · exact ⟨_, .ext ty h hr, ha⟩
    · exact ih _ h1 p hp
  | idx x h hr ih =>
    intro t hs p hp
    obtain ⟨k, rfl, s1⟩ := idxRule_ok hr
    cases hs with | idx ha h1 =>
    rcases List.mem_cons.mp hp with rfl | hp
    · exact ⟨_, .idx x h hr, ha⟩
    · exact ih _ (s1.trans h1) p hp
  | bin hl hr hb ihl ihr =>
    intro t hs p hp
    obtain ⟨a, k1, k2, rfl, s1, s2, -⟩ := binRule_ok hb
    cases hs with | n2 ha h1 h2 =>
    rcases List.mem_cons.mp hp with rfl | hp
    · exact ⟨_, .bin hl hr hb, ha⟩
    · exact (List.mem_append.mp hp).elim (ihl _ (s1.trans h1) p) (ihr _ (s2.trans h2) p)
  | cmp op hl hr hb ihl ihr =>
    intro t hs p hp
    obtain ⟨k1, k2, rfl, s1, s2, -⟩ := cmpRule_ok hb
    cases hs with | n2 ha h1 h2 =>
    rcases List.mem_cons.mp hp with rfl | hp
    · exact ⟨_, .cmp op hl hr hb, ha⟩
    · exact (List.mem_append.mp hp).elim (ihl _ (s1.trans h1) p) (ihr _ (s2.trans h2) p)
  | slc x hl hr hb ihl ihr =>
    intro t hs p hp
    obtain ⟨n, k1, k2, rfl, s1, s2, -⟩ := slcRule_ok hb
    cases hs with | n2 ha h1 h2 =>
    rcases List.mem_cons.mp hp with rfl | hp
    · exact ⟨_, .slc x hl hr hb, ha⟩
    · exact (List.mem_append.mp hp).elim (ihl _ (s1.trans h1) p) (ihr _ (s2.trans h2) p)
  | cat hl hr ihl ihr =>
    intro t hs p hp
    cases hs with | n2 ha h1 h2 =>
    rcases List.mem_cons.mp hp with rfl | hp
    · exact ⟨_, .cat hl hr, ha⟩
    · exact (List.mem_append.mp hp).elim (ihl _ h1 p) (ihr _ h2 p)
  | ite hc hx hy hb ihc ihx ihy =>
    intro t hs p hp
    obtain ⟨w, k2, k3, rfl, s2, s3⟩ := iteRule_ok hb
    cases hs with | ite ha hc' h2 h3 =>
    simp only [nodes, List.mem_cons, List.mem_append] at hp
    rcases hp with rfl | (hp | hp) | hp
    · exact ⟨_, .ite hc hx hy hb, ha⟩
    · exact ihc _ hc' p hp
    · exact ihx _ (s2.trans h2) p hp
    · exact ihy _ (s3.trans h3) p hp

end PV.TC
