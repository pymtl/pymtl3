import PymtlVerif.Proofs.HierSpec
import PymtlVerif.Proofs.Parse
/-!
# `render` is injective on well-formed names

A token's characters are a delimiter (`.` or `[`) followed by characters that are not delimiters, so a
rendered name splits into its tokens in one way only (`reads_chars`, by `Parse.append_unique_of_all`), and the
characters of one token determine it (`chars_injective`; a number is read back from its decimal digits).
-/
namespace PV.Hier
open PV.Parse

abbrev Delim (c : Char) : Prop := c = '.' ∨ c = '['
/-- what `WFName` asks of every token behind `s` -/
def TokOk (t : Tok) : Prop := t ≠ .root ∧ ∀ a, t = .attr a → IdentLike a

theorem chars_slice (lo hi : Nat) :
    (Tok.slice lo hi).chars = '[' :: (digits lo ++ ':' :: (digits hi ++ [']'])) :=
  congrArg ('[' :: ·) (List.append_assoc ..)

theorem chars_body {t : Tok} (ht : TokOk t) : ∃ c body, t.chars = c :: body ∧ Delim c ∧ ∀ x ∈ body, ¬ Delim x := by
  have dig : ∀ n, ∀ x ∈ digits n, ¬ Delim x := fun n x hx hd =>
    absurd (toDigits_isDigit n x hx) (by rcases hd with rfl | rfl <;> decide)
  cases t with
  | root => exact absurd rfl ht.1
  | attr a =>
    refine ⟨_, _, rfl, .inl rfl, fun x hx hd => ?_⟩
    have := ht.2 a rfl x hx
    rcases hd with rfl | rfl <;> exact absurd this (by decide)
  | idx i =>
    refine ⟨_, _, rfl, .inr rfl, fun x hx => ?_⟩
    rcases List.mem_append.1 hx with hx | hx
    · exact dig i x hx
    · cases List.mem_singleton.1 hx; decide
  | slice lo hi =>
    refine ⟨_, _, chars_slice lo hi, .inr rfl, fun x hx => ?_⟩
    rcases List.mem_append.1 hx with hx | hx
    · exact dig lo x hx
    · rcases List.mem_cons.1 hx with rfl | hx
      · decide
      · rcases List.mem_append.1 hx with hx | hx
        · exact dig hi x hx
        · cases List.mem_singleton.1 hx; decide

/-- the characters determine the token: the first tells attributes from brackets, the first non-digit
after `[` an index from a slice -/
theorem chars_injective {t t' : Tok} (ht : t ≠ .root) (ht' : t' ≠ .root) (h : t.chars = t'.chars) : t = t' := by
  have split : ∀ {a b : Nat} {r r' : List Char}, Stops IsDigit r → Stops IsDigit r' →
      '[' :: (digits a ++ r) = '[' :: (digits b ++ r') → a = b ∧ r = r' := fun hr hr' h =>
    reads_digits trivial trivial hr hr' (List.cons.inj h).2
  have hb : ∀ r, Stops IsDigit (']' :: r) := stops_cons IsDigit (by decide)
  have hc : ∀ r, Stops IsDigit (':' :: r) := stops_cons IsDigit (by decide)
  cases t with
  | root => exact absurd rfl ht
  | attr a =>
    cases t' with
    | root => exact absurd rfl ht'
    | attr a' => rw [String.toList_inj.1 (List.cons.inj h).2]
    | _ => exact absurd (List.cons.inj h).1 (by decide)
  | idx i =>
    cases t' with
    | root => exact absurd rfl ht'
    | attr a' => exact absurd (List.cons.inj h).1 (by decide)
    | idx i' => rw [(split (hb _) (hb _) h).1]
    | slice lo hi => exact nomatch (split (hb _) (hc _) (h.trans (chars_slice lo hi))).2
  | slice lo hi =>
    cases t' with
    | root => exact absurd rfl ht'
    | attr a' => exact absurd (List.cons.inj h).1 (by decide)
    | idx i' => exact nomatch (split (hc _) (hb _) ((chars_slice lo hi).symm.trans h)).2
    | slice lo' hi' =>
      rw [chars_slice, chars_slice] at h
      obtain ⟨rfl, h'⟩ := split (hc _) (hc _) h
      rw [(reads_digits trivial trivial (hb []) (hb []) (List.cons.inj h').2).1]

/-- a token is read back from a text that ends or goes on with the next token's delimiter -/
theorem reads_chars : Reads TokOk Tok.chars (Stops (¬ Delim ·)) := by
  intro t t' s s' ht ht' hs hs' h
  obtain ⟨c, body, e, -, hb⟩ := chars_body ht
  obtain ⟨c', body', e', -, hb'⟩ := chars_body ht'
  rw [e, e'] at h
  obtain ⟨rfl, h'⟩ := List.cons.inj h
  obtain ⟨rfl, rfl⟩ := append_unique_of_all _ hb hb' hs hs' h'
  exact ⟨chars_injective ht.1 ht'.1 (e.trans e'.symm), rfl⟩

theorem renderChars_injective {l₁ l₂ : List Tok} (h1 : ∀ t ∈ l₁, TokOk t) (h2 : ∀ t ∈ l₂, TokOk t)
    (h : renderChars l₁ = renderChars l₂) : l₁ = l₂ := by
  refine reads_chars.flatMap (fun t ht => ?_) (stops_nil _) (fun t T ht => ?_) l₁ l₂ h1 h2 h
  · obtain ⟨c, body, e, -⟩ := chars_body ht
    exact e ▸ List.cons_ne_nil _ _
  · obtain ⟨c, body, e, hc, -⟩ := chars_body ht
    rw [e]
    exact stops_cons (¬ Delim ·) (not_not_intro hc) _

theorem render_injective_wf {n₁ n₂ : Name} (h1 : WFName n₁) (h2 : WFName n₂) (h : render n₁ = render n₂) :
    n₁ = n₂ := by
  obtain ⟨t1, rfl, w1⟩ := h1
  obtain ⟨t2, rfl, w2⟩ := h2
  rw [renderChars_injective w1 w2 (List.cons.inj (String.ofList_injective h)).2]

end PV.Hier
