import PymtlVerif.Proofs.SccDfs
/-!
Phase 2 of `kosaraju_scc`: the BFS over `G_T` from a root `r` collects exactly the vertices that reach `r` by
unvisited vertices (within the fuel `len(V)`), and — processed in reverse post-order — each group is a strongly
connected component: invariant `P2Inv` of the outer `for u in RPO:` loop, one root `p2_root`, and the run over the reverse
post-order by induction on the recursive DFS that produced it (`DfsL.phase2`), which is where `p2_root`'s hypothesis on the
order of the roots is discharged.
-/
namespace PV.Scc
open PV.Loop (Front unseen unseen_singleton_lt fresh fresh_nodup mem_fresh)

/-- `for v in G_T[u]: if v not in visited: …` enters `Loop.fresh (GT u) visited` -/
theorem foldl_visitPred (l q vis scc : List Nat) (vm : List (Nat × Nat)) : l.foldl visitPred ⟨q, vis, scc, vm⟩ =
    ⟨q ++ fresh l vis, (fresh l vis).reverse ++ vis, scc ++ fresh l vis, vm⟩ := by
  fun_induction fresh l vis generalizing q scc with
  | case1 => simp
  | case2 _ _ _ ht ih => rw [List.foldl_cons, visitPred, if_pos ht, ih]
  | case3 _ _ _ ht ih =>
    rw [List.foldl_cons, visitPred, if_neg ht, ih]
    simp

/-- the predecessors a BFS that started with visited set `vis0` may still enter -/
def freshPreds (GT : Graph) (vis0 : List Nat) (u : Nat) : List Nat := (GT u).filter fun v => decide (v ∉ vis0)

theorem mem_freshPreds {GT : Graph} {vis0 : List Nat} {u v : Nat} : v ∈ freshPreds GT vis0 u ↔ v ∈ GT u ∧ v ∉ vis0 := by
  rw [freshPreds, List.mem_filter, decide_eq_true_eq]

/-- invariant of the `while Q:` loop of the group with root `r`, started with visited set `vis0`: the group is a
search front (`Loop.Front`) over `freshPreds GT vis0` with the deque waiting -/
structure BfsInv (G GT : Graph) (V vis0 : List Nat) (r idx : Nat) (vm0 : List (Nat × Nat)) (s : B2) : Prop where
  popped : ∃ p, s.scc = p ++ s.q ∧ s.vmap = p.reverse.map (fun x => (x, idx)) ++ vm0
  front : Front (freshPreds GT vis0) V s.q s.scc
  vis : ∀ x, x ∈ s.visited ↔ x ∈ vis0 ∨ x ∈ s.scc
  nodup : s.scc.Nodup
  reach : ∀ x ∈ s.scc, RA G (fun y => y ∉ vis0) x r
  root : r ∈ s.scc

theorem bfs_step {G GT : Graph} {V : List Nat} (wf : WF G GT V) {vis0 : List Nat} {r idx : Nat} {vm0 : List (Nat × Nat)}
    (s : B2) (inv : BfsInv G GT V vis0 r idx vm0 s) (hd : s.done = false) :
    BfsInv G GT V vis0 r idx vm0 (step2 GT idx s) ∧
      unseen V (step2 GT idx s).scc + (step2 GT idx s).q.length < unseen V s.scc + s.q.length := by
  obtain ⟨⟨p, hp1, hp3⟩, hF, hvis, hnd, hreach, hroot⟩ := inv
  cases hq : s.q with
  | nil => rw [B2.done, hq] at hd; exact Bool.noConfusion hd
  | cons u q' =>
    have hstep : step2 GT idx s = _ :=
      (by simp only [step2, hq] : step2 GT idx s = _).trans (foldl_visitPred (GT u) q' s.visited s.scc ((u, idx) :: s.vmap))
    rw [hq] at hp1 hF
    have hu_scc : u ∈ s.scc := hp1 ▸ List.mem_append_right _ List.mem_cons_self
    have hV : ∀ a ∈ V, ∀ t ∈ freshPreds GT vis0 a, t ∈ V := fun a _ t ht =>
      wf.src t a ((wf.transp t a).mp (mem_freshPreds.mp ht).1)
    obtain ⟨hF', hlt⟩ := hF.pop hV (fresh_nodup (GT u) s.visited)
      (fun t => by rw [mem_fresh, mem_freshPreds, hvis, not_or, and_assoc])
      (fun t => List.mem_append.trans or_comm) (fun t => List.mem_append.trans or_comm)
      (List.length_append.trans (Nat.add_comm ..))
    rw [hstep]
    refine ⟨⟨⟨p ++ [u], ?_, ?_⟩, hF', ?_, ?_, ?_, List.mem_append_left _ hroot⟩, hlt⟩
    · simp only [hp1, List.append_assoc, List.cons_append, List.nil_append]
    · simp only [hp3, List.reverse_append, List.reverse_cons, List.reverse_nil, List.nil_append, List.map_cons,
        List.cons_append]
    · intro x
      simp only [List.mem_append, List.mem_reverse, hvis]
      exact or_left_comm.trans (or_congr_right or_comm)
    · refine List.nodup_append.mpr ⟨hnd, fresh_nodup _ _, ?_⟩
      rintro a ha _ hb rfl
      exact (mem_fresh.mp hb).2 ((hvis a).mpr (.inr ha))
    · intro x hx
      rcases List.mem_append.mp hx with hx | hx
      · exact hreach x hx
      · obtain ⟨hxu, hxv⟩ := mem_fresh.mp hx
        exact .head (fun hx0 => hxv ((hvis x).mpr (.inl hx0))) ((wf.transp x u).mp hxu) (hreach u hu_scc)

/-- **fuel sufficiency and meaning of one BFS**: with fuel `len(V)` the loop ends with an empty deque; the group is the
set of vertices that reach the root by vertices unvisited at the start -/
theorem bfs_spec {G GT : Graph} {V : List Nat} (wf : WF G GT V) (vis0 : List Nat) (r : Nat) (hr : r ∈ V) (hrv : r ∉ vis0)
    (idx : Nat) (vm0 : List (Nat × Nat)) :
    let s := iter B2.done (step2 GT idx) V.length ⟨[r], r :: vis0, [r], vm0⟩
    s.done = true ∧ (∀ x, x ∈ s.scc ↔ RA G (fun y => y ∉ vis0) x r) ∧ (∀ x, x ∈ s.visited ↔ x ∈ vis0 ∨ x ∈ s.scc) ∧
      s.scc.Nodup ∧ s.vmap = s.scc.reverse.map (fun x => (x, idx)) ++ vm0 := by
  intro s
  have hinit : BfsInv G GT V vis0 r idx vm0 ⟨[r], r :: vis0, [r], vm0⟩ :=
    ⟨⟨[], rfl, rfl⟩, Front.init hr,
      fun x => List.mem_cons.trans (or_comm.trans (or_congr_right List.mem_singleton.symm)),
      List.nodup_cons.mpr ⟨List.not_mem_nil, List.nodup_nil⟩, fun x hx => by rw [List.mem_singleton.mp hx]; exact .refl hrv,
      List.mem_singleton_self r⟩
  obtain ⟨⟨⟨p, hp1, hp3⟩, hF, hvis, hnd, hreach, hroot⟩, hdone⟩ :=
    iter_inv B2.done (step2 GT idx) (BfsInv G GT V vis0 r idx vm0) (fun s => unseen V s.scc + s.q.length)
      (bfs_step wf) _ _ hinit (unseen_singleton_lt V r hr)
  change s.done = true at hdone
  rw [show s.q = [] from List.isEmpty_iff.mp hdone] at hF hp1
  rw [List.append_nil] at hp1
  rw [← hp1] at hp3
  -- the group is closed under fresh predecessors and holds the root
  have hcl : ∀ a, a ∉ vis0 → ∀ b ∈ G a, b ∈ s.scc → a ∈ s.scc := fun a ha b he hb =>
    hF.done b hb a (mem_freshPreds.mpr ⟨(wf.transp a b).mpr he, ha⟩)
  exact ⟨hdone, fun x => ⟨hreach x, fun h => RA.closed_back hcl h hroot⟩, hvis, hnd, hp3⟩

/-- invariant of `for u in RPO:` -/
structure P2Inv (G : Graph) (V : List Nat) (p : P2) : Prop where
  vis : ∀ x, x ∈ p.visited ↔ x ∈ p.sccs.flatten
  scc : ∀ g ∈ p.sccs, ∃ r ∈ V, ∀ x, x ∈ g ↔ Mutual G x r
  nodup : ∀ g ∈ p.sccs, g.Nodup
  predc : ∀ u v, v ∈ G u → v ∈ p.visited → u ∈ p.visited
  /-- a group shares no vertex with an earlier one and has no edge into it -/
  later : p.sccs.Pairwise fun gi gj => ∀ v ∈ gj, v ∉ gi ∧ ∀ u ∈ G v, u ∉ gi
  vmap : ∀ x ∈ p.visited, ∃ i g, p.vmap.lookup x = some i ∧ p.sccs[i]? = some g ∧ x ∈ g

theorem p2Inv_init (G : Graph) (V : List Nat) : P2Inv G V ⟨[], [], []⟩ :=
  ⟨fun _ => Iff.rfl, fun _ h => absurd h List.not_mem_nil, fun _ h => absurd h List.not_mem_nil,
    fun _ _ _ h => absurd h List.not_mem_nil, List.Pairwise.nil, fun _ h => absurd h List.not_mem_nil⟩

theorem P2Inv.up {G : Graph} {V : List Nat} {p : P2} (inv : P2Inv G V p) {a b : Nat} (h : Reach G a b) :
    b ∈ p.visited → a ∈ p.visited :=
  RA.closed_back (fun x _ y hy => inv.predc x y hy) h

/-- one root of `for u in RPO:`; `hkey` is all that phase 2 needs to know about the order in which the roots come -/
theorem p2_root {G GT : Graph} {V : List Nat} (wf : WF G GT V) (p : P2) (inv : P2Inv G V p) {r : Nat} (hrV : r ∈ V)
    (hkey : ∀ x, RA G (fun y => y ∉ p.visited) x r → Reach G r x) :
    P2Inv G V (phase2Step GT V.length p r) ∧
    ∀ x, x ∈ (phase2Step GT V.length p r).visited ↔ x ∈ p.visited ∨ RA G (fun y => y ∉ p.visited) x r := by
  by_cases hrv : r ∈ p.visited
  · -- `if u not in visited:` skips the root, and no path of unvisited vertices ends in it
    rw [show phase2Step GT V.length p r = p from if_pos hrv]
    exact ⟨inv, fun x => ⟨.inl, fun h => h.elim id fun hra => absurd hrv hra.right⟩⟩
  have ⟨hvis, hscc, hnd, hpredc, hlater, hvmap⟩ := inv
  unfold phase2Step
  obtain ⟨_, hgrp, hvis', hnd', hvm'⟩ := bfs_spec wf p.visited r hrV hrv p.sccs.length p.vmap
  rw [if_neg hrv]
  generalize iter B2.done (step2 GT p.sccs.length) V.length ⟨[r], r :: p.visited, [r], p.vmap⟩ = s at hgrp hvis' hnd' hvm'
  show P2Inv G V ⟨s.visited, p.sccs ++ [s.scc], s.vmap⟩ ∧ ∀ x, x ∈ s.visited ↔ _
  have hcomp : ∀ x, x ∈ s.scc ↔ Mutual G x r := fun x => (hgrp x).trans
    ⟨fun hra => ⟨hra.toReach, hkey x hra⟩,
     fun hm => (mutual_path hm.1 hm.2 (Reach.refl G r)).mono fun y hy hyv => hrv (inv.up (b := y) hy.2 hyv)⟩
  have hfresh : ∀ x ∈ s.scc, x ∉ p.visited := fun x hx => ((hgrp x).mp hx).left
  have hold : ∀ g ∈ p.sccs, ∀ x ∈ g, x ∈ p.visited := fun g hg x hx => (hvis x).mpr (List.mem_flatten.mpr ⟨g, hg, hx⟩)
  refine ⟨⟨?_, ?_, ?_, ?_, ?_, ?_⟩, fun x => (hvis' x).trans (or_congr_right (hgrp x))⟩
  · intro x
    rw [hvis', hvis, List.flatten_append, List.mem_append, List.flatten_singleton]
  · exact forall_mem_concat hscc ⟨r, hrV, hcomp⟩
  · exact forall_mem_concat hnd hnd'
  · intro u v he hv
    rw [hvis'] at hv ⊢
    rcases hv with hv | hv
    · exact .inl (hpredc u v he hv)
    · exact (Decidable.em (u ∈ p.visited)).imp_right fun hu => (hgrp u).mpr (.head hu he ((hgrp v).mp hv))
  · refine List.pairwise_append.mpr ⟨hlater, List.pairwise_singleton _ _, ?_⟩
    intro gi hgi gj hgj v hv
    rw [List.mem_singleton.mp hgj] at hv
    exact ⟨fun h => hfresh v hv (hold gi hgi v h), fun u hu h => hfresh v hv (hpredc v u hu (hold gi hgi u h))⟩
  · intro x hx
    rw [hvm', lookup_map_append]
    by_cases hxs : x ∈ s.scc.reverse
    · exact ⟨_, _, if_pos hxs, List.getElem?_concat_length, List.mem_reverse.mp hxs⟩
    · obtain ⟨i, g, h1, h2, h3⟩ := hvmap x (((hvis' x).mp hx).resolve_right fun h => hxs (List.mem_reverse.mpr h))
      exact ⟨i, g, (if_neg hxs).trans h1, getElem?_append_some h2, h3⟩

/-- Phase 2 run over the reverse post-order of a recursive DFS, followed along the derivation of the DFS. `p` has visited
every vertex outside `vis ∪ po`, and what it has not visited of `vis` is finished (all successors in `vis`); then it
visits `po`, and the groups it adds are components. For `visit` the reverse post-order is the later roots `po2`, the root
`u`, its tree `po1`: what reaches `u` through vertices still unvisited lies in the tree of `u`, which `u` reaches — the
finishing-order argument of Kosaraju's algorithm. -/
theorem DfsL.phase2 {G GT : Graph} {V : List Nat} (wf : WF G GT V) {vis us vis' po : List Nat} {k : Nat}
    (h : DfsL G vis us vis' po k) : (∀ u ∈ us, u ∈ V) → ∀ p : P2, P2Inv G V p →
    (∀ x ∈ V, x ∉ p.visited → x ∈ vis ∨ x ∈ po) → (∀ x ∈ vis, x ∉ p.visited → ∀ y ∈ G x, y ∈ vis) →
    P2Inv G V (po.reverse.foldl (phase2Step GT V.length) p) ∧
    ∀ x, x ∈ (po.reverse.foldl (phase2Step GT V.length) p).visited ↔ x ∈ p.visited ∨ x ∈ po := by
  induction h with
  | nil => intro _ p inv _ _; exact ⟨inv, fun x => by simp⟩
  | skip _ _ ih => intro hus; exact ih fun x hx => hus x (List.mem_cons_of_mem _ hx)
  | @visit vis us vis1 po1 vis2 po2 u k1 k2 hu h1 h2 ih1 ih2 =>
    intro hus p inv I1 I2
    rw [List.reverse_append, List.reverse_cons, List.append_assoc, List.foldl_append, List.foldl_append, List.foldl_cons,
      List.foldl_nil]
    have huV := hus u List.mem_cons_self
    have hv1 := h1.vis_iff
    have I1' : ∀ x ∈ V, x ∉ p.visited → x ∈ vis ∨ x ∈ po1 ∨ x = u ∨ x ∈ po2 := fun x hx hxp =>
      (I1 x hx hxp).imp_right fun h => (List.mem_append.mp h).imp_right List.mem_cons.mp
    obtain ⟨inv2, hvis2⟩ := ih2 (fun x hx => hus x (List.mem_cons_of_mem _ hx)) p inv
      (fun x hx hxp => by
        rcases I1' x hx hxp with h | h | rfl | h
        · exact .inl ((hv1 x).mpr (.inl (List.mem_cons_of_mem _ h)))
        · exact .inl ((hv1 x).mpr (.inr h))
        · exact .inl ((hv1 x).mpr (.inl List.mem_cons_self))
        · exact .inr h)
      (fun x hx hxp y hy => by
        rcases (hv1 x).mp hx with hx | hx
        · rcases List.mem_cons.mp hx with rfl | hx
          · exact h1.closed.1 y hy
          · exact (hv1 y).mpr (.inl (List.mem_cons_of_mem _ (I2 x hx hxp y hy)))
        · exact h1.closed.2 x hx y hy)
    generalize po2.reverse.foldl (phase2Step GT V.length) p = p2 at inv2 hvis2 ⊢
    -- what reaches `u` through vertices unvisited now lies in the tree of `u`
    have hloc : ∀ x, RA G (fun y => y ∉ p2.visited) x u → x = u ∨ x ∈ po1 := by
      intro x hra
      have hx2 := hra.left
      rw [hvis2, not_or] at hx2
      rcases I1' x (ra_src_mem wf hra huV) hx2.1 with h | h | h | h
      · -- `x` would be finished, and then so would be all it reaches, `u` among them
        refine absurd (RA.closed (S := fun z => z ∈ vis ∧ z ∉ p.visited) ?_ hra ⟨h, hx2.1⟩).1 hu
        exact fun z hz y hy hyp => ⟨I2 z hz.1 hz.2 y hy, fun h => hyp ((hvis2 y).mpr (.inl h))⟩
      · exact .inr h
      · exact .inl h
      · exact absurd h hx2.2
    obtain ⟨inv3, hvis3⟩ := p2_root wf p2 inv2 huV fun x hra => (hloc x hra).elim (fun e => e ▸ Reach.refl G u)
      fun hx => let ⟨s, hs, hr⟩ := h1.reached x hx; (Reach.edge hs).trans hr.toReach
    generalize phase2Step GT V.length p2 u = p3 at inv3 hvis3 ⊢
    have hu3 : u ∈ p3.visited := (hvis3 u).mpr ((Decidable.em (u ∈ p2.visited)).imp_right .refl)
    have h23 : ∀ x, x ∈ p.visited ∨ x ∈ po2 → x ∈ p3.visited := fun x h => (hvis3 x).mpr (.inl ((hvis2 x).mpr h))
    obtain ⟨inv4, hvis4⟩ := ih1 (wf.dst u) p3 inv3
      (fun x hx hx3 => by
        rcases I1' x hx (fun h => hx3 (h23 x (.inl h))) with h | h | rfl | h
        · exact .inl (List.mem_cons_of_mem _ h)
        · exact .inr h
        · exact .inl List.mem_cons_self
        · exact absurd (h23 x (.inr h)) hx3)
      (fun x hx hx3 y hy => by
        rcases List.mem_cons.mp hx with rfl | hx
        · exact absurd hu3 hx3
        · exact List.mem_cons_of_mem _ (I2 x hx (fun h => hx3 (h23 x (.inl h))) y hy))
    refine ⟨inv4, fun x => ?_⟩
    rw [hvis4, List.mem_append, List.mem_cons]
    constructor
    · rintro (h | h)
      · rcases (hvis3 x).mp h with h | h
        · exact ((hvis2 x).mp h).imp_right fun h => .inr (.inr h)
        · exact .inr ((hloc x h).elim (fun h => .inr (.inl h)) .inl)
      · exact .inr (.inl h)
    · rintro (h | h | rfl | h)
      · exact .inl (h23 x (.inl h))
      · exact .inr h
      · exact .inl hu3
      · exact .inl (h23 x (.inr h))

/-- after `for u in RPO:` every vertex is in a group, and the groups are the strongly connected components in a creation
order without backward edges -/
theorem phase2_inv {G GT : Graph} {V : List Nat} (wf : WF G GT V) :
    P2Inv G V (phase2 GT V (postOrder G V).reverse) ∧ ∀ x ∈ V, x ∈ (phase2 GT V (postOrder G V).reverse).visited := by
  obtain ⟨vis, k, h, _⟩ := phase1_spec wf
  have hmem := fun x (hx : x ∈ V) => (h.perm wf).mem_iff.mpr hx
  obtain ⟨inv, hv⟩ := h.phase2 wf (fun _ hu => hu) _ (p2Inv_init G V) (fun x hx _ => .inr (hmem x hx)) nofun
  exact ⟨inv, fun x hx => (hv x).mpr (.inr (hmem x hx))⟩

theorem phase2Step_fuel {G GT : Graph} {V : List Nat} (wf : WF G GT V) (F : Nat) (hF : V.length ≤ F) (p : P2) {r : Nat}
    (hr : r ∈ V) : phase2Step GT F p r = phase2Step GT V.length p r := by
  unfold phase2Step
  by_cases hrv : r ∈ p.visited
  · rw [if_pos hrv, if_pos hrv]
  · obtain ⟨d, rfl⟩ := Nat.exists_eq_add_of_le hF
    rw [if_neg hrv, if_neg hrv,
      iter_more _ _ _ _ _ (bfs_spec wf p.visited r hr hrv p.sccs.length p.vmap).1]

theorem phase2_fuel {G GT : Graph} {V : List Nat} (wf : WF G GT V) (F : Nat) (hF : V.length ≤ F) :
    ∀ (rest : List Nat) (p : P2), (∀ r ∈ rest, r ∈ V) →
      rest.foldl (phase2Step GT F) p = rest.foldl (phase2Step GT V.length) p := by
  intro rest
  induction rest with
  | nil => intro p _; rfl
  | cons r rest ih =>
    intro p h
    rw [List.foldl_cons, List.foldl_cons, phase2Step_fuel wf F hF p (h r List.mem_cons_self)]
    exact ih _ fun x hx => h x (List.mem_cons_of_mem _ hx)

end PV.Scc
