/-!
Abstract theory of update-block scheduling (core Lean only): blocks with read/write footprints over an
arbitrary variable type.
-/
namespace PV.Sched

variable {Var Val : Type}

abbrev St (Var Val : Type) := Var → Val

structure Blk (Var Val : Type) where
  R   : Var → Prop
  W   : Var → Prop
  run : St Var Val → St Var Val

structure Blk.Wf (b : Blk Var Val) : Prop where
  frame : ∀ s v, ¬ b.W v → b.run s v = s v
  dep   : ∀ s s', (∀ v, b.R v → s v = s' v) → ∀ v, b.W v → b.run s v = b.run s' v
  noself : ∀ v, b.R v → ¬ b.W v

theorem wf_assign [DecidableEq Var] {u v : Var} (huv : u ≠ v) (f : Val → Val) :
    Blk.Wf ⟨(· = u), (· = v), fun t k => if k = v then f (t u) else t k⟩ :=
  ⟨fun _ _ hk => if_neg hk,
    fun _ _ h _ hk => (if_pos hk).trans ((congrArg f (h u rfl)).trans (if_pos hk).symm),
    fun _ hr hw => huv (hr.symm.trans hw)⟩

def runList (bs : List (Blk Var Val)) (s : St Var Val) : St Var Val :=
  bs.foldl (fun s b => b.run s) s

theorem runList_nil (s : St Var Val) : runList [] s = s := rfl
theorem runList_cons (b : Blk Var Val) (bs) (s : St Var Val) :
    runList (b :: bs) s = runList bs (b.run s) := rfl
theorem runList_append (xs ys : List (Blk Var Val)) (s : St Var Val) :
    runList (xs ++ ys) s = runList ys (runList xs s) := by
  simp [runList, List.foldl_append]

/-- of `Wf` only the frame condition is asked for: `Rtl.runBlocks_frame` has no more than that to offer -/
theorem runList_frame_of (bs : List (Blk Var Val)) (hfr : ∀ b ∈ bs, ∀ s v, ¬ b.W v → b.run s v = s v) (s : St Var Val) (v : Var)
    (h : ∀ b ∈ bs, ¬ b.W v) : runList bs s v = s v := by
  induction bs generalizing s with
  | nil => rfl
  | cons b bs ih =>
    rw [runList_cons]
    rw [ih (fun c hc => hfr c (List.mem_cons_of_mem _ hc)) _ (fun c hc => h c (List.mem_cons_of_mem _ hc))]
    exact hfr b List.mem_cons_self s v (h b List.mem_cons_self)

theorem runList_frame (bs : List (Blk Var Val)) (hwf : ∀ b ∈ bs, b.Wf) (s : St Var Val) (v : Var)
    (h : ∀ b ∈ bs, ¬ b.W v) : runList bs s v = s v :=
  runList_frame_of bs (fun b hb => (hwf b hb).frame) s v h

theorem runList_of_fixed (bs : List (Blk Var Val)) (t : St Var Val) (h : ∀ b ∈ bs, b.run t = t) :
    runList bs t = t := by
  induction bs with
  | nil => rfl
  | cons b bs ih =>
    rw [runList_cons, h b List.mem_cons_self]
    exact ih fun c hc => h c (List.mem_cons_of_mem _ hc)

def SingleWriter (bs : List (Blk Var Val)) : Prop :=
  bs.Pairwise (fun a b => ∀ v, a.W v → ¬ b.W v)

/-- topological: nobody later in the list writes what an earlier block reads (its own reads: `Blk.Wf.noself`) -/
def Topo (bs : List (Blk Var Val)) : Prop :=
  bs.Pairwise (fun a b => ∀ v, a.R v → ¬ b.W v)

/-- the step of `sweep_fixed`: if what runs after `b` restores, or never touched, everything `b` read, then `b`, run again at the
end, writes what it wrote the first time -/
theorem run_fixed_of_reads (b : Blk Var Val) (post : List (Blk Var Val)) (hb : b.Wf) (hwf : ∀ c ∈ post, c.Wf)
    (hsw : ∀ c ∈ post, ∀ v, b.W v → ¬ c.W v) (s1 : St Var Val)
    (hread : ∀ u, b.R u → runList post (b.run s1) u = s1 u) :
    b.run (runList post (b.run s1)) = runList post (b.run s1) := by
  funext v
  by_cases hv : b.W v
  · rw [runList_frame post hwf _ v (fun c hc => hsw c hc v hv)]
    exact hb.dep _ _ hread v hv
  · exact hb.frame _ v hv

/-- **A sweep that leaves alone every variable an earlier block reads and a later one writes ends in a fixed point**:
`b` reads either such a variable (unchanged over the sweep, and nobody before `b` writes it: single writer), or one that
nobody after `b` writes. -/
theorem sweep_fixed (bs : List (Blk Var Val)) (hwf : ∀ b ∈ bs, b.Wf) (hsw : SingleWriter bs) (s : St Var Val)
    (hlate : bs.Pairwise fun a c => ∀ u, a.R u → c.W u → runList bs s u = s u) :
    ∀ b ∈ bs, b.run (runList bs s) = runList bs s := by
  intro b hb
  obtain ⟨pre, post, rfl⟩ := List.append_of_mem hb
  have hbwf := hwf b hb
  have hsplit := List.pairwise_append.mp hsw
  have hwfpost : ∀ c ∈ post, c.Wf := fun c hc => hwf c (List.mem_append_right _ (List.mem_cons_of_mem _ hc))
  have hl := (List.pairwise_cons.mp (List.pairwise_append.mp hlate).2.1).1
  rw [runList_append, runList_cons] at hl ⊢
  refine run_fixed_of_reads b post hbwf hwfpost (List.pairwise_cons.mp hsplit.2.1).1 _ fun u hu => ?_
  by_cases hc : ∃ c ∈ post, c.W u
  · obtain ⟨c, hcm, hcu⟩ := hc
    rw [hl c hcm u hu hcu]
    exact (runList_frame pre (fun a ha => hwf a (List.mem_append_left _ ha)) s u
      fun a ha haw => hsplit.2.2 a ha c (List.mem_cons_of_mem _ hcm) u haw hcu).symm
  · rw [runList_frame post hwfpost _ u (fun c hcm hcu => hc ⟨c, hcm, hcu⟩), hbwf.frame _ u (hbwf.noself u hu)]

theorem fixed_point_of_topo (bs : List (Blk Var Val)) (hwf : ∀ b ∈ bs, b.Wf)
    (hsw : SingleWriter bs) (htopo : Topo bs) (s : St Var Val) :
    ∀ b ∈ bs, b.run (runList bs s) = runList bs s :=
  sweep_fixed bs hwf hsw s (htopo.imp fun h u hu hcu => absurd hcu (h u hu))

theorem settle_topo (bs : List (Blk Var Val)) (hwf : ∀ b ∈ bs, b.Wf) (hsw : SingleWriter bs)
    (htopo : Topo bs) (s : St Var Val) : runList bs (runList bs s) = runList bs s :=
  runList_of_fixed bs _ (fixed_point_of_topo bs hwf hsw htopo s)

/-- **A topological sweep computes a function of the undriven variables.** Going down the list, the two runs agree on
every variable that no block still to come writes; the next block reads only such variables (`Topo`, `noself`). -/
theorem sweep_congr : ∀ (bs : List (Blk Var Val)), (∀ b ∈ bs, b.Wf) → Topo bs → ∀ s s' : St Var Val,
    (∀ v, (∀ b ∈ bs, ¬ b.W v) → s v = s' v) → runList bs s = runList bs s'
  | [], _, _, _, _, h => funext fun v => h v fun _ hb => nomatch hb
  | c :: bs, hwf, htopo, s, s', h => by
    obtain ⟨hc, hbs⟩ := List.pairwise_cons.mp htopo
    have hcw := hwf c List.mem_cons_self
    refine sweep_congr bs (fun b hb => hwf b (List.mem_cons_of_mem _ hb)) hbs (c.run s) (c.run s') fun v hv => ?_
    by_cases hw : c.W v
    · exact hcw.dep s s' (fun u hu => h u (List.forall_mem_cons.mpr ⟨hcw.noself u hu, fun b hb => hc b hb u hu⟩)) v hw
    · rw [hcw.frame s v hw, hcw.frame s' v hw]
      exact h v (List.forall_mem_cons.mpr ⟨hw, hv⟩)

theorem fixed_eq_sweep (bs : List (Blk Var Val)) (hwf : ∀ b ∈ bs, b.Wf) (htopo : Topo bs) (s t : St Var Val)
    (hin : ∀ v, (∀ b ∈ bs, ¬ b.W v) → t v = s v) (ht : ∀ b ∈ bs, b.run t = t) : t = runList bs s :=
  (runList_of_fixed bs t ht).symm.trans (sweep_congr bs hwf htopo t s hin)

theorem unique_fixed_point (bs : List (Blk Var Val)) (hwf : ∀ b ∈ bs, b.Wf)
    (htopo : Topo bs) (t t' : St Var Val)
    (hin : ∀ v, (∀ b ∈ bs, ¬ b.W v) → t v = t' v)
    (ht : ∀ b ∈ bs, b.run t = t) (ht' : ∀ b ∈ bs, b.run t' = t') :
    t = t' :=
  (fixed_eq_sweep bs hwf htopo t' t hin ht).trans (runList_of_fixed bs t' ht')

/-- the sweep in the other order ends in a state every block leaves alone (`fixed_point_of_topo`), with the undriven
variables untouched: it is what the sweep in this order computes -/
theorem schedule_independent (o1 o2 : List (Blk Var Val)) (hperm : o1.Perm o2)
    (hwf : ∀ b ∈ o1, b.Wf) (hsw : SingleWriter o1)
    (h1 : Topo o1) (h2 : Topo o2) (s : St Var Val) :
    runList o1 s = runList o2 s := by
  have hwf2 : ∀ b ∈ o2, b.Wf := fun b hb => hwf b (hperm.mem_iff.mpr hb)
  have hsw2 : SingleWriter o2 := hperm.pairwise hsw fun h v hb ha => h v ha hb
  exact (fixed_eq_sweep o1 hwf h1 s _ (fun v hv => runList_frame o2 hwf2 s v fun b hb => hv b (hperm.mem_iff.mpr hb))
    fun b hb => fixed_point_of_topo o2 hwf2 hsw2 h2 s b (hperm.mem_iff.mp hb)).symm

/-- Only variables both written and read inside the group need watching. -/
theorem stable_is_fixed_point (scc : List (Blk Var Val)) (hwf : ∀ b ∈ scc, b.Wf)
    (hsw : SingleWriter scc) (watch : Var → Prop)
    (hwatch : ∀ v, (∃ a ∈ scc, a.W v) → (∃ b ∈ scc, b.R v) → watch v)
    (s : St Var Val) (hst : ∀ v, watch v → runList scc s v = s v) :
    ∀ b ∈ scc, b.run (runList scc s) = runList scc s :=
  sweep_fixed scc hwf hsw s (List.pairwise_of_forall_mem_list fun a ha c hc u hu hcu =>
    hst u (hwatch u ⟨c, hc, hcu⟩ ⟨a, ha, hu⟩))

theorem commute (a b : Blk Var Val) (ha : a.Wf) (hb : b.Wf)
    (hww : ∀ v, a.W v → ¬ b.W v) (hab : ∀ v, a.R v → ¬ b.W v) (hba : ∀ v, b.R v → ¬ a.W v)
    (s : St Var Val) : b.run (a.run s) = a.run (b.run s) := by
  funext v
  by_cases hav : a.W v
  · have hbv : ¬ b.W v := hww v hav
    rw [hb.frame _ v hbv]
    exact ha.dep _ _ (fun u hu => (hb.frame s u (hab u hu)).symm) v hav
  · rw [ha.frame _ v hav]
    by_cases hbv : b.W v
    · exact hb.dep _ _ (fun u hu => ha.frame s u (hba u hu)) v hbv
    · rw [hb.frame _ v hbv, hb.frame _ v hbv, ha.frame _ v hav]

/-- the hypotheses of `commute`; well-formedness is part of it so that `Pairwise Commuting` is all a list needs -/
structure Commuting (a b : Blk Var Val) : Prop where
  wfl : a.Wf
  wfr : b.Wf
  ww : ∀ v, a.W v → ¬ b.W v
  rw : ∀ v, a.R v → ¬ b.W v
  wr : ∀ v, b.R v → ¬ a.W v

theorem Commuting.symm {a b : Blk Var Val} (h : Commuting a b) : Commuting b a :=
  ⟨h.wfr, h.wfl, fun v hb ha => h.ww v ha hb, h.wr, h.rw⟩

theorem perm_of_pairwise_commuting (o1 o2 : List (Blk Var Val)) (hperm : o1.Perm o2) (hC : o1.Pairwise Commuting)
    (s : St Var Val) : runList o1 s = runList o2 s := by
  induction hperm generalizing s with
  | nil => rfl
  | cons x _ ih =>
    rw [runList_cons, runList_cons]
    exact ih (List.pairwise_cons.mp hC).2 _
  | swap x y l =>
    have h := (List.pairwise_cons.mp hC).1 x List.mem_cons_self
    rw [runList_cons, runList_cons, runList_cons, runList_cons, commute y x h.wfl h.wfr h.ww h.rw h.wr s]
  | trans h1 _ ih1 ih2 =>
    rw [ih1 hC s]
    exact ih2 (h1.pairwise hC Commuting.symm) s

/-- flip-flop style blocks: nobody reads anything that anybody writes (reads are of `cur`, writes of `next`) -/
theorem perm_commute (o1 o2 : List (Blk Var Val)) (hperm : o1.Perm o2)
    (hwf : ∀ b ∈ o1, b.Wf) (hsw : SingleWriter o1)
    (hnrw : ∀ a ∈ o1, ∀ b ∈ o1, ∀ v, a.R v → ¬ b.W v) (s : St Var Val) :
    runList o1 s = runList o2 s :=
  perm_of_pairwise_commuting o1 o2 hperm
    (List.Pairwise.imp_of_mem (fun ha hb hww => ⟨hwf _ ha, hwf _ hb, hww, hnrw _ ha _ hb, hnrw _ hb _ ha⟩) hsw) s

theorem perm_of_no_read_write (o1 o2 : List (Blk Var Val)) (hperm : o1.Perm o2)
    (hwf : ∀ b ∈ o1, b.Wf) (hsw : ∀ a ∈ o1, ∀ b ∈ o1, a ≠ b → ∀ v, a.W v → ¬ b.W v)
    (hnrw : ∀ a ∈ o1, ∀ b ∈ o1, ∀ v, a.R v → ¬ b.W v) (hnd : o1.Nodup) (s : St Var Val) :
    runList o1 s = runList o2 s :=
  perm_commute o1 o2 hperm hwf (hnd.imp_of_mem fun ha hb hne => hsw _ ha _ hb hne) hnrw s

end PV.Sched
