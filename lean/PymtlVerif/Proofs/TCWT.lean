import PymtlVerif.Proofs.TC
/-!
The typing invariant that acceptance by the RTLIR type checker guarantees on clean blocks, as a *declarative*
judgement `WT Γ e w k` ("`e` is well typed at width `w` with kind `k`") that does
not mention the checker's algorithm:

* the operands of a max-width operator (`+ - * & | ^ %`) and of a comparison are typed at the *same*
  width, one of them certainly a `Bits` of that width;
* a literal, loop variable, implicit temporary or folded non-negative constant is typed at *any* width
  that holds it ("re-sized to the context");
* a shift amount is typed at the width of the shifted value; a `Bits<n>( … )` cast does not change the width;
* `zext/sext` widen, `trunc` narrows, `concat` adds, a bit is 1 wide, a constant slice `[l:u]` is `u-l` wide;
* the right-hand side of an assignment is typed at the width of its target (`WTS`).

`checkE_WT`: accepted + clean ⇒ well typed at the static width the checker assigned (`Chk.wt_aux`: by induction on
`Chk`, each node through its inverted rule and what the absence of issues says there).  `WT` is sound on its own (`WT.sound`, Proofs/TCSound.lean);
`WTS` is not (it does not say that a temporary keeps its recorded type): the sound judgement for statements is `CleanS`
(Proofs/TCStmt.lean), of which `WTS` is a projection.  (The judgement of C03, `SVProofs.WTm`, is a different one; no theorem
relates the two.)
-/
namespace PV.TC
open PV.Bits

/-- `bits`: certainly a `Bits<w>`; `lit`: a Python int that fits `w` bits; `soft`: one or the other -/
inductive Kind where | bits | soft | lit
deriving DecidableEq, Repr

def kindOf (a : Ann) (hard : Bool) : Kind := if hard then .bits else if a.ex then .soft else .lit

def Kind.join : Kind → Kind → Kind
  | .bits, .bits => .bits
  | .lit, .lit => .lit
  | _, _ => .soft

/-- value of a constant integer expression (what `eval_const_binop` / `visit_UnaryOp` fold) -/
def constVal : Expr → Option Int
  | .num v => some v
  | .un op e => (constVal e).map (intUn op)
  | .bin op l r =>
    match constVal l, constVal r with
    | some a, some b => (match intBin op a b with | .ok v => some v | .error _ => none)
    | _, _ => none
  | _ => none

inductive WT (Γ : Env) : Expr → Nat → Kind → Prop
  | sig (x w : Nat) : 1 ≤ w → w < 1024 → WT Γ (.sig x w) w .bits
  | num (v w : Nat) : v < 2 ^ w → WT Γ (.num v) w .lit
  | lv (i w0 w : Nat) : Γ.lvs.lookup i = some w0 → w0 ≤ w → WT Γ (.lv i) w .lit
  | tmpB (t w : Nat) : Γ.tmps.lookup t = some (w, true) → WT Γ (.tmp t) w .bits
  | tmpL (t w0 w : Nat) : Γ.tmps.lookup t = some (w0, false) → w0 ≤ w → WT Γ (.tmp t) w .lit
  | const (e : Expr) (v : Int) (w : Nat) : constVal e = some v → 0 ≤ v → v < 2 ^ w → WT Γ e w .lit
  | un (op : UOp) (e : Expr) (w : Nat) : WT Γ e w .bits → WT Γ (.un op e) w .bits
  | binL (op : Op) (l r : Expr) (w : Nat) (k : Kind) :
      op.isShift = false → WT Γ l w .bits → WT Γ r w k → WT Γ (.bin op l r) w .bits
  | binR (op : Op) (l r : Expr) (w : Nat) (k : Kind) :
      op.isShift = false → WT Γ l w k → WT Γ r w .bits → WT Γ (.bin op l r) w .bits
  | shift (op : Op) (l r : Expr) (w : Nat) (k : Kind) :
      op.isShift = true → WT Γ l w .bits → WT Γ r w k → WT Γ (.bin op l r) w .bits
  | cmpL (op : CmpOp) (l r : Expr) (w : Nat) (k : Kind) : WT Γ l w .bits → WT Γ r w k → WT Γ (.cmp op l r) 1 .bits
  | cmpR (op : CmpOp) (l r : Expr) (w : Nat) (k : Kind) : WT Γ l w k → WT Γ r w .bits → WT Γ (.cmp op l r) 1 .bits
  | iteI (c t f : Expr) (w : Nat) (k1 k2 : Kind) :
      intOnly c = true → WT Γ t w k1 → WT Γ f w k2 → WT Γ (.ite c t f) w (k1.join k2)
  | iteW (c t f : Expr) (wc w : Nat) (kc k1 k2 : Kind) :
      WT Γ c wc kc → WT Γ t w k1 → WT Γ f w k2 → WT Γ (.ite c t f) w (k1.join k2)
  | cast (n : Nat) (e : Expr) (k : Kind) : 1 ≤ n → n < 1024 → WT Γ e n k → WT Γ (.cast n e) n .bits
  | widen (kd : ExtK) (ty : Bool) (e : Expr) (w n : Nat) (k : Kind) :
      kd ≠ .trunc → w ≤ n → n < 1024 → WT Γ e w k → WT Γ (.ext kd ty e n) n .bits
  | trunc (ty : Bool) (e : Expr) (w n : Nat) (k : Kind) :
      1 ≤ n → n ≤ w → n < 1024 → WT Γ e w k → WT Γ (.ext .trunc ty e n) n .bits
  | red (op : ROp) (e : Expr) (w : Nat) (k : Kind) : WT Γ e w k → WT Γ (.red op e) 1 .bits
  | cat (l r : Expr) (w1 w2 : Nat) (k1 k2 : Kind) :
      WT Γ l w1 k1 → WT Γ r w2 k2 → w1 + w2 < 1024 → WT Γ (.cat l r) (w1 + w2) .bits
  | idxI (x w : Nat) (i : Expr) : 1 ≤ w → w < 1024 → intOnly i = true → WT Γ (.idx x w i) 1 .bits
  | idxW (x w : Nat) (i : Expr) (wi : Nat) (k : Kind) :
      1 ≤ w → w < 1024 → WT Γ i wi k → WT Γ (.idx x w i) 1 .bits
  | slc (x w : Nat) (lo hi : Expr) (l u : Int) :
      w < 1024 → constVal lo = some l → constVal hi = some u → 0 ≤ l → l < u → u ≤ w →
      WT Γ (.slc x w lo hi) (u - l).toNat .bits
  | slcP (x w : Nat) (lo nn : Expr) (sz : Int) :
      w < 1024 → intOnly lo = true → constVal nn = some sz → 1 ≤ sz →
      WT Γ (.slc x w lo (.bin .add lo nn)) sz.toNat .bits

theorem Kind.join_eq_lit {k1 k2 : Kind} (h : k1.join k2 = .lit) : k1 = .lit ∧ k2 = .lit := by
  cases k1 <;> cases k2 <;> first | exact ⟨rfl, rfl⟩ | cases h

theorem WT.lit_mono {Γ : Env} {e : Expr} {w : Nat} {k : Kind} (h : WT Γ e w k) :
    k = .lit → ∀ w', w ≤ w' → WT Γ e w' .lit := by
  induction h with
  | num v w hv =>
    intro _ w' hw
    exact .num v w' (Nat.lt_of_lt_of_le hv (Nat.pow_le_pow_right (by decide) hw))
  | lv i w0 w h1 h2 => intro _ w' hw; exact .lv i w0 w' h1 (Nat.le_trans h2 hw)
  | tmpL t w0 w h1 h2 => intro _ w' hw; exact .tmpL t w0 w' h1 (Nat.le_trans h2 hw)
  | const e v w h1 h2 h3 => intro _ w' hw; exact .const e v w' h1 h2 (Fits.mono ⟨h2, h3⟩ hw).2
  | iteI c t f w k1 k2 hc _ _ iht ihf =>
    intro hk w' hw
    obtain ⟨h1, h2⟩ := Kind.join_eq_lit hk
    exact .iteI c t f w' .lit .lit hc (iht h1 w' hw) (ihf h2 w' hw)
  | iteW c t f wc w kc k1 k2 hcw _ _ _ iht ihf =>
    intro hk w' hw
    obtain ⟨h1, h2⟩ := Kind.join_eq_lit hk
    exact .iteW c t f wc w' kc .lit .lit hcw (iht h1 w' hw) (ihf h2 w' hw)
  | sig | tmpB | un | binL | binR | shift | cmpL | cmpR | cast | widen | trunc | red | cat | idxI | idxW | slc | slcP =>
    intro hk; cases hk

theorem Chk.hard_ex {Γ : Env} {e : Expr} {t : AT} (h : Chk Γ e t) : hardE Γ e = true → t.ann.ex = true := by
  induction h with
  | sig | cast | red | cat => intro _; rfl
  | num | lv => nofun
  | tmp hl => intro hh; simpa [hardE, hl] using hh
  | un _ _ ih => exact ih
  | @bin op _ _ _ _ _ _ _ hb ihl ihr =>
    intro hh
    rw [binRule_ex hb]
    rw [hardE] at hh
    cases hs : op.isShift <;> simp only [hs, Bool.false_eq_true, ↓reduceIte] at hh ⊢
    · exact or_true_of_imp ihl ihr hh
    · exact ihl hh
  | cmp _ _ _ hb => intro _; obtain ⟨_, _, rfl, _⟩ := cmpRule_ok hb; rfl
  | ite _ _ _ hr _ iha _ => intro hh; rw [(iteRule_ann hr).1, iha (Bool.and_eq_true_iff.mp hh).1]; rfl
  | ext _ _ hr => intro _; rw [(extRule_ok hr).1]; rfl
  | idx _ _ hr => intro _; rw [idxRule_ann hr]
  | slc _ _ _ hb => intro _; obtain ⟨n, _, _, rfl, _⟩ := slcRule_ok hb; rfl

theorem kindOf_lit {a : Ann} {h : Bool} (hh : h = true → a.ex = true) (hex : a.ex = false) : kindOf a h = .lit := by
  rw [kindOf, false_of_imp hh hex, hex]; rfl

theorem kindOf_ne_lit {a : Ann} {h : Bool} (hk : kindOf a h ≠ .lit) (hh : h = true → a.ex = true) : a.ex = true := by
  cases h
  · cases hx : a.ex
    · exact absurd (by rw [kindOf, hx]; rfl) hk
    · rfl
  · exact hh rfl

theorem kindOf_ne_bits {a : Ann} {h : Bool} (hk : kindOf a h ≠ .bits) : h = false := by
  cases h
  · rfl
  · exact absurd rfl hk

theorem kindOf_join {a b c : Ann} {ha hb : Bool} (hex : c.ex = (a.ex || b.ex))
    (h1 : ha = true → a.ex = true) (h2 : hb = true → b.ex = true) :
    kindOf c (ha && hb) = (kindOf a ha).join (kindOf b hb) := by
  unfold kindOf
  rw [hex]
  revert h1 h2
  cases ha <;> cases hb <;> cases a.ex <;> cases b.ex <;> decide

theorem WT.meets {Γ : Env} {e : Expr} {a : Ann} {h : Bool} {W : Nat}
    (hwt : WT Γ e a.w (kindOf a h)) (hh : h = true → a.ex = true) (m : a.Meets W) : WT Γ e W (kindOf a h) := by
  cases hx : a.ex
  · rw [kindOf_lit hh hx] at hwt ⊢
    exact hwt.lit_mono rfl W m.1
  · rw [← m.2 hx]; exact hwt

theorem Chk.folded {Γ : Env} {e : Expr} {t : AT} (h : Chk Γ e t) : intOnly e = true →
    ∀ v, t.ann.val = some v → constVal e = some v := by
  induction h with
  | num n => intro _ v hv; cases hv; rfl
  | lv => intro _ v hv; cases hv
  | cmp _ _ _ hb => intro _ v hv; obtain ⟨_, _, rfl, _⟩ := cmpRule_ok hb; cases hv
  | un op _ ih =>
    intro hi v hv
    simp only [unRule, ann_n1, Option.map_eq_some_iff] at hv
    obtain ⟨v0, h0, rfl⟩ := hv
    simp only [constVal, ih hi v0 h0, Option.map_some]
  | bin _ _ hb ihl ihr =>
    intro hi v hv
    simp only [intOnly, Bool.and_eq_true] at hi
    obtain ⟨l', r', h1, h2, h3⟩ := binRule_val hb hv
    simp only [constVal, ihl hi.1 l' h1, ihr hi.2 r' h2, h3]
  | sig | tmp | ite | cast | ext | red | cat | idx | slc => nofun

/-- `checkE_WT` with what the induction needs besides: the folded value of an implicitly sized term is its `constVal`,
    which feeds rule `WT.const` at a folded binary node -/
theorem Chk.wt_aux {Γ : Env} {e : Expr} {t : AT} (h : Chk Γ e t) : issuesE Γ e = [] →
    WT Γ e t.ann.w (kindOf t.ann (hardE Γ e)) ∧
    (t.ann.ex = false → ∀ v, t.ann.val = some v → constVal e = some v) := by
  induction h with
  | sig x w =>
    intro hc
    obtain ⟨h1, h2⟩ := widthIssues_nil hc
    exact ⟨.sig x w h1 h2, nofun⟩
  | num v => intro _; exact ⟨.num v _ (nbitsOf_fits v), fun _ w hw => by cases hw; rfl⟩
  | @lv i w hl => intro _; exact ⟨.lv i w w hl (Nat.le_refl _), fun _ v hv => by cases hv⟩
  | @tmp i w ex hl =>
    intro _
    refine ⟨?_, fun _ v hv => by cases hv⟩
    simp only [hardE, hl]
    cases ex
    · exact .tmpL i w w hl (Nat.le_refl _)
    · exact .tmpB i w hl
  | @un op a te he ih =>
    intro hc
    simp only [issuesE, he.eq, annOf_ok, List.append_eq_nil_iff] at hc
    have hh := unIssues_nil hc.2
    have ihe := (ih hc.1).1
    have hex := he.hard_ex hh
    rw [hh] at ihe
    refine ⟨?_, fun hx => by rw [unRule, ann_n1, hex] at hx; cases hx⟩
    simp only [hardE, hh]
    exact .un op a _ ihe
  | @bin op l r tl tr t hl hr hb ihl ihr =>
    intro hc
    simp only [issuesE, hl.eq, hr.eq, (Chk.bin hl hr hb).eq, annOf_ok, List.append_eq_nil_iff] at hc
    obtain ⟨⟨hcl, hcr⟩, hcb⟩ := hc
    obtain ⟨w1, c1⟩ := ihl hcl
    obtain ⟨w2, c2⟩ := ihr hcr
    simp only [hardE]
    rcases bin_clean hb hcb hl.hard_ex hr.hard_ex with
      ⟨W, ml, mr, hann, hh, hsh⟩ | ⟨h1, h2, hle, hre, lv, rv, v, hlv, hrv, hv, h0, hann⟩
    · rw [hann, shiftOr_true hh hsh]
      refine ⟨?_, nofun⟩
      have a1 := w1.meets hl.hard_ex ml
      have a2 := w2.meets hr.hard_ex mr
      cases hs : op.isShift
      · rcases Bool.or_eq_true_iff.mp hh with h1 | h1
        · rw [h1] at a1; exact .binL op l r W _ hs a1 a2
        · rw [h1] at a2; exact .binR op l r W _ hs a1 a2
      · rw [hsh hs] at a1; exact .shift op l r W _ hs a1 a2
    · have hcv : constVal (.bin op l r) = some v := by
        simp only [constVal, c1 hle _ hlv, c2 hre _ hrv, hv]
      rw [hann, h1, h2, Bool.or_self, ite_self]
      exact ⟨.const _ v _ hcv h0 (fits_nbitsInt v h0).2, fun _ v' hv' => by cases hv'; exact hcv⟩
  | @cmp op l r tl tr t hl hr hb ihl ihr =>
    intro hc
    simp only [issuesE, hl.eq, hr.eq, annOf_ok, List.append_eq_nil_iff] at hc
    obtain ⟨⟨hcl, hcr⟩, hcb⟩ := hc
    obtain ⟨W, ml, mr, hann, hh⟩ := cmp_clean hb hcb hl.hard_ex hr.hard_ex
    have a1 := (ihl hcl).1.meets hl.hard_ex ml
    have a2 := (ihr hcr).1.meets hr.hard_ex mr
    simp only [hann, hardE, hh]
    refine ⟨?_, nofun⟩
    rcases Bool.or_eq_true_iff.mp hh with h1 | h1
    · rw [h1] at a1; exact .cmpL op l r W _ a1 a2
    · rw [h1] at a2; exact .cmpR op l r W _ a1 a2
  | @ite c a b tc tt tf t hcc hca hcb hrule ihc iha ihb =>
    intro hc
    simp only [issuesE, hca.eq, hcb.eq, (Chk.ite hcc hca hcb hrule).eq, annOf_ok, List.append_eq_nil_iff] at hc
    obtain ⟨⟨⟨hpc, hia⟩, hib⟩, hiw⟩ := hc
    obtain ⟨hex, hval⟩ := iteRule_ann hrule
    obtain ⟨m1, m2⟩ := iteIssues_nil hiw
    have a1 := (iha hia).1.meets hca.hard_ex m1
    have a2 := (ihb hib).1.meets hcb.hard_ex m2
    refine ⟨?_, fun _ v hv => by rw [hval] at hv; cases hv⟩
    simp only [hardE, kindOf_join hex hca.hard_ex hcb.hard_ex]
    by_cases hio : intOnly c = true
    · exact .iteI c a b _ _ _ hio a1 a2
    · rw [if_neg hio] at hpc
      exact .iteW c a b _ _ _ _ _ (ihc hpc).1 a1 a2
  | @cast n a te he ih =>
    intro hc
    simp only [issuesE, he.eq, annOf_ok, List.append_eq_nil_iff] at hc
    obtain ⟨⟨h1, h2⟩, m⟩ := castIssues_nil hc.2
    exact ⟨.cast n a _ h1 h2 ((ih hc.1).1.meets he.hard_ex m), nofun⟩
  | @ext k ty a n te t he hr ih =>
    intro hc
    simp only [issuesE, List.append_eq_nil_iff] at hc
    obtain ⟨h1, h2⟩ := widthIssues_nil hc.2
    obtain ⟨w1, _⟩ := ih hc.1
    obtain ⟨rfl, ht, hw⟩ := extRule_ok hr
    refine ⟨?_, nofun⟩
    by_cases hk : k = .trunc
    · subst hk; exact .trunc ty a _ n _ h1 (ht rfl) h2 w1
    · exact .widen k ty a _ n _ hk (hw hk) h2 w1
  | @red op a te he ih => intro hc; exact ⟨.red op a _ _ (ih hc).1, nofun⟩
  | @cat l r tl tr hl hr ihl ihr =>
    intro hc
    simp only [issuesE, hl.eq, hr.eq, annOf_ok, List.append_eq_nil_iff] at hc
    obtain ⟨⟨hcl, hcr⟩, hcw⟩ := hc
    exact ⟨.cat l r _ _ _ _ (ihl hcl).1 (ihr hcr).1 (widthIssues_nil hcw).2, nofun⟩
  | @idx x w i ti t hi hr ih =>
    intro hc
    simp only [issuesE, List.append_eq_nil_iff] at hc
    obtain ⟨hcw, hpi⟩ := hc
    obtain ⟨h1, h2⟩ := widthIssues_nil hcw
    rw [idxRule_ann hr]
    refine ⟨?_, nofun⟩
    by_cases hio : intOnly i = true
    · exact .idxI x w i h1 h2 hio
    · rw [if_neg hio] at hpi
      exact .idxW x w i _ _ h1 h2 (ih hpi).1
  | @slc x w lo hi tlo thi t hlo hhi hr _ _ =>
    intro hc
    obtain ⟨hw2, hio⟩ := slcIssues_nil hc
    obtain ⟨n, _, _, rfl, -, -, hcase⟩ := slcRule_ok hr
    refine ⟨?_, nofun⟩
    rcases hcase with ⟨l, u, hvl, hvu, h0, hlu, huw, rfl⟩ | ⟨sz, hps, hge, rfl⟩
    · exact .slc x w lo hi l u hw2 (hlo.folded hio.1 l hvl)
        (hhi.folded hio.2 u hvu) h0 hlu huw
    · obtain ⟨nn, tN, rfl, hcN, hsz⟩ := plusSize_inv hhi.eq hps
      simp only [intOnly, Bool.and_eq_true] at hio
      exact .slcP x w lo nn sz hw2 hio.1 ((checkE_chk Γ nn tN hcN).folded hio.2.2 sz hsz) hge

theorem checkE_WT (Γ : Env) (e : Expr) (t : AT) (h : checkE Γ e = .ok t) (hc : issuesE Γ e = []) :
    WT Γ e t.ann.w (kindOf t.ann (hardE Γ e)) := ((checkE_chk Γ e t h).wt_aux hc).1

/-- well-typed statements: the right-hand side of an assignment is typed at the width of its target
    (a literal right-hand side re-sized to it), a temporary holds a `Bits` or a literal, loop bounds are
    non-negative constants; `envAfter` threads the temporaries the checker records -/
inductive WTS : Env → Stmt → Prop
  | skip (Γ : Env) : WTS Γ .skip
  | seq (Γ : Env) (a b : Stmt) : WTS Γ a → WTS (envAfter Γ a) b → WTS Γ (.seq a b)
  | asg (Γ : Env) (tgt e : Expr) (w : Nat) (k : Kind) :
      isTarget tgt = true → WT Γ tgt w .bits → WT Γ e w k → WTS Γ (.asg tgt e)
  | tasg (Γ : Env) (t : Nat) (e : Expr) (w : Nat) (k : Kind) : WT Γ e w k → k ≠ .soft → WTS Γ (.tasg t e)
  | ifsI (Γ : Env) (c : Expr) (b o : Stmt) :
      intOnly c = true → WTS Γ b → WTS (envAfter Γ b) o → WTS Γ (.ifs c b o)
  | ifsW (Γ : Env) (c : Expr) (b o : Stmt) (w : Nat) (k : Kind) :
      WT Γ c w k → WTS Γ b → WTS (envAfter Γ b) o → WTS Γ (.ifs c b o)
  | for_ (Γ : Env) (i : Nat) (a b c : Int) (body : Stmt) :
      0 ≤ a → 0 ≤ b → c ≠ 0 → WTS { Γ with lvs := (i, loopWidth a b c) :: Γ.lvs } body →
      WTS Γ (.for_ i a b c body)

end PV.TC
