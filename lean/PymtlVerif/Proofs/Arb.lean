import PymtlVerif.Model.Arb
import PymtlVerif.Proofs.Pack
/-!
Helper lemmas for C19 (round-robin arbiters).  The kill chain in closed form for any priority vector (`pass_iff`,
`grantsInt_iff`: a requesting position of the doubled vector is granted iff it is reached from a priority bit with no
request on the way), its translation to cyclic distances when the register holds a pointer (`grantBit_iff`: input `k`
is granted iff it is the `Winner`), bit-level facts about `pack`, and the arithmetic of the cyclic distance.
Core Lean only.
-/
namespace PV.Arb

/-- the priority register holds a one-hot pointer to input `p`: its value is 2^p with p < n -/
def Pointer (n s p : Nat) : Prop := p < n ∧ s = 2 ^ p

/-- the inputs enable the pointer update in this cycle (`en` for `RoundRobinArbiterEn`, every cycle for
    `RoundRobinArbiter`); the wire `priority_en` is this and a non-zero grant -/
def advances (hasEn : Bool) (inp : In) : Bool := !hasEn || inp.en

/-- input `k` requests and no requesting input is cyclically closer to the pointer `p` -/
def Winner (n reqs p k : Nat) : Prop :=
  bit reqs k = true ∧ ∀ j, j < n → bit reqs j = true → dist n p k ≤ dist n p j

theorem exists_min (P : Nat → Prop) (f : Nat → Nat) :
    ∀ b j, P j → f j ≤ b → ∃ k, P k ∧ ∀ j, P j → f k ≤ f j := by
  intro b
  induction b with
  | zero => exact fun j hj h0 => ⟨j, hj, fun _ _ => Nat.le_trans h0 (Nat.zero_le _)⟩
  | succ b ih =>
    intro j hj hb
    by_cases h : ∃ j', P j' ∧ f j' ≤ b
    · obtain ⟨j', h1, h2⟩ := h
      exact ih j' h1 h2
    · exact ⟨j, hj, fun j' hj' => Nat.le_trans hb (Nat.not_le.mp fun hle => h ⟨j', hj', hle⟩)⟩

section chain
variable {pI rI : Nat → Bool}

/-- `kills[i] | (~kills[i] & r)` is `kills[i] | r` -/
theorem kills_succ (pI rI : Nat → Bool) (i : Nat) :
    kills pI rI (i + 1) = if pI i then rI i else (kills pI rI i || rI i) := by
  simp only [kills]
  cases kills pI rI i <;> simp

theorem kills_succ_eq_false (i : Nat) :
    kills pI rI (i + 1) = false ↔ rI i = false ∧ (pI i = true ∨ kills pI rI i = false) := by
  rw [kills_succ]
  cases pI i <;> simp [and_comm]

theorem grantsInt_eq_true (i : Nat) :
    grantsInt pI rI i = true ↔ rI i = true ∧ (pI i = true ∨ kills pI rI i = false) := by
  unfold grantsInt
  cases pI i <;> simp [and_comm]

/-- position `i` is reached from `q`: no request at `q, …, i-1` -/
def Reach (rI : Nat → Bool) (q i : Nat) : Prop :=
  q ≤ i ∧ ∀ j, q ≤ j → j < i → rI j = false

/-- position `i` passes the grant on (a request there is granted, no request leaves `kills[i+1]` low) iff it is
    reached from a priority bit; any priority vector -/
theorem pass_iff (i : Nat) : (pI i = true ∨ kills pI rI i = false) ↔ ∃ q, pI q = true ∧ Reach rI q i := by
  induction i with
  | zero =>
    exact ⟨fun h => ⟨0, h.resolve_right Bool.noConfusion, Nat.le_refl 0, fun j _ h => absurd h (Nat.not_lt_zero j)⟩,
      fun ⟨q, hq, hle, _⟩ => .inl (Nat.le_zero.mp hle ▸ hq)⟩
  | succ i ih =>
    rw [kills_succ_eq_false, ih]
    constructor
    · rintro (h | ⟨hr, q, hq, hle, hall⟩)
      · exact ⟨i + 1, h, Nat.le_refl _, fun j h1 h2 => absurd h1 (Nat.not_le.mpr h2)⟩
      · exact ⟨q, hq, Nat.le_succ_of_le hle,
          fun j h1 h2 => (Nat.lt_succ_iff_lt_or_eq.mp h2).elim (hall j h1) (· ▸ hr)⟩
    · rintro ⟨q, hq, hle, hall⟩
      rcases Nat.lt_or_eq_of_le hle with h | h
      · exact .inr ⟨hall i (Nat.le_of_lt_succ h) (Nat.lt_succ_self i), q, hq, Nat.le_of_lt_succ h,
          fun j h1 h2 => hall j h1 (Nat.lt_succ_of_lt h2)⟩
      · exact .inl (h ▸ hq)

theorem grantsInt_iff (i : Nat) : grantsInt pI rI i = true ↔ rI i = true ∧ ∃ q, pI q = true ∧ Reach rI q i :=
  (grantsInt_eq_true i).trans (and_congr_right' (pass_iff i))

end chain

theorem kills_congr {pI rI pI' rI' : Nat → Bool} (m : Nat)
    (h : ∀ i, i < m → pI i = pI' i ∧ rI i = rI' i) : ∀ j, j ≤ m → kills pI rI j = kills pI' rI' j := by
  intro j
  induction j with
  | zero => intro _; rfl
  | succ j ih =>
    intro hj
    have := h j hj
    simp only [kills, this.1, this.2, ih (Nat.le_of_succ_le hj)]

theorem bit_two_pow (p i : Nat) : bit (2 ^ p) i = decide (i = p) :=
  Nat.testBit_two_pow.trans (decide_eq_decide.mpr eq_comm)

theorem bit_zero (i : Nat) : bit 0 i = false := Nat.zero_testBit i

theorem prioInt_iff {n p : Nat} (hp : p < n) (i : Nat) : prioInt n (2 ^ p) i = true ↔ i = p := by
  unfold prioInt
  split
  · rw [bit_two_pow, decide_eq_true_iff]
  · next h => exact ⟨Bool.noConfusion, fun e => absurd (e ▸ hp) h⟩

theorem reqsInt_mod {n i : Nat} (reqs : Nat) (hi : i < 2 * n) : reqsInt n reqs i = bit reqs (i % n) := by
  unfold reqsInt
  rcases Pack.mod_cases hi with ⟨h, e⟩ | ⟨h, e⟩
  · rw [if_pos h, e]
  · rw [if_neg (Nat.not_lt.mpr h), if_pos hi, ← Nat.sub_eq_of_eq_add e.symm]

theorem pack_succ (n : Nat) (f : Nat → Bool) : pack (n + 1) f = 2 ^ n * (f n).toNat + pack n f := by
  simp only [pack]
  cases f n <;> simp [Nat.add_comm]

theorem pack_lt (n : Nat) (f : Nat → Bool) : pack n f < 2 ^ n := by
  induction n with
  | zero => exact Nat.one_pos
  | succ n ih =>
    rw [pack_succ, Nat.pow_succ, Nat.add_comm]
    exact Pack.cat_lt ih (Bool.toNat_lt _)

theorem bit_pack (n : Nat) (f : Nat → Bool) (i : Nat) : bit (pack n f) i = (decide (i < n) && f i) := by
  unfold bit
  induction n with
  | zero => exact Nat.zero_testBit i
  | succ n ih =>
    rw [pack_succ, Nat.testBit_two_pow_mul_add _ (pack_lt n f), ih, Nat.testBit_bool_toNat]
    rcases Nat.lt_trichotomy i n with h | h | h
    · rw [if_pos h, decide_eq_true h, decide_eq_true (Nat.lt_succ_of_lt h)]
    · subst h
      simp
    · rw [if_neg (by omega), decide_eq_false (by omega : ¬ i - n = 0), decide_eq_false (by omega : ¬ i < n + 1)]
      rfl

theorem bit_ext {a b : Nat} (h : ∀ i, bit a i = bit b i) : a = b := Nat.eq_of_testBit_eq h

theorem pack_congr (n : Nat) (f g : Nat → Bool) (h : ∀ k, k < n → f k = g k) : pack n f = pack n g := by
  apply bit_ext
  intro i
  rw [bit_pack, bit_pack]
  by_cases hi : i < n
  · rw [h i hi]
  · rw [decide_eq_false hi]; rfl

theorem pack_eq_zero (n : Nat) (f : Nat → Bool) (h : ∀ i, i < n → f i = false) : pack n f = 0 := by
  apply bit_ext
  intro i
  rw [bit_pack]
  by_cases hi : i < n
  · simp [hi, h i hi, bit]
  · simp [hi, bit]

theorem pack_eq_two_pow (n : Nat) (f : Nat → Bool) (k : Nat) (hk : k < n)
    (h : ∀ i, i < n → f i = decide (i = k)) : pack n f = 2 ^ k := by
  apply bit_ext
  intro i
  rw [bit_pack, bit_two_pow]
  by_cases hi : i < n
  · simp [hi, h i hi]
  · have : i ≠ k := by omega
    simp [hi, this]

theorem ne_zero_iff_bit (v : Nat) : v ≠ 0 ↔ ∃ i, bit v i = true := by
  constructor
  · intro h; exact Nat.exists_testBit_of_ne_zero h
  · rintro ⟨i, hi⟩ h0; subst h0; simp [bit] at hi

theorem regIn_two_pow (n k : Nat) (hk : k < n) : regIn n (2 ^ k) = 2 ^ ((k + 1) % n) := by
  have := Pack.mod_cases (x := k + 1) (n := n) (by omega)
  apply pack_eq_two_pow n _ _ (Nat.mod_lt _ (Nat.zero_lt_of_lt hk))
  intro i hi
  cases i with
  | zero => rw [if_pos rfl, bit_two_pow]; exact decide_eq_decide.mpr (by omega)
  | succ j =>
    rw [if_neg (Nat.succ_ne_zero j), Nat.add_sub_cancel, bit_two_pow]
    exact decide_eq_decide.mpr (by omega)

/-! ## cyclic distance

`k ↦ dist n p k` and `d ↦ (p + d) % n` are inverse to each other between inputs and distances below `n`
(`pos_mod`, `dist_add_mod`); the facts about distances are read off positions `p + d` on the circle. -/

theorem dist_lt (n p k : Nat) (hn : 0 < n) : dist n p k < n := Nat.mod_lt _ hn

theorem pos_mod {n : Nat} (p k : Nat) (hp : p < n) (hk : k < n) : (p + dist n p k) % n = k := by
  unfold dist
  rw [Nat.add_mod_mod, Nat.add_sub_cancel' (Nat.le_trans (Nat.le_of_lt hp) (Nat.le_add_left n k)),
    Nat.add_mod_right, Nat.mod_eq_of_lt hk]

theorem dist_add_mod {n p d : Nat} (hp : p < n) (hd : d < n) : dist n p ((p + d) % n) = d := by
  unfold dist
  rw [Nat.add_sub_assoc (Nat.le_of_lt hp), Nat.mod_add_mod, Nat.add_comm p d, Nat.add_assoc,
    Nat.add_sub_cancel' (Nat.le_of_lt hp), Nat.add_mod_right, Nat.mod_eq_of_lt hd]

theorem idx_eq {n p i : Nat} (hp : p < n) (h1 : p ≤ i) (h2 : i < p + n) : dist n p (i % n) = i - p := by
  have := dist_add_mod hp (Nat.sub_lt_left_of_lt_add h1 h2)
  rwa [Nat.add_sub_cancel' h1] at this

theorem dist_self {n : Nat} (p : Nat) (hp : p < n) : dist n p p = 0 := by
  have := dist_add_mod hp (Nat.zero_lt_of_lt hp)
  rwa [Nat.add_zero, Nat.mod_eq_of_lt hp] at this

theorem dist_inj {n : Nat} (p k i : Nat) (hp : p < n) (hk : k < n) (hi : i < n)
    (h : dist n p k = dist n p i) : k = i := by
  rw [← pos_mod p k hp hk, h, pos_mod p i hp hi]

theorem dist_mod_mod {n p a b : Nat} (hab : a ≤ b) (hb : b - a < n) : dist n ((p + a) % n) ((p + b) % n) = b - a := by
  have : (p + b) % n = ((p + a) % n + (b - a)) % n := by
    rw [Nat.mod_add_mod, Nat.add_assoc, Nat.add_sub_cancel' hab]
  rw [this, dist_add_mod (Nat.mod_lt _ (Nat.zero_lt_of_lt hb)) hb]

/-- after granting k the pointer moves to (k+1) % n; the distance to a still-waiting input i that is not
    closer than k strictly decreases -/
theorem dist_decreases {n : Nat} (p k i : Nat) (hp : p < n) (hk : k < n) (hi : i < n)
    (hki : k ≠ i) (hle : dist n p k ≤ dist n p i) :
    dist n ((k + 1) % n) i < dist n p i := by
  have hlt := Nat.lt_of_le_of_ne hle fun h => hki (dist_inj p k i hp hk hi h)
  have := dist_mod_mod (p := p) (a := dist n p k + 1) hlt
    (Nat.lt_of_le_of_lt (Nat.sub_le _ _) (dist_lt n p i (Nat.zero_lt_of_lt hp)))
  rw [← Nat.add_assoc, ← Nat.mod_add_mod, pos_mod p k hp hk, pos_mod p i hp hi] at this
  exact this ▸ Nat.sub_lt (Nat.zero_lt_of_lt hlt) (Nat.succ_pos _)

section grantbit
variable {n p : Nat} {reqs : Nat}

theorem Winner.unique {k k' : Nat} (hp : p < n) (hk : k < n) (hk' : k' < n)
    (h : Winner n reqs p k) (h' : Winner n reqs p k') : k = k' :=
  dist_inj p k k' hp hk hk' (Nat.le_antisymm (h.2 k' hk' h'.1) (h'.2 k hk h.1))

theorem exists_winner (p : Nat) {j : Nat} (hj : j < n) (hr : bit reqs j = true) :
    ∃ k, k < n ∧ Winner n reqs p k :=
  have ⟨k, hk, hmin⟩ := exists_min (fun j => j < n ∧ bit reqs j = true) (dist n p) _ j ⟨hj, hr⟩ (Nat.le_refl _)
  ⟨k, hk.1, hk.2, fun j h1 h2 => hmin j ⟨h1, h2⟩⟩

/-- position `i` of the doubled vector stands for input `i % n`; the positions `p, …, p+n-1` list the inputs
    by increasing distance from the pointer, so the first requesting position is the winner's -/
theorem first_iff_winner (hp : p < n) {i : Nat} (hi : i < 2 * n) :
    reqsInt n reqs i = true ∧ Reach (reqsInt n reqs) p i ↔ p ≤ i ∧ i < p + n ∧ Winner n reqs p (i % n) := by
  have hn : 0 < n := Nat.zero_lt_of_lt hp
  constructor
  · rintro ⟨hr, h1, hq⟩
    have h2 : i < p + n := Nat.lt_of_not_le fun h => by
      -- position i - n stands for the same input and comes earlier
      have hni : n ≤ i := Nat.le_trans (Nat.le_add_left n p) h
      have := hq (i - n) (Nat.le_sub_of_add_le h) (Nat.sub_lt (Nat.lt_of_lt_of_le hn hni) hn)
      rw [reqsInt_mod reqs (Nat.lt_of_le_of_lt (Nat.sub_le i n) hi), ← Nat.mod_eq_sub_mod hni,
        ← reqsInt_mod reqs hi, hr] at this
      cases this
    refine ⟨h1, h2, reqsInt_mod reqs hi ▸ hr, fun j hj hrj => ?_⟩
    have hd := dist_lt n p j hn
    have hx : ¬ p + dist n p j < i := fun hlt => by
      have := hq (p + dist n p j) (Nat.le_add_right ..) hlt
      rw [reqsInt_mod reqs (Nat.two_mul n ▸ Nat.add_lt_add hp hd), pos_mod p j hp hj, hrj] at this
      cases this
    rw [idx_eq hp h1 h2]
    exact Nat.sub_le_of_le_add (Nat.add_comm p _ ▸ Nat.not_lt.mp hx)
  · rintro ⟨h1, h2, hr, hmin⟩
    refine ⟨reqsInt_mod reqs hi ▸ hr, h1, fun j hj1 hj2 => Bool.eq_false_iff.mpr fun hrj => ?_⟩
    rw [reqsInt_mod reqs (Nat.lt_trans hj2 hi)] at hrj
    have := hmin (j % n) (Nat.mod_lt j hn) hrj
    rw [idx_eq hp h1 h2, idx_eq hp hj1 (Nat.lt_trans hj2 h2)] at this
    omega

theorem grantBit_iff {s : Nat} (hs : Pointer n s p) {k : Nat} (hk : k < n) :
    grantBit n reqs s k = true ↔ Winner n reqs p k := by
  obtain ⟨hp, rfl⟩ := hs
  unfold grantBit
  simp only [Bool.or_eq_true, grantsInt_iff, prioInt_iff hp, exists_eq_left]
  rw [first_iff_winner hp (Nat.lt_of_lt_of_le hk (Nat.le_mul_of_pos_left n Nat.two_pos)),
    first_iff_winner hp (Nat.two_mul n ▸ Nat.add_lt_add_left hk n), Nat.add_mod_left, Nat.mod_eq_of_lt hk]
  constructor
  · rintro (h | h) <;> exact h.2.2
  · intro h
    by_cases hpk : p ≤ k
    · exact .inl ⟨hpk, Nat.lt_add_left p hk, h⟩
    · exact .inr ⟨Nat.le_trans (Nat.le_of_lt hp) (Nat.le_add_right n k),
        Nat.add_comm n k ▸ Nat.add_lt_add_right (Nat.lt_of_not_le hpk) n, h⟩

end grantbit

theorem grants_cases {n s p : Nat} (reqs : Nat) (hs : Pointer n s p) :
    (grants n reqs s = 0 ∧ ∀ k, k < n → bit reqs k = false) ∨
    (∃ k, k < n ∧ grants n reqs s = 2 ^ k ∧ Winner n reqs p k) := by
  by_cases hex : ∃ k, k < n ∧ bit reqs k = true
  · obtain ⟨j, hj, hr⟩ := hex
    obtain ⟨k, hk, hw⟩ := exists_winner p hj hr
    refine .inr ⟨k, hk, pack_eq_two_pow n _ k hk fun i hi => ?_, hw⟩
    rw [Bool.eq_iff_iff, grantBit_iff hs hi, decide_eq_true_iff]
    exact ⟨fun h => h.unique hs.1 hi hk hw, fun h => h ▸ hw⟩
  · have hall : ∀ k, k < n → bit reqs k = false :=
      fun k hk => Bool.eq_false_iff.mpr fun h => hex ⟨k, hk, h⟩
    exact .inl ⟨pack_eq_zero n _ fun i hi => Bool.eq_false_iff.mpr fun h =>
      Bool.eq_false_iff.mp (hall i hi) ((grantBit_iff hs hi).mp h).1, hall⟩

theorem bit_grants (n reqs prio k : Nat) :
    bit (grants n reqs prio) k = (decide (k < n) && grantBit n reqs prio k) := bit_pack _ _ _

theorem priorityEn_zero (hasEn e : Bool) : priorityEn hasEn 0 e = false := by
  cases hasEn <;> rfl

theorem priorityEn_of_ne_zero {g : Nat} (hg : g ≠ 0) (hasEn e : Bool) : priorityEn hasEn g e = (!hasEn || e) := by
  unfold priorityEn
  rw [bne_iff_ne.mpr hg]
  cases hasEn <;> rfl

theorem cycle_cases (hasEn : Bool) {n s p : Nat} (inp : In) (hs : Pointer n s p) :
    ((∀ k, k < n → bit inp.reqs k = false) ∧
      cycle hasEn n s inp = ⟨s, 0, false, if inp.reset then 1 else s⟩) ∨
    (∃ k, k < n ∧ Winner n inp.reqs p k ∧
      cycle hasEn n s inp = ⟨s, 2 ^ k, advances hasEn inp,
        if inp.reset then 1 else if advances hasEn inp then 2 ^ ((k + 1) % n) else s⟩) := by
  rcases grants_cases inp.reqs hs with ⟨hz, hall⟩ | ⟨k, hk, hg, hw⟩
  · left
    refine ⟨hall, ?_⟩
    simp only [cycle]
    rw [hz, priorityEn_zero]
    rfl
  · right
    refine ⟨k, hk, hw, ?_⟩
    simp only [cycle]
    rw [hg, priorityEn_of_ne_zero (NeZero.ne (2 ^ k)), regIn_two_pow n k hk]
    rfl

theorem enCount_cons_true {c : Cycle} (h : c.prioEn = true) (cs : List Cycle) :
    enCount (c :: cs) = enCount cs + 1 :=
  congrArg List.length (List.filter_cons_of_pos h)

theorem enCount_cons_false {c : Cycle} (h : c.prioEn = false) (cs : List Cycle) :
    enCount (c :: cs) = enCount cs :=
  congrArg List.length (List.filter_cons_of_neg (Bool.eq_false_iff.mp h))

theorem length_trace (hasEn : Bool) (n : Nat) (h : List In) : ∀ s, (trace hasEn n s h).length = h.length := by
  induction h with
  | nil => intro s; rfl
  | cons x h ih => intro s; rw [trace, List.length_cons, ih, List.length_cons]

theorem run_append (hasEn : Bool) (n : Nat) (a b : List In) :
    ∀ s, run hasEn n s (a ++ b) = run hasEn n (run hasEn n s a) b := by
  induction a with
  | nil => intro s; rfl
  | cons x a ih => intro s; simp [run, ih]

theorem reachable_run {hasEn : Bool} {n : Nat} (h : List In) :
    ∀ {s}, Reachable hasEn n s → Reachable hasEn n (run hasEn n s h) := by
  induction h with
  | nil => exact id
  | cons x h ih => exact fun hs => ih (hs.step x)

end PV.Arb
