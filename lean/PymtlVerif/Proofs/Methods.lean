import PymtlVerif.Model.Methods
import PymtlVerif.Proofs.Loop
import PymtlVerif.Proofs.ListFacts
/-!
The generic work-list closure computes exactly the reachable set once the fuel covers a finite universe that is closed under
`next` (so the fuel of the model is never the reason to stop), and the membership characterisations of the model's small list
functions.
-/
namespace PV.Methods

/-- `b` is reached from `a` by the work-list search with successor function `next`: the reflexive-transitive closure
    of "t ∈ next s" (instantiated with `eqAdj` for the flood fill and with `nexts` for the per-method search) -/
inductive Reach {α : Type} (next : α → List α) : α → α → Prop
  | refl (a : α) : Reach next a a
  | tail {a b c : α} : Reach next a b → c ∈ next b → Reach next a c

theorem Reach.trans {α : Type} {next : α → List α} {a b c : α} (h1 : Reach next a b) (h2 : Reach next b c) :
    Reach next a c := by
  induction h2 with
  | refl => exact h1
  | tail _ hc ih => exact Reach.tail ih hc

theorem Reach.head {α : Type} {next : α → List α} {a b c : α} (h1 : b ∈ next a) (h2 : Reach next b c) :
    Reach next a c := Reach.trans (Reach.tail (Reach.refl a) h1) h2

section closure
variable {α : Type} [DecidableEq α]
open PV.Loop

/-- the invariant of the work-list loop in field form (`U` a finite universe, `done` the examined elements); the proofs below
    keep `Loop.Front` and the three facts about `done` and `Reach` separately -/
structure Inv (next : α → List α) (start : α) (U work vis done : List α) : Prop where
  visU : ∀ s ∈ vis, s ∈ U
  nodup : vis.Nodup
  cover : ∀ s ∈ vis, s ∈ work ∨ s ∈ done
  workVis : ∀ s ∈ work, s ∈ vis
  doneVis : ∀ s ∈ done, s ∈ vis
  closed : ∀ s ∈ done, ∀ t ∈ next s, t ∈ vis
  reach : ∀ s ∈ vis, Reach next start s
  start : start ∈ vis

/-- `for t in ts: if t not in visited: …` pushes and marks `Loop.fresh ts vis` -/
theorem pushAll_eq (fifo : Bool) (ts work vis : List α) : pushAll fifo ts work vis =
    (if fifo then work ++ fresh ts vis else (fresh ts vis).reverse ++ work, (fresh ts vis).reverse ++ vis) := by
  fun_induction pushAll fifo ts work vis with
  | case1 => simp [fresh]
  | case2 _ _ _ _ ht ih => rw [fresh, if_pos ht, ih]
  | case3 _ _ _ _ ht ih =>
    rw [ih, fresh, if_neg ht]
    cases fifo <;> simp

/-- the loop is a `Loop.Front` search whose visited elements are the waiting and the examined ones, all reachable -/
theorem closure_spec_aux (next : α → List α) (fifo : Bool) (start : α) (U : List α)
    (hU : ∀ s ∈ U, ∀ t ∈ next s, t ∈ U) : ∀ (fuel : Nat) (work vis done : List α), Front next U work vis →
      (∀ s, s ∈ vis ↔ s ∈ work ∨ s ∈ done) → (∀ s ∈ vis, Reach next start s) → start ∈ vis →
      unseen U vis + work.length ≤ fuel → ∀ s, s ∈ closure next fifo fuel work vis done ↔ Reach next start s := by
  -- when nothing waits, `done` is the visited list, which is closed under `next`
  have final : ∀ (vis done : List α), Front next U [] vis → (∀ s, s ∈ vis ↔ s ∈ [] ∨ s ∈ done) →
      (∀ s ∈ vis, Reach next start s) → start ∈ vis → ∀ s, s ∈ done ↔ Reach next start s := by
    intro vis done hF hc hr hs s
    rw [← (hc s).trans (or_iff_right List.not_mem_nil)]
    refine ⟨hr s, fun h => ?_⟩
    induction h with
    | refl => exact hs
    | tail _ hc ih => exact hF.done _ ih _ hc
  intro fuel
  induction fuel with
  | zero =>
    intro work vis done hF hc hr hs hm
    obtain rfl : work = [] := List.eq_nil_of_length_eq_zero (Nat.eq_zero_of_add_eq_zero_left (Nat.le_zero.mp hm))
    exact final vis done hF hc hr hs
  | succ f ih =>
    rintro (_ | ⟨x, rest⟩) vis done hF hc hr hs hm
    · exact final vis done hF hc hr hs
    · have hnd := fresh_nodup (next x) vis
      have hnew := fun t => mem_fresh (x := t) (ts := next x) (vis := vis)
      rw [closure, pushAll_eq]
      generalize fresh (next x) vis = new at hnd hnew ⊢
      have hw : ∀ t, t ∈ (if fifo then rest ++ new else new.reverse ++ rest) ↔ t ∈ new ∨ t ∈ rest := fun t => by
        cases fifo <;> simp [or_comm]
      have hv : ∀ t, t ∈ new.reverse ++ vis ↔ t ∈ new ∨ t ∈ vis := fun t => by simp
      obtain ⟨hF', hlt⟩ := hF.pop hU hnd hnew hw hv (by cases fifo <;> simp [Nat.add_comm])
      refine ih _ _ _ hF' (fun t => ?_) (fun t ht => ?_) ((hv _).mpr (.inr hs)) (Nat.le_of_lt_succ (Nat.lt_of_lt_of_le hlt hm))
      · rw [hv, hw, hc, List.mem_cons, List.mem_cons, or_assoc, or_assoc, or_left_comm (a := t = x)]
      · exact ((hv t).mp ht).elim (fun h => (hr x (hF.workVis x List.mem_cons_self)).tail ((hnew t).mp h).1) (hr t)

theorem closure_spec (next : α → List α) (fifo : Bool) (start : α) (U : List α) (fuel : Nat)
    (hs : start ∈ U) (hU : ∀ s ∈ U, ∀ t ∈ next s, t ∈ U) (hf : U.length ≤ fuel) (s : α) :
    s ∈ closure next fifo fuel [start] [start] [] ↔ Reach next start s :=
  closure_spec_aux next fifo start U hU fuel [start] [start] [] (Front.init hs) (fun _ => (or_iff_left List.not_mem_nil).symm)
    (fun _ h => List.mem_singleton.mp h ▸ Reach.refl _) List.mem_cons_self (Nat.le_trans (unseen_singleton_lt U start hs) hf) s

end closure

namespace Input
variable (I : Input)

/-- the declared strict constraint `x < y` (M(x) < M(y), U(x) < M(y), M(x) < U(y)) -/
def Lt (x y : Nat) : Prop := (x, y, false) ∈ I.mcons
/-- one declared `M(x) == M(y)`, read in either direction -/
def Eqv (x y : Nat) : Prop := (x, y, true) ∈ I.mcons ∨ (y, x, true) ∈ I.mcons
/-- block `b` calls (actual) method `m` -/
def Calls (b m : Nat) : Prop := (b, m) ∈ I.calls

theorem mem_pred {u v : Nat} : v ∈ I.pred u ↔ I.Lt v u := by
  unfold pred Lt
  simp only [List.mem_map, List.mem_filter, Bool.and_eq_true, Bool.not_eq_true', beq_iff_eq]
  constructor
  · rintro ⟨⟨a, b, e⟩, ⟨hm, he, hb⟩, rfl⟩; simp only at he hb; subst he hb; exact hm
  · intro h; exact ⟨(v, u, false), ⟨h, rfl, rfl⟩, rfl⟩

theorem mem_succ {u v : Nat} : v ∈ I.succ u ↔ I.Lt u v := by
  unfold succ Lt
  simp only [List.mem_map, List.mem_filter, Bool.and_eq_true, Bool.not_eq_true', beq_iff_eq]
  constructor
  · rintro ⟨⟨a, b, e⟩, ⟨hm, he, hb⟩, rfl⟩; simp only at he hb; subst he hb; exact hm
  · intro h; exact ⟨(u, v, false), ⟨h, rfl, rfl⟩, rfl⟩

theorem mem_eqAdj {u v : Nat} : v ∈ I.eqAdj u ↔ I.Eqv u v := by
  simp only [eqAdj, Eqv, List.mem_flatMap, List.mem_ite_nil_right, List.mem_append, List.mem_singleton]
  constructor
  · rintro ⟨⟨a, b, e⟩, hm, rfl, ⟨rfl, rfl⟩ | ⟨rfl, rfl⟩⟩
    · exact Or.inl hm
    · exact Or.inr hm
  · rintro (h | h)
    · exact ⟨_, h, rfl, Or.inl ⟨rfl, rfl⟩⟩
    · exact ⟨_, h, rfl, Or.inr ⟨rfl, rfl⟩⟩

theorem mem_callers {b m : Nat} : b ∈ I.callers m ↔ I.Calls b m := by
  unfold callers Calls
  simp only [List.mem_map, List.mem_filter, beq_iff_eq]
  constructor
  · rintro ⟨⟨a, c⟩, ⟨hm, hc⟩, rfl⟩; simp only at hc; subst hc; exact hm
  · intro h; exact ⟨(b, m), ⟨h, rfl⟩, rfl⟩

theorem hasCallers_iff {m : Nat} : I.hasCallers m = true ↔ ∃ b, I.Calls b m := by
  unfold hasCallers Calls
  simp only [List.any_eq_true, beq_iff_eq]
  constructor
  · rintro ⟨⟨a, c⟩, hm, hc⟩; simp only at hc; subst hc; exact ⟨a, hm⟩
  · rintro ⟨b, h⟩; exact ⟨(b, m), h, rfl⟩

theorem mem_methodKeys {m : Nat} : m ∈ I.methodKeys ↔ ∃ b, I.Calls b m := by
  unfold methodKeys Calls
  simp only [List.mem_eraseDups, List.mem_map]
  constructor
  · rintro ⟨⟨a, c⟩, hm, rfl⟩; exact ⟨a, hm⟩
  · rintro ⟨b, h⟩; exact ⟨(b, m), h, rfl⟩

theorem inEquiv_iff {u : Nat} : I.inEquiv u = true ↔ ∃ v, I.Eqv u v := by
  unfold inEquiv Eqv
  simp only [List.any_eq_true, Bool.and_eq_true, Bool.or_eq_true, beq_iff_eq]
  constructor
  · rintro ⟨⟨a, b, e⟩, hm, he, h⟩
    simp only at he h; subst he
    rcases h with h | h
    · subst h; exact ⟨b, Or.inl hm⟩
    · subst h; exact ⟨a, Or.inr hm⟩
  · rintro ⟨v, h | h⟩
    · exact ⟨(u, v, true), h, rfl, Or.inl rfl⟩
    · exact ⟨(v, u, true), h, rfl, Or.inr rfl⟩

theorem calls_mem_nodes {b m : Nat} (h : I.Calls b m) : m ∈ I.nodes := by
  unfold nodes; exact List.mem_append_left _ (List.mem_map.mpr ⟨(b, m), h, rfl⟩)

theorem mcons_mem_nodes {x y : Nat} {e : Bool} (h : (x, y, e) ∈ I.mcons) : x ∈ I.nodes ∧ y ∈ I.nodes := by
  unfold nodes
  constructor <;> exact List.mem_append_right _ (List.mem_flatMap.mpr ⟨(x, y, e), h, by simp⟩)

theorem eqv_mem_nodes {x y : Nat} (h : I.Eqv x y) : x ∈ I.nodes ∧ y ∈ I.nodes := by
  rcases h with h | h
  · exact I.mcons_mem_nodes h
  · exact (I.mcons_mem_nodes h).symm

end Input

/-- `Rel I strict a b`: a chain of declared constraints from `a` to `b`, every step either a declared `==` (in either
    direction) or a declared `<` taken forwards; `strict` says whether the chain contains a `<` step -/
inductive Rel (I : Input) : Bool → Nat → Nat → Prop
  | refl (a : Nat) : Rel I false a a
  | eqv {s : Bool} {a b c : Nat} : Rel I s a b → I.Eqv b c → Rel I s a c
  | lt {s : Bool} {a b c : Nat} : Rel I s a b → I.Lt b c → Rel I true a c

theorem Input.Eqv.symm {I : Input} {a b : Nat} (h : I.Eqv a b) : I.Eqv b a := Or.symm h

namespace Rel
variable {I : Input}

theorem trans {s t : Bool} {a b c : Nat} (h1 : Rel I s a b) (h2 : Rel I t b c) : Rel I (s || t) a c := by
  induction h2 with
  | refl => simpa using h1
  | eqv _ e ih => exact (ih h1).eqv e
  | lt _ l ih => simpa using (ih h1).lt l

theorem eqv_induction {a b : Nat} {P : Nat → Prop} (h : Rel I false a b) (h0 : P a)
    (hstep : ∀ {b c}, P b → I.Eqv b c → P c) : P b := by
  generalize hs : false = s at h
  induction h with
  | refl => exact h0
  | eqv _ e ih => exact hstep (ih h0 hs) e
  | lt _ _ _ => cases hs

theorem symm {a b : Nat} (h : Rel I false a b) : Rel I false b a :=
  h.eqv_induction (P := fun b => Rel I false b a) (Rel.refl a) fun ih e => ((Rel.refl _).eqv e.symm).trans ih

theorem iff_reach {a b : Nat} : Rel I false a b ↔ Reach I.eqAdj a b := by
  refine ⟨fun h => h.eqv_induction (Reach.refl a) fun ih e => Reach.tail ih (I.mem_eqAdj.mpr e), fun h => ?_⟩
  induction h with
  | refl => exact Rel.refl _
  | tail _ hc ih => exact ih.eqv (I.mem_eqAdj.mp hc)

end Rel

namespace Input
variable (I : Input)

/-- `equiv[u]` after the flood fill = everything connected to `u` by declared `==` constraints -/
theorem mem_cls {u v : Nat} : v ∈ I.cls u ↔ Rel I false u v := by
  unfold cls
  -- universe `u :: I.nodes` (every `==` neighbour is a node, `u` itself need not be one): its length is the fuel of `cls`
  refine (closure_spec I.eqAdj true u (u :: I.nodes) _ (by simp) ?_ (by simp) v).trans Rel.iff_reach.symm
  intro s _ t ht
  exact List.mem_cons_of_mem _ (I.eqv_mem_nodes (I.mem_eqAdj.mp ht)).2

theorem mem_eqClass {u v : Nat} : v ∈ I.eqClass u ↔ Rel I false u v := by
  unfold eqClass
  by_cases h : I.inEquiv u = true
  · simp only [h, if_true]; exact I.mem_cls
  · simp only [h, Bool.false_eq_true, if_false, List.mem_singleton]
    -- `u` occurs in no `==` constraint, so no `==` step leaves it
    exact ⟨fun e => e ▸ Rel.refl _, fun hr =>
      hr.eqv_induction (P := (· = u)) rfl fun ih e => absurd (I.inEquiv_iff.mpr ⟨_, ih ▸ e⟩) h⟩

theorem mem_nexts {s t : State} :
    t ∈ I.nexts s ↔
      (t.2 = s.2 ∧ (∃ x, I.Eqv s.1 x) ∧ Rel I false s.1 t.1) ∨
      (s.2 ≤ 0 ∧ t.2 = -1 ∧ I.Lt t.1 s.1 ∧ t.1 ∉ I.blocks) ∨
      (s.2 ≥ 0 ∧ t.2 = 1 ∧ I.Lt s.1 t.1 ∧ t.1 ∉ I.blocks) := by
  obtain ⟨v, w'⟩ := t
  simp only [nexts, List.mem_append, List.mem_ite_nil_right, List.mem_map, List.mem_filter, decide_eq_true_eq,
    Prod.mk.injEq, I.inEquiv_iff, I.mem_cls, I.mem_pred, I.mem_succ, or_assoc]
  refine or_congr ⟨fun ⟨he, a, hr, hav, hw⟩ => ⟨hw.symm, he, hav ▸ hr⟩, fun ⟨hw, he, hr⟩ => ⟨he, v, hr, rfl, hw.symm⟩⟩
    (or_congr (and_congr_right fun _ => ?_) (and_congr_right fun _ => ?_))
  -- the `pred` and the `succ` side have the same shape
  all_goals exact ⟨fun ⟨a, hl, hav, hw⟩ => hav ▸ ⟨hw.symm, hl⟩, fun ⟨hw, hl⟩ => ⟨v, hl, rfl, hw.symm⟩⟩

/-- the finite universe `({m} ∪ nodes) × {-1, 0, 1}` handed to `closure_spec` for the search that starts at `m`;
    its length is the fuel `3 * (nodes.length + 1)` of `Input.search` -/
def stateSpace (m : Nat) : List State :=
  (m :: I.nodes).map (fun n => (n, (-1 : Int))) ++ (m :: I.nodes).map (fun n => (n, (0 : Int))) ++
  (m :: I.nodes).map (fun n => (n, (1 : Int)))

theorem mem_stateSpace {m : Nat} {s : State} :
    s ∈ I.stateSpace m ↔ (s.1 = m ∨ s.1 ∈ I.nodes) ∧ (s.2 = -1 ∨ s.2 = 0 ∨ s.2 = 1) := by
  obtain ⟨u, w⟩ := s
  unfold stateSpace
  simp only [List.mem_append, List.mem_map, List.mem_cons, Prod.mk.injEq]
  constructor
  · rintro ((⟨n, hn, rfl, rfl⟩ | ⟨n, hn, rfl, rfl⟩) | ⟨n, hn, rfl, rfl⟩)
    · exact ⟨hn, Or.inl rfl⟩
    · exact ⟨hn, Or.inr (Or.inl rfl)⟩
    · exact ⟨hn, Or.inr (Or.inr rfl)⟩
  · rintro ⟨hn, rfl | rfl | rfl⟩
    · exact Or.inl (Or.inl ⟨u, hn, rfl, rfl⟩)
    · exact Or.inl (Or.inr ⟨u, hn, rfl, rfl⟩)
    · exact Or.inr ⟨u, hn, rfl, rfl⟩

theorem rel_mem_nodes {u v : Nat} (h : Rel I false u v) : v = u ∨ v ∈ I.nodes := by
  cases h with
  | refl => exact Or.inl rfl
  | eqv _ e => exact Or.inr (I.eqv_mem_nodes e).2

theorem mem_search {m : Nat} {s : State} : s ∈ I.search m ↔ Reach I.nexts (m, 0) s := by
  unfold search
  refine closure_spec I.nexts false (m, 0) (I.stateSpace m) _ ?_ ?_ ?_ s
  · exact I.mem_stateSpace.mpr ⟨Or.inl rfl, Or.inr (Or.inl rfl)⟩
  · intro a ha t ht
    obtain ⟨hn, hw⟩ := I.mem_stateSpace.mp ha
    rw [I.mem_stateSpace]
    rcases I.mem_nexts.mp ht with ⟨h1, _, h3⟩ | ⟨_, h2, h3, _⟩ | ⟨_, h2, h3, _⟩
    · refine ⟨?_, h1 ▸ hw⟩
      rcases I.rel_mem_nodes h3 with h | h
      · rw [h]; exact hn
      · exact Or.inr h
    · exact ⟨Or.inr (I.mcons_mem_nodes h3).1, Or.inl h2⟩
    · exact ⟨Or.inr (I.mcons_mem_nodes h3).2, Or.inr (Or.inr h2)⟩
  · unfold stateSpace; simp only [List.length_append, List.length_map, List.length_cons]; omega

theorem mem_process {e : Nat × Nat} :
    e ∈ I.process ↔ ∃ m, (∃ b, I.Calls b m) ∧ ∃ s, Reach I.nexts (m, 0) s ∧ e ∈ I.emit m s := by
  unfold process
  simp only [List.mem_flatMap, I.mem_methodKeys, I.mem_search]

end Input

/-- walk of the search from the called method `m` along `succ` (target of a `<` step is not a block) -/
inductive Fwd (I : Input) : Nat → Nat → Prop
  | refl (m : Nat) : Fwd I m m
  | eqv {m u v : Nat} : Fwd I m u → I.Eqv u v → Fwd I m v
  | lt {m u v : Nat} : Fwd I m u → I.Lt u v → v ∉ I.blocks → Fwd I m v

/-- walk of the search from the called method `m` along `pred` -/
inductive Bwd (I : Input) : Nat → Nat → Prop
  | refl (m : Nat) : Bwd I m m
  | eqv {m u v : Nat} : Bwd I m u → I.Eqv u v → Bwd I m v
  | lt {m u v : Nat} : Bwd I m u → I.Lt v u → v ∉ I.blocks → Bwd I m v

namespace Fwd
variable {I : Input}

theorem eqvs {m u v : Nat} (h : Fwd I m u) (hr : Rel I false u v) : Fwd I m v :=
  hr.eqv_induction h fun ih e => ih.eqv e

theorem of_rel {m u : Nat} (h : Rel I false m u) : Fwd I m u := (Fwd.refl m).eqvs h

theorem rel {m u : Nat} (h : Fwd I m u) : ∃ s, Rel I s m u := by
  induction h with
  | refl => exact ⟨false, Rel.refl _⟩
  | eqv _ e ih => obtain ⟨s, hs⟩ := ih; exact ⟨s, hs.eqv e⟩
  | lt _ l _ ih => obtain ⟨s, hs⟩ := ih; exact ⟨true, hs.lt l⟩

theorem reach {m u : Nat} (h : Fwd I m u) : ∃ w : Int, 0 ≤ w ∧ Reach I.nexts (m, 0) (u, w) := by
  induction h with
  | refl => exact ⟨0, Int.le_refl _, Reach.refl _⟩
  | eqv _ e ih =>
    obtain ⟨w, hw, hr⟩ := ih
    exact ⟨w, hw, Reach.tail hr (I.mem_nexts.mpr (Or.inl ⟨rfl, ⟨_, e⟩, (Rel.refl _).eqv e⟩))⟩
  | lt _ l hb ih =>
    obtain ⟨w, hw, hr⟩ := ih
    exact ⟨1, by decide, Reach.tail hr (I.mem_nexts.mpr (Or.inr (Or.inr ⟨hw, rfl, l, hb⟩)))⟩

end Fwd

namespace Bwd
variable {I : Input}

theorem eqvs {m u v : Nat} (h : Bwd I m u) (hr : Rel I false u v) : Bwd I m v :=
  hr.eqv_induction h fun ih e => ih.eqv e

theorem of_rel {m u : Nat} (h : Rel I false m u) : Bwd I m u := (Bwd.refl m).eqvs h

theorem rel {m u : Nat} (h : Bwd I m u) : ∃ s, Rel I s u m := by
  induction h with
  | refl => exact ⟨false, Rel.refl _⟩
  | eqv _ e ih => obtain ⟨s, hs⟩ := ih; exact ⟨false || s, ((Rel.refl _).eqv e.symm).trans hs⟩
  | lt _ l _ ih => obtain ⟨s, hs⟩ := ih; exact ⟨true || s, ((Rel.refl _).lt l).trans hs⟩

theorem reach {m u : Nat} (h : Bwd I m u) : ∃ w : Int, w ≤ 0 ∧ Reach I.nexts (m, 0) (u, w) := by
  induction h with
  | refl => exact ⟨0, Int.le_refl _, Reach.refl _⟩
  | eqv _ e ih =>
    obtain ⟨w, hw, hr⟩ := ih
    exact ⟨w, hw, Reach.tail hr (I.mem_nexts.mpr (Or.inl ⟨rfl, ⟨_, e⟩, (Rel.refl _).eqv e⟩))⟩
  | lt _ l hb ih =>
    obtain ⟨w, hw, hr⟩ := ih
    exact ⟨-1, by decide, Reach.tail hr (I.mem_nexts.mpr (Or.inr (Or.inl ⟨hw, rfl, l, hb⟩)))⟩

end Bwd

namespace Input
variable (I : Input)

theorem reach_walk {m : Nat} {s : State} (h : Reach I.nexts (m, 0) s) :
    (0 ≤ s.2 → Fwd I m s.1) ∧ (s.2 ≤ 0 → Bwd I m s.1) := by
  induction h with
  | refl => exact ⟨fun _ => Fwd.refl _, fun _ => Bwd.refl _⟩
  | @tail b c _ hc ih =>
    -- the sign of `w` is the direction walked so far (`0`: still in the `==` class of `m`, both walks hold): a `==` step keeps
    -- it, a `<` step is taken only from a state whose sign allows that direction, and sets it
    rcases I.mem_nexts.mp hc with ⟨h1, _, h3⟩ | ⟨h1, h2, h3, h4⟩ | ⟨h1, h2, h3, h4⟩
    · rw [h1]; exact ⟨fun h => (ih.1 h).eqvs h3, fun h => (ih.2 h).eqvs h3⟩
    · rw [h2]; exact ⟨fun h => absurd h (by decide), fun _ => (ih.2 h1).lt h3 h4⟩
    · rw [h2]; exact ⟨fun _ => (ih.1 h1).lt h3 h4, fun h => absurd h (by decide)⟩

/-- `emit` is this loop twice, with the exclusion lists `X`, `Y₀`, `Y` and the orientation `f` of the pair exchanged -/
theorem mem_emit_side (N assoc X Y₀ : List Nat) (Y : Nat → List Nat) (f : Nat → Nat → Nat × Nat)
    (hf : ∀ {a b a' b'}, f a b = f a' b' → a = a' ∧ b = b') (a b : Nat) :
    f a b ∈ N.flatMap (fun v =>
      if v ∈ I.blocks then
        (assoc.filter (fun blk => decide (blk ∉ Y₀ ∧ v ≠ blk))).map (fun blk => f v blk)
      else
        (I.eqClass v).flatMap (fun vv =>
          if I.hasCallers vv then
            (I.callers vv).flatMap (fun vb =>
              if vb ∈ X then []
              else (assoc.filter (fun blk => decide (blk ∉ Y v ∧ vb ≠ blk))).map (fun blk => f vb blk))
          else [])) ↔
      (b ∈ assoc ∧ a ∈ N ∧ a ∈ I.blocks ∧ b ∉ Y₀ ∧ a ≠ b) ∨
      ∃ v vv, b ∈ assoc ∧ v ∈ N ∧ v ∉ I.blocks ∧ Rel I false v vv ∧ I.Calls a vv ∧ a ∉ X ∧ b ∉ Y v ∧ a ≠ b := by
  simp only [List.mem_flatMap, mem_ite, List.not_mem_nil, and_false, or_false, false_or, List.mem_map,
    List.mem_filter, decide_eq_true_eq, I.mem_eqClass, I.mem_callers, I.hasCallers_iff]
  constructor
  · rintro ⟨v, hv, ⟨hb, blk, ⟨h1, h2, h3⟩, he⟩ | ⟨hb, vv, hr, -, vb, hc, hx, blk, ⟨h1, h2, h3⟩, he⟩⟩
    · obtain ⟨rfl, rfl⟩ := hf he
      exact .inl ⟨h1, hv, hb, h2, h3⟩
    · obtain ⟨rfl, rfl⟩ := hf he
      exact .inr ⟨v, vv, h1, hv, hb, hr, hc, hx, h2, h3⟩
  · rintro (⟨h1, hv, hb, h2, h3⟩ | ⟨v, vv, h1, hv, hb, hr, hc, hx, h2, h3⟩)
    · exact ⟨a, hv, .inl ⟨hb, b, ⟨h1, h2, h3⟩, rfl⟩⟩
    · exact ⟨v, hv, .inr ⟨hb, vv, hr, ⟨a, hc⟩, a, hc, hx, b, ⟨h1, h2, h3⟩, rfl⟩⟩

theorem mem_emit {m u : Nat} {w : Int} {A B : Nat} :
    (A, B) ∈ I.emit m (u, w) ↔
      (w ≤ 0 ∧ ((I.Calls B m ∧ I.Lt A u ∧ A ∈ I.blocks ∧ ¬ I.Lt B u ∧ A ≠ B) ∨
        ∃ v vv, I.Calls B m ∧ I.Lt v u ∧ v ∉ I.blocks ∧ Rel I false v vv ∧ I.Calls A vv ∧ ¬ I.Lt u A ∧
          ¬ I.Lt B v ∧ A ≠ B)) ∨
      (0 ≤ w ∧ ((I.Calls A m ∧ I.Lt u B ∧ B ∈ I.blocks ∧ ¬ I.Lt u A ∧ B ≠ A) ∨
        ∃ v vv, I.Calls A m ∧ I.Lt u v ∧ v ∉ I.blocks ∧ Rel I false v vv ∧ I.Calls B vv ∧ ¬ I.Lt B u ∧
          ¬ I.Lt v A ∧ B ≠ A)) := by
  rw [emit, List.mem_append, List.mem_ite_nil_right, List.mem_ite_nil_right,
    I.mem_emit_side _ _ (I.succ u) (I.pred u) I.pred (fun a b => (a, b)) Prod.mk.inj A B,
    I.mem_emit_side _ _ (I.pred u) (I.succ u) I.succ (fun a b => (b, a)) (fun h => (Prod.mk.inj h).symm) B A]
  simp only [I.mem_pred, I.mem_succ, I.mem_callers, ge_iff_le]

end Input

end PV.Methods
