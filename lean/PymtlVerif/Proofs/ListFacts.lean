/-!
Facts about lists for the proof and property files; nothing here mentions a model. They sit in `PV`, so every `PV.*` namespace
sees them without `open`.
-/
namespace PV

theorem forall_mem_concat {α : Type} {P : α → Prop} {l : List α} {a : α} (hl : ∀ x ∈ l, P x) (ha : P a) :
    ∀ x ∈ l ++ [a], P x := fun x hx =>
  (List.mem_append.mp hx).elim (hl x) fun hx => List.mem_singleton.mp hx ▸ ha

theorem mem_cons_of_ne {α : Type} {x u : α} (done : List α) (h : x ≠ u) : x ∈ u :: done ↔ x ∈ done :=
  ⟨fun hm => (List.mem_cons.mp hm).resolve_left h, List.mem_cons_of_mem _⟩

theorem mem_ite {α : Type} {c : Prop} [Decidable c] {a : α} {l₁ l₂ : List α} :
    a ∈ (if c then l₁ else l₂) ↔ (c ∧ a ∈ l₁) ∨ (¬ c ∧ a ∈ l₂) := by
  by_cases h : c <;> simp [h]

/-- Applying an involution `sw` to the members of a list selected by position does not change which
unordered pairs `{x, sw x}` occur in it. -/
theorem mem_mapIdx_swap {α : Type} (sw : α → α) (hsw : ∀ x, sw (sw x) = x) (p : Nat → Bool) (l : List α) (x : α) :
    (x ∈ l.mapIdx (fun i e => if p i then sw e else e) ∨ sw x ∈ l.mapIdx (fun i e => if p i then sw e else e)) ↔
      (x ∈ l ∨ sw x ∈ l) := by
  generalize hm : l.mapIdx (fun i e => if p i then sw e else e) = m
  have out : ∀ y, y ∈ m → y ∈ l ∨ sw y ∈ l := by
    intro y hy
    obtain ⟨i, hi, rfl⟩ := List.mem_mapIdx.mp (hm ▸ hy)
    split
    · exact Or.inr (hsw _ ▸ List.getElem_mem hi)
    · exact Or.inl (List.getElem_mem hi)
  have into : ∀ y, y ∈ l → y ∈ m ∨ sw y ∈ m := by
    intro y hy
    obtain ⟨i, hi, rfl⟩ := List.getElem_of_mem hy
    subst hm
    by_cases hp : p i = true
    · exact Or.inr (List.mem_mapIdx.mpr ⟨i, hi, if_pos hp⟩)
    · exact Or.inl (List.mem_mapIdx.mpr ⟨i, hi, if_neg hp⟩)
  constructor
  · rintro (h | h)
    · exact out x h
    · exact (hsw x ▸ out _ h).symm
  · rintro (h | h)
    · exact into x h
    · exact (hsw x ▸ into _ h).symm

theorem all_or_any_eq {α : Type} (p : Bool) (l : List α) (f : α → Bool) :
    (if p = true then l.all f else l.any f) = (l.all (fun x => f x == p) == p) := by
  cases p <;> simp [List.any_eq_not_all_not]

theorem nodup_map_of_inj_on {α β : Type} {f : α → β} {l : List α} (h : l.Nodup)
    (hinj : ∀ a ∈ l, ∀ b ∈ l, f a = f b → a = b) : (l.map f).Nodup := by
  unfold List.Nodup at *
  rw [List.pairwise_map]
  exact h.imp_of_mem (fun ha hb hne e => hne (hinj _ ha _ hb e))

theorem nodup_of_map {α β : Type} (f : α → β) {l : List α} (h : (l.map f).Nodup) : l.Nodup :=
  List.Pairwise.of_map f (fun _ _ hne e => hne (congrArg f e)) h

theorem eq_of_nodup_map {α β : Type} {f : α → β} {l : List α} (h : (l.map f).Nodup) {a c : α} (ha : a ∈ l) (hc : c ∈ l)
    (e : f a = f c) : a = c :=
  List.Pairwise.forall_of_forall_of_flip (R := fun a c => f a = f c → a = c) (fun _ _ _ => rfl)
    ((List.pairwise_map.mp h).imp fun hne e => absurd e hne) ((List.pairwise_map.mp h).imp fun hne e => absurd e.symm hne)
    ha hc e

theorem idxOf_inj {l : List Nat} {a b : Nat} (ha : a ∈ l) (hb : b ∈ l) (h : l.idxOf a = l.idxOf b) : a = b := by
  have h1 := List.getElem_idxOf (List.idxOf_lt_length_iff.mpr ha)
  have h2 := List.getElem_idxOf (List.idxOf_lt_length_iff.mpr hb)
  rw [← h1, ← h2]
  congr 1

theorem pairwise_mem {α : Type} {R : α → α → Prop} {l : List α} (h : l.Pairwise R) {a b : α} (ha : a ∈ l) (hb : b ∈ l) :
    a = b ∨ R a b ∨ R b a := by
  induction l with
  | nil => cases ha
  | cons x l ih =>
    obtain ⟨h1, h2⟩ := List.pairwise_cons.mp h
    rcases List.mem_cons.mp ha with ha | ha <;> rcases List.mem_cons.mp hb with hb | hb
    · exact Or.inl (ha.trans hb.symm)
    · exact Or.inr (Or.inl (ha ▸ h1 b hb))
    · exact Or.inr (Or.inr (hb ▸ h1 a ha))
    · exact ih h2 ha hb

theorem flatten_nodup_idx {α : Type} (l : List (List α)) (h : l.flatten.Nodup) (i j : Nat) (a b : List α) (x : α)
    (hi : l[i]? = some a) (hj : l[j]? = some b) (ha : x ∈ a) (hb : x ∈ b) : i = j := by
  obtain ⟨hi', rfl⟩ := List.getElem?_eq_some_iff.mp hi
  obtain ⟨hj', rfl⟩ := List.getElem?_eq_some_iff.mp hj
  have hp := List.pairwise_iff_getElem.mp (List.pairwise_flatten.mp h).2
  rcases Nat.lt_trichotomy i j with hlt | heq | hgt
  · exact absurd rfl (hp i j hi' hj' hlt x ha x hb)
  · exact heq
  · exact absurd rfl (hp j i hj' hi' hgt x hb x ha)

theorem length_ge_two_of_mem {α : Type} {l : List α} {a b : α} (ha : a ∈ l) (hb : b ∈ l) (hne : a ≠ b) : 2 ≤ l.length := by
  match l, ha, hb with
  | [x], ha, hb => exact absurd ((List.mem_singleton.mp ha).trans (List.mem_singleton.mp hb).symm) hne
  | _ :: _ :: _, _, _ => exact Nat.le_add_left _ _

theorem two_of_length {α : Type} {l : List α} (hnd : l.Nodup) (h : 1 < l.length) : ∃ a b, a ∈ l ∧ b ∈ l ∧ a ≠ b := by
  match l, hnd, h with
  | a :: b :: r, hnd, _ =>
    exact ⟨a, b, List.mem_cons_self .., List.mem_cons_of_mem _ (List.mem_cons_self ..),
      fun e => (List.nodup_cons.mp hnd).1 (e ▸ List.mem_cons_self ..)⟩

theorem length_le_one_of_all_eq {α : Type} {l : List α} (hnd : l.Nodup) (h : ∀ i ∈ l, ∀ j ∈ l, i = j) : l.length ≤ 1 :=
  Nat.le_of_not_lt fun hlt => let ⟨a, b, ha, hb, hne⟩ := two_of_length hnd hlt; hne (h a ha b hb)

theorem length_le_of_nodup_lt (n : Nat) {l : List Nat} (hnd : l.Nodup) (hlt : ∀ x ∈ l, x < n) : l.length ≤ n := by
  simpa using List.Nodup.length_le_of_subset hnd (l₂ := List.range n) (fun x hx => List.mem_range.mpr (hlt x hx))

theorem getElem?_append_some {α : Type} {l l' : List α} {j : Nat} {a : α} (h : l[j]? = some a) :
    (l ++ l')[j]? = some a :=
  (List.getElem?_append_left (List.getElem?_eq_some_iff.mp h).1).trans h

theorem getElem?_getD {α : Type} {l : List α} {i : Nat} (d : α) (hi : i < l.length) : l[i]? = some (l.getD i d) := by
  rw [List.getElem?_eq_getElem hi, List.getElem_eq_getD]

theorem getElem_of_split {α : Type} {l pre post : List α} {a b : α} (h : l = pre ++ a :: post) (hb : b ∈ post) :
    ∃ i j, i < j ∧ ∃ (hj : j < l.length) (hi : i < l.length), l[i] = a ∧ l[j] = b := by
  subst h
  obtain ⟨k, hk, rfl⟩ := List.mem_iff_getElem.mp hb
  have hlen : (pre ++ a :: post).length = pre.length + (post.length + 1) := by
    rw [List.length_append, List.length_cons]
  refine ⟨pre.length, pre.length + (k + 1), by omega, by omega, by omega, List.getElem_of_append rfl rfl, ?_⟩
  rw [List.getElem_append_right (Nat.le_add_right _ _)]
  simp only [Nat.add_sub_cancel_left, List.getElem_cons_succ]

theorem expand_order {f : Nat → List Nat} {sched : List Nat} {i j u v : Nat} (hu : u ∈ f i) (hv : v ∈ f j)
    (hs : ∃ pre post, sched = pre ++ i :: post ∧ j ∈ post) :
    ∃ pre post, sched.flatMap f = pre ++ u :: post ∧ v ∈ post := by
  obtain ⟨pre, post, rfl, hj⟩ := hs
  obtain ⟨a, b, hab⟩ := List.append_of_mem hu
  refine ⟨pre.flatMap f ++ a, b ++ post.flatMap f, ?_, List.mem_append_right _ (List.mem_flatMap.mpr ⟨j, hj, hv⟩)⟩
  simp only [List.flatMap_append, List.flatMap_cons, hab, List.append_assoc, List.cons_append]

theorem sublist_order {α : Type} {L c l1 l2 : List α} {a b : α} (hc : c.Sublist L) (hnd : L.Nodup) (hL : L = l1 ++ a :: l2)
    (hb : b ∈ l2) (hac : a ∈ c) (hbc : b ∈ c) : ∃ m1 m2, c = m1 ++ a :: m2 ∧ b ∈ m2 := by
  subst hL
  obtain ⟨_, h2, h3⟩ := List.nodup_append.mp hnd
  obtain ⟨hal2, _⟩ := List.nodup_cons.mp h2
  obtain ⟨c1, c2, rfl, hc1, hc2⟩ := List.sublist_append_iff.mp hc
  -- neither `a` nor `b` occurs in `l1`, so both lie in the part `c2` of `c` taken from `a :: l2`
  have ha2 : a ∈ c2 := (List.mem_append.mp hac).resolve_left fun h => h3 a (hc1.subset h) a List.mem_cons_self rfl
  have hb2 : b ∈ c2 :=
    (List.mem_append.mp hbc).resolve_left fun h => h3 b (hc1.subset h) b (List.mem_cons_of_mem _ hb) rfl
  cases hc2 with
  | cons _ h' => exact absurd (h'.subset ha2) hal2
  | cons_cons _ h' => exact ⟨c1, _, rfl, (List.mem_cons.mp hb2).resolve_left fun e => hal2 (e ▸ hb)⟩

theorem lt_of_pairwise_append {l₁ l₂ : List Nat} {a b : Nat} (h : (l₁ ++ l₂).Pairwise (· < ·))
    (ha : a ∈ l₁) (hb : b ∈ l₂) : a < b :=
  (List.pairwise_append.1 h).2.2 a ha b hb

theorem insertIdx_take_drop {α : Type} (x : α) : ∀ (l : List α) (i : Nat), i ≤ l.length →
    l.insertIdx i x = l.take i ++ x :: l.drop i
  | _, 0, _ => rfl
  | [], _ + 1, h => nomatch h
  | y :: ys, i + 1, h => by
    rw [List.insertIdx_succ_cons, insertIdx_take_drop x ys i (Nat.le_of_succ_le_succ h)]
    rfl

theorem perm_getD_eraseIdx {α : Type} (d : α) : ∀ (l : List α) (i : Nat), i < l.length → l.Perm (l.getD i d :: l.eraseIdx i)
  | _ :: _, 0, _ => .refl _
  | a :: l, i + 1, h => ((perm_getD_eraseIdx d l i (Nat.lt_of_succ_lt_succ h)).cons a).trans (List.Perm.swap ..)

theorem lookup_none_of_not_key {β : Type} {m : List (Nat × β)} {k : Nat} (h : k ∉ m.map (·.1)) : m.lookup k = none :=
  List.lookup_eq_none_iff.mpr fun p hp => bne_iff_ne.mpr fun e => h (List.mem_map.mpr ⟨p, hp, e.symm⟩)

theorem lookup_of_nodup_keys {β : Type} {m : List (Nat × β)} {k : Nat} {v : β} (hnd : (m.map (·.1)).Nodup) (h : (k, v) ∈ m) : m.lookup k = some v := by
  induction m with
  | nil => cases h
  | cons a m ih =>
    obtain ⟨a1, a2⟩ := a
    obtain ⟨ha, hnd⟩ := List.nodup_cons.mp hnd
    rw [List.lookup_cons]
    rcases List.mem_cons.mp h with h | h
    · cases h; rw [beq_self_eq_true]
    · have : (k == a1) = false := beq_eq_false_iff_ne.mpr fun e => ha (e ▸ List.mem_map.mpr ⟨_, h, rfl⟩)
      rw [this]; exact ih hnd h

theorem lookup_map_append {β : Type} (l : List Nat) (c : β) (vm : List (Nat × β)) (x : Nat) :
    (l.map (fun y => (y, c)) ++ vm).lookup x = if x ∈ l then some c else vm.lookup x := by
  induction l with
  | nil => rfl
  | cons a l ih =>
    rw [List.map_cons, List.cons_append, List.lookup_cons]
    by_cases hxa : x = a
    · rw [hxa, beq_self_eq_true, if_pos List.mem_cons_self]
    · rw [beq_false_of_ne hxa, ih]
      by_cases hx : x ∈ l
      · rw [if_pos hx, if_pos (List.mem_cons_of_mem _ hx)]
      · rw [if_neg hx, if_neg fun h => (List.mem_cons.mp h).elim hxa hx]

/-- `List.foldlRecOn` without the membership and with a `Prop` motive -/
theorem foldl_inv {σ β : Type} (f : σ → β → σ) (P : σ → Prop) (h : ∀ s b, P s → P (f s b)) (l : List β) (s : σ) (hs : P s) :
    P (l.foldl f s) :=
  List.foldlRecOn l f hs fun s hs b _ => h s b hs

theorem foldl_bind_none {α β : Type} (g : α → β → Option α) (L : List β) :
    L.foldl (fun acc j => acc.bind (g · j)) none = none := by
  induction L with
  | nil => rfl
  | cons _ L ih => exact ih

theorem count_map_filter_split {α β : Type} [BEq β] [LawfulBEq β] (a : β) (l : List α) (f : α → β) (p : α → Bool) :
    List.count a (l.map f) =
      List.count a ((l.filter p).map f) + List.count a ((l.filter (fun e => !p e)).map f) := by
  rw [← List.count_append, ← List.map_append]
  exact ((List.filter_append_perm p l).map f).symm.count_eq a

end PV
