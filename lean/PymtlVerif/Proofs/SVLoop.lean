import PymtlVerif.Proofs.SVStmt
import PymtlVerif.Proofs.ListFacts
/-
C03, statements with `for` loops (SystemVerilog backend, ascending ranges).  The emitted loop runs its body once for each
element of the Python range (`iter_range`, `for_sv`).  After a loop Python keeps the last value of the loop variable and
SystemVerilog the exit value, so the two executions are related only up to the scalar cells of undeclared names (`AgreeS`;
evaluation does not read those: `evalC_loc_ext`), and the statement theorem `stmt_sim` is a simulation, not an equality of
states.
-/
namespace PV.SVProofs
open PV.SV PV.VTr

theorem Env.extend_self (Γ : Env) (x : String) (d : Decl) : (Γ.extend x d) x = some d := if_pos rfl

/-- one iteration of the emitted loop at index `i`: the body, then `v = v + step` -/
def svIter (cb : Bool) (Γ' : Env) (v : String) (B : Stmt) (step : Nat) (s : XS) (i : Nat) : XS :=
  let s1 := exec cb Γ' B s
  { s1 with σ := s1.σ.set (v, 0) (i + step) }

section loop
variable (cb : Bool) (Γ' : Env) (v : String) (B : Stmt) (stop step ew pw : Nat)

/-- loop condition `v < ew'd stop` of the emitted loop -/
def loopCond (s : XS) : Bool :=
  eval cb Γ' s.σ (selfWidth Γ' (.bin .lt (.ident v) (.lit ew stop))) (.bin .lt (.ident v) (.lit ew stop)) != 0

/-- body and increment `v = v + pw'd step` of the emitted loop -/
def loopBody (s : XS) : XS :=
  let s1 := exec cb Γ' B s
  { s1 with σ := s1.σ.set (v, 0) (evalRhs cb Γ' s1.σ 32 (.bin .add (.ident v) (.lit pw step))) }

variable {cb Γ' v B stop step ew pw}

theorem loopCond_eq (hv : Γ' v = some intDecl) (hstop : stop < 2 ^ ew) (s : XS)
    (hi : s.σ.get (v, 0) < 2 ^ 32) :
    loopCond cb Γ' v stop ew s = decide (s.σ.get (v, 0) < stop) := by
  rw [loopCond, eval, evalC_bin]
  show (b2n (decide (evalC cb Γ' s.σ _ _ (.ident v) < evalC cb Γ' s.σ _ _ (.lit ew stop))) != 0) = _
  rw [evalC_ident_vec hv, evalC_lit, Nat.mod_eq_of_lt hi, Nat.mod_eq_of_lt hstop]
  by_cases h : s.σ.get (v, 0) < stop <;> simp [h, b2n]

theorem loopBody_eq (hv : Γ' v = some intDecl) (hstep : step < 2 ^ pw) (s : XS)
    (hpres : (exec cb Γ' B s).σ.get (v, 0) = s.σ.get (v, 0))
    (hi : s.σ.get (v, 0) + step < 2 ^ 32) :
    loopBody cb Γ' v B step pw s = svIter cb Γ' v B step s (s.σ.get (v, 0)) := by
  have h1 : s.σ.get (v, 0) < 2 ^ 32 := by omega
  -- `evalRhs` evaluates `v + pw'd step` in `max 32 (selfWidth …) = max 32 (max 32 pw)` bits, then cuts to the 32 bits of `v`
  have hd : (2:Nat) ^ 32 ∣ 2 ^ max 32 (max 32 pw) := Nat.pow_dvd_pow 2 (by omega)
  have hsw : selfWidth Γ' (.bin .add (.ident v) (.lit pw step)) = max 32 pw := by
    show max (selfWidth Γ' (.ident v)) pw = _
    rw [selfWidth_of_typeOf (x := .ident v) hv]; rfl
  simp only [loopBody, svIter]
  congr 2
  rw [evalRhs, hsw, eval, evalC_bin]
  show (evalC cb Γ' _ _ _ (.ident v) + evalC cb Γ' _ _ _ (.lit pw step)) % 2 ^ _ % 2 ^ 32 = _
  rw [evalC_ident_vec hv, evalC_lit, hpres, Nat.mod_eq_of_lt h1, Nat.mod_eq_of_lt hstep, Nat.mod_mod_of_dvd _ hd,
    Nat.mod_eq_of_lt hi]

theorem pyRange_lt {i stop step n : Nat} (h : i < stop) :
    pyRange i stop step false (n + 1) = i :: pyRange (i + step) stop step false n := by
  simp [pyRange, h]

theorem pyRange_ge {i stop step n : Nat} (h : ¬ i < stop) : pyRange i stop step false n = [] := by
  cases n <;> simp [pyRange, h]

/-- The emitted loop against any partial fold `f` over `range(i, stop, step)`: if one iteration of `f` that succeeds
    keeps its accumulator related (`Rel`) to the state after one `svIter`, and the body leaves the loop variable of a
    related state alone, then a fold that succeeds ends related to the state the loop ends in.  `for_sv` is the case
    `Rel a s := s = a`, `f := svIter`; the `for_` case of `stmt_sim` takes `f := pyStep`, agreement on the declared
    variables for `Rel`, and `loop_sim` for the step `hit`. -/
theorem iter_range {α : Type} (Rel : α → XS → Prop) (f : α → Nat → Option α)
    (hv : Γ' v = some intDecl) (hstop : stop < 2 ^ ew) (hstep : step < 2 ^ pw) (hbound : stop + step < 2 ^ 32)
    (hit : ∀ a a' s, Rel a s → s.σ.get (v, 0) < stop → f a (s.σ.get (v, 0)) = some a' →
      (exec cb Γ' B s).σ.get (v, 0) = s.σ.get (v, 0) ∧ Rel a' (svIter cb Γ' v B step s (s.σ.get (v, 0)))) :
    ∀ (n fuel i : Nat) (a a' : α) (s : XS), Rel a s → s.σ.get (v, 0) = i → i < 2 ^ 32 → stop ≤ i + n * step →
      (pyRange i stop step false n).length < fuel →
      (pyRange i stop step false n).foldl (fun acc j => acc.bind (f · j)) (some a) = some a' →
      Rel a' (iter (loopCond cb Γ' v stop ew) (loopBody cb Γ' v B step pw) fuel s) := by
  intro n fuel
  induction fuel generalizing n with
  | zero => intro i a a' s hr hi h32 hn hf; simp at hf
  | succ fuel ih =>
    intro i a a' s hr hi h32 hn hf hp
    by_cases hlt : i < stop
    · cases n with
      | zero => omega
      | succ n =>
        rw [pyRange_lt hlt] at hf hp
        simp only [List.length_cons, List.foldl_cons, Option.bind_some] at hf hp
        cases hb : f a i with
        | none => rw [hb, foldl_bind_none] at hp; cases hp
        | some a2 =>
          rw [hb] at hp
          subst hi
          obtain ⟨hpres, hr2⟩ := hit a a2 s hr hlt hb
          have hn' : stop ≤ s.σ.get (v, 0) + step + n * step := by
            rw [Nat.succ_mul] at hn; omega
          simp only [iter, loopCond_eq hv hstop s h32, hlt, decide_true, if_true,
            loopBody_eq hv hstep s hpres (by omega)]
          exact ih n _ a2 a' _ hr2 (by simp [svIter, Store.get_set_eq]) (by omega) hn' (by omega) hp
    · rw [pyRange_ge hlt] at hp
      cases hp
      simpa [iter, loopCond_eq hv hstop s (hi ▸ h32), hi, hlt] using hr

end loop

theorem exec_for_unfold (cb : Bool) (Γ : Env) (blk x : String) (start stop step sw ew pw : Nat)
    (body : RStmt) (s : XS) (hstart : start < 2 ^ sw) (hs32 : start < 2 ^ 32) :
    exec cb Γ (trStmt .verilog (.for_ blk x start stop step false sw ew pw body)) s =
      iter (loopCond cb (Γ.extend x intDecl) x stop ew)
        (loopBody cb (Γ.extend x intDecl) x (trStmt .verilog body) step pw) loopFuel
        { s with σ := s.σ.set (x, 0) start } := by
  have hinit : evalRhs cb (Γ.extend x intDecl) s.σ intDecl.ty.width (.lit sw start) = start := by
    simp [evalRhs, eval, evalC_lit, intDecl, PTy.width, Nat.mod_eq_of_lt hstart, Nat.mod_eq_of_lt hs32]
  simp only [trStmt, loopVarName, exec, Bool.false_eq_true, if_false, if_true, Env.extend_self, hinit]
  rfl

/-- **The emitted `for` loop (SystemVerilog backend, ascending range), SystemVerilog side only.**
    `for (int unsigned x = sw'd start; x < ew'd stop; x = x + pw'd step) B` runs, from the state in
    which `x = start`, one `svIter` (body `B`, then `x = i + step`) for each `i` of
    `range(start, stop, step)`.
    Side conditions: the literals fit their widths, `stop + step < 2^32` (the `int unsigned` loop
    variable does not wrap), the body does not change the loop variable, `n` is a sufficient fuel for
    `pyRange` (`start + stop + 1` is when `0 < step`: `pyRange_fuel_ok`), and the range has fewer than `loopFuel = 4096`
    elements. -/
theorem for_sv (cb : Bool) (Γ : Env) (blk x : String) (start stop step sw ew pw : Nat) (body : RStmt)
    (n : Nat) (s : XS)
    (hstart : start < 2 ^ sw) (hstop : stop < 2 ^ ew) (hstep : step < 2 ^ pw)
    (hs32 : start < 2 ^ 32) (hbound : stop + step < 2 ^ 32)
    (hpres : ∀ t, (exec cb (Γ.extend x intDecl) (trStmt .verilog body) t).σ.get (x, 0) = t.σ.get (x, 0))
    (hn : stop ≤ start + n * step)
    (hlen : (pyRange start stop step false n).length < loopFuel) :
    exec cb Γ (trStmt .verilog (.for_ blk x start stop step false sw ew pw body)) s =
      (pyRange start stop step false n).foldl
        (svIter cb (Γ.extend x intDecl) x (trStmt .verilog body) step)
        { s with σ := s.σ.set (x, 0) start } := by
  rw [exec_for_unfold cb Γ blk x start stop step sw ew pw body s hstart hs32]
  exact iter_range (cb := cb) (B := trStmt .verilog body) (fun a s => s = a) (fun a i => some (svIter cb _ x _ step a i))
    (Env.extend_self ..) hstop hstep hbound (fun a a' s hr _ hb => by subst hr; exact ⟨hpres _, Option.some.inj hb⟩)
    n loopFuel start _ _ _ rfl (by simp [Store.get_set_eq]) hs32 hn hlen (List.foldl_hom some fun _ _ => rfl)

/-- `start + stop + 1` is a sufficient fuel -/
theorem pyRange_fuel_ok (start stop step : Nat) (hpos : 0 < step) :
    stop ≤ start + (start + stop + 1) * step := by
  have : start + stop + 1 ≤ (start + stop + 1) * step := Nat.le_mul_of_pos_right _ hpos
  omega

/-- the stores agree on every declared variable (and on every cell other than element 0 of an
    undeclared name: the only cells on which the two executions may differ are the scalar cells of loop
    variables that are out of scope) -/
def AgreeS (Γ : Env) (σ σ' : Store) : Prop :=
  ∀ k : Key, (Γ k.1 ≠ none ∨ k.2 ≠ 0) → σ.get k = σ'.get k

theorem AgreeS.refl (Γ : Env) (σ : Store) : AgreeS Γ σ σ := fun _ _ => rfl

theorem loc_declared {cb Γ σ} {e : Expr} {l : Loc} (h : loc cb Γ σ e = some l) : Γ l.x ≠ none := by
  induction e generalizing l with
  | ident x =>
    rw [loc_ident] at h
    split at h <;> cases h
    next d hd => rw [hd]; exact Option.some_ne_none d
  | member e f ih =>
    rw [loc_member] at h
    split at h
    · next hl => split at h <;> cases h; exact (ih hl :)
    · cases h
  | index e i ih =>
    rw [loc_index] at h
    split at h
    all_goals first | cases h; done | (next hl => cases h; exact (ih hl :))
  | range e hi lo ih =>
    rw [loc_range] at h
    split at h
    · next hl _ _ => cases h; exact (ih hl :)
    · cases h
  | plusSel e b w ih =>
    rw [loc_plusSel] at h
    split at h
    · next hl _ => cases h; exact (ih hl :)
    · cases h
  | _ => rw [loc.eq_def] at h; cases h

theorem readLoc_ext {Γ σ σ'} (ha : AgreeS Γ σ σ') {l : Loc} (hd : Γ l.x ≠ none) :
    readLoc σ l = readLoc σ' l := by
  simp only [readLoc, ha (l.x, l.elem) (Or.inl hd)]

theorem evalC_loc_ext {cb Γ σ σ'} (ha : AgreeS Γ σ σ') (e : Expr) :
    (∀ W S, evalC cb Γ σ W S e = evalC cb Γ σ' W S e) ∧ loc cb Γ σ e = loc cb Γ σ' e := by
  -- a select that resolves — to the same location in both stores — reads a declared variable; one that does not
  -- is evaluated from its operands, which is the case-specific argument `hn`
  have sel : ∀ e : Expr, loc cb Γ σ e = loc cb Γ σ' e →
      (loc cb Γ σ' e = none → ∀ W S, evalC cb Γ σ W S e = evalC cb Γ σ' W S e) →
      (∀ W S, evalC cb Γ σ W S e = evalC cb Γ σ' W S e) ∧ loc cb Γ σ e = loc cb Γ σ' e := by
    intro e he hn
    refine ⟨fun W S => ?_, he⟩
    cases hl : loc cb Γ σ' e with
    | none => exact hn hl W S
    | some l => rw [evalC_of_loc (he.trans hl), evalC_of_loc hl]; exact readLoc_ext ha (loc_declared hl)
  induction e
  case ident x =>
    have hl : loc cb Γ σ (.ident x) = loc cb Γ σ' (.ident x) := by rw [loc_ident, loc_ident]
    exact sel _ hl fun hn W S => by rw [evalC.eq_def, evalC.eq_def]; simp only [hl, hn]
  case member e f ih =>
    have hl : loc cb Γ σ (.member e f) = loc cb Γ σ' (.member e f) := by rw [loc_member, loc_member, ih.2]
    exact sel _ hl fun hn W S => by rw [evalC.eq_def, evalC.eq_def]; simp only [hl, hn]
  case index e i ihe ihi =>
    have hl : loc cb Γ σ (.index e i) = loc cb Γ σ' (.index e i) := by
      rw [loc_index, loc_index, ihe.2, eval, ihi.1]; rfl
    exact sel _ hl fun hn W S => by rw [evalC.eq_def, evalC.eq_def]; simp only [hl, hn, ihe.1, ihi.1]
  case range e hi lo ihe _ _ =>
    have hl : loc cb Γ σ (.range e hi lo) = loc cb Γ σ' (.range e hi lo) := by rw [loc_range, loc_range, ihe.2]
    exact sel _ hl fun hn W S => by rw [evalC.eq_def, evalC.eq_def]; simp only [hl, hn, ihe.1]
  case plusSel e b w ihe ihb _ =>
    have hl : loc cb Γ σ (.plusSel e b w) = loc cb Γ σ' (.plusSel e b w) := by
      rw [loc_plusSel, loc_plusSel, ihe.2, eval, ihb.1]; rfl
    exact sel _ hl fun hn W S => by rw [evalC.eq_def, evalC.eq_def]; simp only [hl, hn]
  all_goals refine ⟨fun W S => ?_, by rw [loc.eq_def, loc.eq_def]⟩
  case lit | num => rw [evalC.eq_def, evalC.eq_def]
  case cat1 ih => rw [evalC_cat1, evalC_cat1, eval, ih.1]; rfl
  case concat iha ihb => rw [evalC_concat, evalC_concat, eval, eval, iha.1, ihb.1]; rfl
  case repl ihe => rw [evalC_repl, evalC_repl, eval, ihe.1]; rfl
  case un ih => rw [evalC_un, evalC_un, eval, ih.1, ih.1]; rfl
  case bin iha ihb => simp only [evalC_bin, eval, iha.1, ihb.1]
  case cond ihc iht ihf => rw [evalC_cond, evalC_cond, eval, ihc.1, iht.1, ihf.1]; rfl
  case cast ih => rw [evalC_cast, evalC_cast, ih.1]
  case sgn ih => rw [evalC_sgn, evalC_sgn, eval, ih.1]; rfl

theorem eval_ext {cb Γ σ σ'} (ha : AgreeS Γ σ σ') (W : Nat) (e : Expr) :
    eval cb Γ σ W e = eval cb Γ σ' W e := (evalC_loc_ext ha e).1 W _

theorem loc_ext {cb Γ σ σ'} (ha : AgreeS Γ σ σ') (e : Expr) : loc cb Γ σ e = loc cb Γ σ' e :=
  (evalC_loc_ext ha e).2

theorem agreeS_writeLoc {Γ σ σ'} (ha : AgreeS Γ σ σ') (l : Loc) (v : Nat) :
    AgreeS Γ (writeLoc σ l v) (writeLoc σ' l v) := by
  intro k hk
  unfold writeLoc
  split
  · by_cases hkl : k = (l.x, l.elem)
    · subst hkl; simp only [Store.get_set_eq, ha _ hk]
    · simp only [Store.get_set_ne _ _ _ _ hkl, ha _ hk]
  · exact ha k hk

theorem evalPy_extend {be : Backend} {Γ : Env} {σ : Store} {x : String} {d : Decl} (e : RExpr)
    (h : freshE x e) :
    evalPy be (Γ.extend x d) σ e = evalPy be Γ σ e ∧ refPy be (Γ.extend x d) σ e = refPy be Γ σ e := by
  induction e with
  | sig y w | tmpvar y w =>
    have hy : (Γ.extend x d) y = Γ y := if_neg h
    simp only [evalPy, refPy, hy, and_self]
  | num | castC | const | freevar | loopvar => simp only [evalPy, refPy, and_self]
  | cast w e ih | cat1 e ih | zext w e ih | sext w e ih | trunc w e ih | reduce op e ih | inv e ih
  | field e f w ih | slice e lo hi lw uw ih => simp only [evalPy, refPy, ih h, and_self]
  | index e i w ihe ihi | partsel e i w ihe ihi | concat e i ihe ihi | bin op e i ihe ihi | cmp op e i ihe ihi =>
    simp only [evalPy, refPy, ihe h.1, ihi h.2, and_self]
  | ifexp c t f ihc iht ihf => simp only [evalPy, refPy, ihc h.1, iht h.2.1, ihf h.2.2, and_self]

theorem refPy_fresh {be : Backend} {Γ : Env} {σ : Store} {x : String} {e : RExpr} {l : Loc}
    (hf : freshE x e) (h : refPy be Γ σ e = some l) : l.x ≠ x := by
  rw [(refPy_root h).1]; exact (refPy_root h).2 x hf

/-- no signal or temporary named `x` occurs in the statement, and no nested loop re-uses `x` -/
def freshS (x : String) : RStmt → Prop
  | .skip => True
  | .assign _ l r => freshE x l ∧ freshE x r
  | .ite c t e => freshE x c ∧ freshS x t ∧ freshS x e
  | .seq a b => freshS x a ∧ freshS x b
  | .for_ _ y _ _ _ _ _ _ _ body => y ≠ x ∧ freshS x body

/-- one iteration of the Python loop -/
def pyStep (Γ : Env) (x : String) (body : RStmt) (p : XS) (i : Nat) : Option XS :=
  execPy .verilog Γ body { p with σ := p.σ.set (x, 0) i }

theorem execPy_for (Γ : Env) (blk x : String) (start stop step : Nat) (neg : Bool) (sw ew pw : Nat)
    (body : RStmt) (s : XS) :
    execPy .verilog Γ (.for_ blk x start stop step neg sw ew pw body) s =
      (pyRange start stop step neg (start + stop + 1)).foldl (fun acc i => acc.bind (pyStep Γ x body · i)) (some s) := by
  simp only [execPy, loopVarName]; rfl

theorem execPy_extend {Γ : Env} {x : String} {d : Decl} (s : RStmt) (h : freshS x s) (p : XS) :
    execPy .verilog (Γ.extend x d) s p = execPy .verilog Γ s p := by
  induction s generalizing p with
  | skip => simp [execPy]
  | assign blk l r =>
    simp only [freshS] at h
    simp [execPy, (evalPy_extend l h.1).2, (evalPy_extend r h.2).1]
  | ite c t e iht ihe =>
    simp only [freshS] at h
    simp [execPy, (evalPy_extend c h.1).1, iht h.2.1, ihe h.2.2]
  | seq a b iha ihb =>
    simp only [freshS] at h
    simp [execPy, iha h.1, ihb h.2]
  | for_ blk y start stop step neg sw ew pw body ih =>
    simp only [freshS] at h
    rw [execPy_for, execPy_for]
    congr 1
    funext acc i
    cases acc with
    | none => rfl
    | some s => exact ih h.2 _

theorem execPy_pres {Γ : Env} {x : String} (s : RStmt) (h : freshS x s) {p p' : XS}
    (he : execPy .verilog Γ s p = some p') : p'.σ.get (x, 0) = p.σ.get (x, 0) := by
  induction s generalizing p p' with
  | skip => cases he; rfl
  | assign blk l r =>
    obtain ⟨lc, v, hre, -, -, rfl⟩ := execPy_assign_some he
    cases blk
    · rfl
    · exact get_writeLoc_ne _ _ _ _ fun hh => refPy_fresh h.1 hre hh.symm
  | ite c t e iht ihe =>
    rw [execPy] at he
    obtain ⟨vc, -, he⟩ := Option.bind_eq_some_iff.1 he
    split at he
    · exact iht h.2.1 he
    · exact ihe h.2.2 he
  | seq a b iha ihb =>
    rw [execPy] at he
    obtain ⟨p1, hea, he⟩ := Option.bind_eq_some_iff.1 he
    rw [ihb h.2 he, iha h.1 hea]
  | for_ blk y start stop step neg sw ew pw body ih =>
    simp only [freshS] at h
    rw [execPy_for] at he
    generalize pyRange start stop step neg (start + stop + 1) = L at he
    induction L generalizing p with
    | nil => simp at he; subst he; rfl
    | cons i L ihL =>
      simp only [List.foldl_cons] at he
      simp only [Option.bind_some] at he
      cases hb : pyStep Γ y body p i with
      | none => rw [hb, foldl_bind_none] at he; cases he
      | some p1 =>
        rw [hb] at he
        rw [ihL he, ih h.2 hb]
        exact Store.get_set_ne _ _ _ _ (by intro hh; simp at hh; exact h.1 hh.symm)

def AgreeX (Γ : Env) (p q : XS) : Prop :=
  AgreeS Γ p.σ q.σ ∧ p.nba = q.nba ∧ p.fuelOut = q.fuelOut

theorem AgreeX.refl (Γ : Env) (p : XS) : AgreeX Γ p p := ⟨AgreeS.refl Γ p.σ, rfl, rfl⟩

/-- typing invariant of statements with loops.  A loop (SystemVerilog backend, ascending range):
    the loop variable is not the name of a declared variable or of a constant, the body does not
    mention a signal of that name nor re-uses it as a loop variable, the bounds fit their literals,
    the loop variable does not wrap and the range has fewer than `loopFuel` elements. -/
inductive WTsL (be : Backend) (C : List (String × Nat)) : Env → RStmt → Prop
  | skip {Γ} : WTsL be C Γ .skip
  | assign {Γ blk l r ty} : WTm be Γ C (some ⟨ty, []⟩) l → WT be Γ C r → r.width = ty.width →
      (∀ v, (root l, v) ∉ C) → WTsL be C Γ (.assign blk l r)
  | assignTmp {Γ blk x w r ty} : Γ x = some ⟨ty, []⟩ → ty.width = w → WT be Γ C r → r.width = w →
      (∀ v, (x, v) ∉ C) → WTsL be C Γ (.assign blk (.tmpvar x w false) r)
  | ite {Γ c t e} : WT be Γ C c → WTsL be C Γ t → WTsL be C Γ e → WTsL be C Γ (.ite c t e)
  | seq {Γ a b} : WTsL be C Γ a → WTsL be C Γ b → WTsL be C Γ (.seq a b)
  | for_ {Γ blk x start stop step sw ew pw body} : be = .verilog → Γ x = none → (∀ v, (x, v) ∉ C) →
      0 < step → start < 2 ^ sw → stop < 2 ^ ew → step < 2 ^ pw → start < 2 ^ 32 →
      stop + step < 2 ^ 32 → (pyRange start stop step false (start + stop + 1)).length < loopFuel →
      freshS x body → WTsL be C (Γ.extend x intDecl) body →
      WTsL be C Γ (.for_ blk x start stop step false sw ew pw body)

theorem WTs.toL {be Γ C s} (h : WTs be Γ C s) : WTsL be C Γ s := by
  induction h with
  | skip => exact .skip
  | assign h1 h2 h3 h4 => exact .assign h1 h2 h3 h4
  | assignTmp h1 h2 h3 h4 h5 => exact .assignTmp h1 h2 h3 h4 h5
  | ite h1 _ _ iht ihe => exact .ite h1 iht ihe
  | seq _ _ iha ihb => exact .seq iha ihb

/-- an emitted assignment only reads declared variables: from states that agree it leads to states that agree.
    With `assign_correct` (from a common start, the Python result) this is the assignment step of `stmt_sim`.
    Not true of every `Stmt`: `for (int unsigned v = v; …)` reads the cell of `v`, undeclared outside, in its `init`. -/
theorem exec_assign_ext {cb : Bool} {Γ : Env} {p q : XS} (ha : AgreeX Γ p q) (be : Backend) (blk : Bool)
    (l r : RExpr) :
    AgreeX Γ (exec cb Γ (trStmt be (.assign blk l r)) p) (exec cb Γ (trStmt be (.assign blk l r)) q) := by
  obtain ⟨a1, a2, a3⟩ := ha
  have hr : ∀ w, evalRhs cb Γ p.σ w (tr be r) = evalRhs cb Γ q.σ w (tr be r) := fun w => by
    rw [evalRhs, evalRhs, eval_ext a1]
  cases blk <;> simp only [trStmt, exec, loc_ext a1, hr] <;> split
  · exact ⟨a1, by rw [a2], a3⟩
  · exact ⟨a1, a2, a3⟩
  · exact ⟨agreeS_writeLoc a1 _ _, a2, a3⟩
  · exact ⟨a1, a2, a3⟩

theorem agreeS_extend {Γ : Env} {σ σ' : Store} {x : String} {d : Decl} {i : Nat}
    (ha : AgreeS Γ σ σ') (hq : σ'.get (x, 0) = i) : AgreeS (Γ.extend x d) (σ.set (x, 0) i) σ' := by
  intro k hk
  by_cases hkx : k = (x, 0)
  · subst hkx; rw [Store.get_set_eq, hq]
  · rw [Store.get_set_ne _ _ _ _ hkx]
    apply ha
    rcases hk with hk | hk
    · by_cases h1 : k.1 = x
      · right; intro h2; apply hkx; exact Prod.ext h1 h2
      · left; simpa [Env.extend, h1] using hk
    · exact Or.inr hk

theorem AgreeS.set_undeclared {Γ : Env} {σ σ' : Store} {x : String} (hx : Γ x = none) (ha : AgreeS Γ σ σ') (v : Nat) :
    AgreeS Γ σ (σ'.set (x, 0) v) := by
  intro k hk
  have hkx : k ≠ (x, 0) := by
    intro h; subst h; simp [hx] at hk
  rw [Store.get_set_ne _ _ _ _ hkx]
  exact ha k hk

theorem agreeS_restrict {Γ : Env} {σ σ' : Store} {x : String} {d : Decl} {v : Nat} (hx : Γ x = none)
    (ha : AgreeS (Γ.extend x d) σ σ') : AgreeS Γ σ (σ'.set (x, 0) v) :=
  AgreeS.set_undeclared hx (v := v) fun k hk => ha k <| hk.imp_left fun hk => by
    by_cases h1 : k.1 = x
    · simp [Env.extend, h1]
    · simpa [Env.extend, h1] using hk

theorem holdsC_set {σ : Store} {C : List (String × Nat)} (hC : HoldsC σ C) {x : String}
    (hx : ∀ v, (x, v) ∉ C) (i : Nat) : HoldsC (σ.set (x, 0) i) C := by
  intro c v hm
  rw [Store.get_set_ne _ _ _ _ (by intro h; simp at h; subst h; exact hx v hm)]
  exact hC c v hm

/-- one iteration: the Python body at the index the emitted loop has reached, against body and increment of that loop -/
theorem loop_sim {cb : Bool} {Γ : Env} {C : List (String × Nat)} {x : String} {body : RStmt} {step : Nat}
    (hx : Γ x = none) (hxC : ∀ v, (x, v) ∉ C) (hfresh : freshS x body)
    (ihb : ∀ p p' q : XS, execPy .verilog (Γ.extend x intDecl) body p = some p' → HoldsC p.σ C →
      AgreeX (Γ.extend x intDecl) p q →
      AgreeX (Γ.extend x intDecl) p' (exec cb (Γ.extend x intDecl) (trStmt .verilog body) q) ∧ HoldsC p'.σ C)
    (p p' q : XS) (hr : AgreeX Γ p q ∧ HoldsC p.σ C) (hb : pyStep Γ x body p (q.σ.get (x, 0)) = some p') :
    (exec cb (Γ.extend x intDecl) (trStmt .verilog body) q).σ.get (x, 0) = q.σ.get (x, 0) ∧
      AgreeX Γ p' (svIter cb (Γ.extend x intDecl) x (trStmt .verilog body) step q (q.σ.get (x, 0))) ∧
        HoldsC p'.σ C := by
  obtain ⟨⟨a1, a2, a3⟩, hC⟩ := hr
  have hpres := execPy_pres body hfresh hb
  rw [pyStep, ← execPy_extend (d := intDecl) body hfresh] at hb
  obtain ⟨⟨b1, b2, b3⟩, hC2⟩ := ihb _ p' q hb (holdsC_set hC hxC _) ⟨agreeS_extend a1 rfl, a2, a3⟩
  rw [Store.get_set_eq] at hpres
  exact ⟨by rw [← b1 (x, 0) (Or.inl (by simp [Env.extend])), hpres], ⟨agreeS_restrict hx b1, b2, b3⟩, hC2⟩

/-- **Semantic preservation for statements with loops** (loops: SystemVerilog backend, ascending
    ranges).  If the PyMTL simulation executes the statement without exception from `p` to `p'`, the
    emitted statement, started in any state `q` that agrees with `p` on the declared variables, ends in
    a state that agrees with `p'` on the declared variables and has the same pending non-blocking
    updates and the same `fuelOut` flag (`execPy` never sets that flag).  (The two stores may differ on the cells of loop variables
    that are out of scope: Python keeps the last value, SystemVerilog the exit value.  Equality of the stores does
    not follow from this agreement, so `stmt_correct` is not the loop-free instance.) -/
theorem stmt_sim (be : Backend) (cb : Bool) (C : List (String × Nat)) {Γ : Env} {s : RStmt}
    (hwt : WTsL be C Γ s) (hs : signSafeS be s = true) {p p' q : XS} (h : execPy be Γ s p = some p')
    (hC : HoldsC p.σ C)
    (ha : AgreeX Γ p q) : AgreeX Γ p' (exec cb Γ (trStmt be s) q) ∧ HoldsC p'.σ C := by
  induction hwt generalizing p p' q with
  | skip => cases h; exact ⟨ha, hC⟩
  | @assign Γ blk l r ty hl hr hw hx =>
    simp [signSafeS] at hs
    obtain ⟨rfl, hC'⟩ := assign_correct (cb := cb) hC hr hs.2 (target_correct hC hl hs.1 hw hx) h
    exact ⟨exec_assign_ext ha be blk l r, hC'⟩
  | @assignTmp Γ blk x w r ty hx hw hr hrw hnc =>
    simp [signSafeS] at hs
    obtain ⟨rfl, hC'⟩ := assign_correct (cb := cb) hC hr hs.2 (targetTmp_correct hx hw hrw hnc) h
    exact ⟨exec_assign_ext ha be blk _ r, hC'⟩
  | @ite Γ c t e hc _ _ iht ihe =>
    simp [signSafeS] at hs
    rw [execPy] at h
    obtain ⟨vc, hev, h⟩ := Option.bind_eq_some_iff.1 h
    obtain ⟨c1, c2, -⟩ := expr_correct be cb Γ C p.σ hC hc hs.1.1 hev
    rw [eval_ext ha.1] at c1
    simp only [trStmt, exec, c2, c1]
    split at h
    · rw [if_pos ‹_›]; exact iht hs.1.2 h hC ha
    · rw [if_neg ‹_›]; exact ihe hs.2 h hC ha
  | @seq Γ a b _ _ iha ihb =>
    simp [signSafeS] at hs
    rw [execPy] at h
    obtain ⟨p1, hea, h⟩ := Option.bind_eq_some_iff.1 h
    obtain ⟨a1, a2⟩ := iha hs.1 hea hC ha
    exact ihb hs.2 h a2 a1
  | @for_ Γ blk x start stop step sw ew pw body hbe hx hxC hpos hstart hstop hstep hs32 hbound hlen
      hfresh _ ihb =>
    subst hbe
    simp [signSafeS] at hs
    rw [execPy_for] at h
    rw [exec_for_unfold cb Γ blk x start stop step sw ew pw body q hstart hs32]
    obtain ⟨a1, a2, a3⟩ := ha
    have ha0 : AgreeX Γ p { q with σ := q.σ.set (x, 0) start } := ⟨AgreeS.set_undeclared hx a1 start, a2, a3⟩
    exact iter_range (fun p q => AgreeX Γ p q ∧ HoldsC p.σ C) (pyStep Γ x body) (Env.extend_self ..) hstop hstep hbound
      (fun p p' q hr _ hb => loop_sim hx hxC hfresh (fun p p' q h1 h2 h3 => ihb hs h1 h2 h3) p p' q hr hb)
      (start + stop + 1) loopFuel start p p' _ ⟨ha0, hC⟩ (by simp [Store.get_set_eq]) hs32
      (pyRange_fuel_ok start stop step hpos) hlen h

theorem stmt_correct_loops (be : Backend) (cb : Bool) (C : List (String × Nat)) {Γ : Env} {s : RStmt}
    (hwt : WTsL be C Γ s) (hs : signSafeS be s = true) {p p' : XS} (h : execPy be Γ s p = some p')
    (hC : HoldsC p.σ C) :
    AgreeX Γ p' (exec cb Γ (trStmt be s) p) ∧ HoldsC p'.σ C :=
  stmt_sim be cb C hwt hs h hC (AgreeX.refl Γ p)

/-! ### sanity: the invariants are inhabited -/

/-- `sext(16, a[2:6]) + zext(16, m[a[0:2]])` -/
def exE : RExpr :=
  .bin .add (.sext 16 (.slice (.sig "a" 8) 2 6 3 3))
    (.zext 16 (.index (.sig "m" 8) (.slice (.sig "a" 8) 0 2 3 3) 8))

theorem exE_wt (be : Backend) (Γ : Env) (h1 : Γ "a" = some ⟨.vec 8, []⟩)
    (h2 : Γ "m" = some ⟨.vec 8, [4]⟩) : WT be Γ [] exE := by
  have ha : WTm be Γ [] (some ⟨.vec 8, []⟩) (.sig "a" 8) := .rsig h1
  have hm : WTm be Γ [] (some ⟨.vec 8, [4]⟩) (.sig "m" 8) := .rsig h2
  refine .arith ?_ ?_ rfl (by decide)
  · exact .sextSlice ha (by decide) (by decide) (by decide) (by decide) (by decide)
  · refine .zext (.ofRef (.ridxU hm ?_) rfl (by decide)) (by decide)
    exact .ofRef (.rslice ha (by decide) (by decide) (by decide) (by decide)) rfl (by decide)

def exΓ : Env := fun x =>
  if x = "a" then some ⟨.vec 8, []⟩ else if x = "m" then some ⟨.vec 8, [4]⟩
  else if x = "o" then some ⟨.vec 16, []⟩ else none

/-- `for i in range(0, 4, 1): o <<= exE` -/
def exS : RStmt := .for_ "blk" "i" 0 4 1 false 32 32 32 (.assign false (.sig "o" 16) exE)

theorem exS_wt : WTsL .verilog [] exΓ exS := by
  refine .for_ rfl (by simp [exΓ]) (by simp) (by decide) (by decide) (by decide) (by decide) (by decide)
    (by decide) (by decide) ?_ ?_
  · simp [freshS, freshE, exE]
  · exact .assign (ty := .vec 16) (.rsig (by simp [Env.extend, exΓ]))
      (exE_wt _ _ (by simp [Env.extend, exΓ]) (by simp [Env.extend, exΓ])) rfl (by simp)

end PV.SVProofs
