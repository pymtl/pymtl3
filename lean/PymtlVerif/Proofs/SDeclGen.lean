import PymtlVerif.Proofs.SDeclRender
/-!
# `gen_signal_expr` on a well-typed object path yields `OPath.sexp` (C03)

`construct_attr` / `construct_index` / `construct_slice` choose the node class from the RTLIR type of the base; for a path that is
well typed in the component's table (the sub-component slot, the interfaces, the port / wire exist with as many indices as they
have list dimensions; the steps into the data type fit it) the classes are those of `OPath.sexp`.
-/
namespace PV.SDecl
open PV.SV PV.Names

def PStep.tk : PStep → Tk
  | .fld f => .attr f
  | .pidx i => .idx i
  | .bit i => .idx i
  | .slice lo hi => .slice lo hi

def lvToks (l : String × List Nat) : List Tk := Tk.attr l.1 :: l.2.map Tk.idx

/-- the tokens `gen_signal_expr` applies for the path (`tokens_eq`: outermost object first, attribute then indices) -/
def OPath.toks (p : OPath) : List Tk := p.levels.flatMap lvToks ++ p.packed.map PStep.tk

theorem constructAll_append (n : SExp × RT) (a b : List Tk) :
    constructAll n (a ++ b) = (constructAll n a).bind fun n' => constructAll n' b := by
  induction a generalizing n with
  | nil => simp [constructAll]
  | cons t a ih =>
    simp only [List.cons_append, constructAll]
    cases construct n t with
    | none => simp
    | some n' => simpa using ih n'

theorem constructAll_idx (X : RT) (mk : SExp → Nat → SExp)
    (hc : ∀ e d ds i, construct (e, RT.arr (d :: ds) X) (Tk.idx i) = some (mk e i, mkArr ds X))
    (e : SExp) (dims ix : List Nat) (h : ix.length = dims.length) :
    constructAll (e, mkArr dims X) (ix.map Tk.idx) = some (ix.foldl mk e, X) := by
  induction dims generalizing e ix with
  | nil =>
    have : ix = [] := List.eq_nil_of_length_eq_zero (by simpa using h)
    subst this
    simp [constructAll, mkArr]
  | cons d ds ih =>
    cases ix with
    | nil => simp at h
    | cons i ix =>
      have h' : ix.length = ds.length := by simpa using h
      have e1 : mkArr (d :: ds) X = RT.arr (d :: ds) X := by simp [mkArr]
      simp only [List.map_cons, constructAll, e1, hc, List.foldl_cons]
      exact ih (mk e i) ix h'

def sigRT (wire : Bool) (ty : PTy) : RT := if wire then .wire ty else .port ty

/-- the steps into the data type fit it; a bit / slice is the last step -/
def PackedTyped : PTy → List PStep → Prop
  | _, [] => True
  | .struct _ fs, .fld f :: r => ∃ p, fs.find f = some p ∧ PackedTyped p.2 r
  | .arr _ e, .pidx _ :: r => PackedTyped e r
  | .vec _, [.bit _] => True
  | .vec _, [.slice _ _] => True
  | _, _ => False

theorem construct_fld (wire : Bool) (e : SExp) (nm : String) (fs : Fields) (f : String) (p : Nat × PTy)
    (hp : fs.find f = some p) :
    construct (e, sigRT wire (.struct nm fs)) (.attr f) = some (.structAttr e f, sigRT wire p.2) := by
  cases wire <;> exact congrArg (Option.map _) hp

theorem construct_pidx (wire : Bool) (e : SExp) (n : Nat) (t : PTy) (i : Nat) :
    construct (e, sigRT wire (.arr n t)) (.idx i) = some (.packedIdx e i, sigRT wire t) := by
  cases wire <;> rfl

theorem constructAll_packed (wire : Bool) (ty : PTy) (ss : List PStep) (h : PackedTyped ty ss) (e : SExp) :
    ∃ t, constructAll (e, sigRT wire ty) (ss.map PStep.tk) = some (ss.foldl PStep.sexp e, t) := by
  fun_induction PackedTyped ty ss generalizing e with
  | case1 => exact ⟨_, rfl⟩
  | case2 nm fs f r ih =>
    obtain ⟨p, hp, hr⟩ := h
    obtain ⟨t, ht⟩ := ih p hr (.structAttr e f)
    exact ⟨t, by simpa only [List.map_cons, List.foldl_cons, PStep.tk, PStep.sexp, constructAll,
      construct_fld wire e nm fs f p hp] using ht⟩
  | case3 n t' i r ih =>
    obtain ⟨t, ht⟩ := ih h (.packedIdx e i)
    exact ⟨t, by simpa only [List.map_cons, List.foldl_cons, PStep.tk, PStep.sexp, constructAll, construct_pidx] using ht⟩
  | case4 w i => cases wire <;> exact ⟨_, rfl⟩
  | case5 w lo hi => cases wire <;> exact ⟨_, rfl⟩
  | case6 => exact h.elim

theorem construct_sigIdx (wire : Bool) (t : PTy) : ∀ e d ds i, construct (e, RT.arr (d :: ds) (sigRT wire t)) (Tk.idx i)
    = some ((if wire then SExp.wireIdx else SExp.portIdx) e i, mkArr ds (sigRT wire t)) := by
  cases wire <;> exact fun _ _ _ _ => rfl
theorem construct_ifcIdx (ms : Members) : ∀ e d ds i, construct (e, RT.arr (d :: ds) (.ifc ms)) (Tk.idx i) = some (SExp.ifcIdx e i, mkArr ds (.ifc ms)) :=
  fun _ _ _ _ => rfl
theorem construct_compIdx (k : Sub) : ∀ e d ds i, construct (e, RT.arr (d :: ds) (.sub k)) (Tk.idx i) = some (SExp.compIdx e i, mkArr ds (.sub k)) :=
  fun _ _ _ _ => rfl

/-- `get_property` of the three kinds of scopes -/
def RT.prop : RT → String → Option RT
  | .cur T, a => T.prop a
  | .sub k, a => k.prop a
  | .ifc ms, a => ms.prop a
  | _, _ => none

/-- the attribute node `construct_attr` makes under a scope -/
def RT.mkAttr : RT → SExp → String → SExp
  | .cur _ => SExp.curAttr
  | .sub _ => SExp.subAttr
  | _ => SExp.ifcAttr

def RT.IsScope : RT → Prop
  | .cur _ => True
  | .sub _ => True
  | .ifc _ => True
  | _ => False

theorem construct_attr_scope (scope : RT) (hs : scope.IsScope) (e : SExp) (a : String) (t : RT) (h : scope.prop a = some t) :
    construct (e, scope) (Tk.attr a) = some (scope.mkAttr e a, t) := by
  cases scope with
  | cur T => exact congrArg (Option.map _) h
  | sub k => exact congrArg (Option.map _) h
  | ifc ms => exact congrArg (Option.map _) h
  | port _ => exact hs.elim
  | wire _ => exact hs.elim
  | arr _ _ => exact hs.elim

theorem constructAll_level (scope : RT) (hs : scope.IsScope) (e : SExp) (n : String) (ix dims : List Nat) (X : RT)
    (mk : SExp → Nat → SExp) (hp : scope.prop n = some (mkArr dims X))
    (hc : ∀ e d ds i, construct (e, RT.arr (d :: ds) X) (Tk.idx i) = some (mk e i, mkArr ds X))
    (hl : ix.length = dims.length) :
    constructAll (e, scope) (lvToks (n, ix)) = some (ix.foldl mk (scope.mkAttr e n), X) := by
  simp only [lvToks, constructAll, construct_attr_scope scope hs e n _ hp]
  exact constructAll_idx X mk hc _ dims ix hl

/-- the interface levels exist below `scope`, each with as many indices as list dimensions; `fin` = the innermost scope -/
def LevelsTyped : RT → List (String × List Nat) → RT → Prop
  | s, [], fin => fin = s
  | s, (n, ix) :: rest, fin =>
    ∃ dims ms, s.prop n = some (mkArr dims (.ifc ms)) ∧ ix.length = dims.length ∧ LevelsTyped (.ifc ms) rest fin

theorem constructAll_levels (ifcs : List (String × List Nat)) (scope fin : RT) (hs : scope.IsScope)
    (h : LevelsTyped scope ifcs fin) (e : SExp) :
    constructAll (e, scope) (ifcs.flatMap lvToks) = some ((goIfcs e scope.mkAttr ifcs).1, fin) ∧
    (goIfcs e scope.mkAttr ifcs).2 = fin.mkAttr ∧ fin.IsScope := by
  induction ifcs generalizing scope e with
  | nil =>
    have : fin = scope := h
    subst this
    exact ⟨by simp [constructAll, goIfcs], by simp [goIfcs], hs⟩
  | cons l rest ih =>
    obtain ⟨n, ix⟩ := l
    obtain ⟨dims, ms, hp, hl, hr⟩ := h
    have h1 := constructAll_level scope hs e n ix dims (.ifc ms) SExp.ifcIdx hp (construct_ifcIdx ms) hl
    have h2 := ih (.ifc ms) trivial hr (ix.foldl SExp.ifcIdx (scope.mkAttr e n))
    simp only [List.flatMap_cons, constructAll_append, h1, Option.bind_some, goIfcs]
    exact h2

/-- **the path is well typed in the table** -/
structure OPath.TypedIn (p : OPath) (T : Table) : Prop where
  /-- wires belong to the current component -/
  wireLocal : p.WireLocal
  ok : ∃ (scope fin : RT) (ty : PTy) (sdims : List Nat),
    -- the sub-component level (or the component itself)
    (match p.comp with
      | none => scope = .cur T
      | some c => ∃ cd k, T.prop c.1 = some (mkArr cd (.sub k)) ∧ c.2.length = cd.length ∧ scope = .sub k) ∧
    -- the interface levels, the signal with as many indices as it has list dimensions, the steps into its data type
    LevelsTyped scope p.ifcs fin ∧ fin.prop p.sigName = some (mkArr sdims (sigRT p.isWire ty)) ∧
    p.sigIdx.length = sdims.length ∧ PackedTyped ty p.packed

/-- the enclosing levels: `gen_signal_expr` arrives at `OPath.scope` and at the type `fin` of the innermost scope -/
theorem constructAll_scope (T : Table) (p : OPath) (scope fin : RT)
    (hcomp : match p.comp with
      | none => scope = .cur T
      | some c => ∃ cd k, T.prop c.1 = some (mkArr cd (.sub k)) ∧ c.2.length = cd.length ∧ scope = .sub k)
    (hlv : LevelsTyped scope p.ifcs fin) :
    constructAll (SExp.cur, RT.cur T) (p.outer.flatMap lvToks) = some (p.scope.1, fin) ∧
      p.scope.2 = fin.mkAttr ∧ fin.IsScope := by
  have key : constructAll (SExp.cur, RT.cur T) ((match p.comp with | some c => [c] | none => []).flatMap lvToks)
      = some (p.head.1, scope) ∧ p.head.2 = scope.mkAttr ∧ scope.IsScope := by
    unfold OPath.head
    cases hc : p.comp with
    | none =>
      rw [hc] at hcomp; subst hcomp
      exact ⟨rfl, rfl, trivial⟩
    | some c =>
      rw [hc] at hcomp
      obtain ⟨cd, k, hp, hl, rfl⟩ := hcomp
      refine ⟨?_, rfl, trivial⟩
      rw [List.flatMap_cons, List.flatMap_nil, List.append_nil]
      exact constructAll_level (RT.cur T) trivial SExp.cur c.1 c.2 cd (.sub k) SExp.compIdx hp (construct_compIdx k) hl
  have h2 := constructAll_levels p.ifcs scope fin key.2.2 hlv p.head.1
  rw [← key.2.1] at h2
  exact ⟨by rw [OPath.outer, List.flatMap_append, constructAll_append]; exact (congrArg (Option.bind · _) key.1).trans h2.1, h2.2⟩

/-- **`gen_signal_expr` on a well-typed path builds `OPath.sexp`.** -/
theorem constructAll_opath (T : Table) (p : OPath) (h : p.TypedIn T) :
    ∃ t, constructAll (SExp.cur, RT.cur T) p.toks = some (p.sexp, t) := by
  obtain ⟨_, scope, fin, ty, sdims, hcomp, hlv, hsig, hsl, hpk⟩ := h
  obtain ⟨h1, hmk, hfin⟩ := constructAll_scope T p scope fin hcomp hlv
  have h3 := constructAll_level fin hfin p.scope.1 p.sigName p.sigIdx sdims _ _ hsig (construct_sigIdx p.isWire ty) hsl
  obtain ⟨t, h4⟩ := constructAll_packed p.isWire ty p.packed hpk
    (p.sigIdx.foldl (if p.isWire then SExp.wireIdx else SExp.portIdx) (fin.mkAttr p.scope.1 p.sigName))
  refine ⟨t, ?_⟩
  rw [p.sexp_eq, hmk, OPath.toks, p.levels_eq]
  simp only [List.flatMap_append, List.flatMap_cons, List.flatMap_nil, List.append_nil, constructAll_append, h1, h3, h4,
    Option.bind_some]

end PV.SDecl
