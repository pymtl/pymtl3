import PymtlVerif.Proofs.HierHookSpec
import PymtlVerif.Proofs.HierNested
/-!
# The naming hook keeps "every object of the design has a name that evaluates to it"

What one statement of construct code does to names, design and records (`step_summary`), built from what
the hook's queue walk visits and what its loop body leaves in `_dsl`; from it, `HInv` is kept by every
statement and every history, whatever state they start in (`HInv.step`, `HSteps.inv`).
-/
namespace PV.Hier

variable {st st' : HSt} {root s : Nat} {a : String} {v : HVal}

theorem hgetPath_lst_cons (id : Nat) (xs : List HVal) (i : Nat) (r : List Nat) :
    hgetPath (.lst id xs) (i :: r) = xs[i]?.bind (hgetPath · r) := by
  rw [hgetPath]; cases xs[i]? <;> rfl

/-- the hook model's nested lists: `hgetPath`, `henum` -/
def HVal.nested : Nested HVal where
  kids | .lst _ xs => some xs | _ => none
  path := hgetPath
  enum := henum
  path_nil _ := rfl
  path_cons v i r := by
    cases v with
    | lst id xs => exact hgetPath_lst_cons id xs i r
    | _ => rfl
  enum_nil _ _ := rfl
  enum_cons _ _ _ _ := rfl

theorem hgetPath_lst_of_cons {v w : HVal} {i : Nat} {r : List Nat} (h : hgetPath v (i :: r) = some w) :
    ∃ id xs x, v = .lst id xs ∧ xs[i]? = some x ∧ hgetPath x r = some w := by
  cases v with
  | lst id xs =>
    rw [hgetPath_lst_cons] at h
    obtain ⟨x, hi, h⟩ := Option.bind_eq_some_iff.1 h
    exact ⟨id, xs, x, rfl, hi, h⟩
  | _ => cases h

theorem hgetPath_append (v : HVal) (a b : List Nat) :
    hgetPath v (a ++ b) = (hgetPath v a).bind (hgetPath · b) :=
  HVal.nested.path_append v a b

theorem hqSize_append (a b : List (HVal × List Nat)) : hqSize (a ++ b) = hqSize a + hqSize b := by
  induction a with
  | nil => exact (Nat.zero_add _).symm
  | cons p r ih => rw [List.cons_append, hqSize, hqSize, ih, Nat.add_assoc]

theorem hqSize_henum (ix : List Nat) (k : Nat) (xs : List HVal) : hqSize (henum ix k xs) = HVal.sizeL xs := by
  induction xs generalizing k with
  | nil => rfl
  | cons v r ih => rw [henum, hqSize, HVal.sizeL, ih]

/-- **The queue walk visits every `NamedObject` of the nested list with its index path, and nothing
else** (for a step bound that covers the queue). -/
theorem mem_hbfsF (n : Nat) (q : List (HVal × List Nat)) (hn : hqSize q ≤ n) (o : Nat) (ix : List Nat) :
    (o, ix) ∈ hbfsF n q ↔ ∃ p ∈ q, Below HVal.nested (.obj o) ix p := by
  induction n generalizing q with
  | zero =>
    cases q with
    | nil => simp [hbfsF]
    | cons p r =>
      -- every queue entry has positive size
      have : p.1.size = 0 := (Nat.add_eq_zero_iff.1 (Nat.le_zero.1 hn)).1
      obtain ⟨v, jx⟩ := p
      cases v <;> cases this
  | succ n ih =>
    cases q with
    | nil => simp [hbfsF]
    | cons p q =>
      obtain ⟨v0, jx⟩ := p
      have hq : hqSize q + v0.size ≤ n + 1 := by rw [Nat.add_comm]; exact hn
      simp only [List.mem_cons, exists_eq_or_imp]
      cases v0 with
      | obj c =>
        rw [hbfsF, List.mem_cons, ih q (Nat.le_of_succ_le_succ hq), below_leaf (rfl : HVal.nested.kids (.obj c) = none)]
        simp only [Prod.mk.injEq, HVal.obj.injEq]
      | other =>
        rw [hbfsF, ih q (Nat.le_of_succ_le_succ hq), below_leaf (rfl : HVal.nested.kids .other = none)]
        simp only [Prod.mk.injEq, reduceCtorEq, false_and, false_or]
      | lst id xs =>
        have hq' : hqSize (q ++ henum jx 0 xs) ≤ n := by
          rw [hqSize_append, hqSize_henum]; exact Nat.le_of_succ_le_succ hq
        rw [hbfsF, ih _ hq']
        exact below_queue (N := HVal.nested) rfl rfl

theorem mem_hbfs (q : List (HVal × List Nat)) (o : Nat) (ix : List Nat) :
    (o, ix) ∈ hbfs q ↔ ∃ p ∈ q, Below HVal.nested (.obj o) ix p :=
  mem_hbfsF _ q (Nat.le_refl _) o ix

/-- the hook's walk is the queue loop started on the value itself -/
theorem visited_eq_hbfs (v : HVal) : visited v = hbfs [(v, [])] := by
  cases v with
  | obj c => rfl
  | other => rfl
  -- the list's own node pays for the first iteration, which leaves the bound `visited` starts with
  | lst id xs => exact (congrArg (hbfsF · _) (hqSize_henum [] 0 xs)).trans rfl

theorem mem_visited {u : Nat} {ix : List Nat} :
    (u, ix) ∈ visited v ↔ hgetPath v ix = some (.obj u) := by
  rw [visited_eq_hbfs, mem_hbfs]
  simp only [List.mem_singleton, exists_eq_left]
  exact below_nil

theorem no_obj_of_not_takesHook (h : v.takesHook = false)
    {ix : List Nat} {u : Nat} : hgetPath v ix ≠ some (.obj u) := by
  intro hp
  cases ix with
  | nil => cases hp; cases h
  | cons i r =>
    obtain ⟨id, xs, x, rfl, hi, hx⟩ := hgetPath_lst_of_cons hp
    have hw := List.any_eq_false.1 h x (List.mem_of_getElem? hi)
    cases x with
    | other => cases r <;> cases hx
    | _ => exact hw rfl

theorem nameWalk_attrs (s : Nat) (a : String) (ext : Bool) (st : HSt) (occ : List (Nat × List Nat)) :
    (nameWalk s a ext st occ).attrs = st.attrs := by
  induction occ generalizing st with
  | nil => rfl
  | cons p r ih =>
    rw [nameWalk]
    split
    · exact ih st
    · rw [ih, nameOne]; split <;> rfl

theorem nameOne_dsl {sd : Dsl} (hs : st.dsl s = some sd) (a : String) (ix : List Nat) (u : Nat) :
    (nameOne st s a ix u).dsl = upd st.dsl u (some (mkDsl sd s a ix)) := by
  rw [nameOne, hs]

theorem nameOne_dsl_of_ne (st : HSt) (s : Nat) (a : String) (ix : List Nat) {u o : Nat} (h : o ≠ u) :
    (nameOne st s a ix u).dsl o = st.dsl o := by
  rw [nameOne]; split
  · rfl
  · exact if_neg h

/-- `s.x += …` (`extended`) leaves every record that exists alone -/
theorem nameWalk_keeps (s : Nat) (a : String) (occ : List (Nat × List Nat)) (st : HSt) {o : Nat} {d : Dsl}
    (ho : st.dsl o = some d) : (nameWalk s a true st occ).dsl o = some d := by
  induction occ generalizing st with
  | nil => exact ho
  | cons p r ih =>
    rw [nameWalk]
    split
    · exact ih st ho
    · rename_i hsk
      refine ih _ ((nameOne_dsl_of_ne st s a p.2 ?_).trans ho)
      rintro rfl
      rw [ho] at hsk; exact hsk rfl

/-- What the walk leaves in `_dsl` when the owner `s` is not among the visited objects: the owner's
record is untouched; every record is unchanged or is the record of one of the object's positions in the
list; every visited object has a record afterwards. -/
theorem nameWalk_spec (s : Nat) (a : String) (ext : Bool) {sd : Dsl} (occ : List (Nat × List Nat)) (st : HSt)
    (hs : st.dsl s = some sd) (hne : ∀ p ∈ occ, p.1 ≠ s) :
    (nameWalk s a ext st occ).dsl s = some sd ∧
    (∀ u, (nameWalk s a ext st occ).dsl u = st.dsl u ∨
      ∃ ix, (u, ix) ∈ occ ∧ (nameWalk s a ext st occ).dsl u = some (mkDsl sd s a ix)) ∧
    (∀ u, (st.dsl u).isSome = true ∨ (∃ ix, (u, ix) ∈ occ) → ((nameWalk s a ext st occ).dsl u).isSome = true) := by
  induction occ generalizing st with
  | nil => exact ⟨hs, fun _ => .inl rfl, fun u h => h.elim id fun ⟨_, hm⟩ => nomatch hm⟩
  | cons p r ih =>
    obtain ⟨u0, ix0⟩ := p
    have hne' : ∀ p ∈ r, p.1 ≠ s := fun p hp => hne p (.tail _ hp)
    rw [nameWalk]
    split
    · rename_i hsk
      obtain ⟨h1, h2, h3⟩ := ih st hs hne'
      refine ⟨h1, fun u => (h2 u).imp_right fun ⟨ix, hm, h⟩ => ⟨ix, .tail _ hm, h⟩, fun u hu => h3 u ?_⟩
      rcases hu with hu | ⟨ix, hm⟩
      · exact .inl hu
      · rcases List.mem_cons.1 hm with e | hm
        · cases e; exact .inl (Bool.and_eq_true_iff.1 hsk).2
        · exact .inr ⟨ix, hm⟩
    · have hd := nameOne_dsl hs a ix0 u0
      have hu0 : u0 ≠ s := hne _ (.head _)
      obtain ⟨h1, h2, h3⟩ := ih (nameOne st s a ix0 u0) (by rw [hd]; exact (if_neg hu0.symm).trans hs) hne'
      have hself : (nameOne st s a ix0 u0).dsl u0 = some (mkDsl sd s a ix0) := by rw [hd]; exact if_pos rfl
      refine ⟨h1, fun u => ?_, fun u hu => h3 u ?_⟩
      · rcases h2 u with h | ⟨ix, hm, h⟩
        · by_cases hu : u = u0
          · subst hu; exact .inr ⟨ix0, .head _, h.trans hself⟩
          · exact .inl (h.trans (nameOne_dsl_of_ne st s a ix0 hu))
        · exact .inr ⟨ix, .tail _ hm, h⟩
      · by_cases hu' : u = u0
        · subst hu'; exact .inl (by rw [hself]; rfl)
        · rw [nameOne_dsl_of_ne st s a ix0 hu']
          refine hu.imp_right fun ⟨ix, hm⟩ => ⟨ix, ?_⟩
          rcases List.mem_cons.1 hm with e | hm
          · cases e; exact absurd rfl hu'
          · exact hm

theorem hrun_cons (st : HSt) (v : HVal) (t : Tok) (ts : List Tok) :
    hrun st v (t :: ts) = (hstep st v t).bind (hrun st · ts) := by
  rw [hrun]; cases hstep st v t <;> rfl

theorem hrun_append (st : HSt) (v : HVal) (a b : List Tok) :
    hrun st v (a ++ b) = (hrun st v a).bind (hrun st · b) := by
  induction a generalizing v with
  | nil => rfl
  | cons t r ih =>
    rw [List.cons_append, hrun_cons, hrun_cons]
    cases hstep st v t with
    | none => rfl
    | some w => exact ih w

theorem hrun_idx (st : HSt) (v : HVal) (ix : List Nat) : hrun st v (ix.map .idx) = hgetPath v ix := by
  induction ix generalizing v with
  | nil => rfl
  | cons i r ih =>
    cases v with
    | lst id xs =>
      rw [List.map_cons, hrun_cons, hgetPath_lst_cons]
      exact congrArg (Option.bind xs[i]?) (funext ih)
    | _ => rfl

theorem hresolve_eq_some {n : Name} {r : HVal} :
    hresolve st root n = some r ↔ ∃ tl, n = .root :: tl ∧ hrun st (.obj root) tl = some r := by
  constructor
  · intro h
    cases n with
    | nil => cases h
    | cons t tl =>
      cases t with
      | root => exact ⟨tl, rfl, h⟩
      | _ => cases h
  · rintro ⟨tl, rfl, h⟩; exact h

/-- `st'` answers every `getattr` that succeeds in `st` the same way -/
def LookupLe (st st' : HSt) : Prop :=
  ∀ o b w, (st.attrs o).lookup b = some w → (st'.attrs o).lookup b = some w

theorem hrun_map (f : HVal → HVal)
    (h : ∀ v t w, hstep st v t = some w → hstep st' (f v) t = some (f w)) {v r : HVal} {toks : List Tok}
    (hr : hrun st v toks = some r) : hrun st' (f v) toks = some (f r) := by
  induction toks generalizing v with
  | nil => cases hr; rfl
  | cons t ts ih =>
    rw [hrun_cons] at hr ⊢
    obtain ⟨w, hs, hr⟩ := Option.bind_eq_some_iff.1 hr
    rw [h v t w hs]; exact ih hr

theorem hrun_mono (h : LookupLe st st') {v r : HVal} {toks : List Tok}
    (hr : hrun st v toks = some r) : hrun st' v toks = some r := by
  refine hrun_map id (fun v t w hs => ?_) hr
  cases v with
  | obj o =>
    cases t with
    | attr b => exact h o b w hs
    | _ => cases hs
  | _ => cases t <;> exact hs

theorem hresolve_mono (h : LookupLe st st') {n : Name} {r : HVal}
    (hr : hresolve st root n = some r) : hresolve st' root n = some r :=
  hresolve_eq_some.2 ((hresolve_eq_some.1 hr).imp fun _ h' => ⟨h'.1, hrun_mono h h'.2⟩)

theorem reach_mono (h : LookupLe st st') {w : HVal}
    (hr : HReach st root w) : HReach st' root w := by
  induction hr with
  | root => exact .root
  | attr _ hp hl ih => exact .attr ih hp (h _ _ _ hl)
  | elem _ hx ih => exact .elem ih hx

theorem reach_lookup_congr {st st' : HSt} (h1 : LookupLe st st') (h2 : LookupLe st' st) {root : Nat} {w : HVal} :
    HReach st root w ↔ HReach st' root w := ⟨reach_mono h1, reach_mono h2⟩

/-- `getattr` after `super().__setattr__( a, v )` on `s` -/
theorem lookup_setAttr (st0 : HSt) (s : Nat) (a : String) (v : HVal) (o : Nat) (b : String) :
    ((setAttr st0 s a v).attrs o).lookup b = if o = s ∧ b = a then some v else (st0.attrs o).lookup b := by
  show (if o = s then (a, v) :: st0.attrs s else st0.attrs o).lookup b = _
  by_cases ho : o = s
  · subst ho
    rw [if_pos rfl, List.lookup_cons]
    by_cases hb : b = a
    · subst hb; rw [beq_self_eq_true, if_pos ⟨rfl, rfl⟩]
    · rw [beq_false_of_ne hb, if_neg fun h => hb h.2]
  · rw [if_neg ho, if_neg fun h => ho h.1]

theorem lookupLe_setAttr {st st' : HSt} (ha : st'.attrs = (setAttr st s a v).attrs)
    (h : ∀ w, (st.attrs s).lookup a = some w → w = v) : LookupLe st st' := by
  intro o b w hl
  rw [ha, lookup_setAttr]
  split
  · rename_i hc; rw [hc.1, hc.2] at hl; rw [h w hl]
  · exact hl

theorem lookupLe_of_setAttr_same {st st' : HSt} (ha : st'.attrs = (setAttr st s a v).attrs)
    (h : (st.attrs s).lookup a = some v) : LookupLe st' st := by
  intro o b w hl
  rw [ha, lookup_setAttr] at hl
  split at hl
  · rename_i hc; rw [hc.1, hc.2, h]; exact hl
  · exact hl

theorem lookup_setAttr_self (st0 : HSt) (s : Nat) (a : String) (v : HVal) :
    ((setAttr st0 s a v).attrs s).lookup a = some v := by
  rw [lookup_setAttr, if_pos ⟨rfl, rfl⟩]

theorem mutate_dsl (st : HSt) (id : Nat) (f : List HVal → List HVal) : (st.mutate id f).dsl = st.dsl := rfl

theorem lookup_mutate (st : HSt) (id : Nat) (f : List HVal → List HVal) (o : Nat) (b : String) :
    ((st.mutate id f).attrs o).lookup b = ((st.attrs o).lookup b).map (HVal.mut id f) := by
  show ((st.attrs o).map fun p => (p.1, p.2.mut id f)).lookup b = _
  induction st.attrs o with
  | nil => rfl
  | cons p r ih =>
    rw [List.map_cons, List.lookup_cons, List.lookup_cons, ih]
    cases b == p.1 <;> rfl

theorem mutL_eq_map (id : Nat) (f : List HVal → List HVal) (xs : List HVal) :
    HVal.mutL id f xs = xs.map (HVal.mut id f) := by
  induction xs with
  | nil => rfl
  | cons x r ih => rw [HVal.mutL, ih]; rfl

theorem mut_lst (id : Nat) (f : List HVal → List HVal) (i : Nat) (xs : List HVal) :
    (HVal.lst i xs).mut id f = .lst i (if i = id then f (xs.map (HVal.mut id f)) else xs.map (HVal.mut id f)) := by
  rw [HVal.mut, mutL_eq_map]

theorem eq_obj_of_mut {id o : Nat} {f : List HVal → List HVal} (h : v.mut id f = .obj o) : v = .obj o := by
  cases v with
  | lst i xs => rw [mut_lst] at h; cases h
  | _ => exact h

theorem mut_append_lst (id : Nat) (extra : List HVal) (i : Nat) (xs : List HVal) :
    (HVal.lst i xs).mut id (· ++ extra) =
      .lst i (xs.map (HVal.mut id (· ++ extra)) ++ if i = id then extra else []) := by
  rw [mut_lst]; split
  · rfl
  · rw [List.append_nil]

/-- evaluation commutes with appending to a list: an expression that evaluated to `r` evaluates to
the extended `r` -/
theorem hrun_mutate_append (id : Nat) (extra : List HVal) {v r : HVal} {toks : List Tok}
    (hr : hrun st v toks = some r) :
    hrun (st.mutate id (· ++ extra)) (v.mut id (· ++ extra)) toks = some (r.mut id (· ++ extra)) := by
  refine hrun_map _ (fun v t w hs => ?_) hr
  cases v with
  | obj o =>
    cases t with
    | attr b => exact (lookup_mutate ..).trans (congrArg (Option.map _) hs)
    | _ => cases hs
  | other => cases hs
  | lst i xs =>
    cases t with
    | idx k =>
      have hk : xs[k]? = some w := hs
      rw [mut_append_lst]
      show (_ ++ _)[k]? = _
      rw [List.getElem?_append_left (by rw [List.length_map]; exact (List.getElem?_eq_some_iff.1 hk).1),
        List.getElem?_map, hk]; rfl
    | _ => cases hs

theorem hresolve_mutate_append (id : Nat) (extra : List HVal) {n : Name} {o : Nat}
    (hr : hresolve st root n = some (.obj o)) : hresolve (st.mutate id (· ++ extra)) root n = some (.obj o) :=
  hresolve_eq_some.2 ((hresolve_eq_some.1 hr).imp fun _ h => ⟨h.1, hrun_mutate_append id extra h.2⟩)

/-- a list method that removes no element keeps everything in the design -/
theorem reach_mutate_fwd (id : Nat) (f : List HVal → List HVal) (hf : ∀ l x, x ∈ l → x ∈ f l)
    {w : HVal} (hr : HReach st root w) : HReach (st.mutate id f) root (w.mut id f) := by
  induction hr with
  | root => exact .root
  | @attr o a v _ hp hl ih => exact .attr (o := o) (a := a) ih hp (by rw [lookup_mutate, hl]; rfl)
  | @elem i xs x _ hx ih =>
    rw [mut_lst] at ih
    refine .elem ih ?_
    have : x.mut id f ∈ xs.map (HVal.mut id f) := List.mem_map_of_mem hx
    split
    · exact hf _ _ this
    · exact this

theorem getPath_mut_append_obj (id : Nat) (extra : List HVal) {w : HVal} {ix : List Nat} {u : Nat}
    (h : hgetPath (w.mut id (· ++ extra)) ix = some (.obj u)) :
    (∃ jx, hgetPath w jx = some (.obj u)) ∨ (∃ e ∈ extra, ∃ jx, hgetPath e jx = some (.obj u)) := by
  induction ix generalizing w with
  | nil =>
    exact .inl ⟨[], congrArg some (eq_obj_of_mut (Option.some.inj h))⟩
  | cons k r ih =>
    obtain ⟨i', ys, y, hw, hk, hy⟩ := hgetPath_lst_of_cons h
    cases w with
    | lst i xs =>
      rw [mut_append_lst] at hw
      cases hw
      rw [List.getElem?_append] at hk
      split at hk
      · rw [List.getElem?_map] at hk
        obtain ⟨x, hx, rfl⟩ := Option.map_eq_some_iff.1 hk
        refine (ih hy).imp_left fun ⟨jx, hj⟩ => ⟨k :: jx, ?_⟩
        rw [hgetPath_lst_cons, hx]; exact hj
      · exact .inr ⟨y, (List.mem_ite_nil_right.1 (List.mem_of_getElem? hk)).2, r, hy⟩
    | _ => cases hw

theorem addField_attrs (st : HSt) (s : Nat) (a : String) : (addField st s a).attrs = st.attrs := by
  rw [addField]; split <;> rfl

theorem addField_dsl (st : HSt) (s : Nat) (a : String) : (addField st s a).dsl = st.dsl := by
  rw [addField]; split <;> rfl

/-- A successful hook call on a public name either does nothing (the field holds this very object
already), or walks a list of visited objects — exactly the objects at the index paths of the value —
and stores the value; `ext` (only elements without a name are named) iff the field exists already. -/
theorem assign_spec {sd : Dsl}
    (hp : isPublic a = true) (hsd : st.dsl s = some sd) (h : assign st s a v = .ok st') :
    (st' = st ∧ ∃ u, v = .obj u) ∨
    ∃ ext st0 occ, st0.attrs = st.attrs ∧ st0.dsl = st.dsl ∧
      st' = setAttr (nameWalk s a ext st0 occ) s a v ∧
      (∀ u ix, (u, ix) ∈ occ ↔ hgetPath v ix = some (.obj u)) ∧
      (occ = [] ∨ ext = (st.fields s).contains a) := by
  simp only [assign, hp, hsd, Bool.not_true, Bool.false_eq_true, if_false, Option.isNone_some] at h
  cases hw : v.takesHook with
  | false =>
    simp only [hw, Bool.not_false, if_true] at h
    cases h
    exact .inr ⟨false, st, [], rfl, rfl, rfl,
      fun u ix => iff_of_false List.not_mem_nil (no_obj_of_not_takesHook hw), .inl rfl⟩
  | true =>
    simp only [hw, Bool.not_true, Bool.false_eq_true, if_false] at h
    cases hf : (st.fields s).contains a with
    | false =>
      simp only [hf, Bool.false_eq_true, if_false] at h
      cases h
      exact .inr ⟨false, addField st s a, visited v, addField_attrs .., addField_dsl .., rfl,
        fun _ _ => mem_visited, .inr rfl⟩
    | true =>
      -- the field exists: the same list again, the same object again, or `FieldReassignError`
      simp only [hf, if_true] at h
      split at h
      · cases h
      · rename_i w hl
        split at h
        · split at h <;> cases h
          · exact .inr ⟨true, st, visited v, rfl, rfl, rfl, fun _ _ => mem_visited, .inr rfl⟩
          · rename_i hlst
            cases v with
            | obj u => exact .inl ⟨rfl, u, rfl⟩
            | other => cases hw
            | lst id xs => exact absurd rfl hlst
        · cases h

theorem getPath_elem {v x : HVal} {ix : List Nat} {id : Nat} {xs : List HVal}
    (h : hgetPath v ix = some (.lst id xs)) (hx : x ∈ xs) : ∃ jx, hgetPath v jx = some x := by
  obtain ⟨k, hk⟩ := List.getElem?_of_mem hx
  refine ⟨ix ++ [k], ?_⟩
  rw [hgetPath_append, h, Option.bind_some, hgetPath_lst_cons, hk]; rfl

/-- after `s.a = v` on a new attribute name, everything in the design was there before or lies in `v` -/
theorem reach_bind_inv {st st' : HSt} {v : HVal}
    (ha : st'.attrs = (setAttr st s a v).attrs)
    (hpl : ∀ u ix, hgetPath v ix = some (.obj u) → Placeable st root s u)
    {w : HVal} (hr : HReach st' root w) :
    HReach st root w ∨ ∃ ix, hgetPath v ix = some w := by
  induction hr with
  | root => exact .inl .root
  | @attr o b w _ hp hl ih =>
    rw [ha, lookup_setAttr] at hl
    -- an object that has an attribute was in the design before: a new one has none yet
    have ho : HReach st root (.obj o) := by
      rcases ih with ho | ⟨ix, hix⟩
      · exact ho
      · obtain ⟨hne, ho | ⟨-, hat⟩⟩ := hpl o ix hix
        · exact ho
        · rw [if_neg fun h => hne h.1, hat] at hl; cases hl
    split at hl
    · cases hl; exact .inr ⟨[], rfl⟩
    · exact .inl (.attr ho hp hl)
  | @elem id xs x _ hx ih =>
    rcases ih with ho | ⟨ix, hix⟩
    · exact .inl (.elem ho hx)
    · exact .inr (getPath_elem hix hx)

/-- after the in-place extension of a list, everything in the design is the extended form of something
that was there before, or lies in the extension -/
theorem reach_mutate_inv (id : Nat) (extra : List HVal)
    (hpl : ∀ e ∈ extra, ∀ u ix, hgetPath e ix = some (.obj u) → Placeable st root s u)
    {w : HVal} (hr : HReach (st.mutate id (· ++ extra)) root w) :
    (∃ w0, HReach st root w0 ∧ w = w0.mut id (· ++ extra)) ∨ ∃ e ∈ extra, ∃ ix, hgetPath e ix = some w := by
  induction hr with
  | root => exact .inl ⟨.obj root, .root, rfl⟩
  | @attr o b w _ hp hl ih =>
    rw [lookup_mutate] at hl
    obtain ⟨w0, hl0, rfl⟩ := Option.map_eq_some_iff.1 hl
    have ho : HReach st root (.obj o) := by
      rcases ih with ⟨w1, hw1, he⟩ | ⟨e, hemem, ix, hix⟩
      · cases eq_obj_of_mut he.symm
        exact hw1
      · obtain ⟨-, ho | ⟨-, hat⟩⟩ := hpl e hemem o ix hix
        · exact ho
        · rw [hat] at hl0; cases hl0
    exact .inl ⟨w0, .attr ho hp hl0, rfl⟩
  | @elem i xs x _ hx ih =>
    rcases ih with ⟨w0, hw0, he⟩ | ⟨e, hemem, ix, hix⟩
    · cases w0 with
      | lst j ys =>
        rw [mut_append_lst] at he
        cases he
        rcases List.mem_append.1 hx with hm | hm
        · obtain ⟨y, hy, rfl⟩ := List.mem_map.1 hm
          exact .inl ⟨y, .elem hw0 hy, rfl⟩
        · exact .inr ⟨x, (List.mem_ite_nil_right.1 hm).2, [], rfl⟩
      | _ => cases he
    · exact .inr ⟨e, hemem, getPath_elem hix hx⟩

/-- **`s.a += extra` is the hook call `s.a = v`** for the extended list `v`, made in the state in which
every reference to the list is extended already (and `s.a` is `v`). -/
theorem iadd_ok {extra : List HVal} (h : iadd st s a extra = .ok st') :
    ∃ id xs v, (st.attrs s).lookup a = some (.lst id xs) ∧
      v = .lst id (xs.map (HVal.mut id (· ++ extra)) ++ extra) ∧ (HVal.lst id xs).mut id (· ++ extra) = v ∧
      ((st.mutate id (· ++ extra)).attrs s).lookup a = some v ∧ assign (st.mutate id (· ++ extra)) s a v = .ok st' := by
  rw [iadd] at h
  split at h
  · rename_i id xs hl
    have hv : (HVal.lst id xs).mut id (· ++ extra) = .lst id (xs.map (HVal.mut id (· ++ extra)) ++ extra) := by
      rw [mut_append_lst, if_pos rfl]
    have hl1 : ((st.mutate id (· ++ extra)).attrs s).lookup a = some _ :=
      (lookup_mutate ..).trans ((congrArg (Option.map _) hl).trans (congrArg some hv))
    simp only [hl1] at h
    exact ⟨id, xs, _, hl, rfl, hv, hl1, h⟩
  · cases h

/-- the facts about one step from which the invariants follow -/
structure StepSummary (root : Nat) (st st' : HSt) : Prop where
  /-- names that evaluated to an object still evaluate to it -/
  resolves : ∀ n r, hresolve st root n = some (.obj r) → hresolve st' root n = some (.obj r)
  /-- nothing leaves the design -/
  keeps : ∀ o, HReach st root (.obj o) → HReach st' root (.obj o)
  /-- what is in the design now was there before, or was new and has a name now -/
  news : ∀ o, HReach st' root (.obj o) → HReach st root (.obj o) ∨ (st.dsl o = none ∧ (st'.dsl o).isSome = true)
  /-- the owner `s` of the statement is in the design with an unchanged record `sd`; every record is
  unchanged or is the record of a position `s.a[ix…]` which now evaluates to the object -/
  records : ∃ s sd a, st.dsl s = some sd ∧ st'.dsl s = some sd ∧ HReach st' root (.obj s) ∧
    ∀ o, st'.dsl o = st.dsl o ∨
      ∃ ix, st'.dsl o = some (mkDsl sd s a ix) ∧ hresolve st' root (sd.full ++ suffixOf a ix) = some (.obj o)

/-- the name `s.a[ix…]` evaluates to the element once `v` is stored in `s.a` -/
theorem resolve_new_name {stB : HSt} {sd : Dsl} {ix : List Nat} {o : Nat}
    (hs : hresolve stB root sd.full = some (.obj s)) (hl : (stB.attrs s).lookup a = some v)
    (hp : hgetPath v ix = some (.obj o)) :
    hresolve stB root (sd.full ++ suffixOf a ix) = some (.obj o) := by
  obtain ⟨tl, hn, hrun1⟩ := hresolve_eq_some.1 hs
  refine hresolve_eq_some.2 ⟨tl ++ suffixOf a ix, by rw [hn]; rfl, ?_⟩
  rw [hrun_append, hrun1, Option.bind_some, suffixOf, hrun_cons]
  exact (congrArg (Option.bind · _) hl).trans ((hrun_idx stB v ix).trans hp)

/-- **What a hook call does**, in any state `stA` in which the owner has a name that evaluates to it (the
state before `s.a = v`, or the state with the list extended already): nothing (the field holds this very
object), or `__dict__` changes as by a plain `setattr` that overwrites nothing (`LookupLe`), the owner's
record stays, every record is unchanged or is the record of a position that now evaluates to the object,
and every object of `v` has a record. -/
theorem assign_summary {stA stB : HSt} {sd : Dsl} (hp : isPublic a = true)
    (hsd : stA.dsl s = some sd) (hsres : hresolve stA root sd.full = some (.obj s))
    (hne : ∀ u ix, hgetPath v ix = some (.obj u) → u ≠ s)
    (hsame : ∀ w, (stA.attrs s).lookup a = some w → w = v)
    (hok : assign stA s a v = .ok stB) :
    (stB = stA ∧ ∃ u, v = .obj u) ∨
    stB.attrs = (setAttr stA s a v).attrs ∧ LookupLe stA stB ∧ stB.dsl s = some sd ∧
    (∀ o, stB.dsl o = stA.dsl o ∨
      ∃ ix, stB.dsl o = some (mkDsl sd s a ix) ∧ hresolve stB root (sd.full ++ suffixOf a ix) = some (.obj o)) ∧
    (∀ o ix, hgetPath v ix = some (.obj o) → (stB.dsl o).isSome = true) := by
  refine (assign_spec hp hsd hok).imp_right fun ⟨ext, st0, occ, ha, hd, hB, hocc, _⟩ => ?_
  subst hB
  obtain ⟨h1, h2, h3⟩ := nameWalk_spec s a ext occ st0 (hd ▸ hsd) fun p hp => hne p.1 p.2 ((hocc p.1 p.2).1 hp)
  have hat : (setAttr (nameWalk s a ext st0 occ) s a v).attrs = (setAttr stA s a v).attrs := by
    show upd _ _ _ = upd _ _ _
    rw [nameWalk_attrs, ha]
  have hle := lookupLe_setAttr hat hsame
  refine ⟨hat, hle, h1, fun o => (h2 o).imp (·.trans (congrFun hd o)) fun ⟨ix, hm, h⟩ => ⟨ix, h, ?_⟩,
    fun o ix hix => h3 o (.inr ⟨ix, (hocc o ix).2 hix⟩)⟩
  exact resolve_new_name (hresolve_mono hle hsres) (lookup_setAttr_self _ s a v) ((hocc o ix).1 hm)

theorem step_summary (hinv : HInv st root) (h : HStep root st st') :
    StepSummary root st st' := by
  cases h with
  | @bind s a v hs hp hnone hpl hok =>
    obtain ⟨sd, hsd, hsres⟩ := hinv s hs
    have hsame : ∀ w, (st.attrs s).lookup a = some w → w = v := fun w hw => nomatch hnone.symm.trans hw
    rcases assign_summary hp hsd hsres (fun u ix h => (hpl u ix h).1) hsame hok with
      ⟨rfl, -⟩ | ⟨hat, hle, hB, hrec, hnamed⟩
    · -- the same object assigned again (`assign_summary` speaks of any hook call; `hnone` rules this out): nothing changes
      exact ⟨fun _ _ h => h, fun _ h => h, fun _ h => .inl h, s, sd, a, hsd, hsd, hs, fun _ => .inl rfl⟩
    · refine ⟨fun _ _ => hresolve_mono hle, fun _ => reach_mono hle, fun o ho => ?_,
        s, sd, a, hsd, hB, reach_mono hle hs, hrec⟩
      rcases reach_bind_inv hat hpl ho with h | ⟨ix, hix⟩
      · exact .inl h
      · exact (hpl o ix hix).2.imp_right fun ⟨hnone', _⟩ => ⟨hnone', hnamed o ix hix⟩
  | @iadd s a extra hs hp hpl hself hok =>
    obtain ⟨sd, hsd, hsres⟩ := hinv s hs
    obtain ⟨id, xs, _, hl, rfl, hv, hl1, hok⟩ := iadd_ok hok
    have hne : ∀ u ix, hgetPath (.lst id (xs.map (HVal.mut id (· ++ extra)) ++ extra)) ix = some (.obj u) → u ≠ s := by
      intro u ix hix
      rcases getPath_mut_append_obj id extra (hv ▸ hix) with ⟨jx, hj⟩ | ⟨e, he, jx, hj⟩
      · exact hself _ u jx hl hj
      · exact (hpl e he u jx hj).1
    rcases assign_summary (root := root) hp (stA := st.mutate id (· ++ extra)) hsd
        (hresolve_mutate_append id extra hsres) hne (fun w hw => Option.some.inj (hw.symm.trans hl1)) hok with
      ⟨-, u, hu⟩ | ⟨hat, hle, hB, hrec, hnamed⟩
    · cases hu
    have hkeep : ∀ o, HReach st root (.obj o) → HReach st' root (.obj o) :=
      fun o ho => reach_mono hle (reach_mutate_fwd id (· ++ extra) (fun _ _ => List.mem_append_left _) ho)
    refine ⟨fun _ _ h => hresolve_mono hle (hresolve_mutate_append id extra h), hkeep, fun o ho => ?_,
      s, sd, a, hsd, hB, hkeep s hs, hrec⟩
    rcases reach_mutate_inv id extra hpl (reach_mono (lookupLe_of_setAttr_same hat hl1) ho) with
      ⟨w0, hw0, he⟩ | ⟨e, hemem, ix, hix⟩
    · cases eq_obj_of_mut he.symm
      exact .inl hw0
    · refine (hpl e hemem o ix hix).2.imp_right fun ⟨hnone', _⟩ => ⟨hnone', ?_⟩
      -- the element sits in the extended list, behind the old elements
      obtain ⟨k, hk⟩ := List.getElem?_of_mem hemem
      refine hnamed o ((xs.length + k) :: ix) ?_
      rw [hgetPath_lst_cons, List.getElem?_append_right (by rw [List.length_map]; exact Nat.le_add_right ..),
        List.length_map, Nat.add_sub_cancel_left, hk]
      exact hix

theorem reach_init {w : HVal} (h : HReach (HSt.init root) root w) : w = .obj root := by
  induction h with
  | root => rfl
  | attr _ _ hl => cases hl
  | elem _ _ ih => cases ih

theorem hinv_init (root : Nat) : HInv (HSt.init root) root := by
  intro o ho
  cases reach_init ho
  exact ⟨_, if_pos rfl, rfl⟩

/-- **One statement of construct code keeps `HInv`**, from any state that has it: an object of the design
whose record the statement leaves alone was in the design before (a new one gets a record), and its name
still evaluates to it; a record the statement writes is a position that evaluates to the object. -/
theorem HInv.step (hinv : HInv st root) (hstep : HStep root st st') : HInv st' root := by
  intro o ho
  have hs := step_summary hinv hstep
  obtain ⟨s, sd, a, _, _, _, hrec⟩ := hs.records
  rcases hrec o with heq | ⟨ix, hd, hres⟩
  · rcases hs.news o ho with hold | ⟨hnone, hsome⟩
    · obtain ⟨d, hd, hres⟩ := hinv o hold
      exact ⟨d, by rw [heq, hd], hs.resolves _ _ hres⟩
    · rw [heq, hnone] at hsome; cases hsome
  · exact ⟨_, hd, hres⟩

theorem HSteps.inv (hinv : HInv st root) (h : HSteps root st st') : HInv st' root := by
  induction h with
  | refl => exact hinv
  | tail _ hstep ih => exact ih.step hstep

end PV.Hier
