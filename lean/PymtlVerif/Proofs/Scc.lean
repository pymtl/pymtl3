import PymtlVerif.Proofs.SccCond
import PymtlVerif.Proofs.SccTopo
/-!
What `Props/C11s.lean` states of the groups (`KosFacts.partition`, `KosFacts.strongly`) and of the condensation handed to the
sort (`cond_kosaraju`), and the reading of `scc_schedule` as a run of `PV.Kahn.kahn`.
-/
namespace PV.Scc
open PV.Kahn

theorem KosFacts.partition {G GT : Graph} {V : List Nat} {k : Kos} (f : KosFacts G V k) (wf : WF G GT V) :
    (∀ g ∈ k.sccs, g ≠ []) ∧ k.sccs.flatten.Nodup ∧ ∀ x, x ∈ k.sccs.flatten ↔ x ∈ V := by
  refine ⟨?_, ?_, ?_⟩
  · intro g hg hnil
    obtain ⟨r, _, hr⟩ := f.comp g hg
    have := (hr r).mpr (Mutual.refl G r)
    exact absurd (hnil ▸ this) List.not_mem_nil
  · refine List.pairwise_flatten.mpr ⟨f.nodup, List.pairwise_iff_getElem.mpr fun i j hi hj hij x hx y hy e => ?_⟩
    exact Nat.ne_of_lt hij (f.disj i j _ _ (List.getElem?_eq_getElem hi) (List.getElem?_eq_getElem hj) x hx (e ▸ hy))
  · intro x
    rw [List.mem_flatten]
    constructor
    · rintro ⟨g, hg, hx⟩
      obtain ⟨r, hrV, hr⟩ := f.comp g hg
      exact ra_src_mem wf ((hr x).mp hx).1 hrV
    · intro hx
      obtain ⟨g, hg, hxg⟩ := f.vscc_mem x hx
      exact ⟨g, List.mem_of_getElem? hg, hxg⟩

theorem KosFacts.strongly {G : Graph} {V : List Nat} {k : Kos} (f : KosFacts G V k) {g : List Nat} (hg : g ∈ k.sccs)
    {x y : Nat} (hx : x ∈ g) (hy : y ∈ g) : RA G (fun z => z ∈ g) x y := by
  obtain ⟨r, _, hr⟩ := f.comp g hg
  have mx := (hr x).mp hx
  have my := (hr y).mp hy
  exact (mutual_path (mx.1.trans my.2) mx.2 my.1).mono fun z hz => (hr z).mpr hz

/-- the condensation handed to the sort, its sets `G_new[i]` iterated in any order -/
theorem cond_kosaraju {G GT : Graph} {V : List Nat} (wf : WF G GT V) (gn' : Graph)
    (hsame : ∀ i, (gn' i).Nodup ∧ ∀ j, j ∈ gn' i ↔ j ∈ (kosaraju G GT V).gn i) :
    Cond gn' (kosaraju G GT V).sccs.length :=
  fun i _ j hj => gnew_increasing wf (((hsame i).2 j).mp hj)

theorem reach_le {gn : Graph} {n : Nat} (hc : Cond gn n) {i j : Nat} (h : Reach gn i j) (hi : i < n) : i ≤ j :=
  (RA.closed (S := fun x => i ≤ x ∧ x < n)
    (fun x hx y hy _ => ⟨Nat.le_trans hx.1 (Nat.le_of_lt (hc x hx.2 y hy).1), (hc x hx.2 y hy).2⟩) h ⟨Nat.le_refl _, hi⟩).1

/-! ## `scc_schedule` is a run of Kahn's algorithm

The worklist sort of `schedule_intra_cycle` is a run of `PV.Kahn.kahn` (`Model/Kahn.lean`) for a suitable tie-break
oracle: every complete list whose reverse is `Good` is the output of `kahn pick'` for the oracle that picks the next
element of that list. So `PV.Kahn.kahn_sound` applies to `scc_schedule` literally. -/

theorem ready_congr (V : List Nat) (E : List (Nat × Nat)) {d1 d2 : List Nat} (h : ∀ x, x ∈ d1 ↔ x ∈ d2) :
    ready V E d1 = ready V E d2 := by
  unfold ready
  simp only [h]

/-- the oracle that follows the list `s`: the position, in the ready list, of the first element of `s` that is ready -/
def followPick (s : List Nat) (r : List Nat) : Nat := r.idxOf ((s.find? (fun x => decide (x ∈ r))).getD 0)

theorem find_first {pre post : List Nat} {v : Nat} {r : List Nat} (hpre : ∀ x ∈ pre, x ∉ r) (hv : v ∈ r) :
    ((pre ++ v :: post).find? (fun x => decide (x ∈ r))).getD 0 = v := by
  induction pre with
  | nil => simp [hv]
  | cons a pre ih =>
    have ha : a ∉ r := hpre a List.mem_cons_self
    simp only [List.cons_append, List.find?_cons, ha, decide_false]
    exact ih (fun x hx => hpre x (List.mem_cons_of_mem _ hx))

/-- induction on the part `post` of `s` still to be emitted; `pre.reverse` is `kahn`'s `done`, and the next element of
`post` is ready because `s.reverse` is `Good` -/
theorem follow_is_kahn (V : List Nat) (E : List (Nat × Nat)) (s : List Nat)
    (hend : ready V E s.reverse = []) :
    ∀ (post pre : List Nat), s = pre ++ post → Good E (pre ++ post).reverse → (∀ v ∈ post, v ∈ V) →
      ∀ fuel, post.length ≤ fuel → kahn (followPick s) V E fuel pre.reverse = s := by
  intro post
  induction post with
  | nil =>
    intro pre hs _ _ fuel _
    rw [List.append_nil] at hs
    subst hs
    cases fuel with
    | zero => exact List.reverse_reverse _
    | succ f => unfold kahn; rw [hend]; exact List.reverse_reverse _
  | cons v post ih =>
    intro pre hs hgood hV fuel hfuel
    cases fuel with
    | zero => exact absurd hfuel (Nat.not_succ_le_zero _)
    | succ f =>
      -- v is ready after `pre`, and no member of `pre` is
      obtain ⟨hvn, hvp, _⟩ : Good E (v :: pre.reverse) :=
        good_suffix post.reverse _ (by simpa using hgood)
      have hvr : v ∈ ready V E pre.reverse := mem_ready.mpr ⟨hV v List.mem_cons_self, hvn, hvp⟩
      have hpre : ∀ x ∈ pre, x ∉ ready V E pre.reverse := fun x hx hr => (mem_ready.mp hr).2.1 (List.mem_reverse.mpr hx)
      have hlt := List.idxOf_lt_length_iff.mpr hvr
      -- so the oracle picks `v`
      have hpick : followPick s (ready V E pre.reverse) % (ready V E pre.reverse).length = (ready V E pre.reverse).idxOf v := by
        rw [followPick, hs, find_first hpre hvr, Nat.mod_eq_of_lt hlt]
      rcases kahn_succ (followPick s) V E f pre.reverse with ⟨hr, _⟩ | ⟨_, hk⟩
      · exact absurd hvr (hr ▸ List.not_mem_nil)
      · simp only [hpick, List.getElem_idxOf hlt] at hk
        have := ih (pre ++ [v]) (by rw [hs, List.append_assoc]; rfl) (by rw [List.append_assoc]; exact hgood)
          (fun x hx => hV x (List.mem_cons_of_mem _ hx)) f (Nat.le_of_succ_le_succ hfuel)
        rw [List.reverse_append] at this
        exact hk.trans this

/-- **`scc_schedule` is a Kahn run**, complete or not (the condensation may have a cycle): for every worklist discipline
there is a tie-break oracle with which `PV.Kahn.kahn` (over the group indices and the condensation edges) produces exactly
`scc_schedule`. Nothing is ready at the end because what is left over has a predecessor left over (`TInv.leftover`). -/
theorem schedule_is_kahn_run {gn : Graph} {n : Nat} (hc : Mamba.WF gn n) (pick : List Nat → List Nat → Nat) :
    ∃ pick', sccSchedule pick gn n = kahn pick' (List.range n) (condEdgeList gn n) n [] := by
  obtain ⟨inv, hd⟩ := topo_simple hc pick
  refine ⟨followPick (sccSchedule pick gn n), ?_⟩
  have hend : ready (List.range n) (condEdgeList gn n) (sccSchedule pick gn n).reverse = [] :=
    List.eq_nil_iff_forall_not_mem.mpr fun v hv => by
      obtain ⟨hvn, hvd, hp⟩ := mem_ready.mp hv
      obtain ⟨a, ha, hva, hao⟩ := inv.leftover hd (List.mem_range.mp hvn) (mt List.mem_reverse.mpr hvd)
      exact hao (List.mem_reverse.mp (hp (a, v) (mem_condEdgeList.mpr ⟨ha, hva⟩) rfl))
  have := follow_is_kahn (List.range n) (condEdgeList gn n) (sccSchedule pick gn n) hend (sccSchedule pick gn n) []
    (by simp) (by simpa [sccSchedule] using inv.good) (fun v hv => List.mem_range.mpr (inv.lt v hv)) n inv.length_le
  simpa using this.symm

end PV.Scc
