import PymtlVerif.Proofs.HierSpec
import PymtlVerif.Proofs.HierNested
/-!
# The hierarchy of a construction description: names, records and evaluation

Objects come into existence one creation step at a time (`Child`); a step appends `.name[i]…` or `[lo:hi]` to
the parent's name, and evaluating the longer name walks from the parent to the child through Python lists
only (`StepFacts`).  The invariant `Inv` and the per-field invariants (`LevelInv`, `HostInv`, `TlsInv`)
follow by induction over `Reach`; then completeness of `Reach` (`good_run`).
-/
namespace PV.Hier

variable {root : Desc} {p x y : Item} {sfx : List Tok}

theorem properPrefixes_append {α} (a b : List α) :
    properPrefixes (a ++ b) = properPrefixes a ++ (properPrefixes b).map (a ++ ·) := by
  induction a with
  | nil => simp [properPrefixes]
  | cons x a ih => simp [properPrefixes, ih, List.map_map, Function.comp_def]

theorem mem_properPrefixes {α} {q l : List α} :
    q ∈ properPrefixes l ↔ ∃ t r, l = q ++ t :: r := by
  induction l generalizing q with
  | nil => simp [properPrefixes]
  | cons a l ih =>
    rw [properPrefixes, List.mem_cons, List.mem_map]
    constructor
    · rintro (rfl | ⟨q', hq', rfl⟩)
      · exact ⟨a, l, rfl⟩
      · obtain ⟨t, r, rfl⟩ := ih.1 hq'
        exact ⟨t, r, rfl⟩
    · rintro ⟨t, r, h⟩
      cases q with
      | nil => exact Or.inl rfl
      | cons b q' =>
        cases h
        exact Or.inr ⟨q', ih.2 ⟨t, r, rfl⟩, rfl⟩

theorem length_lt_of_mem_properPrefixes {α} {q l : List α} (h : q ∈ properPrefixes l) :
    q.length < l.length := by
  obtain ⟨t, r, rfl⟩ := mem_properPrefixes.1 h
  simp

theorem mem_firsts {β} {l : List (String × β)} {k : String} {v : β} :
    (k, v) ∈ firsts l ↔ l.lookup k = some v := by
  induction l with
  | nil => simp [firsts]
  | cons p r ih =>
    obtain ⟨k', v'⟩ := p
    rw [firsts, List.mem_cons, List.mem_filter, ih, List.lookup_cons]
    by_cases hk : k = k'
    · subst hk; simp [eq_comm]
    · simp [hk, beq_false_of_ne hk]

theorem getPath_many_cons {α} (xs : List (SVal α)) (i : Nat) (r : List Nat) :
    getPath (.many xs) (i :: r) = xs[i]?.bind (getPath · r) := by
  rw [getPath]; cases xs[i]? <;> rfl

theorem getPath_one_cons {α} (d : Node α) (i : Nat) (r : List Nat) : getPath (.one d) (i :: r) = none := rfl

/-- the nested lists of a construction description: `getPath`, `enumIdx` -/
def SVal.nested {α} : Nested (SVal α) where
  kids | .many xs => some xs | .one _ => none
  path := getPath
  enum := enumIdx
  path_nil _ := rfl
  path_cons v i r := by
    cases v with
    | one d => rfl
    | many xs => exact getPath_many_cons xs i r
  enum_nil _ _ := rfl
  enum_cons _ _ _ _ := rfl

theorem getPath_prefix_many {α} {v : SVal α} {a : List Nat} {i : Nat} {r : List Nat} {d : Node α}
    (h : getPath v (a ++ i :: r) = some (.one d)) : ∃ xs, getPath v a = some (.many xs) := by
  obtain ⟨w, hw, h⟩ := Option.bind_eq_some_iff.1 ((SVal.nested.path_append v a (i :: r)).symm.trans h)
  cases w with
  | one c => exact nomatch h
  | many xs => exact ⟨xs, hw⟩

/-- **The queue walk names every leaf with its index path, and nothing else.** -/
theorem mem_bfs {α} (q : List (SVal α × List Nat)) (d : Node α) (ix : List Nat) :
    (d, ix) ∈ bfs q ↔ ∃ p ∈ q, Below SVal.nested (.one d) ix p := by
  induction q using bfs.induct with
  | case1 => simp [bfs]
  | case2 c jx q ih =>
    simp only [bfs, List.mem_cons, ih, exists_eq_or_imp, below_leaf (rfl : SVal.nested.kids (.one c) = none),
      Prod.mk.injEq, SVal.one.injEq]
  | case3 xs jx q ih =>
    simp only [bfs, ih, List.mem_cons, exists_eq_or_imp]
    exact below_queue (N := SVal.nested) rfl rfl

theorem mem_bfs_single {α} {fv : SVal α} {d : Node α} {ix : List Nat} :
    (d, ix) ∈ bfs [(fv, [])] ↔ getPath fv ix = some (.one d) := by
  rw [mem_bfs]
  simp only [List.mem_singleton, exists_eq_left]
  exact below_nil

theorem setattrNames_eq_bfs {α} (sv : SVal α) : setattrNames sv = bfs [(sv, [])] := by
  cases sv with
  | one d => rw [bfs, bfs]; rfl
  | many xs => rw [bfs]; rfl

theorem mem_setattrNames {α} {sv : SVal α} {d : Node α} {ix : List Nat} :
    (d, ix) ∈ setattrNames sv ↔ getPath sv ix = some (.one d) := by
  rw [setattrNames_eq_bfs, mem_bfs_single]

theorem run_cons (st : State) (t : Tok) (ts : List Tok) : run st (t :: ts) = (step st t).bind (run · ts) := by
  rw [run]; cases step st t <;> rfl

theorem run_singleton (st : State) (t : Tok) : run st [t] = step st t := by
  rw [run_cons]; cases step st t <;> rfl

theorem run_append (st : State) (a b : List Tok) :
    run st (a ++ b) = (run st a).bind (run · b) := by
  induction a generalizing st with
  | nil => rfl
  | cons t a ih =>
    rw [List.cons_append, run_cons, run_cons]
    cases step st t with
    | none => rfl
    | some st' => exact ih st'

theorem run_idx {α} {f : SVal α → PyVal}
    (hf : ∀ pos xs i, step (pos, f (.many xs)) (.idx i) = xs[i]?.map fun v => (pos ++ [.idx i], f v))
    {sv w : SVal α} {ix : List Nat} (pos : Pos) (h : getPath sv ix = some w) :
    run (pos, f sv) (ix.map .idx) = some (pos ++ ix.map .idx, f w) := by
  induction ix generalizing sv pos with
  | nil => cases h; rw [List.map_nil, List.append_nil]; rfl
  | cons i r ih =>
    cases sv with
    | one d => exact nomatch h
    | many xs =>
      rw [getPath_many_cons] at h
      obtain ⟨v, hi, h⟩ := Option.bind_eq_some_iff.1 h
      rw [List.map_cons, run_cons, hf, hi, Option.map_some, Option.bind_some, ih _ h, List.append_assoc]
      rfl

theorem suffix_prefix_split {name : String} {ix : List Nat} {a : List Tok} {t : Tok} {r : List Tok}
    (h : suffixOf name ix = a ++ t :: r) (ha : a ≠ []) :
    ∃ jx j rx, ix = jx ++ j :: rx ∧ a = suffixOf name jx := by
  cases a with
  | nil => exact absurd rfl ha
  | cons b a' =>
    obtain ⟨rfl, h'⟩ := List.cons.inj h
    obtain ⟨l₁, l₂, rfl, rfl, h2⟩ := List.map_eq_append_iff.1 h'
    cases l₂ with
    | nil => exact nomatch h2
    | cons j rx => exact ⟨l₁, j, rx, rfl, rfl⟩

/-- Evaluating `.name[i]…[j]` on a value whose attribute `name` holds the nested list `sv` (`f` is
`toVal` or `toFVal k`): the whole path reaches the leaf at `ix`, every shorter non-empty prefix a list. -/
theorem run_suffixOf {α} {f : SVal α → PyVal}
    (hf : ∀ pos xs i, step (pos, f (.many xs)) (.idx i) = xs[i]?.map fun v => (pos ++ [.idx i], f v))
    (hobj : ∀ xs, (f (.many xs)).isObj = false) {st : State} {name : String} {sv : SVal α}
    (hs : step st (.attr name) = some (st.1 ++ [.attr name], f sv)) {ix : List Nat} {c : Node α}
    (hg : getPath sv ix = some (.one c)) :
    run st (suffixOf name ix) = some (st.1 ++ suffixOf name ix, f (.one c)) ∧
    ∀ a t r, suffixOf name ix = a ++ t :: r → a ≠ [] → ∃ st', run st a = some st' ∧ st'.2.isObj = false := by
  have hrun : ∀ {jx w}, getPath sv jx = some w → run st (suffixOf name jx) = some (st.1 ++ suffixOf name jx, f w) := by
    intro jx w h
    rw [suffixOf, run_cons, hs, Option.bind_some, run_idx hf _ h, List.append_assoc]; rfl
  refine ⟨hrun hg, fun a t r h ha => ?_⟩
  obtain ⟨jx, j, rx, rfl, rfl⟩ := suffix_prefix_split h ha
  obtain ⟨xs, hxs⟩ := getPath_prefix_many hg
  exact ⟨_, hrun hxs, hobj xs⟩

theorem isObj_toVal_one (c : Desc) : (toVal (.one c)).isObj = true := by
  obtain ⟨tag, slots⟩ := c
  cases tag <;> rfl

theorem kind_toVal_one (c : Desc) : (toVal (.one c)).kind? = some (kindOfTag c.tag) := by
  obtain ⟨tag, slots⟩ := c
  cases tag <;> rfl

theorem toVal_one_eq_sig {c : Desc} {k : SigKind} {ty : Ty} {sl : Option (Nat × Nat)}
    (h : toVal (.one c) = .sig k ty sl) : none = sl := by
  obtain ⟨tag, slots⟩ := c
  cases tag <;> cases h <;> rfl

theorem sliceStep_none {pos : Pos} {k : SigKind} {n lo hi : Nat} (h : lo < hi ∧ hi ≤ n) :
    sliceStep pos k n none lo hi =
      some (pos ++ [.slice lo hi], .sig k (.mk (.bits (hi - lo)) []) (some (lo, hi))) := if_pos h

theorem sliceStep_some {pos : Pos} {k : SigKind} {n olo ohi lo hi : Nat} (h : lo < hi ∧ hi ≤ ohi - olo) :
    sliceStep pos k n (some (olo, ohi)) lo hi =
      some (pos.dropLast ++ [.slice (lo + olo) (hi + olo)],
        .sig k (.mk (.bits (hi - lo)) []) (some (lo + olo, hi + olo))) := if_pos h

/-- what holds of every object of the hierarchy: its name is `s` followed by its heap location, and
evaluating the name yields the object -/
structure Inv (root : Desc) (x : Item) : Prop where
  full : x.1.full = .root :: x.1.pos
  hrun : run ([], rootVal root) x.1.pos = some (x.1.pos, x.2)
  obj : x.2.isObj = true
  kind : x.2.kind? = some x.1.kind
  slice : ∀ k ty sl, x.2 = .sig k ty sl → x.1.slice = sl
  noroot : ∀ t ∈ x.1.pos, t ≠ .root

/-- one creation step: `y` is named / created directly under `p` -/
inductive Step (p y : Item) : Prop where
  | slot : y ∈ slotItems p → Step p y
  | field (a : String) : y ∈ fieldItems p a → Step p y
  | slice (lo hi : Nat) : sliceItem p lo hi = some y → Step p y

/-- what one creation step does to names and evaluation: `sfx` is what the child's name adds to the parent's; `mid`: every
proper non-empty prefix of `sfx` evaluates, from the parent, to something that is no object (a Python list); `shape`: `sfx` is one
non-root token followed by list indices only -/
structure StepFacts (p y : Item) (sfx : List Tok) : Prop where
  full : y.1.full = p.1.full ++ sfx
  pos : y.1.pos = p.1.pos ++ sfx
  hrun : run (p.1.pos, p.2) sfx = some (y.1.pos, y.2)
  mid : ∀ a t r, sfx = a ++ t :: r → a ≠ [] → ∃ st, run (p.1.pos, p.2) a = some st ∧ st.2.isObj = false
  parent : y.1.parent = some p.1.pos
  shape : ∃ t r, sfx = t :: r ∧ t ≠ .root ∧ ∀ u ∈ r, ∃ i, u = .idx i
  obj : y.2.isObj = true
  kind : p.2.kind? = some p.1.kind → y.2.kind? = some y.1.kind
  slice : ∀ k ty sl, y.2 = .sig k ty sl → y.1.slice = sl

/-- `Step` (equivalently: one of the three creation rules of `Reach`) with the creation functions spelled
out: what the parent is, and the child's record and value.  The lemmas below are about this form. -/
inductive Child (p : Item) : Item → Prop where
  | slot {d : Desc} {name : String} {sv : SVal DTag} {c : Desc} {ix : List Nat} :
      p.2 = .node d → (slotsOf d).lookup name = some sv → isPublic name = true →
      getPath sv ix = some (.one c) → Child p (childRec p.1 name ix c, toVal (.one c))
  | field {k : SigKind} {fs : List (String × SVal TTag)} {sl : Option (Nat × Nat)} {a : String}
      {fv : SVal TTag} {t : Ty} {ix : List Nat} :
      p.2 = .sig k (.mk .struct fs) sl → fs.lookup a = some fv → getPath fv ix = some (.one t) →
      Child p (fieldRec p.1 a ix, .sig k t none)
  | slice {k : SigKind} {n : Nat} {s : List (String × SVal TTag)} {lo hi : Nat} :
      p.2 = .sig k (.mk (.bits n) s) none → lo < hi → hi ≤ n →
      Child p (sliceRec p.1 lo hi, .sig k (.mk (.bits (hi - lo)) []) (some (lo, hi)))

theorem sliceItem_eq_some {lo hi : Nat} :
    sliceItem p lo hi = some y ↔ ∃ k n s, p.2 = .sig k (.mk (.bits n) s) none ∧ lo < hi ∧ hi ≤ n ∧
      y = (sliceRec p.1 lo hi, .sig k (.mk (.bits (hi - lo)) []) (some (lo, hi))) := by
  rw [sliceItem]
  constructor
  · intro h
    split at h
    · rename_i k n s hv
      split at h <;> cases h
      rename_i hc
      exact ⟨k, n, s, hv, hc.1, hc.2, rfl⟩
    · cases h
  · rintro ⟨k, n, s, hv, h1, h2, rfl⟩
    rw [hv]; exact if_pos ⟨h1, h2⟩

theorem step_iff_child : Step p y ↔ Child p y := by
  constructor
  · rintro (h | ⟨a, h⟩ | ⟨lo, hi, h⟩)
    · rw [slotItems] at h
      split at h
      · rename_i d hv
        simp only [List.mem_flatMap, List.mem_filter, List.mem_map] at h
        obtain ⟨⟨name, sv⟩, ⟨hm, hpub⟩, ⟨c, ix⟩, hc, rfl⟩ := h
        exact .slot hv (mem_firsts.1 hm) hpub (mem_setattrNames.1 hc)
      · cases h
    · rw [fieldItems] at h
      split at h
      · rename_i k fs sl hv
        split at h
        · rename_i fv hl
          obtain ⟨⟨t, ix⟩, ht, rfl⟩ := List.mem_map.1 h
          exact .field hv hl (mem_bfs_single.1 ht)
        · cases h
      · cases h
    · obtain ⟨k, n, s, hv, h1, h2, rfl⟩ := sliceItem_eq_some.1 h
      exact .slice hv h1 h2
  · intro h
    cases h with
    | slot hv hl hpub hg =>
      refine .slot ?_
      rw [slotItems, hv]
      simp only [List.mem_flatMap, List.mem_filter, List.mem_map]
      exact ⟨(_, _), ⟨mem_firsts.2 hl, hpub⟩, (_, _), mem_setattrNames.2 hg, rfl⟩
    | @field k fs sl a fv t ix hv hl hg =>
      refine .field a ?_
      rw [fieldItems, hv]
      simp only [hl, List.mem_map]
      exact ⟨(_, _), mem_bfs_single.2 hg, rfl⟩
    | @slice k n s lo hi hv h1 h2 => exact .slice lo hi (sliceItem_eq_some.2 ⟨k, n, s, hv, h1, h2, rfl⟩)

theorem step_facts (h : Child p y) : ∃ sfx, StepFacts p y sfx := by
  have shape : ∀ (t : Tok) (ix : List Nat), t ≠ .root →
      ∃ t' r, t :: ix.map .idx = t' :: r ∧ t' ≠ .root ∧ ∀ u ∈ r, ∃ i, u = Tok.idx i :=
    fun t ix ht => ⟨_, _, rfl, ht, fun u hu => (List.mem_map.1 hu).imp fun _ h => h.2.symm⟩
  cases h with
  | @slot d name sv c ix hp hl _ hg =>
    have hs : step (p.1.pos, p.2) (.attr name) = some (p.1.pos ++ [.attr name], toVal sv) := by
      rw [hp]; exact congrArg (Option.map _) hl
    obtain ⟨hrun, hmid⟩ := run_suffixOf (fun _ _ _ => rfl) (fun _ => rfl) hs hg
    exact ⟨suffixOf name ix,
      { full := rfl, pos := rfl, hrun := hrun, mid := hmid, parent := rfl, shape := shape _ _ Tok.noConfusion,
        obj := isObj_toVal_one c, kind := fun _ => kind_toVal_one c, slice := fun _ _ _ => toVal_one_eq_sig }⟩
  | @field k fs sl a fv t ix hp hl hg =>
    have hs : step (p.1.pos, p.2) (.attr a) = some (p.1.pos ++ [.attr a], toFVal k fv) := by
      rw [hp]; exact congrArg (Option.map _) hl
    obtain ⟨hrun, hmid⟩ := run_suffixOf (fun _ _ _ => rfl) (fun _ => rfl) hs hg
    refine ⟨suffixOf a ix,
      { full := rfl, pos := rfl, hrun := hrun, mid := hmid, parent := rfl, shape := shape _ _ Tok.noConfusion,
        obj := rfl, kind := fun hk => ?_, slice := fun _ _ _ hv => by cases hv; rfl }⟩
    rw [hp] at hk; exact hk
  | @slice k n s lo hi hp h1 h2 =>
    refine ⟨[.slice lo hi],
      { full := rfl, pos := rfl, hrun := ?_, mid := fun a t r hs ha => ?_, parent := rfl, shape := shape _ [] Tok.noConfusion,
        obj := rfl, kind := fun hk => ?_, slice := fun _ _ _ hv => by cases hv; rfl }⟩
    · rw [hp, run_singleton]; exact sliceStep_none ⟨h1, h2⟩
    · cases a with
      | nil => exact absurd rfl ha
      | cons b a' => cases a' <;> cases hs
    · rw [hp] at hk; exact hk

theorem inv_root (root : Desc) : Inv root (rootItem root) :=
  ⟨rfl, rfl, isObj_toVal_one root, kind_toVal_one root, fun _ _ _ hv => toVal_one_eq_sig hv, fun _ h => nomatch h⟩

theorem inv_step (hp : Inv root p) (hs : StepFacts p y sfx) :
    Inv root y := by
  refine ⟨?_, ?_, hs.obj, hs.kind hp.kind, hs.slice, ?_⟩
  · rw [hs.full, hs.pos, hp.full]; rfl
  · rw [hs.pos, run_append, hp.hrun, ← hs.pos]; exact hs.hrun
  · intro t ht
    rw [hs.pos] at ht
    rcases List.mem_append.1 ht with ht | ht
    · exact hp.noroot t ht
    · obtain ⟨t0, r, rfl, h0, hr⟩ := hs.shape
      rcases List.mem_cons.1 ht with rfl | ht
      · exact h0
      · obtain ⟨i, rfl⟩ := hr t ht; exact Tok.noConfusion

theorem reach_step {root : Desc} {p y : Item} (hp : Reach root p) (h : Step p y) : Reach root y := by
  cases h with
  | slot h => exact .slot hp h
  | field a h => exact .field hp h
  | slice lo hi h => exact .slice hp h

theorem Reach.child (hp : Reach root p) (h : Child p y) : Reach root y :=
  reach_step hp (step_iff_child.2 h)

theorem reach_induction {motive : Item → Prop}
    (hroot : motive (rootItem root))
    (hstep : ∀ p y, Reach root p → motive p → Child p y → motive y) :
    ∀ {x}, Reach root x → motive x := by
  intro x h
  induction h with
  | root => exact hroot
  | slot hp hy ih => exact hstep _ _ hp ih (step_iff_child.1 (.slot hy))
  | field hp hy ih => exact hstep _ _ hp ih (step_iff_child.1 (.field _ hy))
  | slice hp hy ih => exact hstep _ _ hp ih (step_iff_child.1 (.slice _ _ hy))

theorem reach_cases {y : Item} (h : Reach root y) :
    y = rootItem root ∨ ∃ p, Reach root p ∧ Child p y :=
  reach_induction (motive := fun y => y = rootItem root ∨ ∃ p, Reach root p ∧ Child p y) (.inl rfl)
    (fun p _ hp _ hc => .inr ⟨p, hp, hc⟩) h

theorem reach_inv (h : Reach root x) : Inv root x := by
  refine reach_induction (motive := Inv root) (inv_root root) ?_ h
  intro p y _ ih hs
  obtain ⟨sfx, hf⟩ := step_facts hs
  exact inv_step ih hf

theorem resolve_extend (hp : Inv root p) (a : List Tok) :
    resolve root (p.1.full ++ a) = run (p.1.pos, p.2) a := by
  rw [hp.full, List.cons_append, resolve, run_append, hp.hrun]; rfl

theorem resolve_full (hp : Inv root p) : resolve root p.1.full = some (p.1.pos, p.2) := by
  rw [← List.append_nil p.1.full, resolve_extend hp]; rfl

theorem isObj_of_isComp {v : PyVal} (h : v.isComp = true) : v.isObj = true := by
  cases v with
  | node d => rfl
  | sig k ty sl => rfl
  | _ => cases h

theorem isObj_of_isSig {v : PyVal} (h : v.isSig = true) : v.isObj = true := by
  cases v with
  | sig k ty sl => rfl
  | _ => cases h

theorem names_mono {P Q : PyVal → Bool} (h : ∀ v, P v = true → Q v = true) {q : Name}
    (hq : names P root q = true) : names Q root q = true := by
  rw [names] at hq ⊢
  cases hr : resolve root q with
  | none => rw [hr] at hq; cases hq
  | some st => rw [hr] at hq; exact h _ hq

theorem names_self (hp : Inv root p) (P : PyVal → Bool) :
    names P root p.1.full = P p.2 := by
  rw [names, resolve_full hp]

/-- One creation step adds exactly the parent's name to the object-valued proper prefixes: the prefixes
strictly between parent and child name Python lists (`StepFacts.mid`), which satisfy no such `P`. -/
theorem filter_prefixes_step (hp : Reach root p) (hs : Child p y) (P : PyVal → Bool)
    (hP : ∀ v, P v = true → v.isObj = true) :
    (properPrefixes y.1.full).filter (names P root) =
      (properPrefixes p.1.full).filter (names P root) ++ (if P p.2 then [p.1.full] else []) := by
  have hp := reach_inv hp
  obtain ⟨sfx, hs⟩ := step_facts hs
  obtain ⟨t, r, rfl, -, -⟩ := hs.shape
  have hnil : ((properPrefixes r).map fun x => p.1.full ++ t :: x).filter (names P root) = [] := by
    rw [List.filter_eq_nil_iff]
    intro q hq hPq
    obtain ⟨a', ha', rfl⟩ := List.mem_map.1 hq
    obtain ⟨t', r', rfl⟩ := mem_properPrefixes.1 ha'
    obtain ⟨st, hst, hno⟩ := hs.mid (t :: a') t' r' rfl nofun
    rw [names, resolve_extend hp, hst] at hPq
    exact Bool.false_ne_true (hno.symm.trans (hP _ hPq))
  rw [hs.full, properPrefixes_append, List.filter_append, properPrefixes, List.map_cons, List.map_map,
    List.filter_cons, List.append_nil, names_self hp]
  exact congrArg _ (by rw [Function.comp_def, hnil])

theorem objPrefixes_step (hp : Reach root p) (hs : Child p y) :
    objPrefixes root y.1.full = objPrefixes root p.1.full ++ [p.1.full] := by
  rw [objPrefixes, filter_prefixes_step hp hs PyVal.isObj (fun _ h => h), (reach_inv hp).obj]; rfl

theorem filter_self {z : Item} (hz : Reach root z) (P : PyVal → Bool) :
    [z.1.full].filter (names P root) = if P z.2 then [z.1.full] else [] := by
  rw [List.filter_cons, names_self (reach_inv hz)]; rfl

theorem filter_self_prefixes_step (hp : Reach root p) (hs : Child p y) (P : PyVal → Bool)
    (hP : ∀ v, P v = true → v.isObj = true) :
    (properPrefixes y.1.full ++ [y.1.full]).filter (names P root) =
      (properPrefixes p.1.full ++ [p.1.full]).filter (names P root) ++ if P y.2 then [y.1.full] else [] := by
  rw [List.filter_append, List.filter_append, filter_prefixes_step hp hs P hP, filter_self hp,
    filter_self (hp.child hs)]

theorem root_full_ne_step (hp : Reach root p) (hs : Child p y) : y.1.full ≠ [.root] := by
  obtain ⟨sfx, hs⟩ := step_facts hs
  obtain ⟨t, r, rfl, -, -⟩ := hs.shape
  rw [hs.full, (reach_inv hp).full]
  exact fun e => nomatch (List.append_eq_nil_iff.1 (List.cons.inj e).2).2

theorem suffixOf_injective {n1 n2 : String} {i1 i2 : List Nat} (h : suffixOf n1 i1 = suffixOf n2 i2) :
    n1 = n2 ∧ i1 = i2 := by
  obtain ⟨h1, h2⟩ := List.cons.inj h
  exact ⟨Tok.attr.inj h1, (List.map_inj_right fun _ _ => Tok.idx.inj).1 h2⟩

theorem step_functional (hx : Child p x) (hy : Child p y) (h : x.1.full = y.1.full) : x = y := by
  cases hx with
  | slot hp hl _ hg =>
    cases hy with
    | slot hp' hl' _ hg' =>
      obtain ⟨rfl, rfl⟩ := suffixOf_injective (List.append_cancel_left h)
      cases hp.symm.trans hp'
      cases hl.symm.trans hl'
      cases hg.symm.trans hg'
      rfl
    | field hp' => exact nomatch hp.symm.trans hp'
    | slice hp' => exact nomatch hp.symm.trans hp'
  | field hp hl hg =>
    cases hy with
    | slot hp' => exact nomatch hp.symm.trans hp'
    | field hp' hl' hg' =>
      obtain ⟨rfl, rfl⟩ := suffixOf_injective (List.append_cancel_left h)
      cases hp.symm.trans hp'
      cases hl.symm.trans hl'
      cases hg.symm.trans hg'
      rfl
    | slice hp' => exact nomatch hp.symm.trans hp'
  | slice hp =>
    cases hy with
    | slot hp' => exact nomatch hp.symm.trans hp'
    | field hp' => exact nomatch hp.symm.trans hp'
    | slice hp' =>
      cases hp.symm.trans hp'
      cases List.append_cancel_left h
      rfl

theorem objPrefixes_root (root : Desc) : objPrefixes root [.root] = [] := rfl

theorem full_determines (hx : Reach root x) :
    ∀ {y}, Reach root y → x.1.full = y.1.full → x = y := by
  refine reach_induction (motive := fun x => ∀ {y}, Reach root y → x.1.full = y.1.full → x = y) ?_ ?_ hx
  · intro y hy h
    rcases reach_cases hy with rfl | ⟨q, hq, hs⟩
    · rfl
    · exact absurd h.symm (root_full_ne_step hq hs)
  · intro p x hp ih hs y hy h
    rcases reach_cases hy with rfl | ⟨q, hq, hs'⟩
    · exact absurd h (root_full_ne_step hp hs)
    · -- the parent's name is the last object-valued proper prefix, so the parents agree
      have e := objPrefixes_step hp hs
      rw [h, objPrefixes_step hq hs'] at e
      cases ih hq (List.cons.inj (List.append_inj_right' e rfl)).1.symm
      exact step_functional hs hs' h

theorem node_of_kind_comp (hk : x.2.kind? = some x.1.kind) (hc : x.1.kind = .comp) :
    ∃ d, x.2 = .node d := by
  obtain ⟨r, v⟩ := x
  cases v with
  | node d => exact ⟨d, rfl⟩
  | sig k ty sl => exact nomatch (Option.some.inj hk).trans hc
  | _ => exact nomatch hk

theorem isComp_iff_kind (hk : x.2.kind? = some x.1.kind) :
    x.2.isComp = true ↔ x.1.kind = .comp := by
  rw [PyVal.isComp, hk, beq_iff_eq, Option.some.injEq]

/-- `_dsl.level` (where it is set) is the number of proper prefixes that evaluate to an object -/
def LevelInv (root : Desc) (x : Item) : Prop :=
  (∀ k, x.1.level = some k → k = (objPrefixes root x.1.full).length) ∧
  (∀ d, x.2 = .node d → x.1.level.isSome = true)

theorem reach_level (h : Reach root x) : LevelInv root x := by
  refine reach_induction (motive := LevelInv root) ⟨fun k hk => (Option.some.inj hk).symm, fun _ _ => rfl⟩ ?_ h
  intro p y hp ih hs
  have hobj := objPrefixes_step hp hs
  cases hs with
  | @slot d name sv c ix hpv =>
    obtain ⟨k, hk⟩ := Option.isSome_iff_exists.1 (ih.2 _ hpv)
    have hl : (childRec p.1 name ix c).level = some (k + 1) := congrArg (Option.map (· + 1)) hk
    refine ⟨fun k' hk' => ?_, fun _ _ => by rw [hl]; rfl⟩
    rw [hobj, List.length_append, ← ih.1 k hk]
    exact (Option.some.inj (hl.symm.trans hk')).symm
  | field => exact ⟨nofun, nofun⟩
  | slice => exact ⟨nofun, nofun⟩

/-- a signal's record is no component's -/
theorem kind_ne_comp_of_sig {k ty sl} (hk : p.2.kind? = some p.1.kind) (hpv : p.2 = .sig k ty sl) :
    p.1.kind ≠ .comp := by
  rw [hpv] at hk; rw [← Option.some.inj hk]; exact nofun

theorem host_step (hs : Child p y) (hk : p.2.kind? = some p.1.kind) :
    y.1.host = if y.1.kind = .comp then y.1.pos else p.1.host := by
  cases hs with
  | slot => rfl
  | field hpv => exact (if_neg (kind_ne_comp_of_sig hk hpv)).symm
  | slice hpv => exact (if_neg (kind_ne_comp_of_sig hk hpv)).symm

theorem kind_ne_comp_of_sig_parent {p y : Item} (hs : Step p y) (hp : p.2.kind? = some p.1.kind)
    (hsig : p.2.isSig = true) : y.1.kind ≠ .comp := by
  cases step_iff_child.1 hs with
  | slot hpv => rw [hpv] at hsig; cases hsig
  | field hpv => exact kind_ne_comp_of_sig (p := p) hp hpv
  | slice hpv => exact kind_ne_comp_of_sig (p := p) hp hpv

/-- `get_host_component()`: the deepest component-valued proper prefix; a component hosts itself -/
def HostInv (root : Desc) (x : Item) : Prop :=
  (x.1.kind ≠ .comp →
    ((properPrefixes x.1.full).filter (namesComp root)).getLast? = some (.root :: x.1.host)) ∧
  (x.1.kind = .comp → x.1.host = x.1.pos)

theorem reach_host (hroot : root.tag = .comp) (h : Reach root x) : HostInv root x := by
  refine reach_induction (motive := HostInv root) ?_ ?_ h
  · exact ⟨fun hk => absurd (congrArg kindOfTag hroot) hk, fun _ => rfl⟩
  · intro p y hp ih hs
    have hpi := reach_inv hp
    rw [HostInv, filter_prefixes_step hp hs PyVal.isComp (fun _ => isObj_of_isComp), host_step hs hpi.kind]
    refine ⟨fun hk => ?_, fun hk => if_pos hk⟩
    rw [if_neg hk]
    by_cases hpk : p.1.kind = .comp
    · rw [(isComp_iff_kind hpi.kind).2 hpk, if_pos rfl, List.getLast?_concat, hpi.full, ih.2 hpk]
    · rw [Bool.eq_false_iff.2 (mt (isComp_iff_kind hpi.kind).1 hpk)]
      exact (congrArg List.getLast? (List.append_nil _)).trans (ih.1 hpk)

/-- `get_top_level_signal()`: the shortest signal-valued prefix of the name (the name included); below a
non-signal there is none -/
def TlsInv (root : Desc) (x : Item) : Prop :=
  (x.2.isSig = true → ∃ t, x.1.tls = some t ∧
    ((properPrefixes x.1.full ++ [x.1.full]).filter (namesSig root)).head? = some (.root :: t)) ∧
  (x.2.isSig = false → x.1.tls = none ∧ (properPrefixes x.1.full ++ [x.1.full]).filter (namesSig root) = [])

theorem tls_step (hs : Child p y) :
    (p.2.isSig = false → y.1.tls = if y.2.isSig then some y.1.pos else none) ∧
    (p.2.isSig = true → y.1.tls = p.1.tls ∧ y.2.isSig = true) := by
  cases hs with
  | @slot d name sv c ix hpv =>
    refine ⟨fun _ => ?_, fun h => by rw [hpv] at h; cases h⟩
    obtain ⟨tag, slots⟩ := c
    cases tag <;> rfl
  | field hpv => exact ⟨fun h => (by rw [hpv] at h; cases h), fun _ => ⟨rfl, rfl⟩⟩
  | slice hpv => exact ⟨fun h => (by rw [hpv] at h; cases h), fun _ => ⟨rfl, rfl⟩⟩

theorem reach_tls (hroot : root.tag = .comp) (h : Reach root x) : TlsInv root x := by
  refine reach_induction (motive := TlsInv root) ?_ ?_ h
  · have hns : (rootItem root).2.isSig = false := by
      obtain ⟨tag, slots⟩ := root
      cases (hroot : tag = .comp); rfl
    refine ⟨fun hs => absurd (hns.symm.trans hs) nofun, fun _ => ⟨rfl, ?_⟩⟩
    rw [List.filter_append, filter_self .root, hns]; rfl
  · intro p y hp ih hs
    rw [TlsInv, filter_self_prefixes_step hp hs PyVal.isSig (fun _ => isObj_of_isSig)]
    cases hps : p.2.isSig with
    | false =>
      rw [(ih.2 hps).2, (tls_step hs).1 hps, (reach_inv (hp.child hs)).full]
      exact ⟨fun hys => ⟨y.1.pos, by rw [hys]; exact ⟨rfl, rfl⟩⟩, fun hys => by rw [hys]; exact ⟨rfl, rfl⟩⟩
    | true =>
      obtain ⟨t, htl, hh⟩ := ih.1 hps
      obtain ⟨hy, hys⟩ := (tls_step hs).2 hps
      refine ⟨fun _ => ⟨t, hy.trans htl, ?_⟩, fun h => absurd (hys.symm.trans h) nofun⟩
      rw [List.head?_append, hh]; rfl

theorem field_name_step (hs : Child p y)
    (hsl : ∀ k ty sl, p.2 = .sig k ty sl → p.1.slice = sl) :
    (y.1.slice = none ∧ y.1.full = p.1.full ++ y.1.my ∧ ∃ name ix, y.1.my = suffixOf name ix) ∨
    (∃ lo hi, y.1.slice = some (lo, hi) ∧ y.1.full = p.1.full ++ [.slice lo hi] ∧
      y.1.my = p.1.my ++ [.slice lo hi] ∧ p.1.slice = none) := by
  cases hs with
  | slot => exact .inl ⟨rfl, rfl, _, _, rfl⟩
  | field => exact .inl ⟨rfl, rfl, _, _, rfl⟩
  | slice hpv => exact .inr ⟨_, _, rfl, rfl, rfl, hsl _ _ _ hpv⟩

theorem step_idx_eq_slice (pos : Pos) (k : SigKind) (ty : Ty) (sl : Option (Nat × Nat)) (i : Nat) :
    step (pos, .sig k ty sl) (.idx i) = step (pos, .sig k ty sl) (.slice i (i + 1)) := by
  obtain ⟨tag, s⟩ := ty
  cases tag <;> rfl

/-- slicing the slice `x[olo:ohi]` gives what slicing `x` itself with the re-based bounds gives -/
theorem sliceStep_rebase {pos : Pos} {k : SigKind} {m n olo ohi lo hi : Nat} {st : State} (h2 : ohi ≤ n)
    (h : sliceStep (pos ++ [.slice olo ohi]) k m (some (olo, ohi)) lo hi = some st) :
    sliceStep pos k n none (lo + olo) (hi + olo) = some st := by
  by_cases hc : lo < hi ∧ hi ≤ ohi - olo
  · rw [sliceStep_some hc, List.dropLast_concat] at h
    rw [sliceStep_none (by omega), Nat.add_sub_add_right]; exact h
  · rw [sliceStep, if_neg hc] at h; cases h

theorem run_slice_slice (pos : Pos) (k : SigKind) (n : Nat) (s : List (String × SVal TTag))
    {a b c d : Nat} (hab : a < b) (hbn : b ≤ n) (hcd : c < d) (hd : d ≤ b - a) :
    run (pos, .sig k (.mk (.bits n) s) none) [.slice a b, .slice c d] =
      run (pos, .sig k (.mk (.bits n) s) none) [.slice (a + c) (a + d)] := by
  have e : step (pos, .sig k (.mk (.bits n) s) none) (.slice a b) = _ := sliceStep_none ⟨hab, hbn⟩
  rw [run_cons, e, Option.bind_some, run_singleton, run_singleton, Nat.add_comm a, Nat.add_comm a]
  have e2 : sliceStep (pos ++ [.slice a b]) k (b - a) (some (a, b)) c d = _ := sliceStep_some ⟨hcd, hd⟩
  exact e2.trans (sliceStep_rebase hbn e2).symm

/-! ## completeness: every NamedObject an expression can reach is an object of the hierarchy -/

/-- a sliced signal sits directly under an unsliced Bits signal that is itself an object -/
theorem slice_parent (h : Reach root x) {k : SigKind} {ty : Ty} {olo ohi : Nat}
    (hv : x.2 = .sig k ty (some (olo, ohi))) :
    ∃ p n s, Reach root p ∧ p.2 = .sig k (.mk (.bits n) s) none ∧ x.1.pos = p.1.pos ++ [.slice olo ohi] ∧
      olo < ohi ∧ ohi ≤ n := by
  rcases reach_cases h with rfl | ⟨p, hp, hs⟩
  · exact nomatch toVal_one_eq_sig hv
  · cases hs with
    | slot => exact nomatch toVal_one_eq_sig hv
    | field => cases hv
    | slice hpv h1 h2 => cases hv; exact ⟨p, _, _, hp, hpv, rfl, h1, h2⟩

/-- every leaf of the stored (nested) list `sv`, held at `pos`, is an object of the hierarchy located at
its index path (`f` is `toVal` or `toFVal k`) -/
def Leaves (root : Desc) {α} (f : SVal α → PyVal) (pos : Pos) (sv : SVal α) : Prop :=
  ∀ ix c, getPath sv ix = some (.one c) →
    ∃ x, Reach root x ∧ (x.1.pos, x.2) = (pos ++ ix.map .idx, f (.one c))

theorem Leaves.idx {α} {f : SVal α → PyVal} {pos : Pos} {xs : List (SVal α)} {i : Nat}
    {w : SVal α} (h : Leaves root f pos (.many xs)) (hi : xs[i]? = some w) :
    Leaves root f (pos ++ [.idx i]) w := by
  intro ix c hg
  rw [List.append_assoc]
  exact h (i :: ix) c (by rw [getPath_many_cons, hi]; exact hg)

/-- what an evaluation state can be: an object of the hierarchy, or a (nested) list of them inside a
slot / struct field -/
inductive Good (root : Desc) : State → Prop where
  | obj {x : Item} : Reach root x → Good root (x.1.pos, x.2)
  | lst {pos : Pos} {xs : List (SVal DTag)} : Leaves root toVal pos (.many xs) → Good root (pos, .lst xs)
  | flst {pos : Pos} {k : SigKind} {xs : List (SVal TTag)} :
      Leaves root (toFVal k) pos (.many xs) → Good root (pos, .flst k xs)

theorem good_of_leaves {α} {f : SVal α → PyVal} {pos : Pos} {sv : SVal α}
    (hf : ∀ xs, Leaves root f pos (.many xs) → Good root (pos, f (.many xs)))
    (h : Leaves root f pos sv) : Good root (pos, f sv) := by
  cases sv with
  | many xs => exact hf xs h
  | one c =>
    obtain ⟨x, hx, e⟩ := h [] c rfl
    rw [← List.append_nil pos]
    exact e ▸ Good.obj hx

/-- Slicing or int-indexing an object of the hierarchy yields an object of the hierarchy: created below it,
or, for a slice of a slice, below the unsliced signal. -/
theorem reach_sliceStep {k : SigKind} {n : Nat} {s : List (String × SVal TTag)} {sl : Option (Nat × Nat)}
    {lo hi : Nat} {st' : State} (hx : Reach root x) (hv : x.2 = .sig k (.mk (.bits n) s) sl)
    (h : sliceStep x.1.pos k n sl lo hi = some st') : Good root st' := by
  have unsliced : ∀ {x : Item} {n s lo hi}, Reach root x → x.2 = .sig k (.mk (.bits n) s) none →
      sliceStep x.1.pos k n none lo hi = some st' → Good root st' := by
    intro x n s lo hi hx hv h
    by_cases hc : lo < hi ∧ hi ≤ n
    · exact Option.some.inj ((sliceStep_none hc).symm.trans h) ▸ .obj (hx.child (.slice hv hc.1 hc.2))
    · rw [sliceStep, if_neg hc] at h; cases h
  cases sl with
  | none => exact unsliced hx hv h
  | some q =>
    obtain ⟨p, m, s', hp, hpv, hpos, -, h2⟩ := slice_parent hx hv
    rw [hpos] at h
    exact unsliced hp hpv (sliceStep_rebase h2 h)

theorem good_step {st st' : State} {t : Tok} (hg : Good root st) (hs : step st t = some st')
    (hpub : ∀ a, t = .attr a → isPublic a = true) : Good root st' := by
  cases hg with
  | @obj x hx =>
    obtain ⟨r, v⟩ := x
    cases v with
    | node d =>
      cases t with
      | attr a =>
        obtain ⟨sv, hl, rfl⟩ := Option.map_eq_some_iff.1 hs
        refine good_of_leaves (fun _ => .lst) fun ix c hgp => ?_
        exact ⟨_, hx.child (.slot rfl hl (hpub a rfl) hgp), by rw [List.append_assoc]; rfl⟩
      | _ => cases hs
    | sig k ty sl =>
      obtain ⟨tag, fs⟩ := ty
      cases tag with
      | struct =>
        cases t with
        | attr a =>
          obtain ⟨fv, hl, rfl⟩ := Option.map_eq_some_iff.1 hs
          refine good_of_leaves (fun _ => .flst) fun ix c hgp => ?_
          exact ⟨_, hx.child (.field rfl hl hgp), by rw [List.append_assoc]; rfl⟩
        | _ => cases hs
      | bits n =>
        cases t with
        | idx i => exact reach_sliceStep hx rfl hs
        | slice lo hi => exact reach_sliceStep hx rfl hs
        | _ => cases hs
    | _ => exact nomatch (reach_inv hx).obj
  | lst hl =>
    cases t with
    | idx i =>
      obtain ⟨w, hi, rfl⟩ := Option.map_eq_some_iff.1 hs
      exact good_of_leaves (fun _ => .lst) (hl.idx hi)
    | _ => cases hs
  | flst hl =>
    cases t with
    | idx i =>
      obtain ⟨w, hi, rfl⟩ := Option.map_eq_some_iff.1 hs
      exact good_of_leaves (fun _ => .flst) (hl.idx hi)
    | _ => cases hs

theorem good_run {toks : List Tok} {st st' : State} (hg : Good root st) (hr : run st toks = some st')
    (hpub : ∀ a, Tok.attr a ∈ toks → isPublic a = true) : Good root st' := by
  induction toks generalizing st with
  | nil => cases hr; exact hg
  | cons t ts ih =>
    rw [run_cons] at hr
    obtain ⟨st1, hs, hr⟩ := Option.bind_eq_some_iff.1 hr
    exact ih (good_step hg hs fun a ha => hpub a (ha ▸ .head _)) hr fun a ha => hpub a (.tail _ ha)

end PV.Hier
