import PymtlVerif.Proofs.SConnEmit
import PymtlVerif.Proofs.Sched
/-!
# Pairs as continuous assignments (instance of `Proofs/Sched.lean`)

Each pair `(u, v)` is the process `v = u` (`asgBlk`: reads `u`, writes `v`). The processes of a `Fresh` list of pairs, in list
order, are topologically sorted (`asg_topo`: no later process writes what an earlier one reads) and have a single writer per
signal (`asg_singleWriter`), so `Sched.fixed_point_of_topo` and `Sched.unique_fixed_point` apply (`asg_fixed`,
`asg_fixed_unique`). The filed pairs of all nets are such a list (`treeEdges_fresh`).
-/
namespace PV.SConn
open PV.Nets PV.Sched

def asgBlk {α : Type} (p : Pair) : Blk Sig α :=
  { R := fun x => x = p.1, W := fun x => x = p.2, run := fun s x => if x = p.2 then s p.1 else s x }

theorem asgBlk_wf {α : Type} (p : Pair) (h : p.1 ≠ p.2) : (asgBlk (α := α) p).Wf := wf_assign h id

theorem asgBlk_fixed_iff {α : Type} (p : Pair) (s : Sig → α) : (asgBlk p).run s = s ↔ s p.2 = s p.1 := by
  constructor
  · exact fun h => ((congrFun h p.2).symm.trans (if_pos rfl))
  · intro h
    funext x
    by_cases e : x = p.2
    · exact (if_pos e).trans (e ▸ h.symm)
    · exact if_neg e

theorem not_written_iff {α : Type} (L : List Pair) (x : Sig) :
    (∀ b ∈ L.map (asgBlk (α := α)), ¬ b.W x) ↔ x ∉ L.map (·.2) := by
  rw [List.forall_mem_map, List.mem_map]
  exact ⟨fun h ⟨p, hp, e⟩ => h p hp e.symm, fun h p hp (e : x = p.2) => h ⟨p, hp, e.symm⟩⟩

theorem TreeOrd.pairwise {V : List Nat} {L : List Pair} (h : TreeOrd V L) : L.Pairwise (fun p q => q.2 ≠ p.1) :=
  h.pairwise_ends.imp And.left

section
variable {α : Type} {L : List Pair} (h : Fresh L)
include h

theorem asg_wf : ∀ b ∈ L.map (asgBlk (α := α)), b.Wf := List.forall_mem_map.mpr fun p hp => asgBlk_wf p (h.ne p hp)

theorem asg_frame (s : Sig → α) : ∀ x, x ∉ L.map (·.2) → runList (L.map asgBlk) s x = s x :=
  fun x hx => runList_frame _ (asg_wf h) s x ((not_written_iff _ x).mpr hx)

theorem asg_topo : Topo (L.map (asgBlk (α := α))) :=
  List.pairwise_map.mpr (h.pw.imp fun hne v (hr : v = _) (hw : v = _) => hne.1 (hw.symm.trans hr))

theorem asg_singleWriter : SingleWriter (L.map (asgBlk (α := α))) :=
  List.pairwise_map.mpr (h.pw.imp fun hne v (hp : v = _) (hq : v = _) => hne.2 (hq.symm.trans hp))

theorem asg_fixed (s : Sig → α) : ∀ p ∈ L, runList (L.map asgBlk) s p.2 = runList (L.map asgBlk) s p.1 :=
  fun p hp => (asgBlk_fixed_iff p _).mp
    (fixed_point_of_topo _ (asg_wf h) (asg_singleWriter h) (asg_topo h) s (asgBlk p) (List.mem_map.mpr ⟨p, hp, rfl⟩))

theorem asg_fixed_unique (t t' : Sig → α) (hin : ∀ x, x ∉ L.map (·.2) → t x = t' x)
    (ht : ∀ p ∈ L, t p.2 = t p.1) (ht' : ∀ p ∈ L, t' p.2 = t' p.1) : t = t' := by
  apply unique_fixed_point (L.map asgBlk) (asg_wf h) (asg_topo h) t t'
  · exact fun v hv' => hin v ((not_written_iff _ v).mp hv')
  · exact List.forall_mem_map.mpr fun p hp => (asgBlk_fixed_iff p t).mpr (ht p hp)
  · exact List.forall_mem_map.mpr fun p hp => (asgBlk_fixed_iff p t').mpr (ht' p hp)

end

/-- one execution of all the processes in filing order -/
def settleTree {α : Type} (H : Hier) (nb : Sig → List Sig) (s : Sig → α) : Sig → α :=
  runList ((treeEdges H nb).map asgBlk) s

end PV.SConn
