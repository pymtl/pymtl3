import PymtlVerif.Proofs.SV
/-
C03 / C12, statements: semantic preservation of `PV.VTr.trStmt` for loop-free statements
(`stmt_correct`) and the order of the non-blocking updates (`commit_append`).
-/
namespace PV.SVProofs
open PV.SV PV.VTr

theorem commit_concat (σ : Store) (a b : NBA) : commit σ (a ++ b) = commit (commit σ a) b := by
  induction a generalizing σ with
  | nil => rfl
  | cons p a ih => obtain ⟨l, v⟩ := p; simp [commit, ih]

theorem commit_append (σ : Store) (nba : NBA) (l : Loc) (v : Nat) :
    commit σ (nba ++ [(l, v)]) = writeLoc (commit σ nba) l v := by
  rw [commit_concat]; rfl

theorem commit_last (σ : Store) (nba : NBA) (l : Loc) (v : Nat) (hok : l.ok = true) (hd : l.dims = []) :
    readLoc (commit σ (nba ++ [(l, v)])) l = v % 2 ^ l.ty.width := by
  rw [commit_append, readLoc_writeLoc _ _ _ hok hd]

/-! ### the variable at the root of an assignment target -/

def root : RExpr → String
  | .sig x _ => x
  | .tmpvar x _ _ => x
  | .field e _ _ => root e
  | .index e _ _ => root e
  | .slice e _ _ _ _ => root e
  | .partsel e _ _ => root e
  | _ => ""

/-- no signal or temporary named `x` occurs in the expression -/
def freshE (x : String) : RExpr → Prop
  | .sig y _ => y ≠ x
  | .tmpvar y _ _ => y ≠ x
  | .num _ _ | .castC _ _ | .const _ _ _ | .freevar _ _ _ | .loopvar _ _ _ => True
  | .cast _ e | .field e _ _ | .slice e _ _ _ _ | .cat1 e | .zext _ e | .sext _ e | .trunc _ e
  | .reduce _ e | .inv e => freshE x e
  | .index e i _ | .partsel e i _ | .concat e i | .bin _ e i | .cmp _ e i => freshE x e ∧ freshE x i
  | .ifexp c t f => freshE x c ∧ freshE x t ∧ freshE x f

/-- a resolved select lies in the variable at its root — which an expression that does not mention `x` does not
    have for a root -/
theorem refPy_root {be : Backend} {Γ : Env} {σ : Store} {e : RExpr} {l : Loc}
    (h : refPy be Γ σ e = some l) : l.x = root e ∧ ∀ x, freshE x e → root e ≠ x := by
  induction e generalizing l with
  | sig y w | tmpvar y w =>
    simp only [refPy_sig, refPy_tmpvar] at h
    split at h <;> cases h
    exact ⟨rfl, fun x hf => hf⟩
  | field e f w ih | slice e lo hi lw uw ih =>
    simp only [refPy_field, refPy_slice] at h
    split at h
    · next hre => split at h <;> cases h; exact ⟨(ih hre).1, (ih hre).2⟩
    · cases h
  | index e i w ih | partsel e i w ih =>
    simp only [refPy_index, refPy_partsel] at h
    split at h
    -- a case of the match on (`refPy … e`, `evalPy … i`) is `none`, or a bounds test that succeeded on a resolved `e`
    all_goals first
      | cases h
      | (next hre _ => split at h <;> cases h; exact ⟨(ih hre).1, fun x hf => (ih hre).2 x hf.1⟩)
  | _ => rw [refPy.eq_def] at h; cases h

theorem trLhs_of_WTm {be Γ C d e} (h : WTm be Γ C (some d) e) : trLhs be e = tr be e := by
  cases h <;> rfl

/-- typing invariant of loop-free statements.  An assignment target is a fully selected signal (no
    unpacked dimension left) of the width of the right-hand side, and is not a constant. -/
inductive WTs (be : Backend) (Γ : Env) (C : List (String × Nat)) : RStmt → Prop
  | skip : WTs be Γ C .skip
  | assign {blk l r ty} : WTm be Γ C (some ⟨ty, []⟩) l → WT be Γ C r → r.width = ty.width →
      (∀ v, (root l, v) ∉ C) → WTs be Γ C (.assign blk l r)
  | assignTmp {blk x w r ty} : Γ x = some ⟨ty, []⟩ → ty.width = w → WT be Γ C r → r.width = w →
      (∀ v, (x, v) ∉ C) → WTs be Γ C (.assign blk (.tmpvar x w false) r)
  | ite {c t e} : WT be Γ C c → WTs be Γ C t → WTs be Γ C e → WTs be Γ C (.ite c t e)
  | seq {a b} : WTs be Γ C a → WTs be Γ C b → WTs be Γ C (.seq a b)

theorem holdsC_writeLoc {σ : Store} {C : List (String × Nat)} (hC : HoldsC σ C) (l : Loc) (v : Nat)
    (hx : ∀ v, (l.x, v) ∉ C) : HoldsC (writeLoc σ l v) C := by
  intro x c hm
  rw [get_writeLoc_ne _ _ _ _ (by intro hxe; simp at hxe; subst hxe; exact hx c hm)]
  exact hC x c hm

/-- where the target `l` of an assignment of `r` resolves in the simulation, the emitted target resolves to the same
    location, which is as wide as `r` and lies in a variable that is not a constant -/
def TargetOK (be : Backend) (cb : Bool) (Γ : Env) (C : List (String × Nat)) (σ : Store) (l r : RExpr) : Prop :=
  ∀ lc, refPy be Γ σ l = some lc →
    loc cb Γ σ (trLhs be l) = some lc ∧ lc.ty.width = r.width ∧ ∀ v, (lc.x, v) ∉ C

theorem target_correct {be : Backend} {cb : Bool} {Γ : Env} {C : List (String × Nat)} {σ : Store} {l r : RExpr}
    {ty : PTy} (hC : HoldsC σ C) (hl : WTm be Γ C (some ⟨ty, []⟩) l) (hs : signSafe be l = true)
    (hw : r.width = ty.width) (hx : ∀ v, (root l, v) ∉ C) : TargetOK be cb Γ C σ l r := by
  intro lc hre
  obtain ⟨h1, -, h3, -, -⟩ := ref_correctT be cb Γ C σ hC hl hs hre
  refine ⟨by rw [trLhs_of_WTm hl]; exact h1, by rw [h3, hw], ?_⟩
  rw [(refPy_root hre).1]; exact hx

theorem targetTmp_correct {be : Backend} {cb : Bool} {Γ : Env} {C : List (String × Nat)} {σ : Store} {r : RExpr}
    {x : String} {w : Nat} {ty : PTy} (hx : Γ x = some ⟨ty, []⟩) (hw : ty.width = w) (hrw : r.width = w)
    (hnc : ∀ v, (x, v) ∉ C) : TargetOK be cb Γ C σ (.tmpvar x w false) r := by
  intro lc hre
  simp only [refPy_tmpvar, hx, Option.some.injEq] at hre; subst hre
  exact ⟨show loc cb Γ σ (.ident x) = _ by simp only [loc_ident, hx], hw.trans hrw.symm, hnc⟩

theorem execPy_assign_some {be : Backend} {Γ : Env} {blk : Bool} {l r : RExpr} {p p' : XS}
    (h : execPy be Γ (.assign blk l r) p = some p') :
    ∃ lc v, refPy be Γ p.σ l = some lc ∧ evalPy be Γ p.σ r = some v ∧ v < 2 ^ lc.ty.width ∧
      p' = if blk then { p with σ := writeLoc p.σ lc v } else { p with nba := p.nba ++ [(lc, v)] } := by
  rw [execPy] at h
  obtain ⟨lc, hre, h⟩ := Option.bind_eq_some_iff.1 h
  obtain ⟨v, hev, h⟩ := Option.bind_eq_some_iff.1 h
  split at h
  · exact ⟨lc, v, hre, hev, ‹_›, by cases blk <;> exact (Option.some.inj h).symm⟩
  · cases h

/-- assignment, given that the target resolves to the same location on both sides -/
theorem assign_correct {be : Backend} {cb : Bool} {Γ : Env} {C : List (String × Nat)} {blk : Bool}
    {l r : RExpr} {xs xs' : XS} (hC : HoldsC xs.σ C) (hr : WT be Γ C r) (hsr : signSafe be r = true)
    (hl : TargetOK be cb Γ C xs.σ l r)
    (h : execPy be Γ (.assign blk l r) xs = some xs') :
    exec cb Γ (trStmt be (.assign blk l r)) xs = xs' ∧ HoldsC xs'.σ C := by
  obtain ⟨lc, v, hre, hev, -, rfl⟩ := execPy_assign_some h
  obtain ⟨l1, l2, l3⟩ := hl lc hre
  have hrhs : evalRhs cb Γ xs.σ lc.width (tr be r) = v := by
    rw [Loc.width, l2]; exact evalRhs_correct be cb Γ C xs.σ hC hr hsr hev
  cases blk with
  | true => exact ⟨by simp only [trStmt, exec, l1, hrhs, if_true], holdsC_writeLoc hC lc v l3⟩
  | false => exact ⟨by simp only [trStmt, exec, l1, hrhs]; rfl, hC⟩

/-- **Semantic preservation for loop-free statements.**  If the PyMTL simulation executes the
    statement without exception from `xs` to `xs'`, the emitted statement takes `xs` to `xs'` (store,
    pending non-blocking updates) under either reading `cb` of the size cast; the constants keep their
    values.  `hs`: `signSafe` for every expression of the statement (free for the SystemVerilog backend). -/
theorem stmt_correct (be : Backend) (cb : Bool) (Γ : Env) (C : List (String × Nat)) {s : RStmt}
    (hwt : WTs be Γ C s) (hs : signSafeS be s = true) {xs xs' : XS} (h : execPy be Γ s xs = some xs')
    (hC : HoldsC xs.σ C) :
    exec cb Γ (trStmt be s) xs = xs' ∧ HoldsC xs'.σ C := by
  induction hwt generalizing xs xs' with
  | skip => cases h; exact ⟨rfl, hC⟩
  | @assign blk l r ty hl hr hw hx =>
    simp [signSafeS] at hs
    exact assign_correct hC hr hs.2 (target_correct hC hl hs.1 hw hx) h
  | @assignTmp blk x w r ty hx hw hr hrw hnc =>
    simp [signSafeS] at hs
    exact assign_correct hC hr hs.2 (targetTmp_correct hx hw hrw hnc) h
  | @ite c t e hc _ _ iht ihe =>
    simp [signSafeS] at hs
    rw [execPy] at h
    obtain ⟨vc, hev, h⟩ := Option.bind_eq_some_iff.1 h
    obtain ⟨c1, c2, -⟩ := expr_correct be cb Γ C xs.σ hC hc hs.1.1 hev
    simp only [trStmt, exec, c2, c1]
    split at h
    · rw [if_pos ‹_›]; exact iht hs.1.2 h hC
    · rw [if_neg ‹_›]; exact ihe hs.2 h hC
  | @seq a b _ _ iha ihb =>
    simp [signSafeS] at hs
    rw [execPy] at h
    obtain ⟨xs1, hea, h⟩ := Option.bind_eq_some_iff.1 h
    obtain ⟨a1, a2⟩ := iha hs.1 hea hC
    simp only [trStmt, exec, a1]
    exact ihb hs.2 h a2

end PV.SVProofs
