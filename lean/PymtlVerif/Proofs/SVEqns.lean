import PymtlVerif.Model.VTr
import PymtlVerif.Proofs.Pack
/-
Clauses of the recursive functions of Model/SV.lean and Model/VTr.lean as equations: those the translation proofs
rewrite with.  `tr` is structural (`rfl`); `evalC` / `loc` and `evalPy` / `refPy` are well-founded mutual recursions and
their clauses come from `evalC.eq_def` ….  A self-determined operand, `evalC cb Γ σ (selfWidth Γ e) (signedOf e) e` in
the model, is written `eval cb Γ σ (selfWidth Γ e) e`.  Selects: `evalC_of_loc` here, `evalPy_sel` in Proofs/SV.lean.
First, what reading and writing the store do.
-/
namespace PV.SVProofs
open PV.SV PV.VTr

theorem getL_setL_eq (k : Key) (v : Nat) (cs : List (Key × Nat)) :
    Store.getL k (Store.setL k v cs) = v := by
  induction cs with
  | nil => simp [Store.setL, Store.getL]
  | cons c cs ih =>
    obtain ⟨k', v'⟩ := c
    by_cases h : k' = k <;> simp [Store.setL, Store.getL, h, ih]

theorem getL_setL_ne (k k' : Key) (v : Nat) (h : k' ≠ k) (cs : List (Key × Nat)) :
    Store.getL k' (Store.setL k v cs) = Store.getL k' cs := by
  induction cs with
  | nil => simp [Store.setL, Store.getL, Ne.symm h]
  | cons c cs ih =>
    obtain ⟨k'', v''⟩ := c
    by_cases h1 : k'' = k
    · subst h1; simp [Store.setL, Store.getL, Ne.symm h]
    · by_cases h2 : k'' = k'
      · subst h2; simp [Store.setL, Store.getL, h1]
      · simp [Store.setL, Store.getL, h1, h2, ih]

theorem _root_.PV.SV.Store.get_set_eq (σ : Store) (k : Key) (v : Nat) : (σ.set k v).get k = v :=
  getL_setL_eq k v σ.cells

theorem _root_.PV.SV.Store.get_set_ne (σ : Store) (k k' : Key) (v : Nat) (h : k' ≠ k) :
    (σ.set k v).get k' = σ.get k' :=
  getL_setL_ne k k' v h σ.cells

theorem readLoc_lt (σ : Store) (l : Loc) : readLoc σ l < 2 ^ l.ty.width := by
  unfold readLoc
  split
  · exact Nat.mod_lt _ (Nat.two_pow_pos _)
  · exact Nat.two_pow_pos _

theorem get_writeLoc_ne (σ : Store) (l : Loc) (v : Nat) (k : Key) (h : k.1 ≠ l.x) :
    (writeLoc σ l v).get k = σ.get k := by
  unfold writeLoc
  split
  · apply Store.get_set_ne
    intro hk; apply h; rw [hk]
  · rfl

theorem poke_read (old lo w v : Nat) : (poke old lo w v / 2 ^ lo) % 2 ^ w = v % 2 ^ w :=
  (Pack.field_mid (Nat.mod_lt old (Nat.two_pow_pos lo)) _ _ w).trans (Nat.mod_mod _ _)

theorem readLoc_writeLoc (σ : Store) (l : Loc) (v : Nat) (hok : l.ok = true) (hd : l.dims = []) :
    readLoc (writeLoc σ l v) l = v % 2 ^ l.ty.width := by
  simp [readLoc, writeLoc, hok, hd, Store.get_set_eq, poke_read]

section tr
variable (be : Backend) (w v lo hi lw uw : Nat) (x f blk : String) (e i a b c t : RExpr)

theorem tr_cast_verilog : tr .verilog (.cast w e) = .cast w (tr .verilog e) := rfl
theorem tr_sig : tr be (.sig x w) = .ident x := rfl
theorem tr_loopvar_yosys :
    tr .yosys (.loopvar blk x w) = .cast w (.sgn (.ident (loopVarName .yosys blk x))) := rfl
theorem tr_field_verilog : tr .verilog (.field e f w) = .member (tr .verilog e) f := rfl
theorem tr_index : tr be (.index e i w) = .index (tr be e) (tr be i) := rfl
theorem tr_slice : tr be (.slice e lo hi lw uw) = .range (tr be e) (.lit uw (hi - 1)) (.lit lw lo) := rfl
theorem tr_partsel : tr be (.partsel e b w) = .plusSel (tr be e) (tr be b) (.num w) := rfl
theorem tr_cat1 : tr be (.cat1 e) = .cat1 (tr be e) := rfl
theorem tr_concat : tr be (.concat a b) = .concat (tr be a) (tr be b) := rfl
theorem tr_zext : tr be (.zext w e) = if w - e.width = 0 then tr be e else zextTpl (w - e.width) (tr be e) := rfl
theorem tr_trunc : tr be (.trunc w e) = if e.width > w then .cast w (tr be e) else tr be e := rfl
theorem tr_reduce (op : ROp) : tr be (.reduce op e) = .un (trRed op) (tr be e) := rfl
theorem tr_inv : tr be (.inv e) = .un .bnot (tr be e) := rfl
theorem tr_bin (op : RBin) : tr be (.bin op a b) = .bin (trBin op) (tr be a) (tr be b) := rfl
theorem tr_cmp (op : RCmp) : tr be (.cmp op a b) = .bin (trCmp op) (tr be a) (tr be b) := rfl
theorem tr_ifexp : tr be (.ifexp c t e) = .cond (tr be c) (tr be t) (tr be e) := rfl

end tr

section evalC
variable (cb : Bool) (Γ : Env) (σ : Store) (W : Nat) (S : Bool) (w v : Nat) (x f : String)
  (n e i a b c t hi lo' : Expr)

theorem evalC_lit : evalC cb Γ σ W S (.lit w v) = v % 2 ^ w := by rw [evalC.eq_def]
theorem evalC_ident :
    evalC cb Γ σ W S (.ident x) = match loc cb Γ σ (.ident x) with | some l => readLoc σ l | none => 0 := by
  rw [evalC.eq_def]; rfl
theorem evalC_num : evalC cb Γ σ W S (.num v) = ext S 32 W v := by rw [evalC.eq_def]
theorem evalC_cat1 : evalC cb Γ σ W S (.cat1 e) = eval cb Γ σ (selfWidth Γ e) e := by
  rw [evalC.eq_def]; rfl
theorem evalC_concat :
    evalC cb Γ σ W S (.concat a b) =
      eval cb Γ σ (selfWidth Γ a) a * 2 ^ selfWidth Γ b + eval cb Γ σ (selfWidth Γ b) b := by
  rw [evalC.eq_def]; rfl
theorem evalC_repl :
    evalC cb Γ σ W S (.repl n e) =
      replVal (selfWidth Γ e) (eval cb Γ σ (selfWidth Γ e) e) ((constVal n).getD 0) := by
  rw [evalC.eq_def]; rfl
theorem evalC_un (op : UnOp) :
    evalC cb Γ σ W S (.un op e) =
      match op with
      | .bnot | .neg | .plus => unVal op W (evalC cb Γ σ W S e)
      | _ => unVal op (selfWidth Γ e) (eval cb Γ σ (selfWidth Γ e) e) := by
  rw [evalC.eq_def]; rfl
theorem evalC_bin (op : BinOp) :
    evalC cb Γ σ W S (.bin op a b) =
      match op with
      | .add | .sub | .mul | .div | .mod | .band | .bor | .bxor | .bxnor =>
        binVal op W S (evalC cb Γ σ W S a) (evalC cb Γ σ W S b)
      | .shl | .shr | .ashr | .pow =>
        binVal op W S (evalC cb Γ σ W S a) (eval cb Γ σ (selfWidth Γ b) b)
      | .eq | .ne | .lt | .le | .gt | .ge =>
        binVal op (max (selfWidth Γ a) (selfWidth Γ b)) (signedOf a && signedOf b)
          (evalC cb Γ σ (max (selfWidth Γ a) (selfWidth Γ b)) (signedOf a && signedOf b) a)
          (evalC cb Γ σ (max (selfWidth Γ a) (selfWidth Γ b)) (signedOf a && signedOf b) b)
      | .land | .lor => binVal op 1 false (eval cb Γ σ (selfWidth Γ a) a) (eval cb Γ σ (selfWidth Γ b) b) := by
  rw [evalC.eq_def]; rfl

theorem evalC_reduce (op : ROp) :
    evalC cb Γ σ W S (.un (trRed op) e) = unVal (trRed op) (selfWidth Γ e) (eval cb Γ σ (selfWidth Γ e) e) := by
  rw [evalC_un]; cases op <;> rfl
variable {cb Γ σ W S a b} in
theorem evalC_arith {op : RBin} (hop : op ≠ .shl ∧ op ≠ .shr) :
    evalC cb Γ σ W S (.bin (trBin op) a b) = binVal (trBin op) W S (evalC cb Γ σ W S a) (evalC cb Γ σ W S b) := by
  rw [evalC_bin]
  cases op with
  | shl => exact absurd rfl hop.1
  | shr => exact absurd rfl hop.2
  | _ => rfl
variable {cb Γ σ W S a b} in
theorem evalC_shift {op : RBin} (hop : op = .shl ∨ op = .shr) :
    evalC cb Γ σ W S (.bin (trBin op) a b) =
      binVal (trBin op) W S (evalC cb Γ σ W S a) (eval cb Γ σ (selfWidth Γ b) b) := by
  rw [evalC_bin]; rcases hop with rfl | rfl <;> rfl
theorem evalC_cmp (op : RCmp) :
    evalC cb Γ σ W S (.bin (trCmp op) a b) =
      binVal (trCmp op) (max (selfWidth Γ a) (selfWidth Γ b)) (signedOf a && signedOf b)
        (evalC cb Γ σ (max (selfWidth Γ a) (selfWidth Γ b)) (signedOf a && signedOf b) a)
        (evalC cb Γ σ (max (selfWidth Γ a) (selfWidth Γ b)) (signedOf a && signedOf b) b) := by
  rw [evalC_bin]; cases op <;> rfl

theorem evalC_cond :
    evalC cb Γ σ W S (.cond c t e) =
      if eval cb Γ σ (selfWidth Γ c) c ≠ 0 then evalC cb Γ σ W S t else evalC cb Γ σ W S e := by
  rw [evalC.eq_def]; rfl
theorem evalC_cast :
    evalC cb Γ σ W S (.cast w e) =
      ext (S && signedOf e) w W
        (evalC cb Γ σ (if cb then max w (selfWidth Γ e) else selfWidth Γ e) (signedOf e) e % 2 ^ w) := by
  rw [evalC.eq_def]
theorem evalC_sgn : evalC cb Γ σ W S (.sgn e) = ext S (selfWidth Γ e) W (eval cb Γ σ (selfWidth Γ e) e) := by
  rw [evalC.eq_def]; rfl

theorem loc_ident :
    loc cb Γ σ (.ident x) = match Γ x with | some d => some ⟨x, 0, 0, d.ty, d.dims, true⟩ | none => none := by
  rw [loc.eq_def]; rfl
theorem loc_member :
    loc cb Γ σ (.member e f) =
      match loc cb Γ σ e with
      | some ⟨x, el, lo, .struct _ fs, [], ok⟩ =>
        match fs.find f with
        | some (off, t) => some ⟨x, el, lo + off, t, [], ok⟩
        | none => none
      | _ => none := by
  rw [loc.eq_def]; rfl
theorem loc_index :
    loc cb Γ σ (.index e i) =
      match loc cb Γ σ e with
      | some ⟨x, el, lo, t, d :: ds, ok⟩ =>
        let iv := eval cb Γ σ (selfWidth Γ i) i
        some ⟨x, stepDim el d iv, lo, t, ds, ok && decide (iv < d)⟩
      | some ⟨x, el, lo, .arr n t, [], ok⟩ =>
        let iv := eval cb Γ σ (selfWidth Γ i) i
        some ⟨x, el, lo + iv * t.width, t, [], ok && decide (iv < n)⟩
      | some ⟨x, el, lo, .vec w, [], ok⟩ =>
        let iv := eval cb Γ σ (selfWidth Γ i) i
        some ⟨x, el, lo + iv, .vec 1, [], ok && decide (iv < w)⟩
      | _ => none := by
  rw [loc.eq_def]; rfl
theorem loc_range :
    loc cb Γ σ (.range e hi lo') =
      match loc cb Γ σ e, constVal hi, constVal lo' with
      | some ⟨x, el, lo, .vec w, [], ok⟩, some h, some l =>
        some ⟨x, el, lo + l, .vec (h + 1 - l), [], ok && decide (l ≤ h ∧ h < w)⟩
      | _, _, _ => none := by
  rw [loc.eq_def]; rfl
theorem loc_plusSel :
    loc cb Γ σ (.plusSel e b n) =
      match loc cb Γ σ e, constVal n with
      | some ⟨x, el, lo, .vec w, [], ok⟩, some k =>
        let bv := eval cb Γ σ (selfWidth Γ b) b
        some ⟨x, el, lo + bv, .vec k, [], ok && decide (bv + k ≤ w)⟩
      | _, _ => none := by
  rw [loc.eq_def]; rfl

theorem evalC_of_loc {cb Γ σ W S x l} (h : loc cb Γ σ x = some l) : evalC cb Γ σ W S x = readLoc σ l := by
  rw [evalC.eq_def]
  cases x with
  | ident | member | index | range | plusSel => simp only [h]
  | _ => rw [loc.eq_def] at h; cases h

theorem evalC_ident_scalar {cb Γ σ W S x} {ty : PTy} (h : Γ x = some ⟨ty, []⟩) :
    evalC cb Γ σ W S (.ident x) = σ.get (x, 0) % 2 ^ ty.width := by
  rw [evalC_of_loc (l := ⟨x, 0, 0, ty, [], true⟩) (by rw [loc_ident, h])]
  simp [readLoc]

theorem evalC_ident_vec {cb Γ σ W S x w} (h : Γ x = some ⟨.vec w, []⟩) :
    evalC cb Γ σ W S (.ident x) = σ.get (x, 0) % 2 ^ w :=
  evalC_ident_scalar h

end evalC

section evalPy
variable (be : Backend) (Γ : Env) (σ : Store) (w v lo hi lw uw : Nat) (x f blk : String) (e i a b c t : RExpr)

theorem evalPy_num : evalPy be Γ σ (.num w v) = some v := by rw [evalPy.eq_def]
theorem evalPy_castC : evalPy be Γ σ (.castC w v) = some v := by rw [evalPy.eq_def]
theorem evalPy_cast : evalPy be Γ σ (.cast w e) = evalPy be Γ σ e := by rw [evalPy.eq_def]
theorem evalPy_const : evalPy be Γ σ (.const x w v) = some v := by rw [evalPy.eq_def]
theorem evalPy_freevar : evalPy be Γ σ (.freevar x w v) = some v := by rw [evalPy.eq_def]
theorem evalPy_loopvar :
    evalPy be Γ σ (.loopvar blk x w) =
      if σ.get (loopVarName be blk x, 0) < 2 ^ w then some (σ.get (loopVarName be blk x, 0)) else none := by
  rw [evalPy.eq_def]
theorem evalPy_cat1 : evalPy be Γ σ (.cat1 e) = evalPy be Γ σ e := by rw [evalPy.eq_def]
theorem evalPy_concat :
    evalPy be Γ σ (.concat a b) =
      (evalPy be Γ σ a).bind fun va => (evalPy be Γ σ b).bind fun vb => some (va * 2 ^ b.width + vb) := by
  rw [evalPy.eq_def]; rfl
theorem evalPy_zext : evalPy be Γ σ (.zext w e) = evalPy be Γ σ e := by rw [evalPy.eq_def]
theorem evalPy_sext : evalPy be Γ σ (.sext w e) = (evalPy be Γ σ e).map (pySext e.width w) := by
  rw [evalPy.eq_def]; exact Option.map_eq_bind.symm
theorem evalPy_trunc : evalPy be Γ σ (.trunc w e) = (evalPy be Γ σ e).map (· % 2 ^ w) := by
  rw [evalPy.eq_def]; exact Option.map_eq_bind.symm
theorem evalPy_reduce (op : ROp) :
    evalPy be Γ σ (.reduce op e) = (evalPy be Γ σ e).map (pyReduce op e.width) := by
  rw [evalPy.eq_def]; exact Option.map_eq_bind.symm
theorem evalPy_inv : evalPy be Γ σ (.inv e) = (evalPy be Γ σ e).map (2 ^ e.width - 1 - ·) := by
  rw [evalPy.eq_def]; exact Option.map_eq_bind.symm
theorem evalPy_bin (op : RBin) :
    evalPy be Γ σ (.bin op a b) =
      (evalPy be Γ σ a).bind fun va => (evalPy be Γ σ b).bind fun vb => pyBin op a.width va vb := by
  rw [evalPy.eq_def]; rfl
theorem evalPy_cmp (op : RCmp) :
    evalPy be Γ σ (.cmp op a b) =
      (evalPy be Γ σ a).bind fun va => (evalPy be Γ σ b).bind fun vb => some (pyCmp op va vb) := by
  rw [evalPy.eq_def]; rfl
theorem evalPy_ifexp :
    evalPy be Γ σ (.ifexp c t e) =
      (evalPy be Γ σ c).bind fun vc => if vc ≠ 0 then evalPy be Γ σ t else evalPy be Γ σ e := by
  rw [evalPy.eq_def]; rfl

theorem refPy_sig :
    refPy be Γ σ (.sig x w) = match Γ x with | some d => some ⟨x, 0, 0, d.ty, d.dims, true⟩ | none => none := by
  rw [refPy.eq_def]; rfl
theorem refPy_tmpvar (ex : Bool) :
    refPy be Γ σ (.tmpvar x w ex) =
      match Γ x with | some d => some ⟨x, 0, 0, d.ty, d.dims, true⟩ | none => none := by
  rw [refPy.eq_def]; rfl
theorem refPy_field :
    refPy be Γ σ (.field e f w) =
      match refPy be Γ σ e with
      | some ⟨x, el, lo, .struct _ fs, [], ok⟩ =>
        match fs.find f with
        | some (off, t) => some ⟨x, el, lo + off, t, [], ok⟩
        | none => none
      | _ => none := by
  rw [refPy.eq_def]; rfl
theorem refPy_index :
    refPy be Γ σ (.index e i w) =
      match refPy be Γ σ e, evalPy be Γ σ i with
      | some ⟨x, el, lo, t, d :: ds, ok⟩, some iv =>
        if iv < d then some ⟨x, stepDim el d iv, lo, t, ds, ok⟩ else none
      | some ⟨x, el, lo, .arr n t, [], ok⟩, some iv =>
        if iv < n then some ⟨x, el, lo + iv * t.width, t, [], ok⟩ else none
      | some ⟨x, el, lo, .vec w, [], ok⟩, some iv =>
        if iv < w then some ⟨x, el, lo + iv, .vec 1, [], ok⟩ else none
      | _, _ => none := by
  rw [refPy.eq_def]; rfl
theorem refPy_slice :
    refPy be Γ σ (.slice e lo hi lw uw) =
      match refPy be Γ σ e with
      | some ⟨x, el, l0, .vec w, [], ok⟩ =>
        if lo < hi ∧ hi ≤ w then some ⟨x, el, l0 + lo, .vec (hi - lo), [], ok⟩ else none
      | _ => none := by
  rw [refPy.eq_def]; rfl
theorem refPy_partsel :
    refPy be Γ σ (.partsel e b w) =
      match refPy be Γ σ e, evalPy be Γ σ b with
      | some ⟨x, el, lo, .vec W, [], ok⟩, some bv =>
        if bv + w ≤ W then some ⟨x, el, lo + bv, .vec w, [], ok⟩ else none
      | _, _ => none := by
  rw [refPy.eq_def]; rfl

end evalPy

end PV.SVProofs
