import PymtlVerif.Proofs.PipeRef2
/-!
Refinement proof, part 3: the fetch side of `Inv`.  At most two fetches are outstanding (the awaited squashed one and
the current one), so the request queue never refuses a request and no response is attributed to the wrong
fetch (`fw_q1_next`); D and F are on the ISA's path unless an older in-flight branch is taken, and such a branch
stays in flight until it squashes (`tk_step`, `d_next`, `f_next`).  Then the assembled induction: `Inv` holds after
reset, is preserved by every cycle the environment assumption allows, hence along every admissible trace.
-/
namespace PV.Pipe
open PV.TinyRV0 (W32 Mem loadWord storeWord rget rset)

theorem and_not_and_not (a b : Bool) : (a && !(a && !b)) = (a && b) := by
  cases a <;> cases b <;> rfl

section step
variable {p : Prog} {N : Nat} {s : State} {E : Env} {c : Nat} {i : EnvIn}

theorem f0_next (hr : i.reset = false) :
    (next s i).val_F = false → (next s i).val_D = false ∧ (next s i).val_X = false ∧ (next s i).val_M = false ∧
      (next s i).val_W = false ∧ (next s i).drop_wait = false ∧ c' s i c = 0 ∧ (next s i).pc_F = 0x1fc := by
  rw [val_F_next s i hr]
  nofun

/-- the fetch-path clauses `fw` and `q1` of `Inv`.  `fw` says that at most two words are owed to F: the one the drop unit waits
for and the one at the PC register.  They move as the tags of `J.F` do (`Proofs/PipeGhost.lean`), through F's register and the
drop unit as one-place buffers, while the fetch path loses its head at a dequeue and gains the new request.  `q1_full` after
the edge means two addresses queued once this request is in: then the count leaves one word with the drop unit -/
theorem fw_q1_next (I : Inv p N s E c) (hE : envOk p E i (out s i)) :
    (∃ junk, fetchWords p (next s i) (envNext E i (out s i)) =
      (if (next s i).drop_wait then [junk] else []) ++
      (if (next s i).val_F then [loadWord p.mem0 (next s i).pc_F] else [])) ∧
    ((next s i).q1_full = true → (next s i).drop_wait = true) := by
  have hr := hE.1
  obtain ⟨hhead, hfifo⟩ := fetch_fifo (p := p) hE
  obtain ⟨junk, hfw⟩ := I.fw
  have hfw' : fetchWords p s E = opt [junk] s.drop_wait ++ opt [loadWord p.mem0 s.pc_F] s.val_F := hfw
  -- (1) in WAIT, F holds a fetch and keeps it
  have hwF : s.drop_wait = true → reg_en_F s i = false := fun hw => by
    have hvF : s.val_F = true := by
      rcases Bool.eq_false_or_eq_true s.val_F with a | a
      · exact a
      · have := (I.f0 a).2.2.2.2.1; rw [hw] at this; cases this
    simp [reg_en_F, stall_F_of_wait s i hw hvF, squash_F_of_val_X s i (I.wt hw).2]
  -- (2) so the request queue never refuses a fetch
  have eie : imemreq_en s i = reg_en_F s i := by
    show (!i.reset && reg_en_F s i && !s.q1_full) = _
    cases hq : s.q1_full
    · simp [hr]
    · simp [hwF (I.q1 hq)]
  -- (3) the words owed: F's register, then the drop unit, as one-place buffers; `hF : owed ++ new = dropOut ++ owed'`
  have hF := stage_step (tin := loadWord p.mem0 (imemreq_addr s)) (ein := reg_en_F s i) (en := reg_en_F s i) hfw' id
  rw [leaves_F, ← List.append_assoc,
    drop_unit _ _ _ hr fun hw => squash_F_of_val_X s i (I.wt hw).2, List.append_assoc] at hF
  have hlen := dropOut_length (s := s) (i := i) junk (loadWord p.mem0 s.pc_F) (loadWord p.mem0 s.pc_F)
  -- a response is at hand only when one is owed, so the unit takes one exactly in a real dequeue
  have hlen' : (dropOut s i junk (loadWord p.mem0 s.pc_F) (loadWord p.mem0 s.pc_F)).length =
      (drop_in_en s i && drop_in_rdy s i).toNat := by
    rw [hlen]
    cases hdq : (drop_in_en s i && drop_in_rdy s i)
    · rfl
    · have := hhead (Bool.and_eq_true _ _ ▸ hdq).2
      rw [hfw'] at this; revert this; cases s.drop_wait <;> cases s.val_F <;> simp
  have hv : (if reg_en_F s i then reg_en_F s i else s.val_F) = true := by
    have := val_F_next s i hr; rw [(next_vals s i hr).val_F] at this
    cases h : reg_en_F s i
    · rw [h] at this; exact this
    · rfl
  -- (4) the fetch path in the same form, `fetchWords ++ new = response taken ++ fetchWords'`; `I.fw` equates the left sides
  -- and the first parts are equally long, so the rest agree: clause `fw`
  have hcons : fetchWords p s E ++ opt [loadWord p.mem0 (imemreq_addr s)] (reg_en_F s i) =
      opt [imemresp_data s i] (drop_in_en s i && drop_in_rdy s i) ++ fetchWords p (next s i) (envNext E i (out s i)) := by
    rw [hfifo, eie]
    cases hdq : (drop_in_en s i && drop_in_rdy s i)
    · rfl
    · rw [hhead (Bool.and_eq_true _ _ ▸ hdq).2]; rfl
  have hnext := List.append_inj_right (hcons.symm.trans hF) (by rw [length_opt, hlen'])
  rw [hv, ← apply_ite, ← pc_F_next s i hr] at hnext
  refine ⟨⟨_, by rw [hnext, val_F_next s i hr]; rfl⟩, fun hq1 => ?_⟩
  have eq1 : (next s i).q1_full = ((imemreq_en s i || s.q1_full) && s.q2_full) :=
    (if_neg (ne_true_of_eq_false hr)).trans (and_not_and_not _ _)
  rw [eq1, eie, Bool.and_eq_true] at hq1
  obtain ⟨h1, h2⟩ := hq1
  -- (5) clause `q1`, by counting in (3): the words owed are the responses at hand or owed by the memory plus the addresses
  -- queued (two once this request is in), and a response is taken only if one is at hand; so the drop unit keeps one
  have h1' : 1 ≤ (reg_en_F s i).toNat + s.q1_full.toNat := by
    revert h1; cases reg_en_F s i <;> cases s.q1_full <;> decide
  have hresp : (drop_in_en s i && drop_in_rdy s i).toNat ≤ (respWords p s E).length := by
    cases hdq : (drop_in_en s i && drop_in_rdy s i)
    · exact Nat.zero_le _
    · rw [(respWords_chan hE).1 (Bool.and_eq_true _ _ ▸ hdq).2]; exact Nat.succ_pos _
  have hb := congrArg List.length (fetchWords_eq p s E)
  have hl := congrArg List.length hF
  simp only [reqq, h2, List.length_append, length_opt, List.length_map, hlen', hv, Bool.toNat_true] at hb hl
  cases hw' : (next s i).drop_wait
  · rw [hw'] at hl; simp only [Bool.toNat_false] at hl; omega
  · rfl

/-- when F hands its response to D: nothing older is a taken branch, so F is on the ISA's path, and the
response is the word at its PC -/
theorem f_deliver (hR : Runs p N) (I : Inv p N s E c) (hE : envOk p E i (out s i)) (hnv : next_val_F s i = true)
    (hj : iF s c ≤ N) (hnk : ¬ tkD p N s c) :
    s.pc_F = (isaAt p (iF s c)).pc ∧ imemresp_data s i = loadWord p.mem0 s.pc_F := by
  obtain ⟨hrdy, hw, hq, hv, hs⟩ := drop_in_rdy_of_next_val_F s i hnv
  have hnx : ¬ tkX p N s c := by
    intro ht
    have := osquash_of_tkX hR I ht (not_stall_F hv hs).2
    simp [squash_F, hv, this] at hq
  refine ⟨I.f hv hj hnx hnk, ?_⟩
  obtain ⟨junk, hfw⟩ := I.fw
  simp only [hw, hv, Bool.false_eq_true, if_false, if_true, List.nil_append] at hfw
  have := (fetch_fifo (p := p) hE).1 hrdy
  rw [hfw] at this
  simp at this
  exact this.symm

/-- a taken branch stays in flight until it squashes: in X it stays in X; in D it moves to X, or stays in D
while D is held -/
theorem tk_step (hR : Runs p N) (I : Inv p N s E c) (hr : i.reset = false) (hosq : osquash_X s i = false) :
    (tkX p N s c → tkX p N (next s i) (c' s i c)) ∧
    (tkD p N s c → tkX p N (next s i) (c' s i c) ∨ (reg_en_D s i = false ∧ tkD p N (next s i) (c' s i c))) := by
  refine ⟨fun ht => ?_, fun ht => ?_⟩
  · rcases Bool.eq_false_or_eq_true (stall_X s i) with hs | hs
    · unfold tkX
      rw [iX_hold s i c hr hs, (hold_X s i hr hs).1]
      exact ht
    · -- not stalled, it would squash
      rw [osquash_of_tkX hR I ht hs] at hosq; cases hosq
  · rcases Bool.eq_false_or_eq_true (reg_en_D s i) with e | e
    · have hs : stall_D s i = false := by simpa [reg_en_D, squash_D, hosq] using e
      have hsx := (not_stall_D ht.1 hs).2.2.1
      refine .inl ?_
      unfold tkX
      rw [iX_load s i c hr hsx, (load_X s i hr hsx).1]
      exact ⟨by simp [next_val_D, ht.1, hs, squash_D, hosq], ht.2⟩
    · have hs : stall_D s i = true ∧ squash_D s i = false := by simpa [reg_en_D] using e
      refine .inr ⟨e, ?_⟩
      unfold tkD
      rw [iD_next s i c hr, (hold_D s i hr hs.1 hs.2).1, show next_val_D s i = false by simp [next_val_D, hs.1]]
      exact ht

theorem d_next (hR : Runs p N) (I : Inv p N s E c) (hE : envOk p E i (out s i)) :
    (next s i).val_D = true → iD (next s i) (c' s i c) < N → ¬ tkX p N (next s i) (c' s i c) →
    (next s i).pc_D = (isaAt p (iD (next s i) (c' s i c))).pc ∧ (next s i).inst_D = wordAt p (iD (next s i) (c' s i c)) := by
  have hr := hE.1
  rw [iD_next s i c hr]
  intro hv hj hnk
  rcases Bool.eq_false_or_eq_true (reg_en_D s i) with hen | hen
  · obtain ⟨e0, e1, e2⟩ := load_D s i hr hen
    rw [e0] at hv
    obtain ⟨_, _, hq, hvF, hsF⟩ := drop_in_rdy_of_next_val_F s i hv
    have hosq : osquash_X s i = false := by simpa [squash_F, hvF, osquash_D] using hq
    have hnv : next_val_D s i = s.val_D := by simp [next_val_D, (not_stall_F hvF hsF).1, squash_D, hosq]
    rw [hnv] at hj ⊢
    obtain ⟨h1, h2⟩ := f_deliver hR I hE hv (Nat.le_of_lt hj) fun ht =>
      ((tk_step hR I hr hosq).2 ht).elim hnk fun h => by rw [hen] at h; cases h.1
    rw [e1, e2, h2, h1]
    exact ⟨rfl, rfl⟩
  · have hs : stall_D s i = true ∧ squash_D s i = false := by simpa [reg_en_D] using hen
    have hvD := stall_D_val s i hs.1
    obtain ⟨_, h2, h3⟩ := hold_D s i hr hs.1 hs.2
    rw [show next_val_D s i = false by simp [next_val_D, hs.1]] at hj ⊢
    rw [h2, h3]
    exact I.d hvD hj fun ht => hnk ((tk_step hR I hr (by simpa [squash_D, hvD] using hs.2)).1 ht)

theorem f_next (hR : Runs p N) (I : Inv p N s E c) (hE : envOk p E i (out s i)) :
    (next s i).val_F = true → iF (next s i) (c' s i c) ≤ N → ¬ tkX p N (next s i) (c' s i c) →
    ¬ tkD p N (next s i) (c' s i c) → (next s i).pc_F = (isaAt p (iF (next s i) (c' s i c))).pc := by
  have hr := hE.1
  -- `hi`: F's index goes up by a delivery to D and down by a squashed D; each case below evaluates it and compares
  -- the PC register with the ISA's PC at that index
  have hi := iF_next s i c hr
  rw [pc_F_next s i hr]
  intro _ hj hnkX hnkD
  rcases Bool.eq_false_or_eq_true s.val_F with hvF | hvF
  · rcases Bool.eq_false_or_eq_true (squash_F s i) with hq | hq
    · -- redirect: the branch in X is taken and leaves X
      have hosq : osquash_X s i = true := (squash_F_origin s i hq).2
      obtain ⟨hvX, hsX, _, _⟩ := osquash_X_origin s i hosq
      have hred : pc_redirect_X s = true := by simp [osquash_X] at hosq; exact hosq.2
      have hi' : iF (next s i) (c' s i c) = iX s c + 1 := by
        rw [show squash_D s i = s.val_D by simp [squash_D, hosq], show next_val_F s i = false by simp [next_val_F, hq],
          show iF s c = iX s c + 1 + s.val_D.toNat by simp [iF, iD, hvX]] at hi
        simp only [Bool.toNat_false, Nat.add_zero] at hi; omega
      rw [hi'] at hj ⊢
      have X := I.x hvX hj
      have htk := redirect_X_ok hR I hvX hj
      rw [hred] at htk
      have hbr : (U.cs (wordAt p (iX s c))).br_type = true := by
        have h' := htk.symm; simp [U.taken] at h'; exact h'.1
      rw [(runs_step hR hj).1]
      simp only [U.next, ← htk, if_true, imemreq_addr, pc_sel_F, hred, reg_en_F, hq, Bool.or_true]
      exact X.tgt hbr
    · have hosq : osquash_X s i = false := by simpa [squash_F, hvF, osquash_D] using hq
      have tk := tk_step hR I hr hosq
      have hnx : ¬ tkX p N s c := fun ht => hnkX (tk.1 ht)
      rw [show squash_D s i = false by simp [squash_D, hosq]] at hi
      rcases Bool.eq_false_or_eq_true (stall_F s i) with hs | hs
      · -- F stalls: PC register and index both stay
        simp only [next_val_F, hs, Bool.not_true, Bool.and_false, Bool.false_and, Bool.toNat_false, Nat.add_zero] at hi
        rw [hi] at hj ⊢
        rw [if_neg (by simp [reg_en_F, hs, hq])]
        exact I.f hvF hj hnx fun ht => (tk.2 ht).elim hnkX fun h => hnkD h.2
      · -- F delivers: PC + 4 is the ISA's next PC, since the instruction delivered is not a taken branch (`hnt`: `tkD` would hold after the edge)
        have hnv : next_val_F s i = true := by simp [next_val_F, hvF, hs, hq]
        have henD := reg_en_D_of_next_val_F s i hnv
        simp only [hnv, Bool.toNat_true, Bool.toNat_false, Nat.add_zero] at hi
        rw [hi] at hj ⊢
        have hjF : iF s c < N := hj
        obtain ⟨h1, _⟩ := f_deliver hR I hE hnv (Nat.le_of_lt hjF) fun ht =>
          (tk.2 ht).elim hnkX fun h => by rw [henD] at h; cases h.1
        have hred : pc_redirect_X s = false := eq_false_of_ne_true fun a => by
          have : s.val_X = true := by simp [pc_redirect_X] at a; exact a.1.1
          simp [osquash_X, this, (not_stall_F hvF hs).2, a] at hosq
        have hnt : U.taken (isaAt p (iF s c)) (wordAt p (iF s c)) = false := eq_false_of_ne_true fun a => by
          refine hnkD ?_
          unfold tkD
          rw [iD_next s i c hr, (load_D s i hr henD).1,
            show next_val_D s i = s.val_D by simp [next_val_D, (not_stall_F hvF hs).1, squash_D, hosq]]
          exact ⟨hnv, hjF, a⟩
        rw [(runs_step hR hjF).1, if_pos (by simp [reg_en_F, hs])]
        simp only [U.next, hnt, Bool.false_eq_true, if_false, imemreq_addr, pc_sel_F, hred, pc_plus4_F, h1]
  · -- F empty: the first fetch after reset, index 0 at the reset vector
    obtain ⟨hvD, hvX, hvM, hvW, _, hc0, hpc⟩ := I.f0 hvF
    have hi' : iF (next s i) (c' s i c) = 0 := by
      rw [show squash_D s i = false by simp [squash_D, hvD], show next_val_F s i = false by simp [next_val_F, hvF],
        show iF s c = 0 by simp [iF, iD, iX, iM, hvD, hvX, hvM, hvW, hc0]] at hi
      exact hi
    rw [hi', if_pos (by simp [reg_en_F, stall_F, hvF])]
    simp [imemreq_addr, pc_sel_F, pc_redirect_X, hvX, pc_plus4_F, hpc, isaAt, TinyRV0.State.init, W32]

theorem inv_step (hR : Runs p N) (I : Inv p N s E c) (hE : envOk p E i (out s i)) :
    Inv p N (next s i) (envNext E i (out s i)) (c' s i c) := by
  have hr := hE.1
  obtain ⟨hfw, hq1⟩ := fw_q1_next I hE
  exact {
    rf := rf_next hR I
    out := out_next hR I
    w := w_next hR I hE
    m := m_next hR I hE
    x := x_next hR I hE
    dmem := dmem_next hR I hE
    dcnt := dcnt_next I hE
    inp := inp_next hR I hE
    d := d_next hR I hE
    f := f_next hR I hE
    f0 := f0_next hr
    fw := hfw
    q1 := hq1
    wt := wait_next s i hr I.wt
    excl := excl_step I.excl i }

end step

theorem postReset_of_reset (i : EnvIn) (hr : i.reset = true) : PostReset (next State.init i) := by
  obtain ⟨r, _⟩ := i
  cases hr
  -- with `reset` the literal `true`, every register of `next State.init _` evaluates
  exact ⟨rfl, rfl, rfl, rfl, rfl, rfl, rfl, rfl, rfl, rfl, rfl, rfl, rfl, rfl, rfl, rfl⟩

theorem inv_init (p : Prog) (N : Nat) {s : State} (h : PostReset s) : Inv p N s (Env.init p) 0 := by
  refine {
    rf := fun _ => by rw [h.rf]; rfl
    out := fun _ => rfl
    w := fun hv => by rw [h.vW] at hv; cases hv
    m := fun hv => by rw [h.vM] at hv; cases hv
    x := fun hv => by rw [h.vX] at hv; cases hv
    dmem := fun _ => by simp [iX, iM, h.vW, h.vM, Env.init, isaAt, TinyRV0.State.init]
    dcnt := by simp [h.dq, h.vM, Env.init]
    inp := fun _ => by simp [h.mq, iD, iX, iM, h.vW, h.vM, h.vX, Env.init, isaAt, TinyRV0.State.init]
    d := fun hv => by rw [h.vD] at hv; cases hv
    f := fun hv => by rw [h.vF] at hv; cases hv
    f0 := fun _ => ⟨h.vD, h.vX, h.vM, h.vW, h.dw, rfl, h.pc⟩
    fw := ⟨0, by simp [fetchWords, h.iq, h.q1, h.q2, h.dw, h.vF, Env.init]⟩
    q1 := fun hq => by rw [h.q1] at hq; cases hq
    wt := fun hw => by rw [h.dw] at hw; cases hw
    excl := ⟨fun e => (by rw [h.ex.1] at e; cases e), fun e => (by rw [h.ex.2.1] at e; cases e),
      fun e => (by rw [h.ex.2.2] at e; cases e)⟩ }

theorem inv_run {p : Prog} {N : Nat} (hR : Runs p N) :
    ∀ (envs : List EnvIn) {s : State} {E : Env} {c : Nat}, Inv p N s E c → EnvTrace p E s envs →
      Inv p N (runS s envs) (envRun E s envs) (c + commitCount s envs)
  | [], _, _, _, I, _ => by simpa [runS, envRun, commitCount] using I
  | i :: is, s, E, c, I, hT => by
    obtain ⟨hE, hT'⟩ := hT
    have := inv_run hR is (inv_step hR I hE) hT'
    simpa [runS, envRun, commitCount, c', Nat.add_assoc] using this

end PV.Pipe
