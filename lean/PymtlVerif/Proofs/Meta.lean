import PymtlVerif.Model.Meta
/-!
# Lemmas about `Model/Meta.lean` (C15)

* `Equiv` — two metadata lists hold the same entries (the containers are Python sets).
* `contrib_owned` — everything a component under `p` contributes is owned under `p` (so it is removed
  and never saved); `contrib_outside` — what a component outside `p` contributes and `delete` removes
  is saved, or is the mirror image of a saved edge; `contrib_swap` — adjacency is contributed in both
  directions. Together (`delete_restore`): the top-level containers are unions of per-component contributions and
  `delete` followed by `restore` leaves exactly the contributions of the components outside `p`.
* `Disciplined`, `parent_of_touches` — when every component refers to its own signals and those of its direct children
  only, every entry of a surviving component that mentions something under `p` belongs to the parent of `p`.
* congruence under `Equiv`: of `filter` (so of both parts of `delete`), `++`, `restore`, `List.all`, `elaborate`
  (`elaborate_congr`) and `replace` (`replace_congr`).
-/
namespace PV.Meta

def Equiv (A B : Meta) : Prop := ∀ e, e ∈ A ↔ e ∈ B

theorem Equiv.refl (A : Meta) : Equiv A A := fun _ => Iff.rfl
theorem Equiv.symm {A B : Meta} (h : Equiv A B) : Equiv B A := fun e => (h e).symm
theorem Equiv.trans {A B C : Meta} (h : Equiv A B) (h' : Equiv B C) : Equiv A C :=
  fun e => (h e).trans (h' e)

/-- `Equiv` is decidable: mutual inclusion of the two entry lists -/
def beqSet (A B : Meta) : Bool := A.all (fun e => B.contains e) && B.all (fun e => A.contains e)

theorem equiv_iff_beqSet (A B : Meta) : Equiv A B ↔ beqSet A B = true := by
  simp only [beqSet, Bool.and_eq_true, List.all_eq_true, List.contains_iff_mem]
  exact ⟨fun h => ⟨fun e he => (h e).1 he, fun e he => (h e).2 he⟩,
         fun h e => ⟨h.1 e, h.2 e⟩⟩

instance (A B : Meta) : Decidable (Equiv A B) := decidable_of_iff _ (equiv_iff_beqSet A B).symm

theorem under_iff {p n : Name} : under p n = true ↔ p <+: n := List.isPrefixOf_iff_prefix

theorem under_append (p x : Name) : under p (p ++ x) = true :=
  under_iff.2 (List.prefix_append p x)

theorem under_append_of {p q : Name} (r : Name) (h : under p q = true) : under p (q ++ r) = true :=
  under_iff.2 ((under_iff.1 h).trans (List.prefix_append q r))

theorem under_self (p : Name) : under p p = true := under_iff.2 (List.prefix_refl p)

/-- no connection made by the component at `q` joins two signals that are both under `p`
    (for `q` outside `p`: the parent does not loop a port of the replaced child back to another port
    of the same child) -/
def NoLoop (p q : Name) (c : Comp) : Prop :=
  ∀ x ∈ c.conns, ¬ (under p (q ++ x.1.1) = true ∧ under p (q ++ x.2.1) = true)

theorem mem_blkEntries {q : Name} {b : Blk} {e : Entry} :
    e ∈ blkEntries q b ↔
      e = .blk (q, b.name) ∨ (b.kind = 1 ∧ e = .ff (q, b.name)) ∨ (b.kind = 2 ∧ e = .once (q, b.name))
      ∨ (∃ r ∈ b.reads, .read (q, b.name) (absr q r) = e)
      ∨ (∃ r ∈ b.writes, .write (q, b.name) (absr q r) = e)
      ∨ (∃ r ∈ b.calls, .call (q, b.name) (absr q r) = e) := by
  simp only [blkEntries, List.mem_append, List.mem_map, List.mem_cons, List.not_mem_nil,
    or_false, or_assoc, List.mem_ite_nil_right]

theorem mem_contrib {q : Name} {c : Comp} {e : Entry} :
    e ∈ contrib q c ↔
      e = .comp q c.ph
      ∨ (∃ x ∈ c.sigs, .sig (q, x.1) x.2 = e)
      ∨ (∃ x ∈ c.mports, .mport (q, x.1) x.2 = e)
      ∨ (∃ b ∈ c.blks, e ∈ blkEntries q b)
      ∨ (∃ x ∈ c.uu, .uu q (absr q x.1) (absr q x.2) = e)
      ∨ (∃ x ∈ c.rdu, .rdu q (absr q x.1) x.2.1 (absr q x.2.2) = e)
      ∨ (∃ x ∈ c.wru, .wru q (absr q x.1) x.2.1 (absr q x.2.2) = e)
      ∨ (∃ x ∈ c.mcs, .mc q (absm q x.1) (absm q x.2.1) x.2.2 = e)
      ∨ (∃ x ∈ c.conns, e = .edge (.sig (absr q x.1)) (.sig (absr q x.2))
          ∨ e = .edge (.sig (absr q x.2)) (.sig (absr q x.1)))
      ∨ (∃ x ∈ c.consts, e = .edge (.const q (absr q x.1) x.2) (.sig (absr q x.1))
          ∨ e = .edge (.sig (absr q x.1)) (.const q (absr q x.1) x.2)) := by
  simp only [contrib, List.mem_append, List.mem_map, List.mem_flatMap, List.mem_cons,
    List.not_mem_nil, or_false, or_assoc]

theorem edge_mem_contrib {q : Name} {c : Comp} {a b : Node} :
    .edge a b ∈ contrib q c ↔
      (∃ x ∈ c.conns, (a = .sig (absr q x.1) ∧ b = .sig (absr q x.2))
          ∨ (a = .sig (absr q x.2) ∧ b = .sig (absr q x.1)))
      ∨ (∃ x ∈ c.consts, (a = .const q (absr q x.1) x.2 ∧ b = .sig (absr q x.1))
          ∨ (a = .sig (absr q x.1) ∧ b = .const q (absr q x.1) x.2)) := by
  simp only [mem_contrib, mem_blkEntries, reduceCtorEq, Entry.edge.injEq, and_false, exists_false,
    false_or]

theorem owned_touches {p : Name} {e : Entry} (h : owned p e = true) : touches p e = true := by
  have inl {a b : Bool} (h : a = true) : (a || b) = true := by rw [h, Bool.true_or]
  cases e with
  | read | write | call | edge => exact inl h
  | uu | rdu | wru | mc => exact inl (inl h)
  | _ => exact h

theorem not_touches_not_owned {p : Name} {e : Entry} (h : touches p e = false) : owned p e = false :=
  Bool.eq_false_iff.2 fun ho => Bool.false_ne_true (h.symm.trans (owned_touches ho))

/-- `saved` read as a proposition; the last conjunct is `rfl` for an entry of known shape -/
theorem saved_iff {p : Name} {e : Entry} :
    saved p e = true ↔ touches p e = true ∧ owned p e = false ∧
      (match e with
       | .edge _ (.const _ _ _) => false
       | _ => true) = true := by
  unfold saved
  rw [Bool.and_eq_true, Bool.and_eq_true, Bool.not_eq_true', and_assoc]
  exact Iff.rfl

theorem contrib_owned {p q : Name} {c : Comp} {e : Entry} (hq : under p q = true)
    (h : e ∈ contrib q c) : owned p e = true := by
  rcases mem_contrib.1 h with rfl | ⟨x, _, rfl⟩ | ⟨x, _, rfl⟩ | ⟨b, _, h⟩ | ⟨x, _, rfl⟩ | ⟨x, _, rfl⟩
    | ⟨x, _, rfl⟩ | ⟨x, _, rfl⟩ | ⟨x, _, h⟩ | ⟨x, _, h⟩
  · exact hq
  · exact hq
  · exact hq
  · rcases mem_blkEntries.1 h with rfl | ⟨_, rfl⟩ | ⟨_, rfl⟩ | ⟨r, _, rfl⟩ | ⟨r, _, rfl⟩ | ⟨r, _, rfl⟩ <;>
      exact hq
  · exact hq
  · exact hq
  · exact hq
  · exact hq
  · rcases h with rfl | rfl <;> exact under_append_of _ hq
  · rcases h with rfl | rfl
    · exact hq
    · exact under_append_of _ hq

theorem contrib_not_owned {p q : Name} {c : Comp} {e : Entry} (h : e ∈ contrib q c)
    (ho : owned p e = false) : under p q = false :=
  Bool.eq_false_iff.2 fun hq => Bool.false_ne_true (ho.symm.trans (contrib_owned hq h))

theorem swap_swap (e : Entry) : e.swap.swap = e := by
  cases e <;> rfl

theorem touches_swap (p : Name) (e : Entry) : touches p e.swap = touches p e := by
  cases e with
  | edge a b => exact Bool.or_comm _ _
  | _ => rfl

theorem resolvable_swap (p : Name) (E : Meta) (e : Entry) :
    resolvable p E e.swap = resolvable p E e := by
  cases e with
  | edge a b => exact Bool.and_comm _ _
  | _ => rfl

theorem contrib_swap {q : Name} {c : Comp} {e : Entry} (h : e ∈ contrib q c) :
    e.swap ∈ contrib q c := by
  cases e with
  | edge a b =>
    rw [edge_mem_contrib] at h
    exact edge_mem_contrib.2 (h.imp (fun ⟨x, hx, h⟩ => ⟨x, hx, h.symm.imp And.symm And.symm⟩)
      (fun ⟨x, hx, h⟩ => ⟨x, hx, h.symm.imp And.symm And.symm⟩))
  | _ => exact h

theorem saved_conn {p : Name} {s t : Sig} (hl : ¬ (under p s.1 = true ∧ under p t.1 = true))
    (ht : touches p (.edge (.sig s) (.sig t)) = true) :
    saved p (.edge (.sig s) (.sig t)) = true ∨ saved p (.edge (.sig t) (.sig s)) = true := by
  cases h1 : under p s.1
  · exact .inl (saved_iff.2 ⟨ht, h1, rfl⟩)
  · have h2 : under p t.1 = false := Bool.eq_false_iff.2 fun h2 => hl ⟨h1, h2⟩
    exact .inr (saved_iff.2 ⟨(touches_swap p (.edge (.sig s) (.sig t))).trans ht, h2, rfl⟩)

theorem contrib_outside {p q : Name} {c : Comp} {e : Entry} (hq : under p q = false)
    (hl : NoLoop p q c) (h : e ∈ contrib q c) (ht : touches p e = true) :
    saved p e = true ∨ saved p e.swap = true := by
  rcases mem_contrib.1 h with rfl | ⟨x, _, rfl⟩ | ⟨x, _, rfl⟩ | ⟨b, _, h⟩ | ⟨x, _, rfl⟩ | ⟨x, _, rfl⟩
    | ⟨x, _, rfl⟩ | ⟨x, _, rfl⟩ | ⟨x, hx, h⟩ | ⟨x, _, h⟩
  -- all but the connections are owned by `q`, which survives
  · exact .inl (saved_iff.2 ⟨ht, hq, rfl⟩)
  · exact .inl (saved_iff.2 ⟨ht, hq, rfl⟩)
  · exact .inl (saved_iff.2 ⟨ht, hq, rfl⟩)
  · rcases mem_blkEntries.1 h with rfl | ⟨_, rfl⟩ | ⟨_, rfl⟩ | ⟨r, _, rfl⟩ | ⟨r, _, rfl⟩ | ⟨r, _, rfl⟩ <;>
      exact .inl (saved_iff.2 ⟨ht, hq, rfl⟩)
  · exact .inl (saved_iff.2 ⟨ht, hq, rfl⟩)
  · exact .inl (saved_iff.2 ⟨ht, hq, rfl⟩)
  · exact .inl (saved_iff.2 ⟨ht, hq, rfl⟩)
  · exact .inl (saved_iff.2 ⟨ht, hq, rfl⟩)
  · rcases h with rfl | rfl
    · exact saved_conn (hl x hx) ht
    · exact saved_conn (fun h => hl x hx h.symm) ht
  · rcases h with rfl | rfl
    · exact .inl (saved_iff.2 ⟨ht, hq, rfl⟩)
    · exact .inr (saved_iff.2 ⟨(touches_swap p _).trans ht, hq, rfl⟩)

def LMRef.short : LMRef → Prop
  | .blk r => r.1.length ≤ 1
  | .meth r => r.1.length ≤ 1

/-- the PyMTL discipline: a component refers to its own signals and to those of its direct children
    only (`s.x`, `s.child.x`) -/
structure Disciplined (c : Comp) : Prop where
  reads : ∀ b ∈ c.blks, ∀ r ∈ b.reads, r.1.length ≤ 1
  writes : ∀ b ∈ c.blks, ∀ r ∈ b.writes, r.1.length ≤ 1
  calls : ∀ b ∈ c.blks, ∀ r ∈ b.calls, r.1.length ≤ 1
  uu : ∀ x ∈ c.uu, x.1.1.length ≤ 1 ∧ x.2.1.length ≤ 1
  rdu : ∀ x ∈ c.rdu, x.1.1.length ≤ 1 ∧ x.2.2.1.length ≤ 1
  wru : ∀ x ∈ c.wru, x.1.1.length ≤ 1 ∧ x.2.2.1.length ≤ 1
  mcs : ∀ x ∈ c.mcs, x.1.short ∧ x.2.1.short
  conns : ∀ x ∈ c.conns, x.1.1.length ≤ 1 ∧ x.2.1.length ≤ 1
  consts : ∀ x ∈ c.consts, x.1.1.length ≤ 1

theorem parent_of_short {p q rh : Name} (hq : under p q = false) (hr : rh.length ≤ 1)
    (h : under p (q ++ rh) = true) : ∃ a, p = q ++ [a] := by
  match rh, hr with
  | [], _ => simp [hq] at h
  | [a], _ =>
    rw [under_iff, List.prefix_concat_iff] at h
    rcases h with h | h
    · exact ⟨a, h⟩
    · rw [← under_iff, hq] at h; cases h

theorem parent_of_mref {p q : Name} {x : LMRef} (hq : under p q = false) (hs : x.short)
    (h : (absm q x).gone p = true) : ∃ a, p = q ++ [a] := by
  cases x with
  | blk r => exact parent_of_short hq hs h
  | meth r => exact parent_of_short hq hs h

/-- in a disciplined hierarchy every entry of a surviving component that mentions something under
    `p` is an entry of the parent of `p`: searching only `parent._dsl.*` (as `_delete_component`
    does for block references) finds all of them -/
theorem parent_of_touches {p q : Name} {c : Comp} {e : Entry} (hd : Disciplined c)
    (hq : under p q = false) (h : e ∈ contrib q c) (ht : touches p e = true) :
    ∃ a, p = q ++ [a] := by
  -- `touches` of an entry of `q` is a disjunction that starts with `under p q`
  have own (h : under p q = true) : ∃ a, p = q ++ [a] := absurd (hq.symm.trans h) Bool.false_ne_true
  have one {x : Bool} (h : (under p q || x) = true) : x = true := by rwa [hq] at h
  have two {x y : Bool} (h : (under p q || x || y) = true) : x = true ∨ y = true := by
    rwa [hq, Bool.false_or, Bool.or_eq_true] at h
  have ps {rh : Name} := parent_of_short (rh := rh) hq
  rcases mem_contrib.1 h with rfl | ⟨x, _, rfl⟩ | ⟨x, _, rfl⟩ | ⟨b, hb, h⟩ | ⟨x, hx, rfl⟩ | ⟨x, hx, rfl⟩
    | ⟨x, hx, rfl⟩ | ⟨x, hx, rfl⟩ | ⟨x, hx, h⟩ | ⟨x, hx, h⟩
  · exact own ht
  · exact own ht
  · exact own ht
  · rcases mem_blkEntries.1 h with rfl | ⟨_, rfl⟩ | ⟨_, rfl⟩ | ⟨r, hr, rfl⟩ | ⟨r, hr, rfl⟩ | ⟨r, hr, rfl⟩
    · exact own ht
    · exact own ht
    · exact own ht
    · exact ps (hd.reads b hb r hr) (one ht)
    · exact ps (hd.writes b hb r hr) (one ht)
    · exact ps (hd.calls b hb r hr) (one ht)
  · exact (two ht).elim (ps (hd.uu x hx).1) (ps (hd.uu x hx).2)
  · exact (two ht).elim (ps (hd.rdu x hx).1) (ps (hd.rdu x hx).2)
  · exact (two ht).elim (ps (hd.wru x hx).1) (ps (hd.wru x hx).2)
  · exact (two ht).elim (parent_of_mref hq (hd.mcs x hx).1) (parent_of_mref hq (hd.mcs x hx).2)
  · have ht' : under p (q ++ x.1.1) = true ∨ under p (q ++ x.2.1) = true := by
      rcases h with rfl | rfl
      · exact (Bool.or_eq_true _ _).mp ht
      · exact ((Bool.or_eq_true _ _).mp ht).symm
    exact ht'.elim (ps (hd.conns x hx).1) (ps (hd.conns x hx).2)
  · refine ps (hd.consts x hx) ?_
    rcases h with rfl | rfl
    · exact one ht
    · exact one ((touches_swap p _).trans ht)

theorem mem_elaborate {H : Hier} {e : Entry} :
    e ∈ elaborate H ↔ ∃ x ∈ H, e ∈ contrib x.1 x.2 := List.mem_flatMap

theorem elaborate_append (A B : Hier) : elaborate (A ++ B) = elaborate A ++ elaborate B := List.flatMap_append

theorem elaborate_set (H : Hier) (p : Name) (N : Hier) :
    elaborate (set H p N) = elaborate (H.filter (fun x => !under p x.1)) ++ elabAt p N :=
  elaborate_append _ _

theorem mem_restore {S : List Entry} {e : Entry} :
    e ∈ restore S ↔ e ∈ S ∨ e.swap ∈ S := by
  rw [restore, List.mem_append, List.mem_map]
  exact or_congr_right ⟨fun ⟨e', h, he⟩ => he ▸ (swap_swap e').symm ▸ h, fun h => ⟨_, h, swap_swap e⟩⟩

/-- hypothesis of the replacement theorems: no component outside `p` loops two signals under `p` -/
def NoLoopAt (H : Hier) (p : Name) : Prop :=
  ∀ x ∈ H, under p x.1 = false → NoLoop p x.1 x.2

/-- on any list that holds the entries of `elaborate H`, `delete` leaves, and `restore` gives back, exactly the
    contributions of the components outside `p` -/
theorem delete_restore {M : Meta} {H : Hier} (hM : Equiv M (elaborate H)) (p : Name) (hl : NoLoopAt H p) :
    Equiv ((delete M p).1 ++ restore (delete M p).2)
      (elaborate (H.filter (fun x => !under p x.1))) := by
  intro e
  simp only [delete, List.mem_append, List.mem_filter, mem_restore, hM _, mem_elaborate,
    Bool.not_eq_eq_eq_not, Bool.not_true]
  constructor
  · rintro (⟨⟨x, hx, he⟩, ht⟩ | ⟨⟨x, hx, he⟩, hs⟩ | ⟨⟨x, hx, he⟩, hs⟩)
    · exact ⟨x, ⟨hx, contrib_not_owned he (not_touches_not_owned ht)⟩, he⟩
    · exact ⟨x, ⟨hx, contrib_not_owned he (saved_iff.1 hs).2.1⟩, he⟩
    · exact ⟨x, ⟨hx, contrib_not_owned he (saved_iff.1 hs).2.1⟩, swap_swap e ▸ contrib_swap he⟩
  · rintro ⟨x, ⟨hx, hu⟩, he⟩
    cases ht : touches p e
    · exact Or.inl ⟨⟨x, hx, he⟩, rfl⟩
    · rcases contrib_outside hu (hl x hx hu) he ht with hs | hs
      · exact Or.inr (Or.inl ⟨⟨x, hx, he⟩, hs⟩)
      · exact Or.inr (Or.inr ⟨⟨x, hx, contrib_swap he⟩, hs⟩)

theorem add_eq_some {K : Meta} {p : Name} {N : Hier} {S : List Entry} {R : Meta} :
    add K p N S = some R ↔ S.all (resolvable p (elabAt p N)) = true ∧ addRaw K p N S = R := by
  unfold add
  split
  next h => exact ⟨fun hR => ⟨h, Option.some.inj hR⟩, fun hR => congrArg some hR.2⟩
  next h => exact ⟨nofun, fun hR => absurd hR.1 h⟩

theorem Equiv.filter {A B : Meta} (h : Equiv A B) (f : Entry → Bool) :
    Equiv (A.filter f) (B.filter f) := by
  intro e; simp [List.mem_filter, h e]

theorem Equiv.append {A B C D : Meta} (h : Equiv A B) (h' : Equiv C D) :
    Equiv (A ++ C) (B ++ D) := by
  intro e; simp [List.mem_append, h e, h' e]

theorem Equiv.restore {A B : Meta} (h : Equiv A B) : Equiv (restore A) (restore B) := by
  intro e; simp [mem_restore, h e, h e.swap]

theorem Equiv.all_eq {A B : Meta} (h : Equiv A B) (f : Entry → Bool) : A.all f = B.all f := by
  rw [Bool.eq_iff_iff]
  simp only [List.all_eq_true]
  exact ⟨fun H e he => H e ((h e).2 he), fun H e he => H e ((h e).1 he)⟩

theorem elaborate_congr {A B : Hier} (h : ∀ x, x ∈ A ↔ x ∈ B) : Equiv (elaborate A) (elaborate B) := by
  intro e
  simp only [mem_elaborate]
  exact ⟨fun ⟨x, hx, he⟩ => ⟨x, (h x).1 hx, he⟩, fun ⟨x, hx, he⟩ => ⟨x, (h x).2 hx, he⟩⟩

theorem replace_congr {A B : Meta} (h : Equiv A B) (r : Name × Hier) {A' : Meta}
    (ha : replace A r = some A') : ∃ B', replace B r = some B' ∧ Equiv A' B' := by
  have h1 : Equiv (delete A r.1).1 (delete B r.1).1 := h.filter _
  have h2 : Equiv (delete A r.1).2 (delete B r.1).2 := h.filter _
  obtain ⟨hg, rfl⟩ := add_eq_some.1 ha
  exact ⟨_, add_eq_some.2 ⟨h2.all_eq _ ▸ hg, rfl⟩,
    (h1.append h2.restore).append (Equiv.refl _)⟩

end PV.Meta
