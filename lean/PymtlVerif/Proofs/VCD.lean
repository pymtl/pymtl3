import PymtlVerif.Model.VCD
/-!
Lemmas for C16 (`Props/C16.lean`, `Props/C16Gen.lean`): `to_vcd_str` and the text-wave string parse back, the symbol generator is
injective (and its loop does not depend on the fuel), the invariant that ties the reader's state to `last_values` through a dump,
and the clock lines of a dump.
-/
namespace PV.VCD
open PV.Bits

theorem length_binDigits (w v : Nat) : (binDigits w v).length = w := by
  induction w generalizing v with
  | zero => rfl
  | succ w ih => simp [binDigits, ih]

theorem parseBinAux_append (acc : Nat) (xs ys : List Char) :
    parseBinAux acc (xs ++ ys) = (parseBinAux acc xs).bind (fun a => parseBinAux a ys) := by
  fun_induction parseBinAux acc xs <;> simp_all [parseBinAux]

theorem parseBinAux_bit (acc v : Nat) :
    parseBinAux acc [if v % 2 = 1 then '1' else '0'] = some (2 * acc + v % 2) := by
  rcases Nat.mod_two_eq_zero_or_one v with h | h <;> simp [h, parseBinAux]

theorem parseBinAux_binDigits (w v acc : Nat) :
    parseBinAux acc (binDigits w v) = some (acc * 2 ^ w + v % 2 ^ w) := by
  induction w generalizing v acc with
  | zero => simp [binDigits, parseBinAux, Nat.mod_one]
  | succ w ih =>
    rw [binDigits, parseBinAux_append, ih, Option.bind_some, parseBinAux_bit, Nat.pow_succ', Nat.mod_mul,
      ← Nat.mul_assoc, Nat.mul_comm acc 2, Nat.mul_assoc]
    rw [Nat.mul_add, Nat.add_assoc, Nat.add_comm (v % 2)]

theorem str_toList (w v : Nat) :
    (str w v).toList = if w = 1 then [if v % 2 = 1 then '1' else '0'] else 'b' :: binDigits w v ++ [' '] := by
  unfold str toVcdStr
  by_cases h : w = 1
  · simp [h]; split <;> rfl
  · simp [h]

theorem str_length (w v : Nat) : (str w v).toList.length = if w = 1 then 1 else w + 2 := by
  rw [str_toList]
  split <;> simp [length_binDigits]

theorem parse_str (w v : Nat) : parseVcdStr w (str w v) = some (v % 2 ^ w) := by
  by_cases h : w = 1
  · subst h
    unfold parseVcdStr str toVcdStr
    rcases Nat.mod_two_eq_zero_or_one v with h | h <;> simp [h]
  · unfold parseVcdStr
    rw [str_toList]
    simp [h, length_binDigits, parseBinAux_binDigits]

theorem str_inj (w v w' v' : Nat) (h : str w v = str w' v') : w = w' ∧ v % 2 ^ w = v' % 2 ^ w' := by
  have hw : w = w' := by
    have hl := congrArg (·.toList.length) h
    simp only [str_length] at hl
    split at hl <;> split at hl
    · simp_all
    · cases hl
    · cases hl
    · exact Nat.add_right_cancel hl
  subst hw
  exact ⟨rfl, Option.some.inj (by rw [← parse_str, h, parse_str])⟩

theorem parse_wav (w v : Nat) : parseWav w (wavStr w v) = some (v % 2 ^ w) := by
  unfold parseWav wavStr
  simp [length_binDigits, parseBinAux_binDigits]

/-- value of a base-94 digit list, most significant digit first -/
def digVal : List Nat → Nat
  | [] => 0
  | d :: r => d * 94 ^ r.length + digVal r

theorem div94_le {q f : Nat} (hq : q ≠ 0) (h : q ≤ f + 1) : q / 94 ≤ f :=
  Nat.le_of_lt_succ (Nat.lt_of_lt_of_le (Nat.div_lt_self (Nat.pos_of_ne_zero hq) (by decide)) h)

theorem symLoop_val (f q : Nat) (code : List Nat) (h : q ≤ f) :
    digVal (symLoop f q code) = q * 94 ^ code.length + digVal code := by
  fun_induction symLoop f q code with
  | case1 => rw [Nat.le_zero.mp h, Nat.zero_mul, Nat.zero_add]
  | case2 => rw [Nat.zero_mul, Nat.zero_add]
  | case3 f q code hq ih =>
    rw [ih (div94_le hq h), digVal, List.length_cons, Nat.pow_succ, ← Nat.add_assoc, Nat.mul_comm (94 ^ _),
      ← Nat.mul_assoc, ← Nat.add_mul, Nat.mul_comm _ 94, Nat.div_add_mod]

theorem symLoop_fuel (f1 f2 q : Nat) (c : List Nat) (h1 : q ≤ f1) (h2 : q ≤ f2) :
    symLoop f1 q c = symLoop f2 q c := by
  induction f1 generalizing f2 q c with
  | zero =>
    obtain rfl := Nat.le_zero.mp h1
    cases f2 <;> rfl
  | succ f1 ih =>
    cases f2 with
    | zero => obtain rfl := Nat.le_zero.mp h2; rfl
    | succ f2 =>
      rw [symLoop, symLoop]
      split
      · rfl
      · next hq => exact ih f2 _ _ (div94_le hq h1) (div94_le hq h2)

theorem symLoop_ne_nil (f q : Nat) (c : List Nat) (h : c ≠ []) : symLoop f q c ≠ [] := by
  fun_induction symLoop f q c with
  | case1 => exact h
  | case2 => exact h
  | case3 f q c hq ih => exact ih (List.cons_ne_nil _ _)

theorem symLoop_lt (f q : Nat) (code : List Nat) (h : ∀ d ∈ code, d < 94) :
    ∀ d ∈ symLoop f q code, d < 94 := by
  fun_induction symLoop f q code with
  | case1 => exact h
  | case2 => exact h
  | case3 f q code hq ih => exact ih (List.forall_mem_cons.mpr ⟨Nat.mod_lt _ (by decide), h⟩)

theorem symDigits_val (n : Nat) : digVal (symDigits n) = n := by
  rw [symDigits, symLoop_val _ _ _ (Nat.div_le_self n 94), digVal, digVal, List.length_singleton, List.length_nil,
    Nat.pow_one, Nat.pow_zero, Nat.mul_one, Nat.add_zero, Nat.mul_comm, Nat.div_add_mod]

theorem symDigits_lt (n : Nat) : ∀ d ∈ symDigits n, d < 94 :=
  symLoop_lt _ _ _ (List.forall_mem_cons.mpr ⟨Nat.mod_lt _ (by decide), fun _ h => nomatch h⟩)

theorem symChar_toNat (d : Nat) (h : d < 94) : (symChar d).toNat = 33 + d := by
  have hv : (33 + d).isValidChar := Or.inl (by omega)
  simp only [symChar, Char.ofNat, hv, dite_true, Char.ofNatAux, Char.toNat]
  rfl

/-- a code is read back as a number: characters ↦ digits ↦ value -/
theorem symbol_inj (a b : Nat) (h : symbol a = symbol b) : a = b := by
  have key : ∀ n, (symbol n).toList.map (fun c => c.toNat - 33) = symDigits n := fun n => by
    rw [symbol, String.toList_ofList, List.map_map]
    conv => rhs; rw [← List.map_id (symDigits n)]
    exact List.map_congr_left fun d hd => by
      rw [Function.comp, symChar_toNat d (symDigits_lt n d hd), Nat.add_sub_cancel_left]; rfl
  rw [← symDigits_val a, ← symDigits_val b, ← key, ← key, h]

/-- apply value lines to a reader state -/
def push (st : St) : List Ev → St
  | [] => st
  | .chg v s :: es => push ((s, v) :: st) es
  | .time _ :: es => push st es

/-- `evs` are value lines only, of symbols that satisfy `P` -/
def Chgs (P : String → Prop) (evs : List Ev) : Prop := ∀ e ∈ evs, ∃ v s, e = Ev.chg v s ∧ P s

theorem chgs_cons {P : String → Prop} {e : Ev} {es : List Ev} :
    Chgs P (e :: es) ↔ (∃ v s, e = Ev.chg v s ∧ P s) ∧ Chgs P es := List.forall_mem_cons

theorem Chgs.mono {P Q : String → Prop} {evs : List Ev} (h : Chgs P evs) (hpq : ∀ s, P s → Q s) : Chgs Q evs :=
  fun e he => (h e he).imp fun _ h => h.imp fun s h => ⟨h.1, hpq s h.2⟩

theorem stateAt_append_chgs {P : String → Prop} (T : Nat) (st : St) (evs rest : List Ev) (h : Chgs P evs) :
    stateAt T st (evs ++ rest) = stateAt T (push st evs) rest := by
  induction evs generalizing st with
  | nil => rfl
  | cons e es ih =>
    obtain ⟨⟨v, s, rfl, _⟩, hes⟩ := chgs_cons.mp h
    exact ih _ hes

theorem get_push_other {P : String → Prop} (st : St) (evs : List Ev) (k : String) (h : Chgs P evs) (hk : ¬ P k) :
    (push st evs).get k = st.get k := by
  induction evs generalizing st with
  | nil => rfl
  | cons e es ih =>
    obtain ⟨⟨v, s, rfl, hs⟩, hes⟩ := chgs_cons.mp h
    rw [push, ih _ hes, St.get, if_neg fun (e : s = k) => hk (e ▸ hs)]

theorem stepNets_chgs (ds : List (Nat × Nat)) (vs : List Nat) (ls : List String) :
    Chgs (fun s => ∃ p ∈ ds, s = symbol p.2) (stepNets ds vs ls).1 := by
  fun_induction stepNets ds vs ls with
  | case1 w j ds v vs l ls s r _ ih =>
    exact chgs_cons.mpr ⟨⟨_, _, rfl, _, List.mem_cons_self, rfl⟩,
      ih.mono fun _ h => h.imp fun _ h => ⟨List.mem_cons_of_mem _ h.1, h.2⟩⟩
  | case2 w j ds v vs l ls s r _ ih => exact ih.mono fun _ h => h.imp fun _ h => ⟨List.mem_cons_of_mem _ h.1, h.2⟩
  | case3 => exact fun _ h => nomatch h

/-- weak invariant between reader state and `last_values`: every net has an entry `last_values[i]`, and whenever that
    could be a value string of net i, the file so far says the same about net i -/
def Inv (st : St) (ds : List (Nat × Nat)) (ls : List String) : Prop :=
  ∀ (i : Nat) (p : Nat × Nat), ds[i]? = some p → ∃ l, ls[i]? = some l ∧ ∀ v, l = str p.1 v → st.get (symbol p.2) = some l

/-- reader state and `last_values` both hold the values `vs`, net by net (`last_values` may go on: its last entry is never used) -/
def Holds (st : St) : List (Nat × Nat) → List Nat → List String → Prop
  | (w, j) :: ds, v :: vs, l :: ls => st.get (symbol j) = some (str w v) ∧ l = str w v ∧ Holds st ds vs ls
  | [], [], _ => True
  | _, _, _ => False

theorem Holds.get {st : St} {ds : List (Nat × Nat)} {vs : List Nat} {ls : List String} (h : Holds st ds vs ls)
    {i : Nat} {p : Nat × Nat} (hp : ds[i]? = some p) :
    ∃ v, vs[i]? = some v ∧ st.get (symbol p.2) = some (str p.1 v) ∧ ls[i]? = some (str p.1 v) := by
  fun_induction Holds st ds vs ls generalizing i with
  | case1 w j ds v vs l ls ih =>
    cases i with
    | zero => cases hp; exact ⟨v, rfl, h.1, congrArg some h.2.1⟩
    | succ i => exact ih h.2.2 hp
  | case2 => cases hp
  | case3 => exact h.elim

theorem Holds.inv {st ds vs ls} (h : Holds st ds vs ls) : Inv st ds ls :=
  fun _ _ hp => let ⟨_, _, hg, hl⟩ := h.get hp; ⟨_, hl, fun _ _ => hg⟩

theorem Holds.frame {st st' : St} {ds vs ls} (h : Holds st ds vs ls)
    (hf : ∀ p ∈ ds, st'.get (symbol p.2) = st.get (symbol p.2)) : Holds st' ds vs ls := by
  fun_induction Holds st ds vs ls with
  | case1 w j ds v vs l ls ih =>
    exact ⟨(hf _ List.mem_cons_self).trans h.1, h.2.1, ih h.2.2 fun p hp => hf p (List.mem_cons_of_mem _ hp)⟩
  | case2 => trivial
  | case3 => exact h.elim

/-- one call of `dump_vcd_inner`: afterwards file and `last_values` agree with the sampled values -/
theorem stepNets_holds (ds : List (Nat × Nat)) (vs : List Nat) (ls : List String) (st : St)
    (hinv : Inv st ds ls) (hlen : vs.length = ds.length) (hnd : (ds.map (·.2)).Nodup) :
    Holds (push st (stepNets ds vs ls).1) ds vs (stepNets ds vs ls).2 := by
  induction ds generalizing vs ls st with
  | nil => cases vs with
    | nil => trivial
    | cons => cases hlen
  | cons p ds ih =>
    obtain ⟨w, j⟩ := p
    cases vs with
    | nil => cases hlen
    | cons v vs =>
      cases ls with
      | nil => exact nomatch hinv 0 _ rfl
      | cons l ls =>
        obtain ⟨hj, hnd⟩ := List.nodup_cons.mp hnd
        have hlen := Nat.succ.inj hlen
        have hne : ∀ p ∈ ds, symbol j ≠ symbol p.2 :=
          fun p hp e => hj (symbol_inj _ _ e ▸ (List.mem_map_of_mem hp : p.2 ∈ ds.map (·.2)))
        have hkeep : ∀ st0 : St, (push st0 (stepNets ds vs ls).1).get (symbol j) = st0.get (symbol j) :=
          fun st0 => get_push_other st0 _ _ (stepNets_chgs ds vs ls) fun ⟨p, hp, e⟩ => hne p hp e
        rw [stepNets]
        split
        · -- the new line for net `j` leaves what the file says about the other nets
          refine ⟨(hkeep _).trans (if_pos rfl), rfl, ih vs ls _ (fun i p hp => ?_) hlen hnd⟩
          obtain ⟨l, hl, hv⟩ := hinv (i + 1) p hp
          exact ⟨l, hl, fun v e => (if_neg (hne p (List.mem_of_getElem? hp))).trans (hv v e)⟩
        · next heq =>
          have heq : l = str w v := Decidable.of_not_not heq
          obtain ⟨_, hl, h0⟩ := hinv 0 _ rfl
          cases hl
          exact ⟨(hkeep _).trans (heq ▸ h0 v heq), heq, ih vs ls st (fun i => hinv (i + 1)) hlen hnd⟩

theorem clockTail_le (c t : Nat) : 100 * c + 50 + 50 ≤ 100 * (c + 1 + t) :=
  Nat.add_assoc (100 * c) 50 50 ▸ Nat.mul_le_mul_left 100 (Nat.le_add_right (c + 1) t)

/-- what a reader sees in cycle c+t of the blocks written from cycle c on -/
theorem cycles_holds (ds : List (Nat × Nat)) (cs : String) (hnd : (ds.map (·.2)).Nodup)
    (hcs : ∀ p ∈ ds, symbol p.2 ≠ cs)
    (tr : List (List Nat)) (c : Nat) (st : St) (last : List String)
    (hinv : Inv st ds last) (hrows : ∀ row ∈ tr, row.length = ds.length)
    (t : Nat) (ht : t < tr.length) :
    ∃ ls, Holds (stateAt (100 * (c + t)) st (cycles ds cs c last tr)) ds tr[t] ls := by
  induction tr generalizing c st last t with
  | nil => cases ht
  | cons vs rest ih =>
    have hstep := stepNets_holds ds vs last st hinv (hrows vs List.mem_cons_self) hnd
    rw [cycles, List.append_assoc, stateAt_append_chgs _ _ _ _ (stepNets_chgs ds vs last)]
    cases t with
    | zero =>
      rw [Nat.add_zero, clockTail, List.cons_append, stateAt, if_pos (Nat.lt_add_of_pos_right (by decide))]
      exact ⟨_, hstep⟩
    | succ t =>
      have e : c + (t + 1) = c + 1 + t := Nat.add_right_comm c t 1
      have h2 := Nat.not_lt.mpr (clockTail_le c t)
      have h1 := Nat.not_lt.mpr (Nat.le_of_add_right_le (clockTail_le c t))
      simp only [e, clockTail, List.cons_append, List.nil_append, stateAt, h1, h2, if_false, List.getElem_cons_succ]
      refine ih (c + 1) _ _ (hstep.frame fun p hp => ?_).inv (fun row hr => hrows row (List.mem_cons_of_mem _ hr)) t
        (Nat.lt_of_succ_lt_succ ht)
      have := (hcs p hp).symm
      simp only [St.get, this, if_false]

theorem header_chgs (strs : List String) (base : Nat) :
    Chgs (fun s => ∃ k, base ≤ k ∧ s = symbol k) ((strs.zipIdx base).map fun p => Ev.chg p.1 (symbol p.2)) := by
  intro e he
  obtain ⟨p, hp, rfl⟩ := List.mem_map.mp he
  exact ⟨_, _, rfl, _, List.le_snd_of_mem_zipIdx hp, rfl⟩

theorem get_push_header (strs : List String) (base : Nat) (st : St) (k : Nat) :
    (push st ((strs.zipIdx base).map fun p => Ev.chg p.1 (symbol p.2))).get (symbol (base + k))
      = strs[k]?.or (st.get (symbol (base + k))) := by
  induction strs generalizing base st k with
  | nil => rfl
  | cons s strs ih =>
    rw [List.zipIdx_cons, List.map_cons, push]
    cases k with
    | zero =>
      have hk : ¬ ∃ k, base + 1 ≤ k ∧ symbol base = symbol k := fun ⟨k, hk, e⟩ =>
        absurd (symbol_inj _ _ e ▸ hk : base + 1 ≤ base) (Nat.lt_irrefl base)
      rw [Nat.add_zero base, get_push_other _ _ _ (header_chgs strs (base + 1)) hk]
      exact if_pos rfl
    | succ k =>
      rw [← Nat.add_assoc, Nat.add_right_comm base k 1, ih, St.get,
        if_neg fun e => Nat.ne_of_lt (Nat.lt_add_right k (Nat.lt_succ_self base)) (symbol_inj _ _ e)]
      rfl

/-- condition under which the `last_values` indexing slip of `dump_vcd_inner` is harmless: from the clock
    net on, two neighbouring nets of equal width have equal default values -/
def QuirkSafe (d : Design) (init : List Nat) : Prop :=
  ∀ i, d.clk ≤ i → d.widths[i]? = d.widths[i + 1]? → init[i]? = init[i + 1]?

theorem quirkSafe_replicate (d : Design) (x : Nat) :
    QuirkSafe d (List.replicate d.widths.length x) := by
  intro i _ hw
  simp only [List.getElem?_replicate]
  by_cases h1 : i + 1 < d.widths.length
  · rw [if_pos h1, if_pos (Nat.lt_of_succ_lt h1)]
  · rw [List.getElem?_eq_none (Nat.le_of_not_lt h1), List.getElem?_eq_none_iff] at hw
    rw [if_neg h1, if_neg (Nat.not_lt.mpr hw)]

theorem details_get? (d : Design) (i : Nat) :
    (details d)[i]? = if i < d.clk then d.widths[i]?.map (fun w => (w, i))
                      else d.widths[i + 1]?.map (fun w => (w, i + 1)) := by
  simp [details, List.getElem?_eraseIdx, List.getElem?_zipIdx]

theorem details_length (d : Design) (hk : d.clk < d.widths.length) :
    (details d).length = d.widths.length - 1 := by
  simp [details, List.length_eraseIdx, hk]

theorem details_nodup (d : Design) : ((details d).map (·.2)).Nodup := by
  have h1 : ((details d).map (·.2)).Sublist (d.widths.zipIdx.map (·.2)) :=
    (List.eraseIdx_sublist _ _).map _
  have h2 : d.widths.zipIdx.map (·.2) = List.range' 0 d.widths.length := List.zipIdx_map_snd 0 _
  exact h1.nodup (by rw [h2]; exact List.nodup_range' 1)

theorem details_mem (d : Design) (p : Nat × Nat) (hp : p ∈ details d) :
    p.2 ≠ d.clk ∧ d.widths[p.2]? = some p.1 := by
  obtain ⟨i, hi, hp⟩ := List.mem_eraseIdx_iff_getElem?.mp hp
  rw [List.getElem?_zipIdx] at hp
  obtain ⟨w, hw, rfl⟩ := Option.map_eq_some_iff.mp hp
  exact ⟨(Nat.zero_add i).symm ▸ hi, (Nat.zero_add i).symm ▸ hw⟩

theorem details_clk (d : Design) (p : Nat × Nat) (hp : p ∈ details d) : symbol p.2 ≠ symbol d.clk :=
  fun e => (details_mem d p hp).1 (symbol_inj _ _ e)

/-- the position is what `C16.dataPos` names -/
theorem details_net (d : Design) (j : Nat) (hj : j ≠ d.clk) (hjN : j < d.widths.length) :
    (details d)[if j < d.clk then j else j - 1]? = some (d.widths[j], j) := by
  rw [details_get?]
  by_cases hlt : j < d.clk
  · rw [if_pos hlt, if_pos hlt, List.getElem?_eq_getElem hjN, Option.map_some]
  · have hcj : d.clk < j := Nat.lt_of_le_of_ne (Nat.le_of_not_lt hlt) (Ne.symm hj)
    rw [if_neg hlt, if_neg (Nat.not_lt.mpr (Nat.le_sub_one_of_lt hcj)), Nat.sub_add_cancel (Nat.zero_lt_of_lt hcj),
      List.getElem?_eq_getElem hjN, Option.map_some]

theorem header_get (strs : List String) (c j : Nat) (x : String) (hj : j ≠ c) :
    St.get ((symbol c, x) :: push [] (headerEvs strs)) (symbol j) = strs[j]? := by
  have := get_push_header strs 0 [] j
  rw [Nat.zero_add] at this
  rw [St.get, if_neg fun e => hj (symbol_inj _ _ e).symm, headerEvs, this]
  exact Option.or_none

/-- what makes the `last_values` indexing slip of `dump_vcd_inner` harmless, said of the header strings: behind the clock
    net `last_values[i]` is the header string of net `i`, compared with the values of net `i + 1`; whenever it could be a
    value string of net `i + 1`, it is that net's header string -/
def SlipSafe (d : Design) (strs : List String) : Prop :=
  ∀ i w v, d.clk ≤ i → d.widths[i + 1]? = some w → strs[i]? = some (str w v) → strs[i + 1]? = some (str w v)

/-- a header string can only be mistaken for a value of the next net if the widths agree, and then `QuirkSafe` makes the
    two header strings equal -/
theorem QuirkSafe.slipSafe {d : Design} {init : List Nat} (hq : QuirkSafe d init) : SlipSafe d (headerStrs d init) := by
  intro i w v hik hw hl
  obtain ⟨w0, v0, hw0, hv0, e⟩ := List.getElem?_zipWith_eq_some.mp hl
  obtain ⟨rfl, _⟩ := str_inj _ _ _ _ e
  exact List.getElem?_zipWith_eq_some.mpr ⟨w0, v0, hw, hv0 ▸ (hq i hik (hw0.trans hw.symm)).symm, e⟩

/-- before the clock net, `last_values[i]` is the header string of the very net it is compared with; behind it,
    it is the header string of the preceding net -/
theorem init_inv (d : Design) (strs : List String) (x : String) (hk : d.clk < d.widths.length)
    (hlen : strs.length = d.widths.length) (hq : SlipSafe d strs) :
    Inv ((symbol d.clk, x) :: push [] (headerEvs strs)) (details d) strs := by
  intro i p hp
  have hl := List.getElem?_eq_getElem (hlen ▸ Nat.lt_of_lt_of_le
    (details_length d hk ▸ (List.getElem?_eq_some_iff.mp hp).1) (Nat.sub_le _ _) : i < strs.length)
  refine ⟨_, hl, fun v hv => ?_⟩
  rw [details_get?] at hp
  split at hp
  · next hik =>
    obtain ⟨w, _, rfl⟩ := Option.map_eq_some_iff.mp hp
    rw [header_get strs d.clk i x (Nat.ne_of_lt hik)]
    exact hl
  · next hik =>
    obtain ⟨w, hw, rfl⟩ := Option.map_eq_some_iff.mp hp
    rw [header_get strs d.clk (i + 1) x (fun e => hik (e ▸ Nat.lt_succ_self i)), hv]
    exact hq i w v (Nat.le_of_not_lt hik) hw (hv ▸ hl)

theorem headerEvs_chgs (strs : List String) : Chgs (fun _ => True) (headerEvs strs) :=
  (header_chgs strs 0).mono fun _ _ => trivial

theorem dump_holds (d : Design) (init : List Nat) (tr : List (List Nat)) (hk : d.clk < d.widths.length)
    (hi : init.length = d.widths.length) (hq : SlipSafe d (headerStrs d init))
    (hrows : ∀ row ∈ tr, row.length = (details d).length) (t : Nat) (ht : t < tr.length) :
    ∃ ls, Holds (stateAt (100 * t) [] (dump d init tr)) (details d) tr[t] ls := by
  have := cycles_holds (details d) (symbol d.clk) (details_nodup d) (details_clk d) tr 0 _ _
    (init_inv d _ "1" hk (by rw [headerStrs, List.length_zipWith, hi, Nat.min_self]) hq) hrows t ht
  rw [Nat.zero_add] at this
  rw [dump, List.append_assoc, stateAt_append_chgs _ _ _ _ (headerEvs_chgs _)]
  exact this

theorem replay_get (ds : List (Nat × String)) (evs : List Ev) (n t a : Nat) :
    (replay ds evs n)[t]?.bind (·[a]?)
      = (List.range n)[t]?.bind fun t => ds[a]?.map (readSig (stateAt (100 * t) [] evs)) := by
  simp only [replay, List.getElem?_map, Option.bind_map, Function.comp_def]

/-- what a reader finds for one net: in cycle `t`, under the symbol of the non-clock net at position `i` of `net_details`,
    the value sampled for it (`hb`: the sampled values fit their widths) -/
theorem dump_read (d : Design) (init : List Nat) (tr : List (List Nat)) (hk : d.clk < d.widths.length)
    (hi : init.length = d.widths.length) (hq : SlipSafe d (headerStrs d init))
    (hrows : ∀ row ∈ tr, row.length = (details d).length) (t : Nat) (ht : t < tr.length)
    (hb : ∀ i (h1 : i < (details d).length) (h2 : i < tr[t].length), tr[t][i] < 2 ^ (details d)[i].1)
    {i : Nat} {p : Nat × Nat} (hp : (details d)[i]? = some p) :
    ∃ v, tr[t][i]? = some v ∧ readSig (stateAt (100 * t) [] (dump d init tr)) (p.1, symbol p.2) = some v := by
  obtain ⟨_, hh⟩ := dump_holds d init tr hk hi hq hrows t ht
  obtain ⟨v, hv, hg, _⟩ := hh.get hp
  obtain ⟨hi', rfl⟩ := List.getElem?_eq_some_iff.mp hp
  obtain ⟨hv', rfl⟩ := List.getElem?_eq_some_iff.mp hv
  exact ⟨_, hv, by rw [readSig, hg, Option.bind_some, parse_str, Nat.mod_eq_of_lt (hb i hi' hv')]⟩

/-- the clock lines of `n` cycles starting with cycle `c`: falls at 100c+50, rises again at 100c+100, written `+ 50 + 50` as
    `clockTail` has it (`next_pos_edge = next_neg_edge + 50` in `dump_vcd_inner`) -/
def clockExp : Nat → Nat → List (Nat × String)
  | _, 0 => []
  | c, n + 1 => (100 * c + 50, "0") :: (100 * c + 50 + 50, "1") :: clockExp (c + 1) n

theorem edgesOf_append_chgs {P : String → Prop} (cs : String) (now : Option Nat) (evs rest : List Ev)
    (hall : Chgs P evs) (h : now = none ∨ ¬ P cs) :
    edgesOf cs now (evs ++ rest) = edgesOf cs now rest := by
  induction evs with
  | nil => rfl
  | cons e es ih =>
    obtain ⟨⟨v, s, rfl, hs⟩, hes⟩ := chgs_cons.mp hall
    cases now with
    | none => exact ih hes
    | some t =>
      have hne : s ≠ cs := fun e => h.elim (fun h => nomatch h) fun h => h (e ▸ hs)
      rw [List.cons_append, edgesOf, if_neg hne]
      exact ih hes

theorem edges_cycles (ds : List (Nat × Nat)) (cs : String) (hcs : ∀ p ∈ ds, symbol p.2 ≠ cs)
    (tr : List (List Nat)) (c : Nat) (last : List String) (now : Option Nat) :
    edgesOf cs now (cycles ds cs c last tr) = clockExp c tr.length := by
  induction tr generalizing c last now with
  | nil => rfl
  | cons vs rest ih =>
    rw [cycles, List.append_assoc, edgesOf_append_chgs _ _ _ _ (stepNets_chgs ds vs last)
      (Or.inr fun ⟨p, hp, e⟩ => hcs p hp e.symm)]
    simp only [clockTail, List.cons_append, List.nil_append, edgesOf, if_true, ih]
    rfl

/-- the window of cycle `t`, as the statement of `C16.clock_once_per_cycle` writes it out -/
def inWindow (t : Nat) (e : Nat × String) : Bool := 100 * t ≤ e.1 ∧ e.1 < 100 * t + 100

theorem inWindow_of {t x : Nat} {s : String} (h1 : 100 * t ≤ x) (h2 : x < 100 * t + 100) : inWindow t (x, s) = true :=
  decide_eq_true ⟨h1, h2⟩

theorem not_inWindow_of_lt {t x : Nat} {s : String} (h : x < 100 * t) : ¬ inWindow t (x, s) = true :=
  fun h' => Nat.lt_irrefl _ (Nat.lt_of_lt_of_le h (of_decide_eq_true h').1)

theorem not_inWindow_of_ge {t x : Nat} {s : String} (h : 100 * (t + 1) ≤ x) : ¬ inWindow t (x, s) = true :=
  fun h' => Nat.lt_irrefl _ (Nat.lt_of_le_of_lt h (of_decide_eq_true h').2)

theorem clockExp_gt (c n : Nat) : ∀ e ∈ clockExp c n, 100 * c < e.1 := by
  induction n generalizing c with
  | zero => exact fun _ h => nomatch h
  | succ n ih =>
    have h50 : ∀ x, x < x + 50 := fun x => Nat.lt_add_of_pos_right (by decide)
    exact List.forall_mem_cons.mpr ⟨h50 _, List.forall_mem_cons.mpr
      ⟨Nat.lt_trans (h50 _) (h50 _), fun e he => Nat.lt_trans (Nat.lt_add_of_pos_right (by decide)) (ih (c + 1) e he)⟩⟩

theorem filter_clockExp_later (c n t : Nat) (h : t < c) : (clockExp c n).filter (inWindow t) = [] :=
  List.filter_eq_nil_iff.mpr fun e he =>
    not_inWindow_of_ge (s := e.2) (Nat.le_trans (Nat.mul_le_mul_left 100 h) (Nat.le_of_lt (clockExp_gt c n e he)))

/-- inside cycle t's window of the lines `(100c, 1) :: clockExp c n` there are exactly the rise at 100t and the
    fall at 100t+50 -/
theorem clock_window (c n t : Nat) (h1 : c ≤ t) (h2 : t < c + n) :
    ((100 * c, "1") :: clockExp c n).filter (inWindow t) = [(100 * t, "1"), (100 * t + 50, "0")] := by
  induction n generalizing c with
  | zero => exact absurd h2 (Nat.not_lt.mpr h1)
  | succ n ih =>
    rw [clockExp]
    rcases Nat.eq_or_lt_of_le h1 with rfl | hlt
    · -- this cycle's rise and fall; the closing rise is at 100(c+1), the later cycles' lines after that
      rw [List.filter_cons_of_pos (inWindow_of (Nat.le_refl _) (Nat.lt_add_of_pos_right (by decide))),
        List.filter_cons_of_pos (inWindow_of (Nat.le_add_right _ _) (Nat.add_lt_add_left (by decide) _)),
        List.filter_cons_of_neg (not_inWindow_of_ge (x := 100 * c + 50 + 50) (Nat.le_of_eq (Nat.add_assoc _ 50 50).symm)),
        filter_clockExp_later _ _ _ (Nat.lt_succ_self c)]
    · -- an earlier cycle: its rise and fall are before 100t, and its closing rise opens cycle c+1
      have hct : 100 * (c + 1) ≤ 100 * t := Nat.mul_le_mul_left 100 hlt
      rw [List.filter_cons_of_neg (not_inWindow_of_lt (x := 100 * c) (Nat.lt_of_lt_of_le (Nat.lt_add_of_pos_right (by decide)) hct)),
        List.filter_cons_of_neg (not_inWindow_of_lt (x := 100 * c + 50) (Nat.lt_of_lt_of_le (Nat.add_lt_add_left (by decide) _) hct)),
        Nat.add_assoc (100 * c) 50 50]
      exact ih (c + 1) hlt (Nat.add_right_comm c n 1 ▸ h2)

end PV.VCD
