import PymtlVerif.Proofs.SDeclRender
/-!
# Yosys backend: wire forms, flat port ↔ wire form connections, operand rendering (C12)

Connections with `present = true`, the slices of a struct's packed vector, are left out by the premise `c.present = false` of
`RecOk` and `yConns_ok`: the model takes them from `Flat.flatPorts`, and Props/C12.lean says what those slices are.
-/
namespace PV.SDecl
open PV.SV PV.Names

/-- `(f, t)` is a member of the struct -/
inductive FieldTy : Fields → String → PTy → Prop
  | here (f : String) (t : PTy) (rest : Fields) : FieldTy (.cons f t rest) f t
  | there (g : String) (u : PTy) (rest : Fields) (f : String) (t : PTy) : FieldTy rest f t → FieldTy (.cons g u rest) f t

/-- the packed-array dimensions met on the way from a data type down a path of field names, outermost first -/
inductive DimsAlong : PTy → List Seg → List Nat → Prop
  | vec (w : Nat) : DimsAlong (.vec w) [] []
  | top (n : String) (fs : Fields) : DimsAlong (.struct n fs) [] []
  | arr (n : Nat) (e : PTy) (p : List Seg) (ds : List Nat) : DimsAlong e p ds → DimsAlong (.arr n e) p (n :: ds)
  | fld (n : String) (fs : Fields) (f : String) (t : PTy) (p : List Seg) (ds : List Nat) :
      FieldTy fs f t → DimsAlong t p ds → DimsAlong (.struct n fs) (.name f :: p) ds

theorem yWires_dims (T : PTy) : ∀ (nd : List Nat), ∀ w ∈ yWires T nd, ∃ ds, DimsAlong T w.path ds ∧ w.dims = nd ++ ds := by
  induction T using PTy.rec (motive_2 := fun fs => ∀ (nd : List Nat), ∀ w ∈ yWiresF fs nd,
    ∃ f t p ds, FieldTy fs f t ∧ DimsAlong t p ds ∧ w.path = .name f :: p ∧ w.dims = nd ++ ds) with
  | vec w =>
    intro nd x hx
    simp only [yWires, List.mem_singleton] at hx
    subst hx
    exact ⟨[], .vec w, by simp⟩
  | struct nm fs ih =>
    intro nd x hx
    simp only [yWires, List.mem_append, List.mem_singleton] at hx
    rcases hx with hx | rfl
    · obtain ⟨f, t, p, ds, hft, hda, hp, hd⟩ := ih nd x hx
      exact ⟨ds, hp ▸ .fld nm fs f t p ds hft hda, hd⟩
    · exact ⟨[], .top nm fs, by simp⟩
  | arr n e ih =>
    intro nd x hx
    simp only [yWires] at hx
    obtain ⟨ds, hda, hd⟩ := ih (nd ++ [n]) x hx
    exact ⟨n :: ds, .arr n e _ ds hda, by simp [hd]⟩
  | nil => rename_i nd x hx; simp [yWiresF] at hx
  | cons g u rest iht ihr =>
    rename_i nd x hx
    simp only [yWiresF, List.mem_append, List.mem_map] at hx
    rcases hx with ⟨w, hw, rfl⟩ | hx
    · obtain ⟨ds, hda, hd⟩ := iht nd w hw
      exact ⟨g, u, w.path, ds, .here g u rest, hda, rfl, hd⟩
    · obtain ⟨f, t, p, ds, hft, hda, hp, hd⟩ := ihr nd x hx
      exact ⟨f, t, p, ds, .there g u rest f t hft, hda, hp, hd⟩

def segNames : List Seg → List Seg
  | [] => []
  | .name n :: p => .name n :: segNames p
  | .idx _ :: p => segNames p

def segIdxs : List Seg → List Nat
  | [] => []
  | .name _ :: p => segIdxs p
  | .idx i :: p => i :: segIdxs p

/-- the flat port `pid` (names and indices interleaved) is paired with the element of the wire form called by the names alone,
selected by the indices in the same order -/
def ConnOk (c : YConn) : Prop := c.wid = segNames c.pid ∧ c.idx = (segIdxs c.pid).map Sel.idx

theorem segNames_append (a b : List Seg) : segNames (a ++ b) = segNames a ++ segNames b := by
  induction a with
  | nil => rfl
  | cons s a ih => cases s <;> simp [segNames, ih]

theorem segIdxs_append (a b : List Seg) : segIdxs (a ++ b) = segIdxs a ++ segIdxs b := by
  induction a with
  | nil => rfl
  | cons s a ih => cases s <;> simp [segIdxs, ih]

theorem segNames_idx (ix : List Nat) : segNames (ix.map Seg.idx) = [] := by
  induction ix with
  | nil => rfl
  | cons i ix ih => simp [segNames, ih]

theorem segIdxs_idx (ix : List Nat) : segIdxs (ix.map Seg.idx) = ix := by
  induction ix with
  | nil => rfl
  | cons i ix ih => simp [segIdxs, ih]

/-- prefixing the flat port's path with `pre`, the wire form's with its names and the selection with its indices keeps
the pairing: every wrapper below does just this -/
theorem ConnOk.prefix (pre : List Seg) {c : YConn} (h : ConnOk c) :
    ConnOk { c with pid := pre ++ c.pid, wid := segNames pre ++ c.wid, idx := (segIdxs pre).map Sel.idx ++ c.idx } := by
  show segNames pre ++ c.wid = segNames (pre ++ c.pid) ∧
    (segIdxs pre).map Sel.idx ++ c.idx = (segIdxs (pre ++ c.pid)).map Sel.idx
  rw [segNames_append, segIdxs_append, List.map_append, ← h.1, ← h.2]
  exact ⟨rfl, rfl⟩

theorem yConns_ok (d : Dir) : ∀ (T : PTy), ∀ c ∈ yConns d T, c.present = false → ConnOk c := by
  intro T
  induction T using PTy.rec (motive_2 := fun fs => ∀ c ∈ yConnsF d fs, c.present = false → ConnOk c) with
  | vec w =>
    intro c hc _
    simp only [yConns, List.mem_singleton] at hc
    subst hc
    exact ⟨rfl, rfl⟩
  | struct nm fs ih =>
    intro c hc hp
    simp only [yConns, List.mem_append, List.mem_map] at hc
    rcases hc with hc | ⟨l, _, rfl⟩
    · exact ih c hc hp
    · cases hp
  | arr n e ih =>
    intro c hc hp
    simp only [yConns, List.mem_flatMap, List.mem_range, List.mem_map] at hc
    obtain ⟨i, _, c', hc', rfl⟩ := hc
    exact (ih c' hc' hp).prefix [.idx i]
  | nil => rename_i c hc _; simp [yConnsF] at hc
  | cons f t rest iht ihr =>
    rename_i c hc hp
    simp only [yConnsF, List.mem_append, List.mem_map] at hc
    rcases hc with ⟨c', hc', rfl⟩ | hc
    · exact (iht c' hc' hp).prefix [.name f]
    · exact ihr c hc hp

/-- the connections of the fields of a struct are among those of the struct -/
theorem yConnsF_ok (d : Dir) : ∀ (fs : Fields), ∀ c ∈ yConnsF d fs, c.present = false → ConnOk c :=
  fun fs c hc => yConns_ok d (.struct "" fs) c (List.mem_append_left _ hc)

theorem yNestConns_ok (dims : List Nat) (cs : List YConn) (h : ∀ c ∈ cs, c.present = false → ConnOk c) :
    ∀ c ∈ yNestConns dims cs, c.present = false → ConnOk c := by
  induction dims with
  | nil => exact h
  | cons d ds ih =>
    intro c hc hp
    simp only [yNestConns, List.mem_flatMap, List.mem_range, List.mem_map] at hc
    obtain ⟨i, _, c', hc', rfl⟩ := hc
    exact (ih c' hc' hp).prefix [.idx i]

/-- all (non-slice) connections of a record pair a flat port with the same element of its wire form -/
def RecOk (r : YRec) : Prop := ∀ c ∈ r.conns, c.present = false → ConnOk c

theorem yOfSig_ok (s : Sig) : RecOk (yOfSig s) := by
  intro c hc hp
  simp only [yOfSig, List.mem_map] at hc
  obtain ⟨c', hc', rfl⟩ := hc
  exact (yNestConns_ok s.dims _ (yConns_ok s.dir s.ty) c' hc' hp).prefix [.name s.name]

theorem recOk_append (a b : YRec) (ha : RecOk a) (hb : RecOk b) : RecOk (a ++ b) := by
  intro c hc hp
  rcases List.mem_append.mp (show c ∈ a.conns ++ b.conns from hc) with h | h
  · exact ha c h hp
  · exact hb c h hp

theorem recOk_empty : RecOk YRec.empty := fun _ hc => nomatch hc

theorem recOk_concat (rs : List YRec) (h : ∀ r ∈ rs, RecOk r) : RecOk (yConcat rs) := by
  induction rs with
  | nil => exact recOk_empty
  | cons r rs ih =>
    exact recOk_append _ _ (List.forall_mem_cons.mp h).1 (ih (List.forall_mem_cons.mp h).2)

/-- an enclosing list of interfaces / sub-components (`ifc_conn_gen`, `_subcomp_conn_gen`): the indices of the enclosing list go
in front, in the identifier of the flat port and in the selection of the wire form alike -/
theorem yWrap_ok (name : String) (dims : List Nat) (r : YRec) (h : RecOk r) : RecOk (yWrap name dims false r) := by
  intro c hc hp
  simp only [yWrap, Bool.false_eq_true, if_false, List.mem_flatMap, List.mem_map] at hc
  obtain ⟨c', hc', ix, _, rfl⟩ := hc
  have := (h c' hc' hp).prefix (.name name :: ix.map Seg.idx)
  simpa only [segNames, segIdxs, segNames_idx, segIdxs_idx, List.cons_append, List.nil_append] using this

/-- a single interface nested in an interface (`_gen_ifc` with no dimensions) only prefixes its name -/
theorem yWrap_inline_nil_ok (name : String) (r : YRec) (h : RecOk r) : RecOk (yWrap name [] true r) := by
  intro c hc hp
  simp only [yWrap, if_true, allIdx, List.flatMap_cons, List.flatMap_nil, List.append_nil, List.mem_map] at hc
  obtain ⟨c', hc', rfl⟩ := hc
  exact (h c' hc' hp).prefix [.name name]

/-- no LIST of interfaces inside an interface (that shape is known finding F25) -/
def NoNestedLists : Members → Prop
  | .nil => True
  | .port _ _ _ _ rest => NoNestedLists rest
  | .ifc _ dims sub rest => dims = [] ∧ NoNestedLists sub ∧ NoNestedLists rest

theorem yOfMembers_ok (ms : Members) (h : NoNestedLists ms) : RecOk (yOfMembers ms) := by
  induction ms with
  | nil => exact recOk_empty
  | port n dims dir ty rest ih => exact recOk_append _ _ (yOfSig_ok _) (ih h)
  | ifc n dims sub rest ihs ihr =>
    obtain ⟨hd, hs, hr⟩ := h
    subst hd
    exact recOk_append _ _ (yWrap_inline_nil_ok n _ (ihs hs)) (ihr hr)

theorem yOfIfc_ok (e : IfcE) (h : NoNestedLists e.ms) : RecOk (yOfIfc e) := yWrap_ok _ _ _ (yOfMembers_ok _ h)

theorem yOfSub_ok (k : Sub) (h : ∀ e ∈ k.ifcs, NoNestedLists e.ms) : RecOk (yOfSub k) :=
  yWrap_ok _ _ _ (recOk_append _ _ (recOk_concat _ (List.forall_mem_map.mpr fun s _ => yOfSig_ok s))
    (recOk_concat _ (List.forall_mem_map.mpr fun e he => yOfIfc_ok e (h e he))))

def fldNames : List PStep → List String
  | [] => []
  | .fld f :: ss => f :: fldNames ss
  | _ :: ss => fldNames ss

def nonFldSels : List PStep → List Sel
  | [] => []
  | .fld _ :: ss => nonFldSels ss
  | s :: ss => s.sel :: nonFldSels ss

theorem yRend_idx_foldl (mk : SExp → Nat → SExp)
    (hmk : ∀ e i, yRendAux (mk e i) = ((yRendAux e).1, (yRendAux e).2 ++ [Sel.idx i])) (e : SExp) (ix : List Nat) :
    yRendAux (ix.foldl mk e) = ((yRendAux e).1, (yRendAux e).2 ++ ix.map Sel.idx) := by
  induction ix generalizing e with
  | nil => simp
  | cons i ix ih => simp only [List.foldl_cons, ih, hmk, List.append_assoc, List.map_cons, List.singleton_append]

theorem yRend_attr {e mk} (h : AttrOn e mk) (a : String) : yRendAux (mk e a) = ((yRendAux e).1 ++ [a], (yRendAux e).2) := by
  cases h <;> rfl

theorem yRend_scope {e ns q} (h : Scope e ns q) : yRendAux e = (ns, q.map Sel.idx) := by
  induction h with
  | cur => rfl
  | attr a hmk _ ih => rw [yRend_attr hmk, ih]
  | compIdx i _ ih => simp [yRendAux, ih]
  | ifcIdx i _ ih => simp [yRendAux, ih]

theorem yRend_packed (ss : List PStep) (e : SExp) :
    yRendAux (ss.foldl PStep.sexp e) = ((yRendAux e).1 ++ fldNames ss, (yRendAux e).2 ++ nonFldSels ss) := by
  induction ss generalizing e with
  | nil => simp [fldNames, nonFldSels]
  | cons s ss ih =>
    rw [List.foldl_cons, ih]
    cases s <;> simp only [PStep.sexp, yRendAux, fldNames, nonFldSels, PStep.sel, List.append_assoc, List.singleton_append]

/-- **Yosys operand of an object path**: all names (struct fields included) joined by `__`, then all indices in order -/
theorem yRender_opath (p : OPath) :
    yRender p.sexp = ⟨p.names ++ fldNames p.packed, p.allIdx.map Sel.idx ++ nonFldSels p.packed⟩ := by
  have hsig : ∀ e, yRendAux (p.sigIdx.foldl (if p.isWire then SExp.wireIdx else SExp.portIdx) e)
      = ((yRendAux e).1, (yRendAux e).2 ++ p.sigIdx.map Sel.idx) := by
    intro e
    cases p.isWire
    · exact yRend_idx_foldl SExp.portIdx (fun _ _ => rfl) e _
    · exact yRend_idx_foldl SExp.wireIdx (fun _ _ => rfl) e _
  rw [yRender, p.sexp_eq, yRend_packed, hsig, yRend_scope (.attr p.sigName p.scope_ok.2 p.scope_ok.1), OPath.names, OPath.allIdx, p.levels_eq]
  simp

end PV.SDecl
