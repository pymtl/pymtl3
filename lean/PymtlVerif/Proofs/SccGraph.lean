import PymtlVerif.Model.Scc
import PymtlVerif.Proofs.ListFacts
import PymtlVerif.Proofs.Loop
/-!
Graph vocabulary for the Kosaraju proofs: restricted reachability `RA`, well-formedness of `(G, G_T, V)`,
and the lemmas about the bounded loop `iter`, which is `Loop.run` (`iter_eq_run`).
-/
namespace PV.Scc

/-- there is a path `u → … → v` in `G` every vertex of which (end points included) satisfies `P` -/
inductive RA (G : Graph) (P : Nat → Prop) : Nat → Nat → Prop
  | refl {u : Nat} : P u → RA G P u u
  | head {u v w : Nat} : P u → v ∈ G u → RA G P v w → RA G P u w

/-- plain reachability in `G` -/
def Reach (G : Graph) : Nat → Nat → Prop := RA G (fun _ => True)

/-- `u` and `v` lie on a common cycle (or are equal): they reach each other -/
def Mutual (G : Graph) (u v : Nat) : Prop := Reach G u v ∧ Reach G v u

namespace RA
variable {G : Graph} {P Q : Nat → Prop}

theorem left {u v : Nat} (h : RA G P u v) : P u := by cases h <;> assumption
theorem right {u v : Nat} (h : RA G P u v) : P v := by
  induction h with
  | refl h => exact h
  | head _ _ _ ih => exact ih

theorem trans {u v w : Nat} (h1 : RA G P u v) (h2 : RA G P v w) : RA G P u w := by
  induction h1 with
  | refl _ => exact h2
  | head hp he _ ih => exact .head hp he (ih h2)

theorem tail {u v w : Nat} (h : RA G P u v) (he : w ∈ G v) (hw : P w) : RA G P u w :=
  h.trans (.head h.right he (.refl hw))

theorem mono (hpq : ∀ x, P x → Q x) {u v : Nat} (h : RA G P u v) : RA G Q u v := by
  induction h with
  | refl h => exact .refl (hpq _ h)
  | head hp he _ ih => exact .head (hpq _ hp) he ih

theorem closed {S : Nat → Prop} (hS : ∀ x, S x → ∀ y ∈ G x, P y → S y) {u v : Nat} (h : RA G P u v) (hu : S u) : S v := by
  induction h with
  | refl _ => exact hu
  | head _ he h ih => exact ih (hS _ hu _ he h.left)

/-- … and a set closed under the predecessors that satisfy `P` holds the start of every `P`-path that ends in it -/
theorem closed_back {S : Nat → Prop} (hS : ∀ x, P x → ∀ y ∈ G x, S y → S x) {u v : Nat} (h : RA G P u v) (hv : S v) : S u := by
  induction h with
  | refl _ => exact hv
  | head hp he _ ih => exact hS _ hp _ he (ih hv)

end RA

theorem Reach.refl (G : Graph) (u : Nat) : Reach G u u := RA.refl trivial
theorem Reach.trans {G : Graph} {u v w : Nat} (h1 : Reach G u v) (h2 : Reach G v w) : Reach G u w := RA.trans h1 h2
theorem Reach.edge {G : Graph} {u v : Nat} (h : v ∈ G u) : Reach G u v := RA.head trivial h (RA.refl trivial)
theorem RA.toReach {G : Graph} {P : Nat → Prop} {u v : Nat} (h : RA G P u v) : Reach G u v := h.mono (fun _ _ => trivial)

theorem Mutual.refl (G : Graph) (u : Nat) : Mutual G u u := ⟨Reach.refl G u, Reach.refl G u⟩
theorem Mutual.symm {G : Graph} {u v : Nat} (h : Mutual G u v) : Mutual G v u := ⟨h.2, h.1⟩
theorem Mutual.trans {G : Graph} {u v w : Nat} (h1 : Mutual G u v) (h2 : Mutual G v w) : Mutual G u w :=
  ⟨h1.1.trans h2.1, h2.2.trans h1.2⟩

/-- a path between two vertices of the component of `r` stays in the component -/
theorem mutual_path {G : Graph} {r : Nat} : ∀ {a x : Nat}, Reach G a x → Reach G r a → Reach G x r →
    RA G (fun y => Mutual G y r) a x := by
  intro a x h
  unfold Reach at h
  induction h with
  | refl _ => intro h1 h2; exact .refl ⟨h2, h1⟩
  | @head a b c _ he h ih =>
    intro h1 h2
    have hab : Reach G a b := Reach.edge he
    exact .head ⟨hab.trans ((RA.toReach h).trans h2), h1⟩ he (ih (h1.trans hab) h2)

/-- the situation of `kosaraju_scc(G, G_T)`: the keys `V` are distinct, every edge has both ends in `V`
(`if u in V and v in V`), and `G_T` is the transpose of `G` -/
structure WF (G GT : Graph) (V : List Nat) : Prop where
  nodup : V.Nodup
  src : ∀ u v, v ∈ G u → u ∈ V
  dst : ∀ u v, v ∈ G u → v ∈ V
  transp : ∀ u v, u ∈ GT v ↔ v ∈ G u

theorem ra_src_mem {G GT : Graph} {V : List Nat} (wf : WF G GT V) {P : Nat → Prop} {x r : Nat} (h : RA G P x r) (hr : r ∈ V) : x ∈ V := by
  cases h with
  | refl _ => exact hr
  | head _ he _ => exact wf.src _ _ he

theorem mem_adjOf {E : List (Nat × Nat)} {u v : Nat} : v ∈ adjOf E u ↔ (u, v) ∈ E := by
  simp [adjOf]

theorem mem_adjTOf {E : List (Nat × Nat)} {u v : Nat} : u ∈ adjTOf E v ↔ (u, v) ∈ E := by
  simp [adjTOf]

/-- the graph built from an edge sequence by `G[u].append(v); G_T[v].append(u)` is well formed -/
theorem wf_adjOf (V : List Nat) (E : List (Nat × Nat)) (hV : V.Nodup) (hE : ∀ e ∈ E, e.1 ∈ V ∧ e.2 ∈ V) :
    WF (adjOf E) (adjTOf E) V :=
  ⟨hV, fun _ _ h => (hE _ (mem_adjOf.mp h)).1, fun _ _ h => (hE _ (mem_adjOf.mp h)).2,
    fun _ _ => mem_adjTOf.trans mem_adjOf.symm⟩

section iter
variable {σ : Type} (done : σ → Bool) (step : σ → σ)
open PV.Loop

theorem iter_eq_run : ∀ (n : Nat) (s : σ), iter done step n s = run (whileStep done step) n s :=
  run_of_eqns (fun _ => rfl) fun _ _ => rfl

theorem iter_done_eq (n : Nat) (s : σ) (h : done s = true) : iter done step n s = s := by
  rw [iter_eq_run, run_none (whileStep_none.mpr h)]

theorem iter_inv (Inv : σ → Prop) (μ : σ → Nat)
    (hstep : ∀ s, Inv s → done s = false → Inv (step s) ∧ μ (step s) < μ s) (n : Nat) (s : σ) (hi : Inv s) (hm : μ s ≤ n) :
    Inv (iter done step n s) ∧ done (iter done step n s) = true := by
  have hP : ∀ s s', Inv s → whileStep done step s = some s' → Inv s' ∧ μ s' < μ s := fun s s' h e =>
    (whileStep_some.mp e).2 ▸ hstep s h (whileStep_some.mp e).1
  rw [iter_eq_run]
  exact ⟨run_inv (fun s s' h e => (hP s s' h e).1) n s hi,
    whileStep_none.mp (run_ends (fun s s' h e => (hP s s' h e).1) μ (fun s s' h e => (hP s s' h e).2) n s hi hm)⟩

theorem iter_more (n d : Nat) (s : σ) (h : done (iter done step n s) = true) :
    iter done step (n + d) s = iter done step n s := by
  rw [iter_eq_run] at h
  rw [iter_eq_run, iter_eq_run, run_more n d s (whileStep_none.mpr h)]

end iter

end PV.Scc
