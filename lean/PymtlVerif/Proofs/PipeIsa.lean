import PymtlVerif.Model.Pipe
import PymtlVerif.Proofs.TinyRV0
/-!
The TinyRV0 ISA step (`Model/TinyRV0.lean`, written from the ISA document) expressed through the DATAPATH
functions of the pipeline model (`csTable ∘ decodeInstType`, `immgen`, `alu`): for every word that the ISA
decodes and every state in which the ISA executes it, `exec` is the "uniform" step `U.next` that reads
rs1 / rs2 / immediate / mngr2proc head through the control-table row of that word.  This is where the
control-signal table, the immediate generator and the ALU of the RTL are proved to implement the ten
instructions; the pipeline proof then never looks at individual instructions again.
-/
namespace PV.Pipe
open PV.TinyRV0 (W32 Inst decode decodeF fields exec rget rset loadWord storeWord sext12 sext13)

namespace U
/-- control-table row of an instruction word -/
def cs (w : Nat) : CS := csTable (decodeInstType w)
/-- `proc2mngr_en_D` / `mngr2proc_D` of that word -/
def p2m (w : Nat) : Bool := (cs w).csrw && (csrnum w == CSR_PROC2MNGR)
def m2p (w : Nat) : Bool := (cs w).csrr && (csrnum w == CSR_MNGR2PROC)
def imm (w : Nat) : Nat := immgen (cs w).imm_type w
def op1 (S : TinyRV0.State) (w : Nat) : Nat := rget S.regs (rs1 w)
def rs2v (S : TinyRV0.State) (w : Nat) : Nat := rget S.regs (rs2 w)
def op2 (S : TinyRV0.State) (w : Nat) : Nat :=
  if (cs w).op2_sel = 0 then rs2v S w else if (cs w).op2_sel = 1 then imm w
  else if (cs w).op2_sel = 2 then S.inp.headD 0 else 0
def aluv (S : TinyRV0.State) (w : Nat) : Nat := alu (cs w).alu_fn (op1 S w) (op2 S w)
/-- the value the W stage holds: ALU result, or the loaded word -/
def wb (S : TinyRV0.State) (w : Nat) : Nat :=
  if (cs w).wb_result_sel = 0 then aluv S w
  else if (cs w).wb_result_sel = 1 then loadWord S.mem (aluv S w) else 0
def taken (S : TinyRV0.State) (w : Nat) : Bool := (cs w).br_type && (op1 S w != op2 S w)
/-- the architectural effect of the word, through the datapath functions -/
def next (S : TinyRV0.State) (w : Nat) : TinyRV0.State where
  pc := if taken S w then (S.pc + imm w) % W32 else (S.pc + 4) % W32
  regs := if (cs w).rf_wen_pending then rset S.regs (rd w) (wb S w) else S.regs
  mem := if (cs w).dmemreq_type = st then storeWord S.mem (aluv S w) (rs2v S w) else S.mem
  inp := if m2p w then S.inp.tail else S.inp
  out := if p2m w then S.out ++ [aluv S w] else S.out
end U

/-- what the pipeline proof needs to know about the table row of a word the ISA accepts -/
structure RowOk (S : TinyRV0.State) (w : Nat) : Prop where
  /-- no accelerator access: the row's `csrr` (and, next field, its `csrw`) only ever addresses the manager -/
  csrr_m2p : (U.cs w).csrr = U.m2p w
  csrw_p2m : (U.cs w).csrw = U.p2m w
  /-- `csrr mngr2proc` only executes with a non-empty input FIFO -/
  inp_ne : U.m2p w = true → S.inp ≠ []
  /-- the write-back mux takes the ALU result, or the memory word of an instruction that accesses memory -/
  wb_sel : (U.cs w).wb_result_sel = 0 ∨ ((U.cs w).wb_result_sel = 1 ∧ (U.cs w).dmemreq_type ≠ nr)
  ld_sel : (U.cs w).dmemreq_type = ld → (U.cs w).wb_result_sel = 1 ∧ (U.cs w).rf_wen_pending = true
  st_nowen : (U.cs w).dmemreq_type = st → (U.cs w).rf_wen_pending = false ∧ (U.cs w).rs2_en = true
  mem_type : (U.cs w).dmemreq_type = nr ∨ (U.cs w).dmemreq_type = ld ∨ (U.cs w).dmemreq_type = st
  nomem_sel : (U.cs w).dmemreq_type = nr → (U.cs w).wb_result_sel = 0
  p2m_nowen : U.p2m w = true → (U.cs w).rf_wen_pending = false
  p2m_nomem : U.p2m w = true → (U.cs w).dmemreq_type = nr
  br_en : (U.cs w).br_type = true → (U.cs w).rs1_en = true ∧ (U.cs w).rs2_en = true ∧ (U.cs w).op2_sel = 0 ∧
            (U.cs w).rf_wen_pending = false ∧ (U.cs w).dmemreq_type = nr ∧ U.p2m w = false ∧ (U.cs w).imm_type = 2
  /-- whenever the ALU result is used, the ALU function only reads operands whose register read is enabled -/
  alu_dep : ((U.cs w).rf_wen_pending = true ∨ (U.cs w).dmemreq_type ≠ nr ∨ U.p2m w = true) →
      ∀ a b a' b', ((U.cs w).rs1_en = true → a = a') →
        (((U.cs w).op2_sel ≠ 0 ∨ (U.cs w).rs2_en = true) → b = b') →
        alu (U.cs w).alu_fn a b = alu (U.cs w).alu_fn a' b'
  op2_sel_lt : (U.cs w).op2_sel ≤ 2
  m2p_sel : ((U.cs w).op2_sel = 2) = (U.m2p w = true)

theorem rf_write_rset (rf : List Nat) (wen : Bool) (a v : Nat) :
    rf_write rf wen a v = if wen then rset rf a v else rf := by
  unfold rf_write rset
  cases wen <;> by_cases h : a = 0 <;> simp [h]

theorem sext32_12 (v : Nat) : sext32 12 v = sext12 v := rfl

theorem immgen_I (w : Nat) : immgen 0 w = sext12 (fields w).immI := rfl

theorem sext12_split {a e : Nat} (ha : a < 128) (he : e < 32) :
    (if a < 64 then a else a + (134217728 - 128)) * 32 + e = sext12 (a * 32 + e) := by
  unfold sext12 W32; split <;> split <;> omega

theorem immgen_S (w : Nat) : immgen 1 w = sext12 (fields w).immS :=
  sext12_split (Nat.mod_lt _ (by decide)) (Nat.mod_lt _ (by decide))

theorem sext13_split {a b c d : Nat} (ha : a < 2) (hb : b < 2) (hc : c < 64) (hd : d < 16) :
    (if a = 1 then 1048575 else 0) * 4096 + b * 2048 + c * 32 + d * 2 = sext13 (a * 4096 + b * 2048 + c * 32 + d * 2) := by
  unfold sext13 W32; split <;> split <;> omega

theorem immgen_B (w : Nat) : immgen 2 w = sext13 (fields w).immB :=
  sext13_split (Nat.mod_lt _ (by decide)) (Nat.mod_lt _ (by decide)) (Nat.mod_lt _ (by decide)) (Nat.mod_lt _ (by decide))

/-- the row of the control table the RTL decoder picks for a word `w` that the ISA decodes to the given instruction.  The
canonical nop is an `addi` to the ISA and has a row of its own; a `csrr` with `funct7 = 0b0111111` reads an accelerator CSR -/
def rtlType (w : Nat) : Inst → Nat
  | .add .. => ADD | .sll .. => SLL | .srl .. => SRL | .and .. => AND
  | .addi .. => if w = 19 then NOP else ADDI
  | .lw .. => LW | .sw .. => SW | .bne .. => BNE
  | .csrr .. => if funct7 w = 63 then CSRRX else CSRR
  | .csrw .. => CSRW

theorem type_of_enc {w : Nat} {ins : Inst} (h : ins.Enc (fields w)) : decodeInstType w = rtlType w ins := by
  by_cases h19 : w = 19
  · subst h19
    cases ins <;> simp [Inst.Enc, fields] at h <;> rfl
  · cases ins <;> simp [Inst.Enc, fields] at h <;> simp [decodeInstType, opcode, funct3, funct7, rtlType, h19, h]

theorem alu_congr {fn a b a' b' : Nat} (ha : fn ≠ alu_cp1 → a = a') (hb : fn ≠ alu_cp0 → b = b') :
    alu fn a b = alu fn a' b' := by
  by_cases h0 : fn = alu_cp0
  · subst h0; rw [ha (by decide)]; rfl
  · by_cases h1 : fn = alu_cp1
    · subst h1; rw [hb h0]; rfl
    · rw [ha h1, hb h0]

/-- what `RowOk` asks of a table row, when the row's `csrr` / `csrw` only ever stand for `mngr2proc` / `proc2mngr` -/
def CS.Ok (c : CS) : Prop :=
  (c.wb_result_sel = 0 ∨ (c.wb_result_sel = 1 ∧ c.dmemreq_type ≠ nr)) ∧
  (c.dmemreq_type = ld → c.wb_result_sel = 1 ∧ c.rf_wen_pending = true) ∧
  (c.dmemreq_type = st → c.rf_wen_pending = false ∧ c.rs2_en = true) ∧
  (c.dmemreq_type = nr ∨ c.dmemreq_type = ld ∨ c.dmemreq_type = st) ∧
  (c.dmemreq_type = nr → c.wb_result_sel = 0) ∧
  (c.csrw = true → c.rf_wen_pending = false ∧ c.dmemreq_type = nr) ∧
  (c.br_type = true → c.rs1_en = true ∧ c.rs2_en = true ∧ c.op2_sel = 0 ∧
    c.rf_wen_pending = false ∧ c.dmemreq_type = nr ∧ c.csrw = false ∧ c.imm_type = 2) ∧
  ((c.rf_wen_pending = true ∨ c.dmemreq_type ≠ nr ∨ c.csrw = true) →
    (c.alu_fn ≠ alu_cp1 → c.rs1_en = true) ∧ (c.alu_fn ≠ alu_cp0 → c.op2_sel ≠ 0 ∨ c.rs2_en = true)) ∧
  c.op2_sel ≤ 2 ∧ (c.op2_sel = 2 ↔ c.csrr = true)

instance (c : CS) : Decidable c.Ok := by unfold CS.Ok; infer_instance

theorem rowOk_of (S : TinyRV0.State) (w t : Nat) (ht : decodeInstType w = t) (hc : (csTable t).Ok)
    (hr : (csTable t).csrr = true → csrnum w = CSR_MNGR2PROC ∧ S.inp ≠ [])
    (hw : (csTable t).csrw = true → csrnum w = CSR_PROC2MNGR) : RowOk S w := by
  subst ht
  obtain ⟨wb_sel, ld_sel, st_nowen, mem_type, nomem_sel, p2m, br_en, alu_dep, op2_sel_lt, m2p_sel⟩ := hc
  have hm : U.m2p w = (U.cs w).csrr := by
    unfold U.m2p; cases h : (U.cs w).csrr
    · rfl
    · simp [(hr h).1]
  have hp : U.p2m w = (U.cs w).csrw := by
    unfold U.p2m; cases h : (U.cs w).csrw
    · rfl
    · simp [hw h]
  exact {
    csrr_m2p := hm.symm, csrw_p2m := hp.symm, inp_ne := fun h => (hr (hm ▸ h)).2
    wb_sel, ld_sel, st_nowen, mem_type, nomem_sel, op2_sel_lt
    p2m_nowen := fun h => (p2m (hp ▸ h)).1, p2m_nomem := fun h => (p2m (hp ▸ h)).2
    br_en := hp ▸ br_en
    alu_dep := hp ▸ fun hu a b a' b' ha hb =>
      alu_congr (fun h => ha ((alu_dep hu).1 h)) (fun h => hb ((alu_dep hu).2 h))
    m2p_sel := hm ▸ propext m2p_sel }

/-- closes `S' = U.next S w` once `exec` has computed `S'` and `h` gives the word's row: unfolds `U.next` down to the row's columns,
`alu`, the three `immgen_*` and the field slices, so that both sides are the same record of `rget` / `rset` / `loadWord` terms -/
local macro "usimp" h:ident : tactic => `(tactic|
  simp [U.next, U.taken, U.wb, U.aluv, U.op1, U.op2, U.rs2v, U.imm, U.m2p, U.p2m, $h:ident, y, n, br_na, br_ne, imm_x, imm_i, imm_s,
    imm_b, bm_x, bm_rf, bm_imm, bm_csr, alu_x, alu_cp0, alu_cp1, alu_add, alu_sll, alu_srl, alu_and, nr, ld, st, wm_a,
    wm_m, wm_x, alu, immgen_I, immgen_S, immgen_B, rs1, rs2, rd, csrnum, fields])

attribute [local simp] U.cs csTable rtlType NOP CSRRX CSRR CSRW ADD SLL SRL ADDI LW SW BNE AND in
theorem exec_uniform (S S' : TinyRV0.State) (w : Nat) (ins : Inst)
    (hd : decode w = some ins) (he : exec S ins = .ok S') : S' = U.next S w ∧ RowOk S w := by
  obtain ⟨-, hf⟩ := (TinyRV0.decode_eq_some w ins).1 hd
  have ht := type_of_enc hf
  cases ins <;> simp only [Inst.Enc] at hf <;> simp only [rtlType] at ht
  case add | sll | srl | and =>
    obtain ⟨-, -, -, rfl, rfl, rfl⟩ := hf
    refine ⟨?_, rowOk_of S w _ ht (by decide) nofun nofun⟩
    cases he; usimp ht
  case addi =>
    obtain ⟨-, -, rfl, rfl, rfl⟩ := hf
    by_cases h19 : w = 19
    · have ht := ht.trans (if_pos h19)
      refine ⟨?_, rowOk_of S w _ ht (by decide) nofun nofun⟩
      cases he; subst h19; usimp ht
      simp [rset]
    · have ht := ht.trans (if_neg h19)
      refine ⟨?_, rowOk_of S w _ ht (by decide) nofun nofun⟩
      cases he; usimp ht
  case lw | sw =>
    obtain ⟨-, -, rfl, rfl, rfl⟩ := hf
    refine ⟨?_, rowOk_of S w _ ht (by decide) nofun nofun⟩
    simp only [exec] at he
    split at he
    · cases he; usimp ht
    · cases he
  case bne =>
    obtain ⟨-, -, rfl, rfl, rfl⟩ := hf
    refine ⟨?_, rowOk_of S w BNE ht (by decide) nofun nofun⟩
    simp only [exec] at he
    split at he
    · rename_i hne; cases he; usimp ht
      simp [fields] at hne; intro h'; exact absurd h' hne
    · rename_i hne; cases he; usimp ht
      simp [fields] at hne; intro h'; exact absurd hne h'
  case csrr =>
    obtain ⟨-, -, -, rfl, rfl⟩ := hf
    simp only [exec] at he
    split at he
    · rename_i hcsr
      have hc : w / 2^20 % 4096 = 4032 := hcsr
      have ht := ht.trans (if_neg (by show ¬w / 2^25 % 128 = 63; omega))
      split at he
      · cases he
      · rename_i v rest hinp; cases he
        refine ⟨?_, rowOk_of S w _ ht (by decide) (fun _ => ⟨hc, by simp [hinp]⟩) nofun⟩
        usimp ht
        simp [hc, hinp, CSR_MNGR2PROC]
    · cases he
  case csrw =>
    obtain ⟨-, -, -, rfl, rfl⟩ := hf
    simp only [exec] at he
    split at he
    · rename_i hcsr
      have hc : w / 2^20 % 4096 = 1984 := hcsr
      cases he
      refine ⟨?_, rowOk_of S w CSRW ht (by decide) nofun (fun _ => hc)⟩
      usimp ht
      simp [hc, CSR_PROC2MNGR]
    · cases he

end PV.Pipe
