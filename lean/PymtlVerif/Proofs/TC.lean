import PymtlVerif.Model.TC
import PymtlVerif.Model.TCSpec
/-!
Lemmas for C10, the side of the checker (core Lean only, nothing about evaluation): literal widths; `Sim` (the
enforcer re-sizes implicit nodes only); the node rules of the checker inverted and what the absence of issues says at a
node (`Ann.Meets`, `bin_clean`, `cmp_clean`); `Chk`, the graph of `checkE`, on which every fact about accepted
expressions is proved by induction.
-/
namespace PV.TC
open PV.Bits

theorem bitLen_fits (v : Nat) : v < 2 ^ bitLen v := by
  unfold bitLen
  by_cases h : v = 0
  · simp [h]
  · simp only [h, ↓reduceIte]; exact Nat.lt_log2_self

theorem bitLen_least (v w : Nat) (h : v < 2 ^ w) : bitLen v ≤ w := by
  unfold bitLen
  by_cases h0 : v = 0
  · simp [h0]
  · simp only [h0, ↓reduceIte]
    have := (Nat.log2_lt h0).mpr h
    omega

theorem nbitsOf_fits (v : Nat) : v < 2 ^ nbitsOf v := by
  unfold nbitsOf
  by_cases h : v ≤ 1
  · simp only [h, ↓reduceIte]; omega
  · simp only [h, ↓reduceIte]; exact bitLen_fits v

theorem nbitsOf_pos (v : Nat) : 1 ≤ nbitsOf v := by
  unfold nbitsOf bitLen
  by_cases h : v ≤ 1
  · simp [h]
  · have : v ≠ 0 := by omega
    simp [h, this]

theorem nbitsOf_least (v w : Nat) (hw : 1 ≤ w) (h : v < 2 ^ w) : nbitsOf v ≤ w := by
  unfold nbitsOf
  by_cases h1 : v ≤ 1
  · simp [h1, hw]
  · simp only [h1, ↓reduceIte]; exact bitLen_least v w h

theorem nbitsInt_natCast (v : Nat) : nbitsInt (v : Int) = nbitsOf v := by
  unfold nbitsInt nbitsOf
  by_cases h : v ≤ 1
  · have : (-1 : Int) ≤ (v : Int) ∧ (v : Int) ≤ 1 := by omega
    simp [h, this]
  · have h1 : ¬ ((v : Int) ≤ 1) := by omega
    have h2 : ¬ ((v : Int) < 0) := by omega
    simp [h, h1, h2]

/-- an int `k` fits `w` bits as an unsigned operand of a `Bits<w>` -/
def Fits (w : Nat) (k : Int) : Prop := 0 ≤ k ∧ k < 2 ^ w

theorem two_pow_le {a b : Nat} (h : a ≤ b) : (2 : Int) ^ a ≤ 2 ^ b := by
  exact_mod_cast Nat.pow_le_pow_right (by decide : 2 > 0) h

theorem Fits.mono {w w' : Nat} {k : Int} (h : Fits w k) (hw : w ≤ w') : Fits w' k :=
  ⟨h.1, Int.lt_of_lt_of_le h.2 (two_pow_le hw)⟩

theorem fits_nbitsInt (v : Int) (h : 0 ≤ v) : Fits (nbitsInt v) v := by
  obtain ⟨n, rfl⟩ := Int.eq_ofNat_of_zero_le h
  rw [nbitsInt_natCast]
  refine ⟨h, ?_⟩
  have := nbitsOf_fits n
  exact_mod_cast this

/-! ## the enforcer never touches an explicitly sized node -/

@[simp] theorem ann_leaf (a : Ann) : (AT.leaf a).ann = a := rfl
@[simp] theorem ann_idx (a : Ann) (k : AT) : (AT.idx a k).ann = a := rfl
@[simp] theorem ann_n1 (a : Ann) (k : AT) : (AT.n1 a k).ann = a := rfl
@[simp] theorem ann_n2 (a : Ann) (k1 k2 : AT) : (AT.n2 a k1 k2).ann = a := rfl
@[simp] theorem ann_ite (a : Ann) (c t f : AT) : (AT.ite a c t f).ann = a := rfl

/-- `b` is what `a` may have become after any number of enforcements -/
def SimA (a b : Ann) : Prop := b.ex = a.ex ∧ b.val = a.val ∧ (a.ex = true → b.w = a.w)

inductive Sim : AT → AT → Prop
  | leaf {a b} : SimA a b → Sim (.leaf a) (.leaf b)
  | idx {a b k j} : SimA a b → Sim k j → Sim (.idx a k) (.idx b j)
  | n1 {a b k j} : SimA a b → Sim k j → Sim (.n1 a k) (.n1 b j)
  | n2 {a b k1 k2 j1 j2} : SimA a b → Sim k1 j1 → Sim k2 j2 → Sim (.n2 a k1 k2) (.n2 b j1 j2)
  | ite {a b c t f c' t' f'} : SimA a b → Sim c c' → Sim t t' → Sim f f' → Sim (.ite a c t f) (.ite b c' t' f')

theorem SimA.refl (a : Ann) : SimA a a := ⟨rfl, rfl, fun _ => rfl⟩

theorem SimA.trans {a b c : Ann} (h1 : SimA a b) (h2 : SimA b c) : SimA a c :=
  ⟨h2.1.trans h1.1, h2.2.1.trans h1.2.1, fun h => (h2.2.2 (h1.1.trans h)).trans (h1.2.2 h)⟩

theorem simA_resize (w : Nat) (a : Ann) : SimA a (resize w a) := by
  unfold resize
  split
  · exact SimA.refl a
  · next h => exact ⟨rfl, rfl, fun h' => absurd h' h⟩

theorem Sim.refl : ∀ t : AT, Sim t t
  | .leaf a => .leaf (.refl a)
  | .idx a k => .idx (.refl a) (Sim.refl k)
  | .n1 a k => .n1 (.refl a) (Sim.refl k)
  | .n2 a k1 k2 => .n2 (.refl a) (Sim.refl k1) (Sim.refl k2)
  | .ite a c t f => .ite (.refl a) (Sim.refl c) (Sim.refl t) (Sim.refl f)

theorem Sim.trans {t1 t2 t3 : AT} (h1 : Sim t1 t2) (h2 : Sim t2 t3) : Sim t1 t3 := by
  induction h1 generalizing t3 with
  | leaf a => cases h2 with | leaf b => exact .leaf (a.trans b)
  | idx a _ ih => cases h2 with | idx b s => exact .idx (a.trans b) (ih s)
  | n1 a _ ih => cases h2 with | n1 b s => exact .n1 (a.trans b) (ih s)
  | n2 a _ _ ih1 ih2 => cases h2 with | n2 b s1 s2 => exact .n2 (a.trans b) (ih1 s1) (ih2 s2)
  | ite a _ _ _ ihc iht ihf => cases h2 with | ite b sc st sf => exact .ite (a.trans b) (ihc sc) (iht st) (ihf sf)

theorem Sim.ann {t t' : AT} (h : Sim t t') : SimA t.ann t'.ann := by
  cases h <;> assumption

theorem enforce_sim (w : Nat) : ∀ t : AT, Sim t (enforce w t)
  | .leaf a => .leaf (simA_resize w a)
  | .idx a k => .idx (simA_resize w a) (Sim.refl k)
  | .n1 a k => .n1 (.refl a) (enforce_sim w k)
  | .n2 a k1 k2 => .n2 (by split; exact simA_resize w a; exact SimA.refl a) (enforce_sim w k1) (enforce_sim w k2)
  | .ite a c t f => .ite (simA_resize w a) (Sim.refl c) (enforce_sim w t) (enforce_sim w f)

theorem enforce_ann_ex (w : Nat) (t : AT) : (enforce w t).ann.ex = t.ann.ex :=
  (enforce_sim w t).ann.1

theorem enforce_ann_of_ex (w : Nat) (t : AT) (h : t.ann.ex = true) : (enforce w t).ann = t.ann := by
  cases t <;> simp_all [enforce, AT.ann, resize]

/-- inversion of a conditional that yields a result; for the rule bodies, where `split at h` is slow to check -/
theorem ite_eq_ok {ε α : Type} {c : Prop} [Decidable c] {a b : Except ε α} {x : α}
    (h : (if c then a else b) = .ok x) : c ∧ a = .ok x ∨ ¬c ∧ b = .ok x := by
  by_cases hc : c
  · exact .inl ⟨hc, by rwa [if_pos hc] at h⟩
  · exact .inr ⟨hc, by rwa [if_neg hc] at h⟩

theorem ite_nil_iff {c : Prop} [Decidable c] {i : Issue} : (if c then [] else [i]) = [] ↔ c := by
  split <;> simp [*]

/-- a term annotated `a` may stand where a `Bits<W>` operand is expected: an explicitly sized one has that
    very width, an implicitly sized one at most that (the enforcer re-sizes it) -/
def Ann.Meets (a : Ann) (W : Nat) : Prop := a.w ≤ W ∧ (a.ex = true → a.w = W)

theorem Ann.meets_self (a : Ann) : a.Meets a.w := ⟨Nat.le_refl _, fun _ => rfl⟩

theorem Ann.meets_iff (a : Ann) (W : Nat) : a.Meets W ↔ if a.ex then a.w = W else a.w ≤ W := by
  unfold Ann.Meets
  cases a.ex <;> simp
  omega

theorem unify_ok {tl tr : AT} {p : AT × AT} (h : unify tl tr = .ok p) :
    ((tl.ann.ex || tr.ann.ex) = true →
      tl.ann.Meets (max tl.ann.w tr.ann.w) ∧ tr.ann.Meets (max tl.ann.w tr.ann.w)) ∧
    Sim tl p.1 ∧ Sim tr p.2 := by
  unfold unify at h
  cases hl : tl.ann.ex <;> cases hr : tr.ann.ex <;>
    simp only [hl, hr, Bool.and_self, Bool.and_true, Bool.and_false, Bool.not_true, Bool.not_false,
      Bool.false_eq_true, ↓reduceIte] at h <;> split at h <;> cases h <;>
    simp only [Ann.Meets, hl, hr, Bool.or_self, Bool.or_true, Bool.true_or, Bool.false_eq_true, false_implies,
      true_implies, true_and, and_true]
  · exact ⟨.refl _, enforce_sim _ _⟩
  · exact ⟨enforce_sim _ _, .refl _⟩
  · exact ⟨by omega, enforce_sim _ _, .refl _⟩
  · exact ⟨by omega, .refl _, enforce_sim _ _⟩
  · exact ⟨by omega, .refl _, .refl _⟩

theorem foldBin_cases {op : Op} {la ra a : Ann} {res : Nat} {ex : Bool}
    (h : foldBin op la ra res ex = .ok a) :
    (a = ⟨res, ex, none⟩) ∨
    (∃ l r v, la.val = some l ∧ ra.val = some r ∧ intBin op l r = .ok v ∧ ex = false ∧
      a = ⟨nbitsInt v, ex, some v⟩) := by
  unfold foldBin at h
  split at h
  · cases h; exact .inl rfl
  · next hex =>
    split at h
    · next l r hl hr =>
      split at h <;> cases h
      exact .inr ⟨l, r, _, hl, hr, ‹_›, Bool.eq_false_iff.mpr hex, rfl⟩
    · cases h; exact .inl rfl

theorem binRule_ok {op : Op} {tl tr t : AT} (h : binRule op tl tr = .ok t) :
    ∃ a k1 k2, t = .n2 a k1 k2 ∧ Sim tl k1 ∧ Sim tr k2 ∧
      foldBin op tl.ann tr.ann (if op.isShift then tl.ann.w else max tl.ann.w tr.ann.w)
        (if op.isShift then tl.ann.ex else tl.ann.ex || tr.ann.ex) = .ok a ∧
      (op.isShift = false → (tl.ann.ex || tr.ann.ex) = true →
        tl.ann.Meets (max tl.ann.w tr.ann.w) ∧ tr.ann.Meets (max tl.ann.w tr.ann.w)) := by
  unfold binRule at h
  cases hs : op.isShift <;> simp only [hs, Bool.false_eq_true, ↓reduceIte] at h ⊢
  · split at h
    · cases h
    · next hu =>
      split at h <;> cases h
      exact ⟨_, _, _, rfl, (unify_ok hu).2.1, (unify_ok hu).2.2, ‹_›, fun _ => (unify_ok hu).1⟩
  · split at h <;> cases h
    exact ⟨_, _, _, rfl, .refl _, .refl _, ‹_›, nofun⟩

theorem binRule_val {op : Op} {tl tr t : AT} {v : Int} (h : binRule op tl tr = .ok t)
    (hv : t.ann.val = some v) :
    ∃ l r, tl.ann.val = some l ∧ tr.ann.val = some r ∧ intBin op l r = .ok v := by
  obtain ⟨a, k1, k2, rfl, -, -, hf, -⟩ := binRule_ok h
  rcases foldBin_cases hf with rfl | ⟨l, r, v', hl, hr, hi, -, rfl⟩
  · cases hv
  · cases hv; exact ⟨l, r, hl, hr, hi⟩

theorem binRule_ex {op : Op} {tl tr t : AT} (h : binRule op tl tr = .ok t) :
    t.ann.ex = (if op.isShift then tl.ann.ex else (tl.ann.ex || tr.ann.ex)) := by
  obtain ⟨a, _, _, rfl, -, -, hf, -⟩ := binRule_ok h
  rcases foldBin_cases hf with rfl | ⟨_, _, _, _, _, _, _, rfl⟩ <;> rfl

theorem widthIssues_nil {w : Nat} (h : widthIssues w = []) : 1 ≤ w ∧ w < 1024 := ite_nil_iff.mp h

/-- the test of `castIssues` and of `binIssues` for a shift amount -/
theorem meets_of_issues {a : Ann} {W : Nat} {i : Issue}
    (h : (if a.ex then (if a.w = W then [] else [i]) else (if a.w ≤ W then [] else [i])) = []) : a.Meets W := by
  rw [a.meets_iff W]
  cases hex : a.ex <;> simp only [hex, Bool.false_eq_true, ↓reduceIte] at h ⊢ <;> exact ite_nil_iff.mp h

theorem binIssues_nil {op : Op} {la ra a : Ann} {hl hr : Bool} (h : binIssues op la ra hl hr a = []) :
    ((hl || hr) = true ∧ (op.isShift = true → hl = true ∧ ra.Meets la.w)) ∨
    (la.ex = false ∧ ra.ex = false ∧ foldedNonneg a = true) := by
  have soft : ∀ {i j : List Issue}, (if (!la.ex && !ra.ex) = true then if foldedNonneg a = true then [] else i else j) = [] →
      j ≠ [] → i ≠ [] → la.ex = false ∧ ra.ex = false ∧ foldedNonneg a = true := by
    intro i j h hj hi
    cases hle : la.ex <;> cases hre : ra.ex <;> cases hn : foldedNonneg a <;> simp_all
  unfold binIssues at h
  cases hs : op.isShift <;> simp only [hs, Bool.false_eq_true, ↓reduceIte] at h
  · cases hh : (hl || hr)
    · rw [Bool.or_eq_false_iff] at hh
      simp only [hh, Bool.or_self, Bool.false_eq_true, ↓reduceIte] at h
      exact .inr (soft h nofun nofun)
    · exact .inl ⟨rfl, nofun⟩
  · cases hl
    · simp only [Bool.false_eq_true, ↓reduceIte] at h
      refine .inr (soft h ?_ nofun)
      split <;> nofun
    · exact .inl ⟨rfl, fun _ => ⟨rfl, meets_of_issues h⟩⟩

theorem or_true_of_imp {hl hr el er : Bool} (hxl : hl = true → el = true) (hxr : hr = true → er = true)
    (hh : (hl || hr) = true) : (el || er) = true := by
  rcases Bool.or_eq_true_iff.mp hh with h1 | h1
  · rw [hxl h1]; rfl
  · rw [hxr h1, Bool.or_true]

theorem shiftOr_true {op : Op} {hl hr : Bool} (hh : (hl || hr) = true) (hsh : op.isShift = true → hl = true) :
    (if op.isShift then hl else hl || hr) = true := by
  cases hs : op.isShift
  · exact hh
  · exact hsh hs

theorem false_of_imp {h e : Bool} (hx : h = true → e = true) (he : e = false) : h = false := by
  cases h
  · rfl
  · rw [hx rfl] at he; cases he

/-- **an accepted binary node without issues** is of one of two kinds: a `Bits` operation (one operand
    certainly a `Bits`, for a shift the left one; both operands meet the width `W` of the node), or a
    constant folded from two implicitly sized constants to a value that is not negative -/
theorem bin_clean {op : Op} {tl tr t : AT} {hl hr : Bool} (h : binRule op tl tr = .ok t)
    (hc : binIssues op tl.ann tr.ann hl hr t.ann = [])
    (hxl : hl = true → tl.ann.ex = true) (hxr : hr = true → tr.ann.ex = true) :
    (∃ W, tl.ann.Meets W ∧ tr.ann.Meets W ∧ t.ann = ⟨W, true, none⟩ ∧ (hl || hr) = true ∧
      (op.isShift = true → hl = true)) ∨
    (hl = false ∧ hr = false ∧ tl.ann.ex = false ∧ tr.ann.ex = false ∧
      ∃ l r v, tl.ann.val = some l ∧ tr.ann.val = some r ∧ intBin op l r = .ok v ∧ 0 ≤ v ∧
        t.ann = ⟨nbitsInt v, false, some v⟩) := by
  obtain ⟨a, k1, k2, rfl, -, -, hf, hm⟩ := binRule_ok h
  rw [ann_n2] at hc ⊢
  rcases binIssues_nil hc with ⟨hh, hsh⟩ | ⟨hle, hre, hn⟩
  · left
    cases hs : op.isShift <;> simp only [hs, Bool.false_eq_true, ↓reduceIte] at hf
    · have hex := or_true_of_imp hxl hxr hh
      obtain ⟨ml, mr⟩ := hm hs hex
      rw [hex] at hf
      rcases foldBin_cases hf with rfl | ⟨_, _, _, _, _, _, hf0, _⟩
      · exact ⟨_, ml, mr, rfl, hh, nofun⟩
      · cases hf0
    · obtain ⟨hl1, mr⟩ := hsh hs
      rw [hxl hl1] at hf
      rcases foldBin_cases hf with rfl | ⟨_, _, _, _, _, _, hf0, _⟩
      · exact ⟨_, tl.ann.meets_self, mr, rfl, hh, fun _ => hl1⟩
      · cases hf0
  · right
    have hex : (if op.isShift then tl.ann.ex else tl.ann.ex || tr.ann.ex) = false := by
      rw [hle, hre]; cases op.isShift <;> rfl
    rw [hex] at hf
    rcases foldBin_cases hf with rfl | ⟨l, r, v, hlv, hrv, hv, _, rfl⟩
    · cases hn
    · exact ⟨false_of_imp hxl hle, false_of_imp hxr hre, hle, hre, l, r, v, hlv, hrv, hv, of_decide_eq_true hn, rfl⟩

theorem cmpRule_ok {tl tr t : AT} (h : cmpRule tl tr = .ok t) :
    ∃ k1 k2, t = .n2 ⟨1, true, none⟩ k1 k2 ∧ Sim tl k1 ∧ Sim tr k2 ∧
      ((tl.ann.ex || tr.ann.ex) = true →
        tl.ann.Meets (max tl.ann.w tr.ann.w) ∧ tr.ann.Meets (max tl.ann.w tr.ann.w)) := by
  unfold cmpRule at h
  split at h <;> cases h
  next hu => exact ⟨_, _, rfl, (unify_ok hu).2.1, (unify_ok hu).2.2, (unify_ok hu).1⟩

theorem cmpIssues_nil {la ra : Ann} {hl hr : Bool} (h : cmpIssues la ra hl hr = []) : (hl || hr) = true := by
  unfold cmpIssues softKind at h
  split at h
  · assumption
  · split at h <;> cases h

theorem cmp_clean {tl tr t : AT} {hl hr : Bool} (h : cmpRule tl tr = .ok t)
    (hc : cmpIssues tl.ann tr.ann hl hr = [])
    (hxl : hl = true → tl.ann.ex = true) (hxr : hr = true → tr.ann.ex = true) :
    ∃ W, tl.ann.Meets W ∧ tr.ann.Meets W ∧ t.ann = ⟨1, true, none⟩ ∧ (hl || hr) = true := by
  obtain ⟨k1, k2, rfl, -, -, hm⟩ := cmpRule_ok h
  have hh := cmpIssues_nil hc
  exact ⟨_, (hm (or_true_of_imp hxl hxr hh)).1, (hm (or_true_of_imp hxl hxr hh)).2, rfl, hh⟩

theorem unIssues_nil {ea : Ann} {he : Bool} (h : unIssues ea he = []) : he = true := by
  unfold unIssues at h
  split at h
  · assumption
  · split at h <;> cases h

theorem iteIssues_nil {ta fa : Ann} {w : Nat} (h : iteIssues ta fa w = []) : ta.Meets w ∧ fa.Meets w := by
  obtain ⟨h1, h2, h3, h4⟩ := ite_nil_iff.mp h
  exact ⟨⟨h1, h3⟩, h2, h4⟩

theorem castIssues_nil {n : Nat} {ea : Ann} (h : castIssues n ea = []) : (1 ≤ n ∧ n < 1024) ∧ ea.Meets n := by
  unfold castIssues at h
  rw [List.append_eq_nil_iff] at h
  exact ⟨widthIssues_nil h.1, meets_of_issues h.2⟩

theorem handleIdx_sim {n : Nat} {t t' : AT} {b : Bool} (h : handleIdx n t b = .ok t') : Sim t t' := by
  unfold handleIdx at h
  extract_lets n0 n1 at h
  rcases ite_eq_ok h with ⟨_, h⟩ | ⟨_, h⟩
  · cases h
  rcases ite_eq_ok h with ⟨_, h⟩ | ⟨_, h⟩ <;> rcases ite_eq_ok h with ⟨_, h⟩ | ⟨_, h⟩ <;> cases h
  · exact enforce_sim _ _
  · exact enforce_sim _ _
  · exact .refl _

theorem idxRule_ok {w : Nat} {ti t : AT} (h : idxRule w ti = .ok t) :
    ∃ k, t = .idx ⟨1, true, none⟩ k ∧ Sim ti k := by
  unfold idxRule at h
  cases hh : handleIdx (idxW w) ti true with
  | error e => rw [hh] at h; cases h
  | ok ti' =>
    simp only [hh] at h
    split at h
    · split at h <;> cases h
      exact ⟨_, rfl, handleIdx_sim hh⟩
    · cases h; exact ⟨_, rfl, handleIdx_sim hh⟩

theorem idxRule_ann {w : Nat} {ti t : AT} (h : idxRule w ti = .ok t) : t.ann = ⟨1, true, none⟩ := by
  obtain ⟨_, rfl, _⟩ := idxRule_ok h
  rfl

theorem slcRule_ok {w : Nat} {lo hi : Expr} {tlo thi t : AT} (h : slcRule w lo hi tlo thi = .ok t) :
    ∃ n k1 k2, t = .n2 ⟨n, true, none⟩ k1 k2 ∧ Sim tlo k1 ∧ Sim thi k2 ∧
      ((∃ l u, tlo.ann.val = some l ∧ thi.ann.val = some u ∧ 0 ≤ l ∧ l < u ∧ u ≤ w ∧ n = (u - l).toNat) ∨
       (∃ sz, plusSize lo hi thi = some sz ∧ 1 ≤ sz ∧ n = sz.toNat)) := by
  unfold slcRule at h
  cases h1 : handleIdx (idxW w) tlo true with
  | error e => rw [h1] at h; cases h
  | ok tlo' =>
    cases h2 : handleIdx (idxW w) thi false with
    | error e => simp only [h1, h2] at h; cases h
    | ok thi' =>
      simp only [h1, h2] at h
      split at h
      · next l u hl hu =>
        rcases ite_eq_ok h with ⟨_, h⟩ | ⟨hlu, h⟩
        · cases h
        rcases ite_eq_ok h with ⟨hb, h⟩ | ⟨_, h⟩ <;> cases h
        exact ⟨_, _, _, rfl, handleIdx_sim h1, handleIdx_sim h2, .inl ⟨l, u, hl, hu, hb.1, by omega, hb.2, rfl⟩⟩
      · split at h
        · next sz hsz =>
          rcases ite_eq_ok h with ⟨hge, h⟩ | ⟨_, h⟩ <;> cases h
          exact ⟨_, _, _, rfl, handleIdx_sim h1, handleIdx_sim h2, .inr ⟨sz, hsz, hge, rfl⟩⟩
        · cases h

theorem extRule_ok {k : ExtK} {te t : AT} {n : Nat} (h : extRule k te n = .ok t) :
    t = .n1 ⟨n, true, none⟩ te ∧ (k = .trunc → n ≤ te.ann.w) ∧ (k ≠ .trunc → te.ann.w ≤ n) := by
  unfold extRule at h
  cases k <;> simp only at h
  · split at h <;> cases h; exact ⟨rfl, nofun, fun _ => by omega⟩
  · split at h <;> cases h; exact ⟨rfl, nofun, fun _ => by omega⟩
  · split at h
    · cases h
    · split at h <;> cases h; exact ⟨rfl, fun _ => by omega, fun h => absurd rfl h⟩

theorem iteRule_ok {tc tt tf t : AT} (h : iteRule tc tt tf = .ok t) :
    ∃ w k2 k3, t = .ite ⟨w, tt.ann.ex || tf.ann.ex, none⟩ tc k2 k3 ∧ Sim tt k2 ∧ Sim tf k3 := by
  unfold iteRule at h
  extract_lets ta fa ex mk at h
  rcases ite_eq_ok h with ⟨_, h⟩ | ⟨_, h⟩
  · cases h; exact ⟨_, _, _, rfl, .refl _, .refl _⟩
  rcases ite_eq_ok h with ⟨_, h⟩ | ⟨_, h⟩
  · cases h
  rcases ite_eq_ok h with ⟨_, h⟩ | ⟨_, h⟩
  · rcases ite_eq_ok h with ⟨_, h⟩ | ⟨_, h⟩ <;> cases h
    · exact ⟨_, _, _, rfl, .refl _, enforce_sim _ _⟩
    · exact ⟨_, _, _, rfl, enforce_sim _ _, .refl _⟩
  rcases ite_eq_ok h with ⟨_, h⟩ | ⟨_, h⟩ <;> rcases ite_eq_ok h with ⟨_, h⟩ | ⟨_, h⟩ <;> cases h
  · exact ⟨_, _, _, rfl, enforce_sim _ _, .refl _⟩
  · exact ⟨_, _, _, rfl, .refl _, enforce_sim _ _⟩

theorem iteRule_ann {tc tt tf t : AT} (h : iteRule tc tt tf = .ok t) :
    t.ann.ex = (tt.ann.ex || tf.ann.ex) ∧ t.ann.val = none := by
  obtain ⟨_, _, _, rfl, _⟩ := iteRule_ok h
  exact ⟨rfl, rfl⟩

@[simp] theorem annOf_ok (t : AT) : annOf (.ok t) = t.ann := rfl

/-- the graph of `checkE`: one rule per constructor, the node rule applied to the trees of the children -/
inductive Chk (Γ : Env) : Expr → AT → Prop
  | sig (x w) : Chk Γ (.sig x w) (.leaf ⟨w, true, none⟩)
  | num (v) : Chk Γ (.num v) (.leaf ⟨nbitsOf v, false, some v⟩)
  | lv {i w} : Γ.lvs.lookup i = some w → Chk Γ (.lv i) (.leaf ⟨w, false, none⟩)
  | tmp {i w ex} : Γ.tmps.lookup i = some (w, ex) → Chk Γ (.tmp i) (.leaf ⟨w, ex, none⟩)
  | un (op) {e te} : Chk Γ e te → Chk Γ (.un op e) (unRule op te)
  | bin {op l r tl tr t} : Chk Γ l tl → Chk Γ r tr → binRule op tl tr = .ok t → Chk Γ (.bin op l r) t
  | cmp (op) {l r tl tr t} : Chk Γ l tl → Chk Γ r tr → cmpRule tl tr = .ok t → Chk Γ (.cmp op l r) t
  | ite {c a b tc tt tf t} : Chk Γ c tc → Chk Γ a tt → Chk Γ b tf → iteRule tc tt tf = .ok t →
      Chk Γ (.ite c a b) t
  | cast (n) {e te} : Chk Γ e te → Chk Γ (.cast n e) (castRule n te)
  | ext {k} (ty) {e n te t} : Chk Γ e te → extRule k te n = .ok t → Chk Γ (.ext k ty e n) t
  | red (op) {e te} : Chk Γ e te → Chk Γ (.red op e) (.n1 ⟨1, true, none⟩ te)
  | cat {l r tl tr} : Chk Γ l tl → Chk Γ r tr → Chk Γ (.cat l r) (.n2 ⟨tl.ann.w + tr.ann.w, true, none⟩ tl tr)
  | idx (x) {w i ti t} : Chk Γ i ti → idxRule w ti = .ok t → Chk Γ (.idx x w i) t
  | slc (x) {w lo hi tlo thi t} : Chk Γ lo tlo → Chk Γ hi thi → slcRule w lo hi tlo thi = .ok t →
      Chk Γ (.slc x w lo hi) t

theorem checkE_chk (Γ : Env) : ∀ (e : Expr) (t : AT), checkE Γ e = .ok t → Chk Γ e t := by
  intro e
  induction e with
  | sig x w => intro t h; cases h; exact .sig x w
  | num v => intro t h; cases h; exact .num v
  | lv i => intro t h; simp only [checkE] at h; split at h <;> cases h; exact .lv ‹_›
  | tmp i => intro t h; simp only [checkE] at h; split at h <;> cases h; exact .tmp ‹_›
  | un op e ih => intro t h; simp only [checkE] at h; split at h <;> cases h; exact .un op (ih _ ‹_›)
  | cast n e ih => intro t h; simp only [checkE] at h; split at h <;> cases h; exact .cast n (ih _ ‹_›)
  | red op e ih => intro t h; simp only [checkE] at h; split at h <;> cases h; exact .red op (ih _ ‹_›)
  | ext k ty e n ih =>
    intro t h; simp only [checkE] at h; split at h
    · exact .ext ty (ih _ ‹_›) h
    · cases h
  | idx x w i ih =>
    intro t h; simp only [checkE] at h; split at h
    · exact .idx x (ih _ ‹_›) h
    · cases h
  | bin op l r ihl ihr =>
    intro t h; simp only [checkE] at h
    split at h
    · cases h
    split at h
    · cases h
    exact .bin (ihl _ ‹_›) (ihr _ ‹_›) h
  | cmp op l r ihl ihr =>
    intro t h; simp only [checkE] at h
    split at h
    · cases h
    split at h
    · cases h
    exact .cmp op (ihl _ ‹_›) (ihr _ ‹_›) h
  | slc x w l r ihl ihr =>
    intro t h; simp only [checkE] at h
    split at h
    · cases h
    split at h
    · cases h
    exact .slc x (ihl _ ‹_›) (ihr _ ‹_›) h
  | cat l r ihl ihr =>
    intro t h; simp only [checkE] at h
    split at h
    · cases h
    split at h <;> cases h
    exact .cat (ihl _ ‹_›) (ihr _ ‹_›)
  | ite c a b ihc iha ihb =>
    intro t h; simp only [checkE] at h
    split at h
    · cases h
    split at h
    · cases h
    split at h
    · cases h
    exact .ite (ihc _ ‹_›) (iha _ ‹_›) (ihb _ ‹_›) h

theorem Chk.eq {Γ : Env} {e : Expr} {t : AT} (h : Chk Γ e t) : checkE Γ e = .ok t := by
  induction h with
  | sig | num => rfl
  | lv h | tmp h => simp only [checkE, h]
  | un _ _ ih | cast _ _ ih | red _ _ ih => simp only [checkE, ih]
  | ext _ _ hr ih | idx _ _ hr ih => simp only [checkE, ih, hr]
  | bin _ _ hr ihl ihr | cmp _ _ _ hr ihl ihr | slc _ _ _ hr ihl ihr => simp only [checkE, ihl, ihr, hr]
  | cat _ _ ihl ihr => simp only [checkE, ihl, ihr]
  | ite _ _ _ hr ihc iha ihb => simp only [checkE, ihc, iha, ihb, hr]

theorem plusSize_inv {Γ : Env} {lo hi : Expr} {thi : AT} {sz : Int} (hhi : checkE Γ hi = .ok thi)
    (hsz : plusSize lo hi thi = some sz) :
    ∃ nn tN, hi = .bin .add lo nn ∧ checkE Γ nn = .ok tN ∧ tN.ann.val = some sz := by
  unfold plusSize at hsz
  split at hsz
  · next x nn a kk1 tn =>
    split at hsz
    · next hx =>
      subst hx
      cases checkE_chk _ _ _ hhi with | bin _ hcN hb =>
      obtain ⟨a', j1, j2, hshape, -, s2, -⟩ := binRule_ok hb
      cases hshape
      rw [s2.ann.2.1] at hsz
      exact ⟨nn, _, rfl, hcN.eq, hsz⟩
    · cases hsz
  · cases hsz

theorem slcIssues_nil {Γ : Env} {x w : Nat} {lo hi : Expr} (hc : issuesE Γ (.slc x w lo hi) = []) :
    w < 1024 ∧ intOnly lo = true ∧ intOnly hi = true := by
  simp only [issuesE, List.append_eq_nil_iff] at hc
  refine ⟨(widthIssues_nil hc.1).2, ?_⟩
  by_cases hb : (intOnly lo && intOnly hi) = true
  · simpa using hb
  · have := hc.2
    split at this <;> simp [hb] at this

end PV.TC
