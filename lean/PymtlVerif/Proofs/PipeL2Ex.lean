import PymtlVerif.Proofs.PipeL2
import PymtlVerif.Proofs.PipeDemo
/-!
# Non-vacuity of the ghost machine on concrete runs

`demoTrace` (`Proofs/PipeDemo.lean`) is a recorded run of the real `ProcRTL`; its taken `bne` (cycle 13) squashes
one instruction in D and one fetch in F whose response is there in the same cycle (dropped in SNOOP).
`waitTrace` replays the first 13 cycles, then withholds the instruction response in the squash cycle, so the
drop unit goes to WAIT and drops the late response two cycles later; then a reset in mid-flight.
-/
namespace PV.Pipe
open PV.C20p

/-! ## the recorded trace -/

example : (grun State.init {} demoTrace).2.sqF = [8] := by decide +kernel
example : ((grun State.init {} demoTrace).2.outD.filter (·.2)).map (·.1) = [7] := by decide +kernel
example : (grun State.init {} demoTrace).2.commits = [0, 1, 2, 3, 4, 5, 6, 9, 10, 11, 12, 13, 14, 15, 16, 17] := by
  decide +kernel
example : (grun State.init {} demoTrace).2.consumedF.filter (·.2) = [(8, true)] := by decide +kernel
-- 23 fetches: 16 committed, 1 squashed in D, 1 squashed in F, 5 in flight (W, M, X, D, F all valid)
set_option maxRecDepth 4000 in
example : let p := grun State.init {} demoTrace
    (p.2.base, p.2.nxt, p.2.tW, p.2.tM, p.2.tX, p.2.tD, p.2.tF) = (0, 23, 18, 19, 20, 21, 22) ∧
    (p.1.val_W, p.1.val_M, p.1.val_X, p.1.val_D, p.1.val_F, p.1.drop_wait) = (true, true, true, true, true, false) := by
  decide +kernel
-- the squash cycle itself: X holds tag 6 (the `bne`), D tag 7, F tag 8
example : let p := grun State.init {} (demoTrace.take 13)
    osquash_X p.1 (demoTrace.getD 13 {}) = true ∧ (p.2.tX, p.2.tD, p.2.tF) = (6, 7, 8) ∧
    drop_in_rdy p.1 (demoTrace.getD 13 {}) = true := by decide +kernel

/-! ## a run through the WAIT state of the drop unit, then a reset -/

def quiet : EnvIn := { imem_req_rdy := true, dmem_req_rdy := true, proc2mngr_rdy := true, xcel_req_rdy := true }
/-- an instruction response carrying `nop` -/
def nopResp : EnvIn := { quiet with imem_resp_en := true, imem_resp_data := 19 }
def waitTrace : List EnvIn :=
  demoTrace.take 13 ++
    [quiet, quiet, nopResp, nopResp, nopResp, nopResp, nopResp, nopResp, { reset := true }, quiet, nopResp, nopResp]

-- squash without a response: WAIT, the squashed fetch (tag 8) is remembered, nothing consumed yet
example : let p := grun State.init {} (waitTrace.take 14)
    p.1.drop_wait = true ∧ p.2.tWait = 8 ∧ p.2.sqF = [8] ∧ p.2.consumedF.filter (·.2) = [] ∧
    (p.1.val_D, p.1.val_X) = (false, false) := by decide +kernel
example : (grun State.init {} (waitTrace.take 15)).1.drop_wait = true := by decide +kernel
-- the late response arrives: dropped on behalf of tag 8, back to SNOOP
example : let p := grun State.init {} (waitTrace.take 16)
    p.1.drop_wait = false ∧ p.2.sqF = [8] ∧ p.2.consumedF.filter (·.2) = [(8, true)] := by decide +kernel
-- all three fates are populated before the reset
example : let p := grun State.init {} (waitTrace.take 21)
    p.2.commits = [0, 1, 2, 3, 4, 5, 6, 9] ∧ (p.2.outD.filter (·.2)).map (·.1) = [7] ∧ p.2.sqF = [8] ∧
    (p.2.base, p.2.nxt) = (0, 15) := by decide +kernel
-- the reset cycle clears the logs and starts a new tag epoch; fetching resumes with fresh tags
example : let p := grun State.init {} (waitTrace.take 22)
    (p.2.base, p.2.nxt) = (15, 15) ∧ p.2.commits = [] ∧ p.2.sqF = [] := by decide +kernel
example : let p := grun State.init {} waitTrace
    (p.2.base, p.2.nxt, p.2.tX, p.2.tD, p.2.tF) = (15, 18, 15, 16, 17) ∧
    (p.1.val_X, p.1.val_D, p.1.val_F) = (true, true, true) := by decide +kernel

/-! ## the lists of `fate_partition` / `tags_increasing` on the recorded trace (`Proofs/PipeL2.lean` proves the
permutation / the ordering for every reachable state; here they are concrete and non-empty) -/

example : let p := grun State.init {} demoTrace
    p.2.commits ++ (p.2.outD.filter (·.2)).map (·.1) ++ p.2.sqF ++
      (opt [p.2.tW] p.1.val_W ++ opt [p.2.tM] p.1.val_M ++ opt [p.2.tX] p.1.val_X ++ opt [p.2.tD] p.1.val_D
        ++ opt [p.2.tF] p.1.val_F)
    = [0, 1, 2, 3, 4, 5, 6, 9, 10, 11, 12, 13, 14, 15, 16, 17] ++ [7] ++ [8] ++ [18, 19, 20, 21, 22] := by decide +kernel
example : let p := grun State.init {} (waitTrace.take 15)
    p.2.commits ++ opt [p.2.tW] p.1.val_W ++ opt [p.2.tM] p.1.val_M ++ opt [p.2.tX] p.1.val_X ++ opt [p.2.tD] p.1.val_D
        ++ opt [p.2.tWait] p.1.drop_wait ++ opt [p.2.tF] p.1.val_F
    = [0, 1, 2, 3, 4, 5] ++ [6] ++ [] ++ [] ++ [] ++ [8] ++ [9] := by decide +kernel

end PV.Pipe
