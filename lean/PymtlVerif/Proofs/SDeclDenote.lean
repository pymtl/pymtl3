import PymtlVerif.Proofs.SDecl
import PymtlVerif.Model.SDeclPath
/-!
# What an operand denotes (C03): values, the PyMTL reading of an object path, the SystemVerilog reading of a rendered reference
over the environment of unpacked arrays that the declarations create
-/
namespace PV.SDecl
open PV.SV
-- `PV.Names` is not opened whole: its `PVal` (a `construct` argument) is another type than the `PVal` below
open PV.Names (Seg flatId)

/-- a packed value with the names of its struct fields -/
inductive PVal where
  | bits (w v : Nat)
  | arr (es : List PVal)
  | struct (fs : List (String × PVal))

def PVal.field (f : String) : List (String × PVal) → Option PVal
  | [] => none
  | (g, v) :: rest => if g = f then some v else PVal.field f rest

def bitsOf (v lo w : Nat) : PVal := .bits w ((v >>> lo) % 2 ^ w)

/-- PyMTL: field access, element of a list field, bit, slice `[lo:hi]` (bits `lo … hi-1`) -/
def stepPy : PVal → PStep → Option PVal
  | .struct fs, .fld f => PVal.field f fs
  | .arr es, .pidx i => es[i]?
  | .bits _ v, .bit i => some (bitsOf v i 1)
  | .bits _ v, .slice lo hi => some (bitsOf v lo (hi - lo))
  | _, _ => none

/-- SystemVerilog: member select, select of a packed dimension / of a bit, part select `[msb:lsb]` -/
def stepSV : PVal → Sel → Option PVal
  | .struct fs, .fld f => PVal.field f fs
  | .arr es, .idx i => es[i]?
  | .bits _ v, .idx i => some (bitsOf v i 1)
  | .bits _ v, .rng msb lsb => some (bitsOf v lsb (msb + 1 - lsb))
  | _, _ => none

def stepsPy : PVal → List PStep → Option PVal
  | v, [] => some v
  | v, s :: ss => (stepPy v s).bind fun v' => stepsPy v' ss

def stepsSV : PVal → List Sel → Option PVal
  | v, [] => some v
  | v, s :: ss => (stepSV v s).bind fun v' => stepsSV v' ss

/-- the kind of a step agrees with the value it is applied to (the type checker's business) and slices are not empty -/
def StepOk : PVal → PStep → Prop
  | .arr _, .pidx _ => True
  | .bits _ _, .bit _ => True
  | .bits _ _, .slice lo hi => lo < hi
  | .struct _, .fld _ => True
  | _, _ => False

theorem stepSV_sel (v : PVal) (s : PStep) (h : StepOk v s) : stepSV v s.sel = stepPy v s := by
  cases v with
  | bits w x =>
    cases s with
    | bit i => rfl
    | slice lo hi =>
      show some (bitsOf x lo (hi - 1 + 1 - lo)) = some (bitsOf x lo (hi - lo))
      rw [Nat.sub_add_cancel (Nat.zero_lt_of_lt (show lo < hi from h))]
    | _ => exact h.elim
  | arr es =>
    cases s with
    | pidx i => rfl
    | _ => exact h.elim
  | struct fs =>
    cases s with
    | fld f => rfl
    | _ => exact h.elim

def StepsOk : PVal → List PStep → Prop
  | _, [] => True
  | v, s :: ss => StepOk v s ∧ ∀ v', stepPy v s = some v' → StepsOk v' ss

theorem stepsSV_sel (v : PVal) (ss : List PStep) (h : StepsOk v ss) : stepsSV v (ss.map PStep.sel) = stepsPy v ss := by
  induction ss generalizing v with
  | nil => rfl
  | cons s ss ih =>
    simp only [List.map_cons, stepsSV, stepsPy, stepSV_sel v s h.1]
    cases hv : stepPy v s with
    | none => rfl
    | some v' => simpa using ih v' (h.2 v' hv)

/-- **PyMTL reading** of a path: the value of the signal object, then the steps into it -/
def denotePy (ρ : List Seg → Option PVal) (p : OPath) : Option PVal := (ρ p.objPath).bind fun v => stepsPy v p.packed

/-- the first `n` selects must be plain indices: the element of the unpacked array -/
def splitSels : Nat → List Sel → Option (List Nat × List Sel)
  | 0, ss => some ([], ss)
  | n + 1, .idx i :: ss => (splitSels n ss).map fun r => (i :: r.1, r.2)
  | _ + 1, _ => none

/-- **SystemVerilog reading** of a rendered reference over an environment of unpacked arrays: the declaration of the identifier
says how many leading selects address the unpacked dimensions; the rest selects inside the packed value -/
def denoteSV (dimsOf : String → Option (List Nat)) (env : String → List Nat → Option PVal) (r : Ref) : Option PVal :=
  (dimsOf r.ident).bind fun ds => (splitSels ds.length r.sels).bind fun s =>
    (env r.ident s.1).bind fun v => stepsSV v s.2

/-- cut an index tuple into pieces of the given lengths -/
def splitBy : List Nat → List Nat → List (List Nat)
  | [], _ => []
  | n :: ns, ix => ix.take n :: splitBy ns (ix.drop n)

/-- the object that element `ix` of the array declared for family `f` stands for: the declared dimensions are the concatenation
of the dimensions of the levels, so the index tuple is cut level by level -/
def Family.objPath (f : Family) (ix : List Nat) : List Seg :=
  (f.levels.zip (splitBy (f.levels.map (·.dims.length)) ix)).flatMap fun p => Seg.name p.1.name :: p.2.map Seg.idx

def famOf (fams : List Family) (id : String) : Option Family := fams.find? fun f => flatId f.names == id

/-- the declarations of a module as a map identifier ↦ unpacked dimensions -/
def dimsOf (fams : List Family) (id : String) : Option (List Nat) := (famOf fams id).map Family.dims

/-- the environment of unpacked arrays that the declarations create from the PyMTL objects -/
def envOf (fams : List Family) (ρ : List Seg → Option PVal) (id : String) (ix : List Nat) : Option PVal :=
  (famOf fams id).bind fun f => ρ (f.objPath ix)

/-- path `p` addresses an element of family `f`: same names level by level, as many indices as the level has dimensions -/
def InFamily (p : OPath) (f : Family) : Prop :=
  f.levels.map (·.name) = p.levels.map (·.1) ∧ f.levels.map (·.dims.length) = p.levels.map (·.2.length)

theorem splitSels_map_idx (ix : List Nat) (rest : List Sel) :
    splitSels ix.length (ix.map Sel.idx ++ rest) = some (ix, rest) := by
  induction ix with
  | nil => simp [splitSels]
  | cons i ix ih => simp [splitSels, ih]

theorem splitBy_flatten (ls : List (List Nat)) : splitBy (ls.map List.length) ls.flatten = ls := by
  induction ls with
  | nil => rfl
  | cons l ls ih => simp [splitBy, ih]

theorem objPath_eq (p : OPath) (f : Family) (h : InFamily p f) : f.objPath p.allIdx = p.objPath := by
  obtain ⟨h1, h2⟩ := h
  unfold Family.objPath OPath.allIdx OPath.objPath
  have e : p.levels.flatMap (·.2) = (p.levels.map (·.2)).flatten := by simp [List.flatMap]
  rw [h2, e]
  have : p.levels.map (fun l => l.2.length) = (p.levels.map (·.2)).map List.length := by simp [List.map_map, Function.comp_def]
  rw [this, splitBy_flatten]
  generalize p.levels = pl at h1 h2
  generalize f.levels = fl at h1 h2
  induction fl generalizing pl with
  | nil => cases pl with
    | nil => rfl
    | cons => simp at h1
  | cons a fl ih =>
    cases pl with
    | nil => simp at h1
    | cons b pl =>
      simp only [List.map_cons, List.cons.injEq] at h1 h2
      simp only [List.map_cons, List.zip_cons_cons, List.flatMap_cons, ih pl h1.2 h2.2, h1.1]

theorem dims_length (p : OPath) (f : Family) (h : InFamily p f) : f.dims.length = p.allIdx.length := by
  obtain ⟨_, h2⟩ := h
  unfold Family.dims OPath.allIdx
  have e1 : (f.levels.flatMap (·.dims)).length = (f.levels.map (·.dims.length)).sum := by
    simp [List.length_flatMap]
  have e2 : (p.levels.flatMap (·.2)).length = (p.levels.map (·.2.length)).sum := by
    simp [List.length_flatMap]
  rw [e1, e2, h2]

theorem famOf_eq (fams : List Family) (f : Family) (hf : f ∈ fams)
    (huniq : ∀ g ∈ fams, flatId g.names = flatId f.names → g = f) : famOf fams (flatId f.names) = some f := by
  unfold famOf
  induction fams with
  | nil => cases hf
  | cons g gs ih =>
    simp only [List.find?_cons]
    by_cases hg : flatId g.names = flatId f.names
    · simp [huniq g (by simp) hg]
    · have : (flatId g.names == flatId f.names) = false := by simpa using hg
      rw [this]
      rcases List.mem_cons.mp hf with rfl | hf'
      · exact (hg rfl).elim
      · exact ih hf' (fun g' hg' => huniq g' (List.mem_cons_of_mem _ hg'))

end PV.SDecl
