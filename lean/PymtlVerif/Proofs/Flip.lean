import PymtlVerif.Model.Flip
/-!
# Lemmas about `Model/Flip.lean` (the grouping loop of `schedule_posedge_flip`) for `Props/C07f.lean`

Whatever the loop does to the dict it does through `addTo` ("regrouping" below reduces the initial dict and a round to it).
`iter` runs its body before the test, so it is no `Loop.run`: its invariants (`iter_inv`) and its exit through `done`
(`iter_settled`, by the falling `weight`) are followed directly.
-/
namespace PV.Flip

theorem flips_addTo (g : Groups) (k : Path) (ys : List Sig) : (flips (addTo g k ys)).Perm (flips g ++ ys) := by
  induction g with
  | nil => exact List.Perm.of_eq (List.append_nil ys)
  | cons a rest ih =>
    obtain ⟨k', zs⟩ := a
    unfold addTo
    split
    · simp only [flips, List.map_cons, List.flatten_cons, List.append_assoc]
      exact List.Perm.append_left zs List.perm_append_comm
    · simp only [flips, List.map_cons, List.flatten_cons, List.append_assoc] at ih ⊢
      exact List.Perm.append_left zs ih

theorem weight_cons (a : Path × List Sig) (g : Groups) :
    weight (a :: g) = a.1.length * a.2.length + weight g := rfl

theorem weight_addTo (g : Groups) (k : Path) (ys : List Sig) :
    weight (addTo g k ys) = weight g + k.length * ys.length := by
  induction g with
  | nil => exact (Nat.zero_add _).symm ▸ rfl
  | cons a rest ih =>
    rw [addTo]
    split
    next hk => rw [weight_cons, weight_cons, hk, List.length_append, Nat.mul_add, Nat.add_right_comm]
    next => rw [weight_cons, weight_cons, ih, Nat.add_assoc]

theorem mem_addTo_cases {g : Groups} {k : Path} {ys : List Sig} {xy : Path × List Sig} (h : xy ∈ addTo g k ys) :
    xy ∈ g ∨ (xy.1 = k ∧ ∃ zs, xy.2 = zs ++ ys ∧ (zs = [] ∨ (k, zs) ∈ g)) := by
  induction g with
  | nil =>
    simp only [addTo, List.mem_singleton] at h
    subst h
    exact Or.inr ⟨rfl, [], by simp, Or.inl rfl⟩
  | cons a rest ih =>
    obtain ⟨k', zs⟩ := a
    unfold addTo at h
    split at h
    · next hk =>
      rcases List.mem_cons.mp h with h | h
      · subst h; subst hk
        exact Or.inr ⟨rfl, zs, rfl, Or.inr (List.mem_cons_self)⟩
      · exact Or.inl (List.mem_cons_of_mem _ h)
    · rcases List.mem_cons.mp h with h | h
      · subst h; exact Or.inl List.mem_cons_self
      · rcases ih h with h | ⟨h1, zs', h2, h3⟩
        · exact Or.inl (List.mem_cons_of_mem _ h)
        · refine Or.inr ⟨h1, zs', h2, ?_⟩
          rcases h3 with h3 | h3
          · exact Or.inl h3
          · exact Or.inr (List.mem_cons_of_mem _ h3)

/-- a property of entries that survives appending under the same key -/
def AppendClosed (Q : Path × List Sig → Prop) : Prop := ∀ {k zs ys}, Q (k, zs) → Q (k, ys) → Q (k, zs ++ ys)

theorem forall_addTo {Q : Path × List Sig → Prop} (hQ : AppendClosed Q) {g : Groups} {k : Path} {ys : List Sig}
    (hg : ∀ xy ∈ g, Q xy) (hy : Q (k, ys)) : ∀ xy ∈ addTo g k ys, Q xy := by
  intro xy hxy
  rcases mem_addTo_cases hxy with h | ⟨h1, zs, h2, h3⟩
  · exact hg xy h
  · obtain ⟨k', l⟩ := xy
    simp only at h1 h2
    subst h1 h2
    rcases h3 with rfl | h3
    · exact hy
    · exact hQ (hg _ h3) hy

/-! ### regrouping

Both the initial dict and every round of the loop file a list of entries, in order, under their keys: `regroup`.
A round files `move xy` for every entry `xy` and reports `done` iff every entry was final (`round_eq`), so what has
to be known about `addTo` is known about `regroup`: the signals (`flips_regroup`), the weight (`weight_regroup`) and
every property of single entries that survives appending under the same key (`forall_regroup`). -/

/-- `len(y) > 1 or x is top`: the entry stays where it is. The model writes this test out twice: the condition of `stepEntry` and
the body of `settledB` both unfold to it (`stepEntry_eq`, `round_eq` and the `show` in `round_weight` rest on that) -/
def final (xy : Path × List Sig) : Bool := decide (xy.2.length > 1) || decide (xy.1 = [])

/-- what a round files for an entry: a lone signal below `top` goes to the parent component -/
def move (xy : Path × List Sig) : Path × List Sig := if final xy then xy else (parent xy.1, xy.2.take 1)

def regroup (acc es : Groups) : Groups := es.foldl (fun g e => addTo g e.1 e.2) acc

theorem regroup_cons (acc : Groups) (e : Path × List Sig) (es : Groups) :
    regroup acc (e :: es) = regroup (addTo acc e.1 e.2) es := rfl

theorem stepEntry_eq (acc : Groups × Bool) (a : Path × List Sig) :
    stepEntry acc a = (addTo acc.1 (move a).1 (move a).2, acc.2 && final a) := by
  have : stepEntry acc a =
      if final a then (addTo acc.1 a.1 a.2, acc.2) else (addTo acc.1 (parent a.1) (a.2.take 1), false) := rfl
  rw [this, move]
  cases final a <;> simp

theorem round_eq (g : Groups) : round g = (regroup [] (g.map move), settledB g) := by
  suffices h : ∀ acc : Groups × Bool, g.foldl stepEntry acc = (regroup acc.1 (g.map move), acc.2 && g.all final) from
    h ([], true)
  induction g with
  | nil => intro acc; simp [regroup]
  | cons a rest ih =>
    intro acc
    rw [List.foldl_cons, ih, stepEntry_eq, List.map_cons, regroup_cons, List.all_cons, Bool.and_assoc]

theorem initial_eq (sigs : List Sig) : initial sigs = regroup [] (sigs.map fun z => (z.host, [z])) := by
  rw [regroup, List.foldl_map]; rfl

theorem flips_regroup (acc es : Groups) : (flips (regroup acc es)).Perm (flips acc ++ flips es) := by
  induction es generalizing acc with
  | nil => simp [regroup, flips]
  | cons e rest ih =>
    rw [regroup_cons, show flips (e :: rest) = e.2 ++ flips rest from rfl, ← List.append_assoc]
    exact (ih _).trans ((flips_addTo ..).append_right _)

theorem weight_regroup (acc es : Groups) : weight (regroup acc es) = weight acc + weight es := by
  induction es generalizing acc with
  | nil => rfl
  | cons e rest ih => rw [regroup_cons, ih, weight_addTo, weight_cons, Nat.add_assoc]

theorem forall_regroup {Q : Path × List Sig → Prop} (hQ : AppendClosed Q) {acc es : Groups}
    (ha : ∀ xy ∈ acc, Q xy) (he : ∀ e ∈ es, Q e) : ∀ xy ∈ regroup acc es, Q xy := by
  induction es generalizing acc with
  | nil => exact ha
  | cons e rest ih =>
    obtain ⟨h, hr⟩ := List.forall_mem_cons.mp he
    exact ih (forall_addTo hQ ha h) hr

/-- every signal of a group lives in or below the group's component -/
def PrefixInv (g : Groups) : Prop := ∀ xy ∈ g, ∀ z ∈ xy.2, xy.1 <+: z.host
def NonEmpty (g : Groups) : Prop := ∀ xy ∈ g, xy.2 ≠ []
/-- `settledB` as a proposition: every group is final -/
def Settled (g : Groups) : Prop := ∀ xy ∈ g, final xy = true

theorem settledB_iff (g : Groups) : settledB g = true ↔ Settled g := List.all_eq_true

theorem prefix_closed : AppendClosed fun xy => ∀ z ∈ xy.2, xy.1 <+: z.host :=
  fun h1 h2 z hz => (List.mem_append.mp hz).elim (h1 z) (h2 z)

theorem nonEmpty_closed : AppendClosed fun xy => xy.2 ≠ [] :=
  fun _ h2 h => h2 (List.append_eq_nil_iff.mp h).2

theorem final_closed : AppendClosed fun xy => final xy = true := by
  intro k zs ys _ h
  simp only [final, Bool.or_eq_true, decide_eq_true_eq, List.length_append] at h ⊢
  exact h.imp_left fun h => Nat.lt_of_lt_of_le h (Nat.le_add_left ..)

theorem move_snd (e : Path × List Sig) : (move e).2 = e.2 := by
  unfold move
  split
  · rfl
  · next h =>
    -- the group has at most one signal, so `take 1` is all of it
    exact List.take_of_length_le (Nat.le_of_not_lt fun hc => h (by simp [final, hc]))

theorem round_perm (g : Groups) : (flips (round g).1).Perm (flips g) := by
  rw [round_eq]
  refine (flips_regroup [] _).trans (List.Perm.of_eq ?_)
  simp [flips, Function.comp_def, move_snd]

/-- an invariant of single entries that `move` keeps is kept by a round -/
theorem round_forall {Q : Path × List Sig → Prop} (hQ : AppendClosed Q) (hm : ∀ e, Q e → Q (move e)) {g : Groups}
    (hg : ∀ e ∈ g, Q e) : ∀ e ∈ (round g).1, Q e := by
  rw [round_eq]
  exact forall_regroup hQ nofun (List.forall_mem_map.mpr fun e he => hm e (hg e he))

theorem round_prefix {g : Groups} (hg : PrefixInv g) : PrefixInv (round g).1 := by
  refine round_forall prefix_closed (fun e he z hz => ?_) hg
  rw [move_snd] at hz
  unfold move
  split
  · exact he z hz
  · exact (List.dropLast_prefix e.1).trans (he z hz)

theorem round_nonEmpty {g : Groups} (hg : NonEmpty g) : NonEmpty (round g).1 :=
  round_forall nonEmpty_closed (fun e he => (move_snd e).symm ▸ he) hg

theorem round_settled {g : Groups} (hd : (round g).2 = true) : Settled (round g).1 := by
  refine round_forall final_closed (fun e he => ?_) (List.all_eq_true.mp ((congrArg Prod.snd (round_eq g)).symm.trans hd))
  rw [move, if_pos he]; exact he

theorem weight_move {e : Path × List Sig} (hne : e.2 ≠ []) :
    (move e).1.length * (move e).2.length ≤ e.1.length * e.2.length ∧
    (final e = false → (move e).1.length * (move e).2.length < e.1.length * e.2.length) := by
  rw [move_snd]
  unfold move
  split
  · next h => exact ⟨Nat.le_refl _, fun h' => absurd (h.symm.trans h') Bool.noConfusion⟩
  · next h =>
    simp only [final, Bool.or_eq_true, decide_eq_true_eq, not_or] at h
    have : (parent e.1).length < e.1.length := by
      rw [parent, List.length_dropLast]
      exact Nat.sub_lt (Nat.pos_of_ne_zero fun h0 => h.2 (List.length_eq_zero_iff.mp h0)) Nat.one_pos
    have := Nat.mul_lt_mul_of_pos_right this (List.length_pos_iff.mpr hne)
    exact ⟨Nat.le_of_lt this, fun _ => this⟩

/-- the weight never grows, and strictly decreases in a round that is not the last -/
theorem round_weight {g : Groups} (hg : NonEmpty g) :
    weight (round g).1 ≤ weight g ∧ ((round g).2 = false → weight (round g).1 < weight g) := by
  rw [round_eq, weight_regroup, show weight [] = 0 from rfl, Nat.zero_add]
  show _ ∧ (g.all final = false → _)
  induction g with
  | nil => exact ⟨Nat.le_refl _, nofun⟩
  | cons a rest ih =>
    obtain ⟨ha, hr⟩ := List.forall_mem_cons.mp hg
    obtain ⟨m1, m2⟩ := weight_move ha
    obtain ⟨ih1, ih2⟩ := ih hr
    rw [List.map_cons, weight_cons, weight_cons, List.all_cons]
    refine ⟨Nat.add_le_add m1 ih1, fun h => ?_⟩
    cases hf : final a
    · exact Nat.add_lt_add_of_lt_of_le (m2 hf) ih1
    · exact Nat.add_lt_add_of_le_of_lt m1 (ih2 (by simpa [hf] using h))

theorem iter_inv {P : Groups → Prop} (hP : ∀ g, P g → P (round g).1) (n : Nat) {g : Groups} (hg : P g) :
    P (iter n g) := by
  induction n generalizing g with
  | zero => exact hg
  | succ n ih =>
    simp only [iter]
    split
    · exact hP g hg
    · exact ih (hP g hg)

theorem iter_perm (n : Nat) (g : Groups) : (flips (iter n g)).Perm (flips g) :=
  iter_inv (P := fun g' => (flips g').Perm (flips g)) (fun g' h => (round_perm g').trans h) n (List.Perm.refl _)

/-- with fuel above the weight the loop ends through its `done` exit -/
theorem iter_settled (n : Nat) {g : Groups} (hg : NonEmpty g) (hn : weight g < n) : Settled (iter n g) := by
  induction n generalizing g with
  | zero => exact absurd hn (Nat.not_lt_zero _)
  | succ n ih =>
    simp only [iter]
    split
    · next hd => exact round_settled hd
    · next hd =>
      have := (round_weight hg).2 ((Bool.not_eq_true _).mp hd)
      exact ih (round_nonEmpty hg) (Nat.lt_of_lt_of_le this (Nat.le_of_lt_succ hn))

theorem iter_fuel_irrelevant (n m : Nat) {g : Groups} (hg : NonEmpty g) (hn : weight g < n) (hm : weight g < m) :
    iter n g = iter m g := by
  induction n generalizing g m with
  | zero => exact absurd hn (Nat.not_lt_zero _)
  | succ n ih =>
    cases m with
    | zero => exact absurd hm (Nat.not_lt_zero _)
    | succ m =>
      simp only [iter]
      split
      · rfl
      · next hd =>
        have := (round_weight hg).2 ((Bool.not_eq_true _).mp hd)
        exact ih m (round_nonEmpty hg) (Nat.lt_of_lt_of_le this (Nat.le_of_lt_succ hn))
          (Nat.lt_of_lt_of_le this (Nat.le_of_lt_succ hm))

theorem initial_perm (sigs : List Sig) : (flips (initial sigs)).Perm sigs := by
  rw [initial_eq]
  refine (flips_regroup [] _).trans (List.Perm.of_eq ?_)
  simp [flips, Function.comp_def, ← List.flatMap_def]

theorem initial_prefix (sigs : List Sig) : PrefixInv (initial sigs) := by
  rw [initial_eq]
  exact forall_regroup prefix_closed nofun
    (List.forall_mem_map.mpr fun z _ z' hz' => List.mem_singleton.mp hz' ▸ List.prefix_refl _)

theorem initial_nonEmpty (sigs : List Sig) : NonEmpty (initial sigs) := by
  rw [initial_eq]
  exact forall_regroup nonEmpty_closed nofun (List.forall_mem_map.mpr fun _ _ => List.cons_ne_nil _ _)

end PV.Flip
