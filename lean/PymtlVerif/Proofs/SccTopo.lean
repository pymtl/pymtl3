import PymtlVerif.Proofs.SccGraph
import PymtlVerif.Proofs.KahnCount
/-!
The SCC-level topological sort of `schedule_intra_cycle` (`InD` counts + worklist), for *every* worklist discipline
`pick`: the schedule never repeats a group and respects every condensation edge (`TInv`, for every `G_new` whose rows
stay below `n`: `Mamba.WF`, self loops, cycles and repeated entries allowed), and — when every edge goes to a higher index
(`Cond`) — contains every group, so `assert len(scc_schedule) == len(SCCs)` cannot fail. The loop invariant `TInv` is the
counter invariant `KInv` of `Proofs/KahnCount.lean` on `InD` read as integers, plus what `scc_pred` records; the sweep
over `G_new[u]` is `Mamba.hits`, as Mamba's `expand` is (`foldl_relax`).
`OpenLoopCLPass` builds `G_new` from an edge set with the `rdy -> method` edges Kosaraju never saw, so there the condensation
can have a cycle and only `Mamba.WF` holds.
-/
namespace PV.Scc
open PV.Kahn
open PV.Mamba (KInv hits)

/-- what completeness of the sort needs: every edge goes from a lower to a higher index, both below `n`
(`gnew_increasing`: the creation order of the groups is such a numbering). One iteration needs `Mamba.WF` only. -/
def Cond (gn : Graph) (n : Nat) : Prop := ∀ i, i < n → ∀ j ∈ gn i, i < j ∧ j < n

theorem Cond.wf {gn : Graph} {n : Nat} (hc : Cond gn n) : Mamba.WF gn n := fun i hi j hj => (hc i hi j hj).2

theorem Cond.acyclic {gn : Graph} {n : Nat} (hc : Cond gn n) : Mamba.Acyclic gn n := ⟨id, fun i hi j hj => (hc i hi j hj).1⟩

/-- the condensation edges as pairs; the same list as `Mamba.edges gn n`, which is why `KInv.good` and `Mamba.mem_edges` speak of it -/
def condEdgeList (gn : Graph) (n : Nat) : List (Nat × Nat) := (List.range n).flatMap (fun u => (gn u).map (fun v => (u, v)))

theorem mem_condEdgeList {gn : Graph} {n u v : Nat} : (u, v) ∈ condEdgeList gn n ↔ u < n ∧ v ∈ gn u :=
  Mamba.mem_edges gn n

def bump (ind : Nat → Nat) (v : Nat) : Nat → Nat := fun i => if i = v then ind v + 1 else ind i

theorem foldl_bump : ∀ (l : List Nat) (ind : Nat → Nat) (v : Nat), (l.foldl bump ind) v = ind v + l.count v
  | [], _, _ => rfl
  | a :: l, ind, v => by
    rw [List.foldl_cons, foldl_bump l, List.count_cons, bump, Nat.add_comm (l.count v), ← Nat.add_assoc]
    by_cases hva : v = a
    · subst hva; simp
    · simp [hva, Ne.symm hva]

theorem foldl_indeg (gn : Graph) : ∀ (L : List Nat) (ind : Nat → Nat) (v : Nat),
    (L.foldl (fun ind u => (gn u).foldl bump ind) ind) v = ind v + (L.map (fun u => (gn u).count v)).sum
  | [], _, _ => rfl
  | a :: L, ind, v => by
    rw [List.foldl_cons, foldl_indeg gn L, foldl_bump, List.map_cons, List.sum_cons, Nat.add_assoc]

/-- `indeg gn n` unfolds to the fold of `bump` that `foldl_indeg` speaks of -/
theorem indeg_eq (gn : Graph) (n v : Nat) : ((indeg gn n v : Nat) : Int) = Mamba.pend gn n [] v :=
  congrArg Nat.cast ((foldl_indeg gn (List.range n) (fun _ => 0) v).trans (by simp [Mamba.psum]))

/-- effect of `for v in G_new[u]: InD[v] -= 1; if not InD[v]: Q.append(v); scc_pred[v] = u` when no counter is asked to go
below zero: the truncated `InD[v] - 1` is then the integer one, and the vertices appended are `Mamba.hits` -/
theorem foldl_relax (u : Nat) : ∀ (l : List Nat) (s : T3), (∀ v, l.count v ≤ s.ind v) →
    l.foldl (relax u) s = { s with
      ind := fun w => s.ind w - l.count w
      q := s.q ++ hits l (fun w => s.ind w)
      pred := (hits l (fun w => s.ind w)).reverse.map (fun w => (w, some u)) ++ s.pred }
  | [], s, _ => by simp [hits]
  | v :: l, s, h => by
    have hv' : l.count v + 1 ≤ s.ind v := by have := h v; rwa [List.count_cons_self] at this
    have hv : 1 ≤ s.ind v := Nat.le_trans (Nat.le_add_left 1 _) hv'
    -- the state after the first decrement: its counters cover the rest of the list, and read as integers they are `hits`' own
    have hl : ∀ w, l.count w ≤ (if w = v then s.ind v - 1 else s.ind w) := fun w => by
      by_cases hw : w = v
      · rw [if_pos hw, hw]; exact Nat.le_sub_one_of_lt hv'
      · rw [if_neg hw]; have := h w; rwa [List.count_cons_of_ne (Ne.symm hw)] at this
    have hI : (fun w => ((if w = v then s.ind v - 1 else s.ind w : Nat) : Int)) = fun w => if w = v then (s.ind v : Int) - 1 else s.ind w :=
      funext fun w => by
        by_cases hw : w = v
        · rw [if_pos hw, if_pos hw]; exact Int.ofNat_sub hv
        · rw [if_neg hw, if_neg hw]
    have hN : (fun w => (if w = v then s.ind v - 1 else s.ind w) - l.count w) = fun w => s.ind w - (v :: l).count w :=
      funext fun w => by
        by_cases hw : w = v
        · rw [if_pos hw, hw, List.count_cons_self, Nat.sub_sub, Nat.add_comm]
        · rw [if_neg hw, List.count_cons_of_ne (Ne.symm hw)]
    rw [List.foldl_cons, Mamba.hits_cons]
    by_cases hd : s.ind v - 1 = 0
    · rw [show relax u s v = _ from if_pos hd, if_pos (by omega), foldl_relax u l _ hl]
      simp only [hI, hN, List.append_assoc, List.reverse_cons, List.map_append, List.map_cons, List.map_nil, List.cons_append, List.nil_append]
    · rw [show relax u s v = _ from if_neg hd, if_neg (by omega), foldl_relax u l _ hl]
      simp only [hI, hN]

/-- invariant of the `while Q:` loop: the counter invariant `KInv` of `Proofs/KahnCount.lean` on the counters read as integers,
and what `scc_pred` records -/
structure TInv (gn : Graph) (n : Nat) (s : T3) : Prop where
  k : KInv gn n s.q (fun v => (s.ind v : Int)) s.out.reverse
  pred : ∀ v u, s.pred.lookup v = some (some u) → u < n ∧ v ∈ gn u ∧ u ∈ s.out

theorem step3_spec (pick : List Nat → List Nat → Nat) (gn : Graph) (s : T3) (hd : s.done = false) :
    ∃ u q', s.q.Perm (u :: q') ∧
      step3 pick gn s = (gn u).foldl (relax u) { s with q := q', out := s.out ++ [u] } := by
  cases hqe : s.q with
  | nil => rw [T3.done, hqe] at hd; exact Bool.noConfusion hd
  | cons a r =>
    exact ⟨_, _, perm_getD_eraseIdx a _ _ (Nat.mod_lt (pick s.out (a :: r)) (Nat.succ_pos _)), by simp only [step3, hqe]⟩

namespace TInv
variable {gn : Graph} {n : Nat} {s : T3}

theorem good (inv : TInv gn n s) : Good (condEdgeList gn n) s.out.reverse := inv.k.good

theorem lt (inv : TInv gn n s) : ∀ v ∈ s.out, v < n := fun v hv => inv.k.lt v (List.mem_reverse.mpr hv)

theorem out_nodup (inv : TInv gn n s) : s.out.Nodup := (Mamba.kinv_order gn n inv.k).1

theorem length_le (inv : TInv gn n s) : s.out.length ≤ n :=
  List.length_reverse ▸ Mamba.kinv_done_le gn n inv.k

theorem edge_forward (inv : TInv gn n s) {i j : Nat} (hi : i < n) (hj : j ∈ gn i) (hjs : j ∈ s.out) :
    ∃ pre post, s.out = pre ++ i :: post ∧ j ∈ post := (Mamba.kinv_order gn n inv.k).2.2 i j hi hj hjs

/-- `len(scc_schedule) == len(SCCs)` says that no group is missing: a duplicate-free list of `n` numbers below `n`
misses none of them -/
theorem length_eq_iff (inv : TInv gn n s) : s.out.length = n ↔ ∀ i, i < n → i ∈ s.out := by
  constructor
  · intro hlen i hi
    exact List.mem_reverse.mp (good_full inv.good (fun x hx => List.mem_range.mpr (inv.k.lt x hx))
      (by rw [List.length_range, List.length_reverse, hlen]; exact Nat.le_refl _) i (List.mem_range.mpr hi))
  · intro hall
    refine Nat.le_antisymm inv.length_le ?_
    simpa using List.nodup_range.length_le_of_subset (fun x hx => hall x (List.mem_range.mp hx))

theorem pairwise (inv : TInv gn n s) : s.out.Pairwise (fun i j => i ≠ j ∧ i ∉ gn j) :=
  (List.pairwise_reverse.mp (good_pairwise _ inv.good)).imp_of_mem fun _ hj h =>
    ⟨fun e => h.1 e.symm, fun hin => h.2 (mem_condEdgeList.mpr ⟨inv.lt _ hj, hin⟩)⟩

theorem leftover (inv : TInv gn n s) (hd : s.done = true) {v : Nat} (hv : v < n) (hvo : v ∉ s.out) :
    ∃ a, a < n ∧ v ∈ gn a ∧ a ∉ s.out :=
  let ⟨a, ha, hao, hva⟩ := (Mamba.kinv_complete gn n (List.isEmpty_iff.mp hd ▸ inv.k)).1 v hv hvo
  ⟨a, ha, hva, hao⟩

end TInv

/-- one iteration is a step of the counter loop (`Mamba.kinv_step`): `u` is in the work list, so every counter covers
the edges from `u` (`KInv.count_le`), which is what `foldl_relax` asks -/
theorem topo_step {gn : Graph} {n : Nat} (hc : Mamba.WF gn n) (pick : List Nat → List Nat → Nat) (s : T3)
    (inv : TInv gn n s) (hd : s.done = false) :
    TInv gn n (step3 pick gn s) ∧ (step3 pick gn s).out.length = s.out.length + 1 := by
  obtain ⟨u, q', hperm, hstep⟩ := step3_spec pick gn s hd
  have huq : u ∈ s.q := hperm.mem_iff.mpr List.mem_cons_self
  have hun : u < n := ((inv.k.w_iff u).mp huq).1
  have hcnt : ∀ v, (gn u).count v ≤ s.ind v := fun v => by
    by_cases hv : v ∈ gn u
    · exact Int.ofNat_le.mp (inv.k.count_le gn n huq (hc u hun v hv))
    · rw [List.count_eq_zero.mpr hv]; exact Nat.zero_le _
  rw [hstep, foldl_relax u (gn u) { s with q := q', out := s.out ++ [u] } hcnt]
  refine ⟨⟨?_, ?_⟩, by simp⟩
  · have hk := Mamba.kinv_step gn n hc inv.k hperm (W' := q' ++ hits (gn u) fun w => s.ind w) List.perm_append_comm
    rw [List.reverse_append]
    exact (funext fun w => (Int.ofNat_sub (hcnt w)).symm : _ = fun w => ((s.ind w - (gn u).count w : Nat) : Int)) ▸ hk
  · intro v p hl
    simp only [lookup_map_append] at hl
    by_cases hv : v ∈ (hits (gn u) fun w => s.ind w).reverse
    · rw [if_pos hv] at hl
      cases hl
      have := (Mamba.mem_hits ..).mp (List.mem_reverse.mp hv)
      exact ⟨hun, List.count_pos_iff.mp (by omega), List.mem_append_right _ (List.mem_singleton_self _)⟩
    · obtain ⟨g1, g2, g3⟩ := inv.pred v p ((if_neg hv).symm.trans hl)
      exact ⟨g1, g2, List.mem_append_left _ g3⟩

theorem topoInit_inv (gn : Graph) (n : Nat) : TInv gn n (topoInit gn n) := by
  refine ⟨Mamba.kinv_init gn n (fun v _ => indeg_eq gn n v) (.of_eq (List.filter_congr fun v _ => ?_)), ?_⟩
  · -- the model tests the `Nat` counter against 0, `kinv_init` its cast to `Int`
    rw [Bool.eq_iff_iff, beq_iff_eq, beq_iff_eq, Int.natCast_eq_zero]; rfl
  · intro v u hl
    have := lookup_map_append (List.filter (fun i => indeg gn n i == 0) (List.range n)).reverse (none : Option Nat) [] v
    rw [List.append_nil] at this
    simp only [topoInit, this] at hl
    split at hl <;> cases hl

theorem topo_simple {gn : Graph} {n : Nat} (hc : Mamba.WF gn n) (pick : List Nat → List Nat → Nat) :
    TInv gn n (topo pick gn n) ∧ (topo pick gn n).done = true := by
  have h := Mamba.kinv_run gn n (step := Loop.whileStep T3.done (step3 pick gn)) (fun _ => TInv.k)
    (fun s s' h e => (Loop.whileStep_some.mp e).2 ▸ topo_step hc pick s h (Loop.whileStep_some.mp e).1)
    (fun _ h => List.isEmpty_iff.mp (Loop.whileStep_none.mp h :)) (topoInit_inv gn n)
  rw [← iter_eq_run] at h
  exact ⟨h.1, List.isEmpty_iff.mpr h.2.1⟩

theorem topo_complete {gn : Graph} {n : Nat} (hc : Cond gn n) (s : T3) (inv : TInv gn n s) (hd : s.done = true) :
    ∀ v, v < n → v ∈ s.out :=
  Mamba.acyclic_all gn n hc.acyclic (Mamba.kinv_complete gn n (List.isEmpty_iff.mp hd ▸ inv.k)).1

theorem topo_spec {gn : Graph} {n : Nat} (hc : Cond gn n) (pick : List Nat → List Nat → Nat) :
    TInv gn n (topo pick gn n) ∧ (topo pick gn n).done = true ∧ ∀ v, v < n → v ∈ (topo pick gn n).out := by
  obtain ⟨inv, hdone⟩ := topo_simple hc.wf pick
  exact ⟨inv, hdone, topo_complete hc _ inv hdone⟩

end PV.Scc
