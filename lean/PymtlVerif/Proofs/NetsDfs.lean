import PymtlVerif.Proofs.Nets
/-!
# The code's `pred`-based loop test (`ffRun` / `ffRoots` / `ffLoop`) against `hasLoop`

`ffRoots_eq_any_order`: for every order in which the adjacency sets and the signal set are iterated,
the stack machine stops within its fuel and fires exactly when the merged connection graph has a
cycle. The invariant of a run is `Run`: a pop at which the test fires shows a cycle (`Run.fire`), one at which
it does not keeps the invariant (`Run.pop`). The induction over the fuel (`ffRun_spec`) gives all three parts: it stops;
it never fires without a cycle; and while it does not fire, the connections among the visited nodes make
no loop (`Forest`, each newly visited node hanging on by one connection: `hasLoop_cons`).
`ffLoop` is the instance with roots and neighbours in increasing order.
-/
namespace PV.Nets

def within (V : List Nat) (S : List Edge) : List Edge :=
  S.filter (fun e => decide (e.1 ∈ V) && decide (e.2 ∈ V))

theorem step_within (V : List Nat) (S : List Edge) (a b : Nat) :
    Step (within V S) a b ↔ Step S a b ∧ a ∈ V ∧ b ∈ V := by
  unfold Step within
  simp only [List.mem_filter, Bool.and_eq_true, decide_eq_true_eq]
  constructor
  · rintro (⟨h, ha, hb⟩ | ⟨h, hb, ha⟩)
    · exact ⟨Or.inl h, ha, hb⟩
    · exact ⟨Or.inr h, ha, hb⟩
  · rintro ⟨h | h, ha, hb⟩
    · exact Or.inl ⟨h, ha, hb⟩
    · exact Or.inr ⟨h, hb, ha⟩

theorem reach_within_mono {V V' : List Nat} {S : List Edge} (h : ∀ x ∈ V, x ∈ V') {a b : Nat}
    (hr : Reach (within V S) a b) : Reach (within V' S) a b := by
  apply reach_mono _ hr
  intro x y hs
  rw [step_within] at hs ⊢
  exact ⟨hs.1, h _ hs.2.1, h _ hs.2.2⟩

theorem reach_within_erase {V : List Nat} {S : List Edge} {e : Edge} {z : Nat} (hz : z ∉ V) (he : e.1 = z ∨ e.2 = z) {a b : Nat}
    (hr : Reach (within V S) a b) : Reach (S.erase e) a b := by
  refine reach_mono (fun x y hs => ?_) hr
  obtain ⟨hs, hx, hy⟩ := (step_within ..).mp hs
  exact step_erase_of_not_end hs he (fun h => hz (h ▸ hx)) (fun h => hz (h ▸ hy))

theorem hasCycle_of_self {S : List Edge} {u : Nat} (h : Step S u u) : HasCycle S := by
  have : (u, u) ∈ S := by rcases h with h | h <;> exact h
  exact ⟨(u, u), this, Reach.refl u⟩

/-- a node outside `V` with two different neighbours in `V` that are connected inside `V` lies on a cycle: the connection
to `v` and the path inside `V` survive the removal of the connection to `p` -/
theorem hasCycle_of_two {S : List Edge} {V : List Nat} {u p v : Nat} (hu : u ∉ V) (hp : p ∈ V)
    (hne : p ≠ v) (h1 : Step S u p) (h2 : Step S u v) (hr : Reach (within V S) p v) : HasCycle S := by
  have hup : u ≠ p := fun e => hu (e ▸ hp)
  rcases h1 with h | h
  · exact ⟨(u, p), h, reach_trans (Reach.single (step_erase_of_not_end h2 (Or.inr rfl) hup hne.symm))
      (reach_within_erase hu (Or.inl rfl) (reach_symm hr))⟩
  · exact ⟨(p, u), h, reach_trans (reach_within_erase hu (Or.inr rfl) hr)
      (Reach.single (step_erase_of_not_end h2 (Or.inl rfl) hup hne.symm).symm)⟩

theorem lookupPred_eq_lookup (P : List (Nat × Nat)) (x : Nat) : lookupPred P x = P.lookup x := by
  induction P with
  | nil => rfl
  | cons q P ih =>
    unfold lookupPred at ih ⊢
    rw [List.find?_cons, List.lookup_cons, ← ih, Bool.beq_comm (a := x)]
    cases q.1 == x <;> rfl

theorem lookupPred_append_new (new : List Nat) (u : Nat) (P : List (Nat × Nat)) (x : Nat) :
    lookupPred (new.map (fun v => (v, u)) ++ P) x = if x ∈ new then some u else lookupPred P x := by
  rw [lookupPred_eq_lookup, lookupPred_eq_lookup, lookup_map_append]

theorem lookupPred_mem {P : List (Nat × Nat)} {x p : Nat} (h : lookupPred P x = some p) : (x, p) ∈ P := by
  obtain ⟨_, _, rfl, _⟩ := List.lookup_eq_some_iff.mp (lookupPred_eq_lookup P x ▸ h)
  exact List.mem_append_right _ List.mem_cons_self

variable {S : List Edge} {adjf : Nat → List Nat}

/-- the connections among the nodes `V` make no loop -/
def Forest (S : List Edge) (V : List Nat) : Prop := hasLoop (within V S) = false

theorem Forest.nil : Forest S [] :=
  hasLoop_congr (E' := []) fun a b => by rw [step_within]; simp [Step]

/-- once every node is in `V`, the connections among `V` are all connections -/
theorem Forest.of_all {V : List Nat} (hF : Forest S V) (hall : ∀ r ∈ nodesOf S, r ∈ V) : hasLoop S = false := by
  rw [← hF]
  refine hasLoop_congr fun a b => ?_
  rw [step_within]
  exact ⟨fun hs => ⟨hs, hall a ((mem_nodesOf _ a).mpr ⟨b, hs⟩), hall b ((mem_nodesOf _ b).mpr ⟨a, hs.symm⟩)⟩, fun h => h.1⟩

/-- a node with at most one neighbour in a forest can be added to it -/
theorem Forest.cons {V : List Nat} {u : Nat} (hF : Forest S V) (huV : u ∉ V) (noself : ¬ Step S u u)
    (uniq : ∀ v w, Step S u v → v ∈ V → Step S u w → w ∈ V → v = w) : Forest S (u :: V) := by
  unfold Forest at hF ⊢
  have up : ∀ {a b}, Step (within V S) a b → Step (within (u :: V) S) a b := fun hs =>
    (step_within ..).mpr (((step_within ..).mp hs).imp id (.imp (List.mem_cons_of_mem _) (List.mem_cons_of_mem _)))
  by_cases hex : ∃ p, Step S u p ∧ p ∈ V
  · obtain ⟨p, hsp, hpV⟩ := hex
    -- the connections among `u :: V` are those among `V` and the one between `p` and `u`, which hangs `u` on as a leaf
    rw [hasLoop_congr (E' := (p, u) :: within V S), Bool.eq_false_iff, Ne, hasLoop_cons]
    · rintro (h | ⟨_, hr⟩)
      · exact Bool.false_ne_true (hF.symm.trans h)
      · obtain ⟨c, hc⟩ := reach_ne_step (reach_symm hr) (fun e => huV (e ▸ hpV))
        exact huV ((step_within ..).mp hc).2.1
    · refine fun a b => ⟨fun hs => ?_, fun hs => ?_⟩
      · obtain ⟨hS, ha, hb⟩ := (step_within ..).mp hs
        rcases List.mem_cons.mp ha with rfl | ha' <;> rcases List.mem_cons.mp hb with rfl | hb'
        · exact absurd hS noself
        · exact uniq b p hS hb' hsp hpV ▸ Or.inr (List.mem_cons_self ..)
        · exact uniq a p hS.symm ha' hsp hpV ▸ Or.inl (List.mem_cons_self ..)
        · exact Step.mono (fun _ => List.mem_cons_of_mem _) ((step_within ..).mpr ⟨hS, ha', hb'⟩)
      · rcases step_cons hs with hs | ⟨rfl, rfl⟩ | ⟨rfl, rfl⟩
        · exact up hs
        · exact (step_within ..).mpr ⟨hsp.symm, List.mem_cons_of_mem _ hpV, List.mem_cons_self ..⟩
        · exact (step_within ..).mpr ⟨hsp, List.mem_cons_self .., List.mem_cons_of_mem _ hpV⟩
  · rw [← hF]
    refine hasLoop_congr fun a b => ⟨fun hs => ?_, up⟩
    obtain ⟨hS, ha, hb⟩ := (step_within ..).mp hs
    rcases List.mem_cons.mp ha with rfl | ha' <;> rcases List.mem_cons.mp hb with rfl | hb'
    · exact absurd hS noself
    · exact absurd ⟨b, hS, hb'⟩ hex
    · exact absurd ⟨a, hS.symm, ha'⟩ hex
    · exact (step_within ..).mpr ⟨hS, ha', hb'⟩

/-! ## the stack machine

Every stacked node is unvisited and was pushed by a visited neighbour, no node is stacked twice
by the same neighbour, and the `pred` of a stacked node is the neighbour that pushed its topmost entry.
Hence a node that is stacked twice has two different visited neighbours and the test fires when it
is popped; otherwise every pop visits a new node. The visited part of the current component stays
connected, so a popped node with a visited neighbour other than its `pred` lies on a cycle: on a
graph without cycle nothing fires. Conversely, a pop at which nothing fires finds at most one
visited neighbour, so the visited part stays a forest. -/

/-- the state of a run from root `r` started with `V0` visited: the stack with, for each entry, the
node that pushed it (the root, before its pop, is alone on the stack and has none: the second
component of its entry is not looked at) -/
structure Run (S : List Edge) (V0 : List Nat) (r : Nat) (Qp : List (Nat × Nat)) (V : List Nat)
    (P : List (Nat × Nat)) : Prop where
  nd : Qp.Nodup
  ok : ∀ qw ∈ Qp, qw.1 ∉ V ∧ qw.1 ∈ nodesOf S ∧
    ((qw.2 ∈ V ∧ qw.2 ∉ V0 ∧ Step S qw.2 qw.1) ∨ (Qp = [qw] ∧ qw.1 = r ∧ ∀ x ∈ V, x ∈ V0))
  v0 : ∀ x ∈ V0, x ∈ V
  conn : ∀ x ∈ V, x ∉ V0 → Reach (within V S) r x
  nbr : ∀ x ∈ V, x ∉ V0 → ∀ y, Step S x y → y ∈ V ∨ ∃ w, (y, w) ∈ Qp
  look : ∀ q w, lookupPred Qp q = some w → w ∈ V → lookupPred P q = some w
  pne : ∀ pr ∈ P, pr.1 ≠ pr.2

theorem mem_new (hadj : ∀ u v, v ∈ adjf u ↔ Step S u v) (u : Nat) (V : List Nat) (v : Nat) :
    v ∈ (adjf u).filter (fun v => decide (v ∉ V)) ↔ Step S u v ∧ v ∉ V := by
  simp only [List.mem_filter, decide_eq_true_eq, hadj]

/-- the test the machine makes at a pop of `u`, `V` being the nodes visited, `u` included -/
theorem fires_iff (hadj : ∀ u v, v ∈ adjf u ↔ Step S u v) (u : Nat) (V : List Nat) (P : List (Nat × Nat)) :
    ((adjf u).any fun v => decide (v ∈ V) && (lookupPred P u != some v)) = true ↔
      ∃ v, Step S u v ∧ v ∈ V ∧ lookupPred P u ≠ some v := by
  simp only [List.any_eq_true, Bool.and_eq_true, decide_eq_true_eq, bne_iff_ne, ne_eq, hadj]

section
variable {V0 V : List Nat} {r u w : Nat} {rest P : List (Nat × Nat)}

theorem Run.root (hr : r ∉ V) (hrN : r ∈ nodesOf S) : Run S V r [(r, r)] V [] :=
  ⟨List.nodup_cons.mpr ⟨List.not_mem_nil, List.nodup_nil⟩,
    fun qw hq => by cases List.mem_singleton.mp hq; exact ⟨hr, hrN, Or.inr ⟨rfl, rfl, fun _ h => h⟩⟩,
    fun _ hx => hx, fun x hx hx0 => absurd hx hx0, fun x hx hx0 => absurd hx hx0,
    fun _ _ h hw => by cases List.mem_singleton.mp (lookupPred_mem h); exact absurd hw hr, fun _ h => nomatch h⟩

/-- an entry that is not alone on the stack was pushed by a node visited in this run -/
theorem Run.pusher (hI : Run S V0 r ((u, w) :: rest) V P) {qw : Nat × Nat} (hq : qw ∈ (u, w) :: rest) (hne : rest ≠ []) :
    qw.2 ∈ V ∧ qw.2 ∉ V0 ∧ Step S qw.2 qw.1 :=
  (hI.ok qw hq).2.2.resolve_right (fun e => hne (List.cons.inj e.1).2)

/-- a pop at which the test fires: the popped node has a visited neighbour `v` other than its `pred`, and the graph
has a cycle: the `pred` of `u` is the node that pushed its topmost entry (`look`), so `v` is a second visited neighbour
of `u` in the same connected part -/
theorem Run.fire (closed0 : ∀ x ∈ V0, ∀ y, Step S x y → y ∈ V0) (hI : Run S V0 r ((u, w) :: rest) V P) {v : Nat}
    (hs : Step S u v) (hvV : v ∈ u :: V) (hne : lookupPred P u ≠ some v) : HasCycle S := by
  obtain ⟨huV, _, hpush⟩ := hI.ok (u, w) (List.mem_cons_self ..)
  simp only at huV hpush
  rcases List.mem_cons.mp hvV with rfl | hvV
  · exact hasCycle_of_self hs
  · have hv0 : v ∉ V0 := fun h => huV (hI.v0 _ (closed0 v h u hs.symm))
    rcases hpush with ⟨hwV, hw0, hwu⟩ | ⟨_, _, hV⟩
    · -- `lookupPred ((u, w) :: rest) u = some w`: the case `new = [u]` of `lookupPred_append_new`
      have hl := hI.look u w ((lookupPred_append_new [u] w rest u).trans (if_pos (List.mem_singleton.mpr rfl))) hwV
      exact hasCycle_of_two huV hwV (fun e => hne (by rw [hl, e])) hwu.symm hs
        (reach_trans (reach_symm (hI.conn w hwV hw0)) (hI.conn v hvV hv0))
    · exact absurd (hV v hvV) hv0

/-- a node at whose pop nothing fires was not stacked a second time: two entries would have been pushed by two
different visited neighbours, and only one of them is its `pred` -/
theorem Run.head_once (hI : Run S V0 r ((u, w) :: rest) V P)
    (hnf : ∀ v, Step S u v → v ∈ u :: V → lookupPred P u = some v) : ∀ qw ∈ rest, qw.1 ≠ u := by
  rintro ⟨q, w'⟩ hq he
  simp only at he; subst he
  have hne := List.ne_nil_of_mem hq
  obtain ⟨hwV, _, hwu⟩ := hI.pusher (List.mem_cons_self ..) hne
  obtain ⟨hw'V, _, hw'u⟩ := hI.pusher (List.mem_cons_of_mem _ hq) hne
  have e1 := hnf w hwu.symm (List.mem_cons_of_mem _ hwV)
  have e2 := hnf w' hw'u.symm (List.mem_cons_of_mem _ hw'V)
  rw [e1] at e2
  cases e2
  exact (List.nodup_cons.mp hI.nd).1 hq

/-- a pop at which nothing fires keeps the invariant: `u` becomes visited, its unvisited neighbours `new` are stacked
with `u` as the node that pushed them and as their `pred` -/
theorem Run.pop (hI : Run S V0 r ((u, w) :: rest) V P) (hnf : ∀ v, Step S u v → v ∈ u :: V → lookupPred P u = some v)
    {new : List Nat} (hnew : new.Nodup) (hmem : ∀ v, v ∈ new ↔ Step S u v ∧ v ∉ u :: V) :
    Run S V0 r (new.reverse.map (fun v => (v, u)) ++ rest) (u :: V) (new.map (fun v => (v, u)) ++ P) := by
  have huV : u ∉ V := (hI.ok (u, w) (List.mem_cons_self ..)).1
  have hu0 : u ∉ V0 := fun h => huV (hI.v0 _ h)
  have pusher : ∀ qw ∈ rest, qw.2 ∈ V ∧ qw.2 ∉ V0 ∧ Step S qw.2 qw.1 := fun qw hq =>
    hI.pusher (List.mem_cons_of_mem _ hq) (List.ne_nil_of_mem hq)
  have inV : ∀ {x}, Reach (within V S) r x → Reach (within (u :: V) S) r x :=
    reach_within_mono (fun y hy => List.mem_cons_of_mem _ hy)
  have hconn : Reach (within (u :: V) S) r u := by
    obtain ⟨_, _, hpush⟩ := hI.ok (u, w) (List.mem_cons_self ..)
    simp only at hpush
    rcases hpush with ⟨hwV, hw0, hwu⟩ | ⟨_, hur, _⟩
    · exact Reach.step (inV (hI.conn w hwV hw0))
        ((step_within _ _ _ _).mpr ⟨hwu, List.mem_cons_of_mem _ hwV, List.mem_cons_self ..⟩)
    · exact hur ▸ Reach.refl _
  have newmem : ∀ {v}, v ∈ new → (v, u) ∈ new.reverse.map (fun v => (v, u)) ++ rest :=
    fun hv => List.mem_append_left _ (List.mem_map.mpr ⟨_, List.mem_reverse.mpr hv, rfl⟩)
  refine ⟨?_, ?_, fun x hx => List.mem_cons_of_mem _ (hI.v0 x hx), ?_, ?_, ?_, ?_⟩
  · rw [List.nodup_append]
    refine ⟨nodup_map_of_inj_on ((List.reverse_perm _).symm.nodup hnew) fun _ _ _ _ e => congrArg Prod.fst e,
      (List.nodup_cons.mp hI.nd).2, ?_⟩
    intro a ha b hb hab
    subst hab
    obtain ⟨v, _, rfl⟩ := List.mem_map.mp ha
    exact huV (pusher _ hb).1
  · intro qw hq
    rcases List.mem_append.mp hq with hq | hq
    · simp only [List.mem_map, List.mem_reverse] at hq
      obtain ⟨v, hv, rfl⟩ := hq
      obtain ⟨hs, hvV⟩ := (hmem v).mp hv
      exact ⟨hvV, (mem_nodesOf S v).mpr ⟨u, hs.symm⟩, Or.inl ⟨List.mem_cons_self .., hu0, hs⟩⟩
    · obtain ⟨a, b, _⟩ := hI.ok qw (List.mem_cons_of_mem _ hq)
      obtain ⟨c, c0, d⟩ := pusher qw hq
      refine ⟨fun h => ?_, b, Or.inl ⟨List.mem_cons_of_mem _ c, c0, d⟩⟩
      rcases List.mem_cons.mp h with e | h
      · exact hI.head_once hnf qw hq e
      · exact a h
  · intro x hx hx0
    rcases List.mem_cons.mp hx with rfl | hx
    · exact hconn
    · exact inV (hI.conn x hx hx0)
  · intro x hx hx0 y hs
    rcases List.mem_cons.mp hx with rfl | hx
    · by_cases hy : y ∈ x :: V
      · exact Or.inl hy
      · exact Or.inr ⟨x, newmem ((hmem y).mpr ⟨hs, hy⟩)⟩
    · rcases hI.nbr x hx hx0 y hs with h | ⟨w', h⟩
      · exact Or.inl (List.mem_cons_of_mem _ h)
      · rcases List.mem_cons.mp h with e | h
        · exact Or.inl ((Prod.mk.inj e).1 ▸ List.mem_cons_self ..)
        · exact Or.inr ⟨w', List.mem_append_right _ h⟩
  · intro q w' hq _
    rw [lookupPred_append_new] at hq ⊢
    by_cases hv : q ∈ new
    · rw [if_pos hv]
      rwa [if_pos (List.mem_reverse.mpr hv)] at hq
    · rw [if_neg hv]
      rw [if_neg (mt List.mem_reverse.mp hv)] at hq
      -- the topmost entry of `q` lies below the popped one; `q` is not `u`, which was stacked once
      have hm := lookupPred_mem hq
      exact hI.look q w' ((lookupPred_append_new [u] w rest q).trans
        ((if_neg fun h => hI.head_once hnf _ hm (List.mem_singleton.mp h)).trans hq)) (pusher _ hm).1
  · intro pr hpr
    rcases List.mem_append.mp hpr with hm | hm
    · obtain ⟨v, hv, rfl⟩ := List.mem_map.mp hm
      exact fun e => ((hmem v).mp hv).2 ((show v = u from e) ▸ List.mem_cons_self ..)
    · exact hI.pne pr hm

end

/-- `Vout` holds the entry on top of the stack: `ffRoots` needs that of the root it starts a run with -/
theorem ffRun_spec (hadj : ∀ u v, v ∈ adjf u ↔ Step S u v) (hnd : ∀ u, (adjf u).Nodup)
    (V0 : List Nat) (r : Nat) (closed0 : ∀ x ∈ V0, ∀ y, Step S x y → y ∈ V0) :
    ∀ (f : Nat) (Qp : List (Nat × Nat)) (V : List Nat) (P : List (Nat × Nat)), Run S V0 r Qp V P → unseen (nodesOf S) V < f →
    ∃ b Vout, ffRun adjf f (Qp.map (·.1)) V P = some (b, Vout) ∧
      (b = false → (∀ x ∈ V, x ∈ Vout) ∧ (∀ qw ∈ Qp.head?, qw.1 ∈ Vout) ∧ (∀ x ∈ Vout, ∀ y, Step S x y → y ∈ Vout) ∧
        (Forest S V → Forest S Vout)) ∧
      (¬ HasCycle S → b = false) := by
  intro f
  induction f with
  | zero => intro Qp V P _ h; omega
  | succ f ih =>
    intro Qp V P hI hfuel
    cases Qp with
    | nil =>
      refine ⟨false, V, by simp [ffRun], fun _ => ⟨fun x hx => hx, nofun, fun x hx y hs => ?_, id⟩, fun _ => rfl⟩
      by_cases hx0 : x ∈ V0
      · exact hI.v0 _ (closed0 x hx0 y hs)
      · exact (hI.nbr x hx hx0 y hs).resolve_right (fun ⟨_, h⟩ => nomatch h)
    | cons uw rest =>
      obtain ⟨u, w⟩ := uw
      obtain ⟨huV, huN, _⟩ := hI.ok (u, w) (List.mem_cons_self ..)
      simp only at huV huN
      simp only [List.map_cons, ffRun, huV, if_false]
      by_cases hfire : ((adjf u).any fun v => decide (v ∈ u :: V) && (lookupPred P u != some v)) = true
      · obtain ⟨v, hs, hvV, hne⟩ := (fires_iff hadj u (u :: V) P).mp hfire
        exact ⟨true, u :: V, by rw [if_pos hfire], fun h => (nomatch h), fun hac => absurd (hI.fire closed0 hs hvV hne) hac⟩
      · rw [if_neg hfire]
        have hnf : ∀ v, Step S u v → v ∈ u :: V → lookupPred P u = some v := fun v hs hv =>
          Decidable.by_contra fun hne => hfire ((fires_iff hadj u (u :: V) P).mpr ⟨v, hs, hv, hne⟩)
        have hlt := unseen_cons_lt (nodesOf S) V u huN huV
        obtain ⟨b, Vout, hrun, hfalse, hacb⟩ := ih _ _ _
          (hI.pop hnf ((hnd u).filter (fun v => decide (v ∉ u :: V))) (mem_new hadj u (u :: V))) (by omega)
        refine ⟨b, Vout, ?_, fun hb => ?_, hacb⟩
        · rw [← hrun]
          congr 1
          simp [List.map_append, List.map_map, Function.comp_def]
        · obtain ⟨hsub, _, hcl, hfor⟩ := hfalse hb
          -- nothing fired at this pop: every visited neighbour of `u` is its `pred`, so there is at most one
          exact ⟨fun x hx => hsub x (List.mem_cons_of_mem _ hx), fun _ hq => Option.some.inj hq ▸ hsub u (List.mem_cons_self ..), hcl,
            fun hF => hfor (hF.cons huV (fun hs => hI.pne _ (lookupPred_mem (hnf u hs (List.mem_cons_self ..))) rfl)
              (fun v w hsv hv hsw hw => Option.some.inj
                ((hnf v hsv (List.mem_cons_of_mem _ hv)).symm.trans (hnf w hsw (List.mem_cons_of_mem _ hw)))))⟩

/-- `V'`: what is visited after all the roots -/
theorem ffRoots_spec (hadj : ∀ u v, v ∈ adjf u ↔ Step S u v) (hnd : ∀ u, (adjf u).Nodup)
    (fuel : Nat) (hfuel : (nodesOf S).length < fuel) :
    ∀ (rs V : List Nat), (∀ r ∈ rs, r ∈ nodesOf S) → (∀ x ∈ V, ∀ y, Step S x y → y ∈ V) →
    ∃ b, ffRoots adjf fuel rs V = some b ∧ (¬ HasCycle S → b = false) ∧
      (b = false → Forest S V → ∃ V', Forest S V' ∧ (∀ x ∈ V, x ∈ V') ∧ ∀ r ∈ rs, r ∈ V') := by
  intro rs
  induction rs with
  | nil => intro V _ _; exact ⟨false, rfl, fun _ => rfl, fun _ hF => ⟨V, hF, fun _ hx => hx, fun _ h => nomatch h⟩⟩
  | cons r rs ih =>
    intro V hrs hcl
    have hrs' : ∀ x ∈ rs, x ∈ nodesOf S := fun x hx => hrs x (List.mem_cons_of_mem _ hx)
    simp only [ffRoots]
    by_cases hr : r ∈ V
    · simp only [hr, if_true]
      obtain ⟨b, hb, hac, hfor⟩ := ih V hrs' hcl
      refine ⟨b, hb, hac, fun hbf hF => ?_⟩
      obtain ⟨V', a, c, d⟩ := hfor hbf hF
      exact ⟨V', a, c, fun x hx => (List.mem_cons.mp hx).elim (fun e => e ▸ c _ hr) (d x)⟩
    · simp only [hr, if_false]
      obtain ⟨b, Vout, hrun, hfalse, hacb⟩ := ffRun_spec hadj hnd V r hcl fuel [(r, r)] V []
        (Run.root hr (hrs r (List.mem_cons_self ..))) (Nat.lt_of_le_of_lt (List.length_filter_le _ _) hfuel)
      rw [show [r] = [(r, r)].map (·.1) from rfl, hrun]
      cases b with
      | true => exact ⟨true, rfl, hacb, fun h => nomatch h⟩
      | false =>
        obtain ⟨hsub, hhead, hcl1, hfor1⟩ := hfalse rfl
        obtain ⟨b, hb, hac, hfor⟩ := ih Vout hrs' hcl1
        refine ⟨b, hb, hac, fun hbf hF => ?_⟩
        obtain ⟨V', a, c, d⟩ := hfor hbf (hfor1 hF)
        exact ⟨V', a, fun x hx => c x (hsub x hx), fun x hx => (List.mem_cons.mp hx).elim (fun e => e ▸ c _ (hhead _ rfl)) (d x)⟩

/-- the code's `pred`-based loop test computes exactly the loop verdict, for **any** order in which
the adjacency sets and the signal set are iterated: `adjf u` may list the neighbours of `u` in any
order (without repetition), `rs` may list the nodes in any order (repetitions and already visited
nodes are skipped by the code) -/
theorem ffRoots_eq_any_order (E : List Edge) (adjf : Nat → List Nat) (rs : List Nat) (fuel : Nat)
    (hadj : ∀ u v, v ∈ adjf u ↔ Step (simple E) u v) (hnd : ∀ u, (adjf u).Nodup)
    (hrs : ∀ r, r ∈ rs ↔ r ∈ nodesOf (simple E)) (hfuel : (nodesOf (simple E)).length < fuel) :
    ffRoots adjf fuel rs [] = some (hasLoop E) := by
  obtain ⟨b, hb, hacb, hfor⟩ := ffRoots_spec (S := simple E) hadj hnd fuel hfuel rs [] (fun r hr => (hrs r).mp hr)
    (fun x hx => nomatch hx)
  cases b with
  | false =>
    obtain ⟨V', hF, _, hall⟩ := hfor rfl Forest.nil
    rw [hb, hasLoop_congr fun a b => (step_simple E a b).symm]
    exact congrArg some (hF.of_all fun r hr => hall r ((hrs r).mpr hr)).symm
  | true =>
    cases hl : hasLoop E with
    | true => exact hb
    | false => exact nomatch hacb (fun hc => Bool.false_ne_true (hl ▸ (cyc_iff (simple E)).mpr hc))

/-- the stack machine over sets iterated in increasing order. The model's fuel budgets one pop for
every stacking (a connection can stack each of its ends once) and for every root; a pop that does
not fire visits a new node, so only `|nodes| < fuel` is used. -/
theorem ffLoop_eq (E : List Edge) : ffLoop E = some (hasLoop E) :=
  ffRoots_eq_any_order E _ _ _ (adjf_simple E) (fun _ => sorted_nodup (sorted_sortDedup _)) (fun _ => Iff.rfl)
    (by omega)

theorem ffLoop_false_iff (E : List Edge) : ffLoop E = some false ↔ hasLoop E = false := by
  rw [ffLoop_eq, Option.some.injEq]

end PV.Nets
