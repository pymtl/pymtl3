import PymtlVerif.Proofs.TCSound
/-!
Statements of an update block.  `CleanS Γ s Γ'` is the typing judgement for statements: `WTS` with the temporaries threaded
and the condition that a temporary keeps its recorded type.  An accepted block without issues satisfies it (`checkS_clean`);
it is sound (`CleanS.safe`: no width error, and the temporaries agree with the final environment afterwards; assignments by
`execAsg_safe`, loops by `loop_fits` and `runLoop_safe`); `WTS` is its projection (`CleanS.wts`).
-/
namespace PV.TC
open PV.Bits

theorem pyRangeAux_mem (stop step : Int) : ∀ (fuel : Nat) (x k : Int), k ∈ pyRangeAux stop step fuel x →
    (step > 0 ∧ x ≤ k ∧ k < stop) ∨ (step < 0 ∧ k ≤ x ∧ k > stop) := by
  intro fuel
  induction fuel with
  | zero => intro x k h; cases h
  | succ n ih =>
    intro x k h
    simp only [pyRangeAux] at h
    split at h
    · next hc =>
      rcases List.mem_cons.mp h with rfl | h
      · rcases hc with ⟨h1, h2⟩ | ⟨h1, h2⟩
        · exact .inl ⟨h1, Int.le_refl _, h2⟩
        · exact .inr ⟨h1, Int.le_refl _, h2⟩
      · rcases ih (x + step) k h with ⟨h1, h2, h3⟩ | ⟨h1, h2, h3⟩
        · exact .inl ⟨h1, by omega, h3⟩
        · exact .inr ⟨h1, by omega, h3⟩
    · cases h

theorem maxList_ge (xs : List Int) : ∀ m, m ≤ maxList xs m ∧ ∀ x ∈ xs, x ≤ maxList xs m := by
  induction xs with
  | nil => intro m; exact ⟨Int.le_refl m, nofun⟩
  | cons y ys ih =>
    intro m
    obtain ⟨h1, h2⟩ := ih (if y > m then y else m)
    have hm : m ≤ (if y > m then y else m) ∧ y ≤ (if y > m then y else m) := by split <;> omega
    refine ⟨Int.le_trans hm.1 h1, fun x hx => ?_⟩
    rcases List.mem_cons.mp hx with rfl | hx
    · exact Int.le_trans hm.2 h1
    · exact h2 x hx

/-- every value the loop variable takes fits the width `visit_For` infers -/
theorem loop_fits (start stop step : Int) (h0 : 0 ≤ start) (h1 : 0 ≤ stop) (k : Int)
    (hk : k ∈ pyRange start stop step) : Fits (loopWidth start stop step) k := by
  have hpos : 0 ≤ k := by
    rcases pyRangeAux_mem stop step _ start k hk with ⟨_, h, _⟩ | ⟨_, _, h⟩ <;> omega
  unfold loopWidth
  cases hl : pyRange start stop step with
  | nil => rw [hl] at hk; simp at hk
  | cons x xs =>
    simp only
    rw [hl] at hk
    have hm := maxList_ge xs x
    have hle : k ≤ maxList xs x := by
      simp only [List.mem_cons] at hk
      rcases hk with rfl | hk
      · exact hm.1
      · exact hm.2 k hk
    have hf := fits_nbitsInt (maxList xs x) (by omega)
    exact ⟨hpos, by have := hf.2; omega⟩

theorem lookup_setTmp (Γ : Env) (t : Nat) (e : Nat × Bool) (t' : Nat) :
    (Γ.setTmp t e).tmps.lookup t' = if t' = t then some e else Γ.tmps.lookup t' := by
  simp only [Env.setTmp, List.lookup_cons]
  by_cases h : t' = t
  · simp [h]
  · have : (t' == t) = false := by simpa using h
    simp [h, this]

theorem envAfter_ok {Γ Γ1 : Env} {s : Stmt} {a : AS} (h : checkS Γ s = .ok (Γ1, a)) : envAfter Γ s = Γ1 := by
  simp [envAfter, h]

theorem checkS_tasg_inv {Γ Γ' : Env} {t : Nat} {e : Expr} {a : AS} (h : checkS Γ (.tasg t e) = .ok (Γ', a)) :
    ∃ te, checkE Γ e = .ok te ∧ Γ' = Γ.setTmp t (te.ann.w, te.ann.ex) ∧
      (∀ w ex, Γ.tmps.lookup t = some (w, ex) → w = te.ann.w) := by
  simp only [checkS] at h
  split at h
  · cases h
  · next te he =>
    split at h
    · next w ex hl =>
      split at h <;> cases h
      exact ⟨te, he, rfl, fun _ _ h' => by rw [hl] at h'; cases h'; assumption⟩
    · next hl => cases h; exact ⟨te, he, rfl, fun _ _ h' => by rw [hl] at h'; cases h'⟩

theorem checkS_asg_inv {Γ Γ' : Env} {tgt e : Expr} {a : AS} (h : checkS Γ (.asg tgt e) = .ok (Γ', a)) :
    isTarget tgt = true ∧ Γ' = Γ ∧ ∃ tt te, checkE Γ tgt = .ok tt ∧ checkE Γ e = .ok te ∧ asgRule tt te = .ok a := by
  simp only [checkS] at h
  rcases ite_eq_ok h with ⟨_, h⟩ | ⟨hT, h⟩
  · cases h
  split at h
  · cases h
  split at h
  · cases h
  split at h <;> cases h
  exact ⟨by simpa using hT, rfl, _, _, ‹_›, ‹_›, ‹_›⟩

theorem asgRule_ok {tt te : AT} {s : AS} (h : asgRule tt te = .ok s) : te.ann.Meets tt.ann.w := by
  unfold asgRule at h
  rw [te.ann.meets_iff]
  cases hex : te.ann.ex <;>
    simp only [hex, Bool.not_true, Bool.not_false, Bool.false_and, Bool.true_and, Bool.false_eq_true, ↓reduceIte,
      decide_eq_true_eq] at h ⊢
  · split at h
    · split at h
      · cases h
      · omega
    · omega
  · split at h
    · assumption
    · cases h

theorem setBit_bits1 (x : B) (i : Int) (nb cur : B) (hg : getBit x i = .ok cur) (hn : nb.n = 1) :
    ∃ r, setBit x i (.bits nb) = .ok r := by
  unfold getBit at hg
  unfold setBit
  split at hg
  · cases hg
  · next hi =>
    simp only [hi, ↓reduceIte]
    have : ¬ nb.n > 1 := by omega
    simp [this]

theorem setSlice_bits (x : B) (lo hi : Bound) (nb cur : B) (hg : getSlice x lo hi none = .ok cur)
    (hn : nb.n = cur.n) : ∃ r, setSlice x lo hi none (.bits nb) = .ok r := by
  unfold getSlice at hg
  unfold setSlice
  cases hs : sliceBounds x.n lo hi none with
  | none => simp [hs] at hg
  | some p =>
    obtain ⟨a, b⟩ := p
    simp only [hs] at hg ⊢
    cases hg
    simp only at hn
    simp [hn]

@[simp] theorem liftB_ok (b : B) : liftB (.ok b) = .ok b := rfl
@[simp] theorem liftB_err (e : Bits.Err) : liftB (.error e) = .error (PyErr.ofBits e) := rfl

/-- result of one assignment: only signal values change -/
abbrev AsgSafe (ρ : Rho) : Except PyErr Rho → Prop := OKor fun ρ' => ρ'.lvs = ρ.lvs ∧ ρ'.tmps = ρ.tmps

/-- result of a statement: the temporaries still agree with the (final) type environment `G`, the loop
    variables in scope are unchanged; or an error that is not a width error -/
abbrev StmtSafe (G : Env) (ρ : Rho) : Except PyErr Rho → Prop := OKor fun ρ' => TmpOK G ρ' ∧ ρ'.lvs = ρ.lvs

theorem TmpOK.congr {G : Env} {ρ ρ' : Rho} (h : ρ'.tmps = ρ.tmps) (ht : TmpOK G ρ) : TmpOK G ρ' := by
  intro t w ex v h1 h2; rw [h] at h2; exact ht t w ex v h1 h2

theorem LvOK.congr {Γ Γ' : Env} {ρ ρ' : Rho} (hΓ : Γ'.lvs = Γ.lvs) (hρ : ρ'.lvs = ρ.lvs) (hl : LvOK Γ ρ) :
    LvOK Γ' ρ' := by
  intro i w h1; rw [hΓ] at h1; rw [hρ]; exact hl i w h1

theorem runLoop_safe {G Γ : Env} {i w : Nat} {f : Rho → Except PyErr Rho}
    (hf : ∀ ρ, TmpOK G ρ → LvOK { Γ with lvs := (i, w) :: Γ.lvs } ρ → StmtSafe G ρ (f ρ)) :
    ∀ (ks : List Int) (ρ : Rho), (∀ k ∈ ks, Fits w k) → TmpOK G ρ → LvOK Γ ρ →
      StmtSafe G ρ (runLoop f i ks ρ) := by
  intro ks
  induction ks with
  | nil => intro ρ _ ht _; exact ⟨ht, rfl⟩
  | cons k ks ih =>
    intro ρ hk ht hl
    simp only [runLoop]
    have hl' : LvOK { Γ with lvs := (i, w) :: Γ.lvs } { ρ with lvs := (i, k) :: ρ.lvs } := by
      intro j wj hj
      simp only [List.lookup_cons] at hj ⊢
      cases hji : j == i <;> simp only [hji] at hj ⊢
      · exact hl j wj hj
      · cases hj; exact ⟨k, rfl, hk k List.mem_cons_self⟩
    exact (hf { ρ with lvs := (i, k) :: ρ.lvs } (TmpOK.congr rfl ht) hl').bindS fun ρ1 r1 =>
      ih { ρ1 with lvs := ρ.lvs } (fun k' hk' => hk k' (List.mem_cons_of_mem _ hk')) (TmpOK.congr rfl r1.1)
        (LvOK.congr rfl rfl hl)

theorem kindOf_ofEx {a : Ann} {h : Bool} (h1 : h = true → a.ex = true) (h2 : a.ex = true → h = true) :
    kindOf a h = .ofEx a.ex := by
  cases h
  · rw [kindOf, Kind.ofEx, false_of_imp h2 rfl]; rfl
  · rw [h1 rfl]; rfl

theorem goodR_of_has {n : Nat} {r : Bits.R} (h : OKor (Has .bits n) (liftR r)) : GoodR n r := by
  cases r with
  | ok b => exact h.2
  | error e => exact ⟨fun he => (by subst he; cases h), fun he => (by subst he; cases h)⟩

theorem okor_liftB {n : Nat} {r : Bits.R} (g : GoodR n r) : OKor (fun b => b.n = n ∧ b.Wf) (liftB r) := by
  cases r with
  | ok b => exact g
  | error e => exact goodR_err g

/-- a position whose value is only tested for truth or converted with `int()` -/
def PosOK (Γ : Env) (c : Expr) : Prop := intOnly c = true ∨ ∃ w k, WT Γ c w k

theorem PosOK.sound {Γ : Env} {ρ : Rho} (henv : EnvOK Γ ρ) {c : Expr} (h : PosOK Γ c) :
    OKor (fun _ => True) (evalPy ρ c) := by
  rcases h with h | ⟨w, k, h⟩
  · exact (intOnly_int ρ c h).mono fun _ _ _ => trivial
  · exact (h.sound henv).mono fun _ _ _ => trivial

/-- `s` is well typed in `Γ` and leaves the environment `Γ'` (`WTS` with the temporaries threaded and the
    condition that a temporary keeps its recorded type) -/
inductive CleanS : Env → Stmt → Env → Prop
  | skip (Γ) : CleanS Γ .skip Γ
  | seq {Γ Γ1 Γ2 a b} : CleanS Γ a Γ1 → envAfter Γ a = Γ1 → CleanS Γ1 b Γ2 → CleanS Γ (.seq a b) Γ2
  | asg {Γ tgt e w k} : isTarget tgt = true → WT Γ tgt w .bits → WT Γ e w k → CleanS Γ (.asg tgt e) Γ
  | tasg {Γ t e w ex} : WT Γ e w (.ofEx ex) → (∀ p, Γ.tmps.lookup t = some p → p = (w, ex)) →
      CleanS Γ (.tasg t e) (Γ.setTmp t (w, ex))
  | ifs {Γ Γ1 Γ2 c b o} : PosOK Γ c → CleanS Γ b Γ1 → envAfter Γ b = Γ1 → CleanS Γ1 o Γ2 → CleanS Γ (.ifs c b o) Γ2
  | for_ {Γ Γ1 i a b c body} : 0 ≤ a → 0 ≤ b → c ≠ 0 →
      CleanS { Γ with lvs := (i, loopWidth a b c) :: Γ.lvs } body Γ1 →
      CleanS Γ (.for_ i a b c body) { Γ1 with lvs := Γ.lvs }

theorem target_hard (Γ : Env) (tgt : Expr) (h : isTarget tgt = true) : hardE Γ tgt = true := by
  cases tgt <;> first | rfl | cases h

theorem checkS_clean : ∀ (s : Stmt) (Γ Γ' : Env) (a : AS), checkS Γ s = .ok (Γ', a) → issuesS Γ s = [] →
    CleanS Γ s Γ' := by
  intro s
  induction s with
  | skip => intro Γ Γ' a h _; simp only [checkS] at h; cases h; exact .skip Γ
  | seq s1 s2 ih1 ih2 =>
    intro Γ Γ' a h hc
    simp only [checkS] at h
    split at h
    · cases h
    next Γ1 a1 h1 =>
    split at h <;> cases h
    next h2 =>
    simp only [issuesS, envAfter_ok h1, List.append_eq_nil_iff] at hc
    exact .seq (ih1 Γ Γ1 a1 h1 hc.1) (envAfter_ok h1) (ih2 Γ1 _ _ h2 hc.2)
  | asg tgt e =>
    intro Γ Γ' a h hc
    obtain ⟨hT, rfl, tt, te, hct, hce, hr⟩ := checkS_asg_inv h
    simp only [issuesS, List.append_eq_nil_iff] at hc
    have w1 := checkE_WT _ tgt tt hct hc.1
    rw [target_hard _ tgt hT] at w1
    exact .asg hT w1 ((checkE_WT _ e te hce hc.2).meets (checkE_chk _ e te hce).hard_ex (asgRule_ok hr))
  | tasg t e =>
    intro Γ Γ' a h hc
    obtain ⟨te, he, rfl, hw⟩ := checkS_tasg_inv h
    simp only [issuesS, he, annOf_ok, List.append_eq_nil_iff] at hc
    obtain ⟨⟨hie, hflip⟩, hsoft⟩ := hc
    have hk : kindOf te.ann (hardE Γ e) = .ofEx te.ann.ex := by
      refine kindOf_ofEx (checkE_chk Γ e te he).hard_ex fun hex => ?_
      cases hh : hardE Γ e
      · rw [hex, hh] at hsoft; cases hsoft
      · rfl
    refine .tasg (hk ▸ checkE_WT Γ e te he hie) ?_
    intro ⟨w, ex⟩ hp
    rw [hp] at hflip
    rw [hw w ex hp, ite_nil_iff.mp hflip]
  | ifs c b o ihb iho =>
    intro Γ Γ' a h hc
    simp only [checkS] at h
    split at h
    · cases h
    next tc hcc =>
    split at h
    · cases h
    next Γ1 a1 h1 =>
    split at h <;> cases h
    next h2 =>
    simp only [issuesS, envAfter_ok h1, List.append_eq_nil_iff] at hc
    refine .ifs ?_ (ihb Γ Γ1 a1 h1 hc.1.2) (envAfter_ok h1) (iho Γ1 _ _ h2 hc.2)
    by_cases hio : intOnly c = true
    · exact .inl hio
    · have := hc.1.1; rw [posIssues, if_neg hio] at this
      exact .inr ⟨_, _, checkE_WT Γ c tc hcc this⟩
  | for_ i a b c body ih =>
    intro Γ Γ' as h hc
    simp only [checkS] at h
    rcases ite_eq_ok h with ⟨_, h⟩ | ⟨ha, h⟩
    · cases h
    rcases ite_eq_ok h with ⟨_, h⟩ | ⟨hb, h⟩
    · cases h
    rcases ite_eq_ok h with ⟨_, h⟩ | ⟨hc0, h⟩
    · cases h
    cases h1 : checkS { Γ with lvs := (i, loopWidth a b c) :: Γ.lvs } body with
    | error e => simp only [h1, reduceCtorEq] at h
    | ok p1 =>
      obtain ⟨Γ1, a1⟩ := p1
      simp only [h1] at h; cases h
      exact .for_ (Int.not_lt.mp ha) (Int.not_lt.mp hb) hc0 (ih _ Γ1 a1 h1 hc)

theorem CleanS.wts {Γ Γ' : Env} {s : Stmt} (h : CleanS Γ s Γ') : WTS Γ s := by
  induction h with
  | skip Γ => exact .skip Γ
  | seq _ he _ ih1 ih2 => exact .seq _ _ _ ih1 (he ▸ ih2)
  | asg hT h1 h2 => exact .asg _ _ _ _ _ hT h1 h2
  | @tasg _ _ _ _ ex h _ => exact .tasg _ _ _ _ _ h (by cases ex <;> nofun)
  | ifs hp _ he _ ihb iho =>
    rcases hp with hio | ⟨w, k, h⟩
    · exact .ifsI _ _ _ _ hio ihb (he ▸ iho)
    · exact .ifsW _ _ _ _ _ _ h ihb (he ▸ iho)
  | for_ ha hb hc _ ih => exact .for_ _ _ _ _ _ _ ha hb hc ih

theorem CleanS.lvs {Γ Γ' : Env} {s : Stmt} (h : CleanS Γ s Γ') : Γ'.lvs = Γ.lvs := by
  induction h with
  | skip | asg | tasg | for_ => rfl
  | seq _ _ _ ih1 ih2 => exact ih2.trans ih1
  | ifs _ _ _ _ ih1 ih2 => exact ih2.trans ih1

theorem CleanS.ext {Γ Γ' : Env} {s : Stmt} (h : CleanS Γ s Γ') : ExtT Γ Γ' := by
  induction h with
  | skip | asg => exact ExtT.refl _
  | seq _ _ _ ih1 ih2 => exact ih1.trans ih2
  | ifs _ _ _ _ ih1 ih2 => exact ih1.trans ih2
  | for_ _ _ _ _ ih => exact ih
  | tasg _ hw =>
    intro t' p hp
    rw [lookup_setTmp]
    split
    · next ht => rw [ht] at hp; rw [hw p hp]
    · exact hp

theorem goodR_imatmul {k : Kind} {v : Val} {cur : B} (hv : Has k cur.n v) (hc : cur.Wf) :
    GoodR cur.n (imatmul cur v.opnd) := by
  obtain ⟨n, a⟩ := cur
  cases v with
  | bits b =>
    obtain ⟨m, c⟩ := b
    obtain ⟨_, hn, hb⟩ := hv
    simp only at hn; subst hn
    rw [Val.opnd, (PV.C04.assign_spec m a 0 m c).2.2, if_pos rfl]
    exact ⟨rfl, hb⟩
  | int j =>
    rw [Val.opnd, (PV.C04.assign_spec n a j 0 0).1 (Fits.accepted hv.2)]
    exact ⟨rfl, hc.1, hc.2.1, maskInt_lt _ _⟩

/-- the augmented assignment to a part `n` wide: load it, evaluate the right-hand side, `__imatmul__`, store back -/
theorem rmw_safe {ρ : Rho} {e : Expr} {k : Kind} {n : Nat} (hv : OKor (Has k n) (evalPy ρ e))
    {get : Bits.R} (g : GoodR n get) {set : B → Bits.R}
    (hset : ∀ cur nb, get = .ok cur → cur.n = n → nb.n = n → ∃ r, set nb = .ok r) (x : Nat) :
    AsgSafe ρ (match liftB get with
      | .error er => .error er
      | .ok cur =>
      match evalPy ρ e with
      | .error er => .error er
      | .ok v =>
      match liftB (imatmul cur v.opnd) with
      | .error er => .error er
      | .ok nb =>
      match liftB (set nb) with
      | .error er => .error er
      | .ok r => .ok (ρ.setSig x r.v)) := by
  cases get with
  | error e0 => exact goodR_err g
  | ok cur =>
    obtain ⟨rfl, hc⟩ := g
    refine hv.bind fun v hv => (okor_liftB (goodR_imatmul hv hc)).bindB fun nb hnb => ?_
    obtain ⟨r, hr⟩ := hset cur nb rfl rfl hnb.1
    simp only [liftB_ok, hr]
    exact ⟨rfl, rfl⟩

theorem execAsg_safe {Γ : Env} {ρ : Rho} (henv : EnvOK Γ ρ) {tgt e : Expr} {w : Nat} {k : Kind}
    (ht : WT Γ tgt w .bits) (he : WT Γ e w k) : AsgSafe ρ (execAsg ρ tgt e) := by
  have hv := he.sound henv
  -- the part that `@=` loads is what `evalPy` computes for the target: its width comes from `WT.sound` on the target
  have hg := ht.sound henv
  cases tgt with
  | sig x w' =>
    cases ht
    simp only [execAsg]
    refine hv.bind fun v hv => (okor_liftB (goodR_imatmul (cur := ρ.sig x w) hv hg.2.2)).bindB fun nb _ => ⟨rfl, rfl⟩
  | idx x w' i =>
    have h1 : w = 1 := by cases ht <;> rfl
    subst h1
    simp only [execAsg]
    simp only [evalPy] at hg
    cases hx : evalPy ρ i with
    | error er => rw [hx] at hg; exact hg
    | ok vi =>
      rw [hx] at hg
      exact rmw_safe hv (goodR_of_has hg) (fun cur nb hget _ hn => setBit_bits1 _ _ nb cur hget hn) x
  | slc x w' lo hi =>
    simp only [execAsg]
    simp only [evalPy] at hg
    cases hx : evalPy ρ lo with
    | error er => rw [hx] at hg; exact hg
    | ok vlo =>
      rw [hx] at hg
      cases hy : evalPy ρ hi with
      | error er => rw [hy] at hg; exact hg
      | ok vhi =>
        rw [hy] at hg
        exact rmw_safe hv (goodR_of_has hg) (fun cur nb hget hc hn => setSlice_bits _ _ _ nb cur hget (hn.trans hc.symm)) x
  | num _ | lv _ | tmp _ | un _ _ | bin _ _ _ | cmp _ _ _ | ite _ _ _ | cast _ _ | ext _ _ _ _ | red _ _
  | cat _ _ => exact (rfl : PyErr.isWidth .type = false)

/-- **soundness of the checker on clean statements**.  The temporaries are held against ONE environment `G` that extends
    the final `Γ'`, not against the environment of the moment: `TmpOK` only speaks of temporaries that are bound, and a recorded
    type never changes (`CleanS.ext`), so the state satisfies `TmpOK G` all along.  That is what lets the `orelse` branch, which
    is checked in the environment after the body, run in a state where the body did not run, and a loop body run again. -/
theorem CleanS.safe (G : Env) {Γ Γ' : Env} {s : Stmt} (h : CleanS Γ s Γ') : ∀ (ρ : Rho),
    ExtT Γ' G → TmpOK G ρ → LvOK Γ ρ → StmtSafe G ρ (execS s ρ) := by
  induction h with
  | skip => intro ρ _ ht _; exact ⟨ht, rfl⟩
  | @seq Γ Γ1 Γ2 s1 s2 c1 _ c2 ih1 ih2 =>
    intro ρ hext ht hl
    simp only [execS]
    exact (ih1 ρ (c2.ext.trans hext) ht hl).bindS fun ρ1 r1 =>
      (ih2 ρ1 hext r1.1 (LvOK.congr c1.lvs r1.2 hl)).mono fun ρ2 _ r2 => ⟨r2.1, r2.2.trans r1.2⟩
  | asg _ h1 h2 =>
    intro ρ hext ht hl
    exact (execAsg_safe (envOK_of hext ht hl) h1 h2).mono fun ρ' _ h => ⟨TmpOK.congr h.2 ht, h.1⟩
  | @tasg Γ t e w ex he hw =>
    intro ρ hext ht hl
    simp only [execS]
    refine (he.sound (envOK_of ((CleanS.tasg he hw).ext.trans hext) ht hl)).bind fun v hv => ⟨?_, rfl⟩
    intro t' w' ex' v' hg hr
    simp only [Rho.setTmp, List.lookup_cons] at hr
    cases htt : t' == t <;> simp only [htt] at hr
    · exact ht t' w' ex' v' hg hr
    · cases hr
      cases eq_of_beq htt
      have hg' := hext t (w, ex) (by rw [lookup_setTmp, if_pos rfl])
      rw [hg'] at hg; cases hg
      exact agrees_iff_has.mpr hv
  | @ifs Γ Γ1 Γ2 c b o hpc c1 _ c2 ihb iho =>
    intro ρ hext ht hl
    simp only [execS]
    refine (hpc.sound (envOK_of (c1.ext.trans (c2.ext.trans hext)) ht hl)).bind fun vc _ => ?_
    split
    · exact ihb ρ (c2.ext.trans hext) ht hl
    · exact iho ρ hext ht (LvOK.congr c1.lvs rfl hl)
  | @for_ Γ Γ1 i a b c body ha hb _ _ ih =>
    intro ρ hext ht hl
    simp only [execS]
    exact runLoop_safe (G := G) (Γ := Γ) (w := loopWidth a b c) (fun ρ' ht' hl' => ih ρ' hext ht' hl') _ ρ
      (fun k hk => loop_fits a b c ha hb k hk) ht hl

end PV.TC
