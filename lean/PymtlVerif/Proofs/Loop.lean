/-!
# Loops with fuel and work-list searches, for every model

Python's `while` loops are modelled by recursion on a fuel argument; the proofs then show an invariant, that a measure
bounds the fuel needed, and that more fuel changes nothing. This file has those three arguments once (`run`), the
measure every search with a visited list uses (`unseen`), what a pass over the successors marks (`fresh`), and what a
work-list search keeps true (`Front`).
-/
namespace PV.Loop

/-! ## `run`: apply a partial step until it gives up

`run step k s` is `while (s' := step s) is not None: s = s'`, at most `k` times. A model loop that is tail recursive and returns
its state is brought here by an equation `loop k s = run step k s`; for one spelt `if done s then s else loop f (body s)` that is
`run_of_eqns`, by `rfl`. Not of this shape: a do-while loop, which runs the body before the test and returns the *new* state
(`Flip.iter`, `Rtl.iterate`, `SV.settleN`); a loop that builds its result outside the recursive call (`Nets.walk`, `GenDag.chain`);
nested recursion (`CallGraph.dfs`); `LoopIR.runG`, where a turn decides among three exits, so that the exit would have to be read
off after the run; `SV.iter`, which at the fuel's end sets the flag `fuelOut` instead of handing back its state. -/

section run
variable {σ : Type} {step : σ → Option σ}

def run (step : σ → Option σ) : Nat → σ → σ
  | 0, s => s
  | k + 1, s =>
    match step s with
    | none => s
    | some s' => run step k s'

theorem run_some {s s' : σ} (h : step s = some s') (k : Nat) : run step (k + 1) s = run step k s' := by
  rw [run, h]

theorem run_none {s : σ} (h : step s = none) : ∀ k, run step k s = s
  | 0 => rfl
  | k + 1 => by rw [run, h]

theorem run_inv {P : σ → Prop} (hP : ∀ s s', P s → step s = some s' → P s') : ∀ (k : Nat) (s : σ), P s → P (run step k s)
  | 0, _, h => h
  | k + 1, s, h => by
    cases hs : step s with
    | none => rwa [run_none hs]
    | some s' => rw [run_some hs]; exact run_inv hP k s' (hP s s' h hs)

theorem run_ends {P : σ → Prop} (hP : ∀ s s', P s → step s = some s' → P s') (μ : σ → Nat)
    (hμ : ∀ s s', P s → step s = some s' → μ s' < μ s) : ∀ (k : Nat) (s : σ), P s → μ s ≤ k → step (run step k s) = none
  | 0, s, h, hl => by
    cases hs : step s with
    | none => exact hs
    | some s' => exact absurd (Nat.lt_of_lt_of_le (hμ s s' h hs) hl) (Nat.not_lt_zero _)
  | k + 1, s, h, hl => by
    cases hs : step s with
    | none => rwa [run_none hs]
    | some s' =>
      rw [run_some hs]
      exact run_ends hP μ hμ k s' (hP s s' h hs) (Nat.le_of_lt_succ (Nat.lt_of_lt_of_le (hμ s s' h hs) hl))

theorem run_more : ∀ (n d : Nat) (s : σ), step (run step n s) = none → run step (n + d) s = run step n s
  | 0, d, s, h => by rw [Nat.zero_add]; exact run_none h d
  | n + 1, d, s, h => by
    cases hs : step s with
    | none => rw [run_none hs, run_none hs]
    | some s' =>
      rw [run_some hs] at h ⊢
      rw [Nat.add_right_comm, run_some hs]
      exact run_more n d s' h

/-- `while not done s: s = body s` as a partial step -/
def whileStep (done : σ → Bool) (body : σ → σ) (s : σ) : Option σ := if done s then none else some (body s)

theorem whileStep_none {done : σ → Bool} {body : σ → σ} {s : σ} : whileStep done body s = none ↔ done s = true := by
  unfold whileStep; cases done s <;> simp

theorem whileStep_some {done : σ → Bool} {body : σ → σ} {s s' : σ} :
    whileStep done body s = some s' ↔ done s = false ∧ body s = s' := by
  unfold whileStep; cases done s <;> simp

theorem run_of_eqns {done : σ → Bool} {body : σ → σ} {L : Nat → σ → σ} (h0 : ∀ s, L 0 s = s)
    (hs : ∀ n s, L (n + 1) s = if done s then s else L n (body s)) : ∀ (n : Nat) (s : σ), L n s = run (whileStep done body) n s
  | 0, s => h0 s
  | n + 1, s => by
    rw [hs, run, whileStep]
    cases done s
    · exact run_of_eqns h0 hs n _
    · rfl

end run

/-! ## `unseen`: the members of a finite universe not yet visited

Every search that keeps a visited list `V` inside a finite universe `N` ends because `unseen N V` falls whenever a new
member is marked; the work-list searches below add the length of the work list. -/

section unseen
variable {α : Type} [DecidableEq α]

def unseen (N V : List α) : Nat := (N.filter fun x => decide (x ∉ V)).length

theorem unseen_mono (N : List α) {V V' : List α} (h : ∀ x ∈ V, x ∈ V') : unseen N V' ≤ unseen N V := by
  unfold unseen
  rw [← List.countP_eq_length_filter, ← List.countP_eq_length_filter]
  exact List.countP_mono_left fun x _ hx => decide_eq_true fun hv => of_decide_eq_true hx (h x hv)

theorem unseen_cons_lt (N V : List α) (a : α) (ha : a ∈ N) (hV : a ∉ V) : unseen N (a :: V) < unseen N V := by
  obtain ⟨l1, l2, rfl⟩ := List.append_of_mem ha
  have h1 := unseen_mono l1 (V := V) (V' := a :: V) fun x hx => List.mem_cons_of_mem _ hx
  have h2 := unseen_mono l2 (V := V) (V' := a :: V) fun x hx => List.mem_cons_of_mem _ hx
  unfold unseen at *
  rw [List.filter_append, List.filter_append, List.length_append, List.length_append, List.filter_cons,
    List.filter_cons, if_neg (by simp), if_pos (decide_eq_true hV), List.length_cons]
  exact Nat.add_lt_add_of_le_of_lt h1 (Nat.lt_succ_of_le h2)

theorem unseen_singleton_lt (N : List α) (w : α) (hw : w ∈ N) : unseen N [w] < N.length :=
  Nat.lt_of_lt_of_le (unseen_cons_lt N [] w hw List.not_mem_nil) (List.length_filter_le _ _)

/-- marking a duplicate-free list of unseen members pays for as many pushes -/
theorem unseen_append_le (N V : List α) : ∀ (new : List α), new.Nodup → (∀ x ∈ new, x ∈ N ∧ x ∉ V) →
    unseen N (new ++ V) + new.length ≤ unseen N V
  | [], _, _ => Nat.le_refl _
  | a :: l, hnd, hsub => by
    have hnd' := List.nodup_cons.mp hnd
    have ha := hsub a List.mem_cons_self
    have h1 := unseen_append_le N V l hnd'.2 fun x hx => hsub x (List.mem_cons_of_mem _ hx)
    have h2 := unseen_cons_lt N (l ++ V) a ha.1 fun h => (List.mem_append.mp h).elim hnd'.1 ha.2
    rw [List.cons_append, List.length_cons]
    omega

end unseen

/-! ## `fresh`: what `for t in ts: if t not in vis: vis.add(t); …` picks up -/

section fresh
variable {α : Type} [DecidableEq α]

/-- the members of `ts` not in `vis`, each once, in the order of `ts`: what the loop above marks, whatever else it does with them -/
def fresh : List α → List α → List α
  | [], _ => []
  | t :: ts, vis => if t ∈ vis then fresh ts vis else t :: fresh ts (t :: vis)

theorem mem_fresh {ts vis : List α} {x : α} : x ∈ fresh ts vis ↔ x ∈ ts ∧ x ∉ vis := by
  fun_induction fresh ts vis with
  | case1 => simp
  | case2 t ts vis ht ih =>
    rw [ih, List.mem_cons]
    exact ⟨fun h => ⟨.inr h.1, h.2⟩, fun h => ⟨h.1.resolve_left fun e => h.2 (e ▸ ht), h.2⟩⟩
  | case3 t ts vis ht ih =>
    rw [List.mem_cons, ih, List.mem_cons, List.mem_cons, not_or]
    exact ⟨fun h => h.elim (fun e => ⟨.inl e, e ▸ ht⟩) fun h => ⟨.inr h.1, h.2.2⟩,
      fun h => h.1.elim .inl fun hl => (Decidable.em (x = t)).imp_right fun e => ⟨hl, e, h.2⟩⟩

theorem fresh_nodup (ts vis : List α) : (fresh ts vis).Nodup := by
  fun_induction fresh ts vis with
  | case1 => exact List.nodup_nil
  | case2 _ _ _ _ ih => exact ih
  | case3 _ _ _ _ ih => exact List.nodup_cons.mpr ⟨fun h => (mem_fresh.mp h).2 List.mem_cons_self, ih⟩

end fresh

/-! ## `Front`: a work-list search that marks what it pushes

`work` is the stack or queue, `vis` the visited list, `next` the successor function. `Front` mentions only membership in
the two lists, so it does not depend on the layout of a model's state, on the end at which the work list is extended
(LIFO or FIFO), or on what else the loop records (examined elements, filed pairs, group numbers). Each model proves what one
pop pushes (`new`) and calls `Front.pop`; at the end `Front.done` says that the visited list is closed under `next`, and an induction
over the model's own reachability relation gives "visited = reachable". Not instances: searches that mark an element when
it is popped (`Nets.ffRun`, `Scc.step1`): their work list holds unvisited and repeated elements, so `workVis` fails. -/

section front
variable {α : Type} [DecidableEq α]

structure Front (next : α → List α) (N work vis : List α) : Prop where
  visN : ∀ s ∈ vis, s ∈ N
  workVis : ∀ s ∈ work, s ∈ vis
  closed : ∀ s ∈ vis, s ∈ work ∨ ∀ t ∈ next s, t ∈ vis

variable {next : α → List α} {N : List α}

/-- one pop, in a universe closed under `next`: `new` = the successors of `x` not yet visited, each once, in whatever
order; they join the work list (at either end) and the visited list. -/
theorem Front.pop (hN : ∀ s ∈ N, ∀ t ∈ next s, t ∈ N) {x : α} {rest vis new work' vis' : List α}
    (h : Front next N (x :: rest) vis) (hnd : new.Nodup) (hnew : ∀ t, t ∈ new ↔ t ∈ next x ∧ t ∉ vis)
    (hw : ∀ t, t ∈ work' ↔ t ∈ new ∨ t ∈ rest) (hv : ∀ t, t ∈ vis' ↔ t ∈ new ∨ t ∈ vis)
    (hlen : work'.length = new.length + rest.length) :
    Front next N work' vis' ∧ unseen N vis' + work'.length < unseen N vis + (x :: rest).length := by
  have hx : x ∈ vis := h.workVis x List.mem_cons_self
  have hnewN : ∀ t ∈ new, t ∈ N ∧ t ∉ vis := fun t ht =>
    ⟨hN x (h.visN x hx) t ((hnew t).mp ht).1, ((hnew t).mp ht).2⟩
  refine ⟨⟨fun s hs => ((hv s).mp hs).elim (fun hs => (hnewN s hs).1) (h.visN s), fun s hs => (hv s).mpr ?_,
    fun s hs => ?_⟩, ?_⟩
  · exact ((hw s).mp hs).imp_right fun hs => h.workVis s (List.mem_cons_of_mem _ hs)
  · rcases (hv s).mp hs with hs | hs
    · exact .inl ((hw s).mpr (.inl hs))
    · rcases h.closed s hs with hsw | hc
      · rcases List.mem_cons.mp hsw with rfl | hsw
        · refine .inr fun t ht => (hv t).mpr ?_
          exact (Decidable.em (t ∈ vis)).symm.imp_left fun hn => (hnew t).mpr ⟨ht, hn⟩
        · exact .inl ((hw s).mpr (.inr hsw))
      · exact .inr fun t ht => (hv t).mpr (.inr (hc t ht))
  · have h1 := unseen_append_le N vis new hnd hnewN
    have h2 := unseen_mono N (V := new ++ vis) (V' := vis') fun t ht => (hv t).mpr (List.mem_append.mp ht)
    rw [hlen, List.length_cons]
    omega

omit [DecidableEq α] in
theorem Front.done {vis : List α} (h : Front next N [] vis) : ∀ s ∈ vis, ∀ t ∈ next s, t ∈ vis := fun s hs =>
  (h.closed s hs).resolve_left List.not_mem_nil

omit [DecidableEq α] in
theorem Front.init {r : α} (hr : r ∈ N) : Front next N [r] [r] :=
  ⟨fun _ hs => List.mem_singleton.mp hs ▸ hr, fun _ hs => hs, fun _ hs => .inl hs⟩

end front

end PV.Loop
