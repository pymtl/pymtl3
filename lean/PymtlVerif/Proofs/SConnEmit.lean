import PymtlVerif.Proofs.SConn
/-!
# Hosting rule, orientation, emission and what is filed

* the four cases on variables (`fourCases`), `hostOf_legal` (a statement whose ends the executing component can name is
  filed under that component, except when both ends are signals of one and the same child: then under the child);
* `emitFrom_eq`: the loop succeeds iff every statement is found in one orientation, and then lists the orientations;
* the statements of a hierarchy against any list `T` of filed pairs; `assignsOf_perm`: when nothing raises, the emitted pairs
  are a permutation of `T`, provided `T` has no pair twice or both ways round and holds only stated connections;
* `treeEdges`, what `gen_connections` files, is such a list: `treeEdges_fresh`, `tree_edge_stated`; `assigns_perm`;
* the preconditions as the driver evaluates them imply the hypotheses used here: `validOrderB_sound`, `stmtsNodupB_sound`,
  `netsOkB_sound`.
-/
namespace PV.SConn
open PV.Nets

/-- component `c` can name signal `s`: its own signal, or a signal of a direct child -/
def CanName (H : Hier) (c : Comp) (s : Sig) : Prop := H.hostC s = c ∨ H.parent (H.hostC s) = c

/-- the host components are related as one of the four cases wants -/
def Related (H : Hier) (u v : Sig) : Prop :=
  H.hostC u = H.hostC v ∨ H.parent (H.hostC u) = H.hostC v ∨ H.hostC u = H.parent (H.hostC v) ∨
    H.parent (H.hostC u) = H.parent (H.hostC v)

/-- `hostOf` as a function of the hosts `wh`, `rh` of writer and reader and of their parents `wp`, `rp`: `hostOf H (u, v)` unfolds
to it, and the lemmas about it are applied to `hostOf` that way -/
def fourCases (wh rh wp rp : Comp) : Option Comp :=
  if wh = rh then some wh else if wp = rh then some rh else if wh = rp then some wh else if wp = rp then some wp else none

theorem fourCases_isSome {wh rh wp rp : Comp} :
    (fourCases wh rh wp rp).isSome = true ↔ wh = rh ∨ wp = rh ∨ wh = rp ∨ wp = rp := by
  grind [fourCases]

theorem fourCases_eq_some {wh rh wp rp c : Comp} (h : fourCases wh rh wp rp = some c) :
    (wh = c ∨ wp = c) ∧ (rh = c ∨ rp = c) := by
  grind [fourCases]

theorem fourCases_legal {par : Comp → Comp} {wh rh c : Comp} (hu : wh = c ∨ par wh = c) (hv : rh = c ∨ par rh = c)
    (hT : par (par c) ≠ c) : fourCases wh rh (par wh) (par rh) = some (if wh = rh then wh else c) := by
  unfold fourCases
  by_cases e : wh = rh
  · rw [if_pos e, if_pos e]
  rw [if_neg e, if_neg e]
  rcases hu with rfl | hu <;> rcases hv with rfl | hv
  · exact absurd rfl e
  · -- `wh` is `c` itself and `rh` a child of `c`: the second case would make `c` its own grandparent
    rw [if_neg (fun h => hT (by rw [h, hv])), if_pos hv.symm]
  · rw [if_pos hu]
  · by_cases h2 : par wh = rh
    · rw [if_pos h2, ← h2, hu]
    · rw [if_neg h2]
      by_cases h3 : wh = par rh
      · rw [if_pos h3, h3, hv]
      · rw [if_neg h3, if_pos (hu.trans hv.symm), hu]

theorem canName_related {H : Hier} {c : Comp} {u v : Sig} (hu : CanName H c u) (hv : CanName H c v) : Related H u v := by
  unfold Related
  rcases hu with hu | hu <;> rcases hv with hv | hv
  · exact Or.inl (hu.trans hv.symm)
  · exact Or.inr (Or.inr (Or.inl (hu.trans hv.symm)))
  · exact Or.inr (Or.inl (hu.trans hv.symm))
  · exact Or.inr (Or.inr (Or.inr (hu.trans hv.symm)))

/-- a statement whose two ends component `c` can name is filed under `c` — unless both ends are hosted by the same
component, then under that one (for a child of `c`: a connection between two ports of one child, written in the parent) -/
theorem hostOf_legal {H : Hier} {c : Comp} {u v : Sig} (hu : CanName H c u) (hv : CanName H c v)
    (hT : H.parent (H.parent c) ≠ c) :
    hostOf H (u, v) = some (if H.hostC u = H.hostC v then H.hostC u else c) :=
  fourCases_legal hu hv hT

theorem hostOf_elsewhere_iff {H : Hier} {c : Comp} {u v : Sig} (hu : CanName H c u) (hv : CanName H c v)
    (hT : H.parent (H.parent c) ≠ c) :
    hostOf H (u, v) ≠ some c ↔ (H.hostC u = H.hostC v ∧ H.hostC u ≠ c) := by
  rw [hostOf_legal hu hv hT]
  by_cases e : H.hostC u = H.hostC v
  · rw [if_pos e, ne_eq, Option.some.injEq, and_iff_right e]
  · rw [if_neg e]
    exact iff_of_false (fun h => h rfl) (fun h => e h.1)

theorem hostOf_swap_legal {H : Hier} {c : Comp} {u v : Sig} (hu : CanName H c u) (hv : CanName H c v)
    (hT : H.parent (H.parent c) ≠ c) : hostOf H (v, u) = hostOf H (u, v) := by
  rw [hostOf_legal hu hv hT, hostOf_legal hv hu hT]
  by_cases e : H.hostC u = H.hostC v
  · rw [if_pos e, if_pos e.symm, e]
  · rw [if_neg e, if_neg (Ne.symm e)]

theorem orient_of_mem {F : List Pair} {x : Pair} (h : x ∈ F) : orient F x = some x := by rw [orient, if_pos h]

theorem orient_of_swap_mem {F : List Pair} {x : Pair} (h1 : x ∉ F) (h2 : (x.2, x.1) ∈ F) : orient F x = some (x.2, x.1) := by
  rw [orient, if_neg h1, if_pos h2]

theorem orient_eq_none {F : List Pair} {x : Pair} : orient F x = none ↔ x ∉ F ∧ (x.2, x.1) ∉ F := by
  unfold orient
  by_cases h1 : x ∈ F
  · simp [h1]
  · by_cases h2 : (x.2, x.1) ∈ F <;> simp [h1, h2]

theorem orient_eq_some {F : List Pair} {x y : Pair} (h : orient F x = some y) : y ∈ F ∧ (y = x ∨ y = (x.2, x.1)) := by
  by_cases h1 : x ∈ F
  · rw [orient_of_mem h1] at h; cases h; exact ⟨h1, .inl rfl⟩
  by_cases h2 : (x.2, x.1) ∈ F
  · rw [orient_of_swap_mem h1 h2] at h; cases h; exact ⟨h2, .inr rfl⟩
  · rw [orient_eq_none.mpr ⟨h1, h2⟩] at h; cases h

/-- two lists of the same length whose elements at the same position are related -/
inductive Forall2 {α β : Type} (R : α → β → Prop) : List α → List β → Prop
  | nil : Forall2 R [] []
  | cons {a b l₁ l₂} : R a b → Forall2 R l₁ l₂ → Forall2 R (a :: l₁) (b :: l₂)

theorem Forall2.length_eq {α β : Type} {R : α → β → Prop} {l₁ : List α} {l₂ : List β} (h : Forall2 R l₁ l₂) :
    l₁.length = l₂.length := by
  induction h with
  | nil => rfl
  | cons _ _ ih => rw [List.length_cons, List.length_cons, ih]

theorem Forall2.get {α β : Type} {R : α → β → Prop} {l₁ : List α} {l₂ : List β} (h : Forall2 R l₁ l₂) :
    ∀ (i : Nat) (h1 : i < l₁.length) (h2 : i < l₂.length), R l₁[i] l₂[i] := by
  induction h with
  | nil => intro i h1; cases h1
  | cons hr _ ih =>
    intro i h1 h2
    cases i with
    | zero => exact hr
    | succ i => exact ih i (Nat.lt_of_succ_lt_succ h1) (Nat.lt_of_succ_lt_succ h2)

theorem Forall2.imp {α β : Type} {R S : α → β → Prop} (hRS : ∀ a b, R a b → S a b) {l₁ : List α} {l₂ : List β}
    (h : Forall2 R l₁ l₂) : Forall2 S l₁ l₂ := by
  induction h with
  | nil => exact .nil
  | cons hr _ ih => exact .cons (hRS _ _ hr) ih

theorem Forall2.filterMap_iff {α β : Type} {f : α → Option β} {l₁ : List α} : ∀ {l₂ : List β},
    Forall2 (fun x y => f x = some y) l₁ l₂ ↔ l₁.all (fun x => (f x).isSome) = true ∧ l₂ = l₁.filterMap f := by
  induction l₁ with
  | nil => exact ⟨fun h => by cases h; exact ⟨rfl, rfl⟩, fun h => h.2 ▸ .nil⟩
  | cons x xs ih =>
    intro l₂
    rw [List.all_cons, List.filterMap_cons]
    constructor
    · rintro (_ | ⟨h, h'⟩)
      rw [h, (ih.mp h').1, ← (ih.mp h').2]
      exact ⟨rfl, rfl⟩
    · rintro ⟨ha, rfl⟩
      obtain ⟨y, hy⟩ := Option.isSome_iff_exists.mp (Bool.and_eq_true_iff.mp ha).1
      rw [hy]
      exact .cons hy (ih.mpr ⟨(Bool.and_eq_true_iff.mp ha).2, rfl⟩)

theorem emitFrom_eq (F : List Pair) (xs : List Pair) :
    emitFrom F xs = if xs.all (fun x => (orient F x).isSome) then .ok (xs.filterMap (orient F)) else .error .conversion := by
  induction xs with
  | nil => rfl
  | cons x xs ih =>
    rw [emitFrom, ih, List.all_cons, List.filterMap_cons]
    cases orient F x with
    | none => rfl
    | some y =>
      generalize xs.all (fun x => (orient F x).isSome) = b
      cases b <;> rfl

theorem emitFrom_ok_iff (F : List Pair) (xs ys : List Pair) :
    emitFrom F xs = .ok ys ↔ Forall2 (fun x y => orient F x = some y) xs ys := by
  rw [emitFrom_eq, Forall2.filterMap_iff]
  split
  · next h => rw [Except.ok.injEq, and_iff_right h, eq_comm]
  · next h => exact iff_of_false (fun e => nomatch e) (fun h' => h h'.1)

theorem emitFrom_isOk (F : List Pair) (xs : List Pair) :
    (∃ ys, emitFrom F xs = .ok ys) ↔ ∀ x ∈ xs, (orient F x).isSome := by
  rw [emitFrom_eq, ← List.all_eq_true]
  split
  · next h => exact iff_of_true ⟨_, rfl⟩ h
  · next h => exact iff_of_false (fun ⟨_, e⟩ => nomatch e) h

theorem emitFrom_error_iff (F : List Pair) (xs : List Pair) (e : Err) :
    emitFrom F xs = .error e ↔ e = .conversion ∧ ∃ x ∈ xs, x ∉ F ∧ (x.2, x.1) ∉ F := by
  have hex : (∃ x ∈ xs, x ∉ F ∧ (x.2, x.1) ∉ F) ↔ ¬ xs.all (fun x => (orient F x).isSome) = true := by
    simp only [List.all_eq_true, ← orient_eq_none, ← Option.not_isSome_iff_eq_none, Classical.not_forall, exists_prop]
  rw [emitFrom_eq, hex]
  split
  · next h => exact iff_of_false (fun e => nomatch e) (fun h' => h'.2 h)
  · next h => exact ⟨fun h' => ⟨(Except.error.inj h').symm, h⟩, fun h' => h'.1 ▸ rfl⟩

theorem emitFrom_total (F : List Pair) (xs : List Pair) :
    (∃ ys, emitFrom F xs = .ok ys) ∨ emitFrom F xs = .error .conversion := by
  rw [emitFrom_eq]
  split
  · exact .inl ⟨_, rfl⟩
  · exact .inr rfl

/-! ### the statements of a hierarchy against a list `T` of filed pairs

Nothing here looks at how `T` was computed: `filedOf`, `emitOf`, `assignsOf`, `acceptedOf` are the model's functions of `T`
(the plain versions are these at `treeEdges H nb`, by unfolding). -/

section
variable {H : Hier} {T : List Pair}

theorem mem_filedOf {c : Comp} {p : Pair} : p ∈ filedOf H T c ↔ p ∈ T ∧ hostOf H p = some c :=
  List.mem_filter.trans (and_congr_right fun _ => beq_iff_eq)

theorem typeErrOf_false_iff : typeErrOf H T = false ↔ ∀ p ∈ T, ∃ c, hostOf H p = some c := by
  rw [typeErrOf, List.any_eq_false]
  simp only [Option.isNone_iff_eq_none, ← Option.ne_none_iff_exists', ne_eq]

theorem mem_connectOrder {c : Comp} {x : Pair} : x ∈ H.connectOrder c ↔ (c, x) ∈ H.stmts := by
  unfold Hier.connectOrder
  simp only [List.mem_map, List.mem_filter, beq_iff_eq]
  constructor
  · rintro ⟨s, ⟨hs, rfl⟩, rfl⟩
    exact hs
  · intro h; exact ⟨(c, x), ⟨h, rfl⟩, rfl⟩

theorem assigns_of_comp (H : Hier) (T : List Pair) (c : Comp) :
    ((assignsOf H T).filter (fun a => a.1 == c)).map (·.2) = (H.connectOrder c).filterMap (orient (filedOf H T c)) := by
  rw [assignsOf, Hier.connectOrder, List.filter_filterMap, List.map_filterMap, List.filterMap_map, List.filterMap_filter]
  congr 1
  funext s
  rw [Function.comp_apply]
  by_cases hc : s.1 = c
  · subst hc
    cases orient (filedOf H T s.1) s.2 <;> simp only [Option.filter, Option.map_none, Option.map_some, BEq.rfl, ↓reduceIte]
  · cases orient (filedOf H T s.1) s.2 <;>
      simp only [Option.filter, Option.map_none, Option.map_some, beq_iff_eq, hc, ↓reduceIte]

theorem assignsOf_snd (H : Hier) (T : List Pair) :
    (assignsOf H T).map (·.2) = H.stmts.filterMap (fun s => orient (filedOf H T s.1) s.2) := by
  rw [assignsOf, List.map_filterMap]
  congr 1
  funext s
  cases orient (filedOf H T s.1) s.2 <;> rfl

theorem mem_assignsOf {a : Comp × Pair} :
    a ∈ assignsOf H T ↔ ∃ x, (a.1, x) ∈ H.stmts ∧ orient (filedOf H T a.1) x = some a.2 := by
  rw [assignsOf]
  simp only [List.mem_filterMap, Option.map_eq_some_iff]
  constructor
  · rintro ⟨s, hs, y, hy, rfl⟩
    exact ⟨s.2, hs, hy⟩
  · rintro ⟨x, hx, hy⟩
    exact ⟨(a.1, x), hx, a.2, hy, rfl⟩

theorem assignsOf_filed {a : Comp × Pair} (h : a ∈ assignsOf H T) : a.2 ∈ filedOf H T a.1 := by
  obtain ⟨x, _, hy⟩ := mem_assignsOf.mp h
  exact (orient_eq_some hy).1

theorem acceptedOf_stmts (hacc : acceptedOf H T = true) : ∀ s ∈ H.stmts, (orient (filedOf H T s.1) s.2).isSome := by
  rw [acceptedOf, Bool.and_eq_true, List.all_eq_true] at hacc
  exact hacc.2

theorem acceptedOf_iff : acceptedOf H T = true ↔ typeErrOf H T = false ∧ ∀ c, ∃ l, emitOf H T c = .ok l := by
  rw [acceptedOf, Bool.and_eq_true, Bool.not_eq_true', List.all_eq_true]
  simp only [emitOf, emitFrom_isOk]
  exact and_congr_right fun _ =>
    ⟨fun h c x hx => h (c, x) (mem_connectOrder.mp hx), fun h s hs => h s.1 s.2 (mem_connectOrder.mpr hs)⟩

/-- no component states the same pair twice, either way round -/
def StmtsNodup (H : Hier) : Prop := (H.stmts.map (fun s => (s.1, normEdge s.2))).Nodup

theorem orient_keys (ss : List (Comp × Pair)) (h : ∀ s ∈ ss, (orient (filedOf H T s.1) s.2).isSome) :
    (ss.filterMap (fun s => orient (filedOf H T s.1) s.2)).map (fun y => ((hostOf H y).getD 0, normEdge y))
      = ss.map (fun s => (s.1, normEdge s.2)) := by
  induction ss with
  | nil => rfl
  | cons s ss ih =>
    obtain ⟨y, hy⟩ := Option.isSome_iff_exists.mp (h s (List.mem_cons_self ..))
    obtain ⟨hf, ho⟩ := orient_eq_some hy
    have e : normEdge y = normEdge s.2 := by
      rcases ho with rfl | rfl
      · rfl
      · exact normEdge_swap _
    rw [List.filterMap_cons, hy, List.map_cons, List.map_cons, ih (fun z hz => h z (List.mem_cons_of_mem _ hz)),
      (mem_filedOf.mp hf).2, Option.getD_some, e]

theorem assignsOf_perm (hT : T.Nodup) (hsw : ∀ p ∈ T, (p.2, p.1) ∉ T)
    (hst : ∀ p ∈ T, ∃ s ∈ H.stmts, s.2 = p ∨ s.2 = (p.2, p.1)) (hs : StmtsNodup H) (hacc : acceptedOf H T = true) :
    ((assignsOf H T).map (·.2)).Perm T := by
  have hall := acceptedOf_stmts hacc
  rw [assignsOf_snd]
  -- an orientation keeps the key (component, unordered pair) of its statement, and the statements have distinct keys
  have hA : (H.stmts.filterMap (fun s => orient (filedOf H T s.1) s.2)).Nodup :=
    nodup_of_map (fun y => ((hostOf H y).getD 0, normEdge y)) (orient_keys _ hall ▸ hs)
  refine (List.perm_ext_iff_of_nodup hA hT).mpr fun p => ⟨fun hp => ?_, fun hp => ?_⟩
  · obtain ⟨s, _, hy⟩ := List.mem_filterMap.mp hp
    exact (mem_filedOf.mp (orient_eq_some hy).1).1
  · obtain ⟨s, hs1, hs2⟩ := hst p hp
    obtain ⟨y, hy⟩ := Option.isSome_iff_exists.mp (hall s hs1)
    refine List.mem_filterMap.mpr ⟨s, hs1, ?_⟩
    rw [hy]
    obtain ⟨hf, ho⟩ := orient_eq_some hy
    have hyT := (mem_filedOf.mp hf).1
    -- its orientation `y` is `p` or the swap of `p`; the swap of a filed pair is not filed
    have : y = p ∨ y = (p.2, p.1) := by
      rcases hs2 with e | e <;> rw [e] at ho
      · exact ho
      · exact ho.symm
    rcases this with rfl | rfl
    · rfl
    · exact absurd hyT (hsw p hp)

end

theorem forall_assigns_iff {A : List (Comp × Pair)} {T : List Pair} (hp : (A.map (·.2)).Perm T) (P : Pair → Prop) :
    (∀ a ∈ A, P a.2) ↔ ∀ p ∈ T, P p :=
  List.forall_mem_map.symm.trans (forall_congr' fun _ => imp_congr_left hp.mem_iff)

theorem assigns_targets_perm {A : List (Comp × Pair)} {T : List Pair} (hp : (A.map (·.2)).Perm T) :
    (A.map (fun a => a.2.2)).Perm (T.map (·.2)) :=
  List.map_map (g := (·.2)) (f := (·.2)) (l := A) ▸ hp.map (·.2)

theorem mem_treeEdges {H : Hier} {nb : Sig → List Sig} {p : Pair} :
    p ∈ treeEdges H nb ↔ ∃ n ∈ H.nets, p ∈ traverse H nb n.1 := List.mem_flatMap

/-- what elaboration guarantees about `get_all_value_nets()`: the members of a net are the signals connected to its writer,
different nets are not connected, every connected signal belongs to a net (no net without writer is left) -/
structure NetsOk (H : Hier) : Prop where
  members : ∀ n ∈ H.nets, ∀ m, m ∈ n.2 ↔ Reach H.edges n.1 m
  disjoint : H.nets.Pairwise (fun a b => ¬ Reach H.edges a.1 b.1)
  cover : ∀ e ∈ H.edges, ∃ n ∈ H.nets, Reach H.edges n.1 e.1

section
variable {H : Hier} {nb : Sig → List Sig}

theorem net_unique (hd : H.nets.Pairwise (fun a b => ¬ Reach H.edges a.1 b.1)) {n n' : Sig × List Sig}
    (hn : n ∈ H.nets) (hn' : n' ∈ H.nets) {x : Sig} (h : Reach H.edges n.1 x) (h' : Reach H.edges n'.1 x) : n = n' := by
  rcases pairwise_mem hd hn hn' with e | r | r
  · exact e
  · exact absurd (reach_trans h (reach_symm h')) r
  · exact absurd (reach_trans h' (reach_symm h)) r

section
variable (hv : ValidOrder H nb) (hd : H.nets.Pairwise (fun a b => ¬ Reach H.edges a.1 b.1))
include hv hd

/-- over all nets the filed pairs are still `Fresh`: the pairs of different nets have no end in common -/
theorem treeEdges_fresh : Fresh (treeEdges H nb) := by
  refine ⟨fun p hp => ?_, List.pairwise_flatMap.mpr ⟨fun n _ => (traverse_spanTree hv n.1).ord.isFresh.pw, hd.imp fun hab p hp q hq => ?_⟩⟩
  · obtain ⟨n, _, hpn⟩ := mem_treeEdges.mp hp
    exact (traverse_spanTree hv n.1).ord.isFresh.ne p hpn
  have hp := (traverse_spanTree hv _).reach p hp
  have hq := reach_symm ((traverse_spanTree hv _).reach q hq).2
  exact ⟨fun e => hab (reach_trans hp.1 (e ▸ hq)), fun e => hab (reach_trans hp.2 (e ▸ hq))⟩

theorem treeEdges_writer_not_target (n : Sig × List Sig) (hn : n ∈ H.nets) : n.1 ∉ (treeEdges H nb).map (·.2) := by
  intro hc
  obtain ⟨p, hp, e⟩ := List.mem_map.mp hc
  obtain ⟨n', hn', hpn⟩ := mem_treeEdges.mp hp
  obtain rfl := net_unique hd hn' hn (e ▸ ((traverse_spanTree hv n'.1).reach p hpn).2) (Reach.refl _)
  exact (traverse_spanTree hv n'.1).root_not_target (List.mem_map.mpr ⟨p, hpn, e⟩)

end

theorem stmt_is_tree_edge (hv : ValidOrder H nb) (hn : NetsOk H) (hac : ¬ HasCycle H.edges) (e : Edge) (he : e ∈ H.edges) :
    e ∈ treeEdges H nb ∨ (e.2, e.1) ∈ treeEdges H nb := by
  obtain ⟨n, hnm, hr⟩ := hn.cover e he
  exact ((traverse_spanTree hv n.1).closed hac e he hr).imp (fun h => mem_treeEdges.mpr ⟨n, hnm, h⟩) (fun h => mem_treeEdges.mpr ⟨n, hnm, h⟩)

theorem tree_edge_stated (hv : ValidOrder H nb) {p : Pair} (hp : p ∈ treeEdges H nb) :
    ∃ s ∈ H.stmts, s.2 = p ∨ s.2 = (p.2, p.1) := by
  obtain ⟨n, _, hpn⟩ := mem_treeEdges.mp hp
  rcases (traverse_spanTree hv n.1).step p hpn with h | h
  · obtain ⟨s, hs1, hs2⟩ := List.mem_map.mp h
    exact ⟨s, hs1, Or.inl hs2⟩
  · obtain ⟨s, hs1, hs2⟩ := List.mem_map.mp h
    exact ⟨s, hs1, Or.inr hs2⟩

theorem assigns_perm (hv : ValidOrder H nb) (hd : H.nets.Pairwise (fun a b => ¬ Reach H.edges a.1 b.1))
    (hs : StmtsNodup H) (hacc : accepted H nb = true) : ((assigns H nb).map (·.2)).Perm (treeEdges H nb) :=
  assignsOf_perm (nodup_of_map _ (treeEdges_fresh hv hd).snd_nodup) (treeEdges_fresh hv hd).no_swap (fun _ => tree_edge_stated hv) hs hacc

end

theorem nodupB_sound : ∀ (l : List Nat), nodupB l = true → l.Nodup := by
  intro l
  induction l with
  | nil => intro _; exact List.nodup_nil
  | cons a l ih =>
    intro h
    simp only [nodupB, Bool.and_eq_true, Bool.not_eq_true', decide_eq_false_iff_not] at h
    exact List.nodup_cons.mpr ⟨h.1, ih h.2⟩

theorem sameMembers_sound {a b : List Nat} (h : sameMembers a b = true) : ∀ x, x ∈ a ↔ x ∈ b := by
  simp only [sameMembers, Bool.and_eq_true, List.all_eq_true, decide_eq_true_eq] at h
  exact fun x => ⟨h.1 x, h.2 x⟩

/-- `valid 1` in the driver's reply, for an order that is empty outside the connected signals (the driver's is: it falls
back to `Hier.nbrs`) -/
theorem validOrderB_sound {H : Hier} {nb : Sig → List Sig} (h : validOrderB H nb = true)
    (h0 : ∀ u, u ∉ nodesOf H.edges → nb u = []) : ValidOrder H nb := by
  intro u
  by_cases hu : u ∈ nodesOf H.edges
  · simp only [validOrderB, List.all_eq_true, Bool.and_eq_true] at h
    obtain ⟨h1, h2⟩ := h u hu
    refine ⟨nodupB_sound _ h1, fun v => ?_⟩
    rw [sameMembers_sound h2 v, mem_adj]
  · rw [h0 u hu]
    exact ⟨List.nodup_nil, fun v => ⟨fun h => (List.not_mem_nil h).elim, fun hs => absurd ((mem_nodesOf _ u).mpr ⟨v, hs⟩) hu⟩⟩

/-- `nodup 1` in the driver's reply -/
theorem stmtsNodupB_sound {H : Hier} (h : stmtsNodupB H = true) : StmtsNodup H := by
  simp only [stmtsNodupB, decide_eq_true_eq] at h
  unfold StmtsNodup
  rw [← h]
  exact nodup_dedup _

theorem pairwiseB_sound {α : Type} {r : α → α → Bool} : ∀ {l : List α}, pairwiseB r l = true → l.Pairwise (fun a b => r a b = true) := by
  intro l
  induction l with
  | nil => intro _; exact List.Pairwise.nil
  | cons a l ih =>
    intro h
    simp only [pairwiseB, Bool.and_eq_true, List.all_eq_true] at h
    exact List.pairwise_cons.mpr ⟨h.1, ih h.2⟩

/-- `netsok 1` in the driver's reply -/
theorem netsOkB_sound {H : Hier} (h : netsOkB H = true) : NetsOk H := by
  simp only [netsOkB, Bool.and_eq_true, List.all_eq_true, List.any_eq_true, beq_iff_eq, decide_eq_true_eq, List.mem_map,
    forall_exists_index, and_imp, forall_apply_eq_imp_iff₂] at h
  obtain ⟨⟨h1, h2⟩, h3⟩ := h
  refine ⟨?_, ?_, ?_⟩
  · intro n hn m
    rw [← mem_netOf, ← h1 n hn, mem_sortDedup]
  · have := List.pairwise_map.mp (pairwiseB_sound h2)
    apply this.imp
    intro a b hab hr
    simp only [Bool.not_eq_true', decide_eq_false_iff_not] at hab
    exact hab ((mem_netOf _ _ _).mpr hr)
  · intro e he
    obtain ⟨c, ⟨n, hn, rfl⟩, hm⟩ := h3 e he
    exact ⟨n, hn, (mem_netOf _ _ _).mp hm⟩

end PV.SConn
