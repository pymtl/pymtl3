import PymtlVerif.Model.SConn
import PymtlVerif.Proofs.NetsWalk
import PymtlVerif.Proofs.ListFacts
/-!
# The traversal of `gen_connections` yields a spanning tree of the writer's net

`traverse H nb w` is `PV.Nets.walk` started at the writer; `Proofs/NetsWalk.lean` has `TreeOrd`, `Fresh`, `SpanTree` and
`walk_spanTree`. This file has:

* `traverse_spanTree`: what is filed for a net is a `SpanTree` of it. Nothing below it but `traverse_fuel` looks at the walk again;
* further consequences: no edge in both directions (`Fresh.no_swap`); a valuation passed on by every tree edge is constant
  on the net (`SpanTree.const`); in a graph without cycle a spanning tree holds every connection of the component, one way
  round (`SpanTree.closed`), and there is only one (`SpanTree.unique`): the filed pairs, orientation included, do not
  depend on the order in which the adjacency sets are iterated;
* `traverse_fuel`: more fuel than the model's (`Hier.fuel`) changes nothing.
-/
namespace PV.SConn
open PV.Nets

/-- `nb` enumerates every adjacency set of the connect graph, without repetition -/
def ValidOrder (H : Hier) (nb : Sig → List Sig) : Prop :=
  ∀ u, (nb u).Nodup ∧ ∀ v, v ∈ nb u ↔ Step H.edges u v

theorem nbrs_valid (H : Hier) : ValidOrder H H.nbrs := by
  intro u
  refine ⟨nodup_dedup _, fun v => ?_⟩
  unfold Hier.nbrs
  rw [mem_dedup, mem_adj]

theorem ValidOrder.hadj {H : Hier} {nb : Sig → List Sig} (h : ValidOrder H nb) :
    ∀ u v, v ∈ nb u ↔ Step H.edges u v := fun u => (h u).2

theorem ValidOrder.hnd {H : Hier} {nb : Sig → List Sig} (h : ValidOrder H nb) : ∀ u, (nb u).Nodup := fun u => (h u).1

theorem TreeOrd.nodup {V : List Nat} {L : List Pair} (h : TreeOrd V L) : L.Nodup := nodup_of_map _ h.snd_nodup

theorem Fresh.no_swap {L : List Pair} (h : Fresh L) : ∀ p ∈ L, (p.2, p.1) ∉ L := by
  intro p hp hs
  rcases pairwise_mem h.pw hp hs with e | f | f
  · exact h.ne p hp (congrArg Prod.snd e).symm
  · exact f.1 rfl
  · exact f.1 rfl

theorem closed_cons_nodesOf (E : List Edge) (w : Nat) : ∀ x ∈ w :: nodesOf E, ∀ y, Step E x y → y ∈ w :: nodesOf E := by
  intro x _ y hs
  exact List.mem_cons_of_mem _ ((mem_nodesOf E y).mpr ⟨x, hs.symm⟩)

/-- what `gen_connections` files for the net of writer `w`; the fuel of the model suffices: `H.fuel` unfolds to
`(w :: nodesOf H.edges).length + 1` -/
theorem traverse_spanTree {H : Hier} {nb : Sig → List Sig} (hv : ValidOrder H nb) (w : Sig) :
    SpanTree H.edges w (traverse H nb w) :=
  walk_spanTree hv.hadj hv.hnd (List.mem_cons_self ..) (closed_cons_nodesOf _ w)

namespace SpanTree
variable {E : List Edge} {w : Nat} {L L' : List Pair}

theorem count (h : SpanTree E w L) (y : Nat) (hr : Reach E w y) (hne : y ≠ w) : (L.map (·.2)).count y = 1 := by
  obtain ⟨u, hu⟩ := h.complete y hr hne
  rw [h.ord.snd_nodup.count, if_pos (List.mem_map.mpr ⟨(u, y), hu, rfl⟩)]

theorem const {α : Type} (h : SpanTree E w L) (σ : Nat → α) (hσ : ∀ p ∈ L, σ p.2 = σ p.1) (m : Nat) (hr : Reach E w m) :
    σ m = σ w :=
  h.induct (Q := fun x => σ x = σ w) rfl (fun p hp h1 => (hσ p hp).trans h1) m hr

theorem closed (h : SpanTree E w L) (hac : ¬ HasCycle E) (e : Edge) (he : e ∈ E) (hr : Reach E w e.1) :
    e ∈ L ∨ (e.2, e.1) ∈ L := by
  by_cases h1 : e ∈ L
  · exact Or.inl h1
  by_cases h2 : (e.2, e.1) ∈ L
  · exact Or.inr h2
  refine absurd ⟨e, he, ?_⟩ hac
  -- every tree edge survives the removal of `e`, so the two ends of `e` stay connected through the root
  have hvis := h.induct (Q := Reach (E.erase e) w) (Reach.refl _) fun p hp hq => Reach.step hq
    (step_erase_of_ne (h.step p hp) (fun hc => h1 (hc ▸ hp)) (fun hc => h2 (by rw [← hc]; exact hp)))
  exact reach_trans (reach_symm (hvis _ hr)) (hvis _ (Reach.step hr (Or.inl he)))

/-- without cycle the orientation is forced: were a connection a tree edge one way in one tree and the other way in
another, its two ends would be connected without it (`oriented`) -/
theorem no_swap_across (h : SpanTree E w L) (h' : SpanTree E w L') (hac : ¬ HasCycle E) (p : Pair) (hp : p ∈ L) :
    (p.2, p.1) ∉ L' := by
  intro hq
  have o1 := h.oriented p hp
  have o2 := h'.oriented (p.2, p.1) hq
  apply hac
  rcases h.step p hp with hs | hs
  · exact ⟨p, hs, reach_trans (reach_symm (o1 p (Or.inl rfl))) (o2 p (Or.inr rfl))⟩
  · exact ⟨(p.2, p.1), hs, reach_trans (reach_symm (o2 (p.2, p.1) (Or.inl rfl))) (o1 (p.2, p.1) (Or.inr rfl))⟩

theorem unique (h : SpanTree E w L) (h' : SpanTree E w L') (hac : ¬ HasCycle E) (p : Pair) : p ∈ L ↔ p ∈ L' := by
  suffices hh : ∀ {L L'}, SpanTree E w L → SpanTree E w L' → p ∈ L → p ∈ L' from ⟨hh h h', hh h' h⟩
  intro L L' h h' hp
  have hr := h.reach p hp
  rcases h.step p hp with hs | hs
  · exact (h'.closed hac p hs hr.1).resolve_right (h.no_swap_across h' hac p hp)
  · exact (h'.closed hac (p.2, p.1) hs hr.2).resolve_left (h.no_swap_across h' hac p hp)

end SpanTree

theorem traverse_fuel {H : Hier} {nb : Sig → List Sig} (hv : ValidOrder H nb) (w : Sig) (f : Nat) (hf : H.fuel ≤ f) :
    walk nb f [w] [w] = traverse H nb w :=
  (walk_fuel hv.hadj hv.hnd (w :: nodesOf H.edges) (closed_cons_nodesOf _ w) H.fuel f [w] [w] (.init List.mem_cons_self)
    (Nat.succ_lt_succ (unseen_singleton_lt _ w List.mem_cons_self)) hf).symm

end PV.SConn
