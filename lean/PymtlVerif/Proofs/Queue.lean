import PymtlVerif.Model.Queue
import PymtlVerif.Proofs.Pack
/-!
# Proofs about `Model/Queue.lean` (property C17)

Every queue machine but `enrdy_queues.BypassQueue2RTL` is put against the FIFO specification by a simulation (`Sim`): the ring
buffers and `valrdy_queues.NormalQueueRTL` through an abstraction to the list of stored messages, the one-entry machines by
finite tables, the CL `deque` models by reversal; `Cls.mach_sim` collects them for the machine `Cls.mach` of every class.
The ledger theorems (accepted = delivered ++ contents) are proved of the specification and, for `BypassQueue2RTL`, directly.
`Bits` truncation never bites under the invariants.
-/
namespace PV.Queue

variable {α : Type}

theorem le_two_pow_clog2 (n : Nat) : n ≤ 2 ^ clog2 n := by
  unfold clog2
  split
  · have : 0 < 2 ^ 0 := by decide
    omega
  · have := @Nat.lt_log2_self (n - 1); omega

theorem clog2_le_of_le_two_pow {n k : Nat} (h : n ≤ 2 ^ k) : clog2 n ≤ k := by
  unfold clog2
  split
  · exact Nat.zero_le k
  · exact (Nat.log2_lt (by omega)).mpr (by omega)

theorem clog2_mono_succ (n : Nat) : clog2 n ≤ clog2 (n + 1) :=
  clog2_le_of_le_two_pow (Nat.le_of_succ_le (le_two_pow_clog2 (n + 1)))

theorem lt_two_pow_clog2_succ (n : Nat) : n < 2 ^ clog2 (n + 1) :=
  Nat.lt_of_succ_le (le_two_pow_clog2 (n + 1))

theorem pred_lt_two_pow_clog2 (n : Nat) (hn : 1 ≤ n) : n - 1 < 2 ^ clog2 n :=
  Nat.lt_of_lt_of_le (Nat.sub_one_lt (Nat.ne_of_gt hn)) (le_two_pow_clog2 n)

theorem one_lt_two_pow_clog2 (n : Nat) (hn : 2 ≤ n) : 1 < 2 ^ clog2 n :=
  Nat.lt_of_lt_of_le hn (le_two_pow_clog2 n)

/-- `RegisterFile` addresses are `mk_bits(max(1, clog2 n))` wide, the queues' pointers `mk_bits(clog2 n)` -/
theorem max_one_clog2 (n : Nat) (hn : 2 ≤ n) : max 1 (clog2 n) = clog2 n :=
  Nat.max_eq_right (by unfold clog2; split <;> omega)

theorem trunc_of_lt {w x : Nat} (h : x < 2 ^ w) : trunc w x = x := Nat.mod_eq_of_lt h

/-- `last_idx = PtrType(n - 1)` is `n - 1`, also for `n = 0` and `n = 1` where the pointer has no bits -/
theorem lastIdx_eq (n : Nat) : trunc (clog2 n) (n - 1) = n - 1 := by
  have h := le_two_pow_clog2 n
  have h2 : 0 < 2 ^ clog2 n := Nat.two_pow_pos _
  exact trunc_of_lt (by omega)

theorem numEntries_eq (n : Nat) : trunc (clog2 (n + 1)) n = n := trunc_of_lt (lt_two_pow_clog2_succ n)

theorem ptrInc_eq (n p : Nat) (hn : 0 < n) (hp : p < n) : ptrInc n p = (p + 1) % n := by
  have h1 := le_two_pow_clog2 n
  rw [ptrInc, lastIdx_eq]
  split
  · rw [trunc_of_lt (by omega), Nat.mod_eq_of_lt (by omega)]
  · rw [show p + 1 = n by omega, Nat.mod_self]

theorem cntInc_eq (n c : Nat) (hc : c < n) : cntInc n c = c + 1 := by
  have h1 := le_two_pow_clog2 (n + 1)
  unfold cntInc; exact trunc_of_lt (by omega)

theorem trunc_sub {w a b : Nat} (hb : b ≤ a) (ha : a < 2 ^ w) : trunc w (a + 2 ^ w - b) = a - b := by
  rw [trunc, show a + 2 ^ w - b = a - b + 2 ^ w by omega, Nat.add_mod_right, Nat.mod_eq_of_lt (by omega)]

theorem cntDec_eq (n c : Nat) (hc : c ≤ n) (h0 : 0 < c) : cntDec n c = c - 1 := by
  have h1 := le_two_pow_clog2 (n + 1)
  exact trunc_sub h0 (by omega)

/-! ## the specification, factored through the two transfer bits -/

/-- the content after a cycle of `specStep`, given whether reset clears it and whether each handshake takes place -/
def specCore (l : List α) (m : α) (clr ex dx : Bool) : List α :=
  if clr then [] else
    let l1 := if ex then l ++ [m] else l
    if dx then l1.tail else l1

/-- `enq.rdy` of `specStep` at occupancy `len` -/
def specEr {α} (st : Style) (k : Kind) (n : Nat) (len : Nat) (i : In α) : Bool :=
  !(st.gate && i.rst) && enqLaw k n len i.deq
/-- whether `specStep` has a message to give at occupancy `len`: `deq.rdy`, or under `push` the part of `deq.en` that is not the
consumer's `rdy` -/
def specDr (st : Style) (k : Kind) (len : Nat) (i : In α) : Bool :=
  !(st.gate && i.rst) && deqLaw k len i.enq

def front (l : List α) (m : α) : α := match l with | x :: _ => x | [] => m

theorem head?_push (l : List α) (m : α) (ex : Bool) (h : ex = false → 0 < l.length) :
    (if ex then l ++ [m] else l).head? = some (front l m) := by
  cases l with
  | nil =>
    cases ex
    · exact absurd (h rfl) (Nat.lt_irrefl 0)
    · rfl
  | cons x l => cases ex <;> rfl

theorem specStep_fst (st : Style) (k : Kind) (n : Nat) (l : List α) (i : In α) :
    (specStep st k n l i).1 =
      specCore l i.msg (st.reset && i.rst) (i.enq && specEr st k n l.length i) (i.deq && specDr st k l.length i) := rfl

theorem specStep_snd (st : Style) (k : Kind) (n : Nat) (l : List α) (i : In α) :
    (specStep st k n l i).2 =
      let dr := specDr st k l.length i
      let dv := if st.push then i.deq && dr else dr
      { enqRdy := specEr st k n l.length i, deqRdy := dv, ret := if dv then some (front l i.msg) else none,
        count := if st.free then (if i.rst then n else n - l.length) else l.length } := rfl

/-- the transfer bits `ex`, `dx` fit a queue of capacity `n` holding `len` messages: no enqueue alone into a full queue, no
dequeue alone from an empty one -/
structure XferOK (ex dx : Bool) (len n : Nat) : Prop where
  enq : ex = true → dx = false → len < n
  deq : dx = true → ex = false → 0 < len

theorem ex_dx_facts (k : Kind) (n len : Nat) (lv e d : Bool) (hn : 0 < n) :
    let ex := e && (lv && enqLaw k n len d)
    let dx := d && (lv && deqLaw k len e)
    XferOK ex dx len n := by
  cases lv
  · exact ⟨fun h => by simp at h, fun h => by simp at h⟩
  · cases k <;> cases e <;> cases d <;> constructor <;> simp [enqLaw, deqLaw] <;> omega

theorem specCore_length_le {l : List α} {m : α} {clr ex dx : Bool} {n : Nat} (hl : l.length ≤ n)
    (h1 : ex = true → dx = false → l.length < n) : (specCore l m clr ex dx).length ≤ n := by
  cases clr
  · cases ex <;> cases dx <;> simp only [specCore, Bool.false_eq_true, if_false, if_true, List.length_tail,
      List.length_append, List.length_cons, List.length_nil]
    · exact hl
    · omega
    · have := h1 rfl rfl; omega
    · omega
  · exact Nat.zero_le n

/-! ## ring buffer (`*QueueCtrlRTL` + `RegisterFile`) -/

def rabs {α} (n : Nat) (s : Ring α) : List α :=
  (List.range s.count).map (fun i => s.regs ((s.head + i) % n))

structure RInv {α} (n : Nat) (s : Ring α) : Prop where
  hn    : 0 < n
  hhead : s.head < n
  htail : s.tail = (s.head + s.count) % n
  hcnt  : s.count ≤ n

theorem mod_inj_of_lt {n a b : Nat} (hab : a ≤ b) (hlt : b - a < n) (h : a % n = b % n) : a = b := by
  have h0 : (b - a) % n = 0 := Nat.sub_mod_eq_zero_of_mod_eq h.symm
  rw [Nat.mod_eq_of_lt hlt] at h0
  omega

@[simp] theorem rabs_length (n : Nat) (s : Ring α) : (rabs n s).length = s.count := by
  simp [rabs]

theorem rabs_getElem (n : Nat) (s : Ring α) (i : Nat) (h : i < (rabs n s).length) :
    (rabs n s)[i] = s.regs ((s.head + i) % n) := by
  simp [rabs]

theorem add_mod_ne {n h i c : Nat} (hic : i < c) (hc : c - i < n) : (h + i) % n ≠ (h + c) % n := by
  intro hh
  have := mod_inj_of_lt (n := n) (a := h + i) (b := h + c) (by omega) (by omega) hh
  omega

theorem mod_succ_add (n h c : Nat) : ((h + c) % n + 1) % n = (h + (c + 1)) % n := Nat.mod_add_mod (h + c) n 1

theorem succ_mod_add (n h c : Nat) : ((h + 1) % n + c) % n = (h + (c + 1)) % n := by
  rw [Nat.add_mod, Nat.mod_mod, ← Nat.add_mod]; congr 1; omega

theorem rabs_enq (n : Nat) (s : Ring α) (m : α) (hi : RInv n s) (hlt : s.count < n) (t : Nat) :
    rabs n { head := s.head, tail := t, count := s.count + 1,
             regs := fun i => if i = s.tail then m else s.regs i } = rabs n s ++ [m] := by
  apply List.ext_getElem
  · simp
  · intro i h1 h2
    simp only [rabs_length] at h1
    rw [rabs_getElem]
    simp only
    by_cases hic : i < s.count
    · rw [List.getElem_append_left (by simpa using hic), rabs_getElem]
      rw [if_neg]
      rw [hi.htail]
      exact add_mod_ne hic (by omega)
    · have : i = s.count := by omega
      subst this
      rw [List.getElem_append_right (by simp)]
      simp [hi.htail]

theorem rabs_deq (n : Nat) (s : Ring α) (t : Nat) :
    rabs n { head := (s.head + 1) % n, tail := t, count := s.count - 1, regs := s.regs } = (rabs n s).tail := by
  apply List.ext_getElem
  · simp
  · intro i h1 h2
    simp only [rabs_length] at h1
    rw [rabs_getElem]
    simp only [List.getElem_tail]
    rw [rabs_getElem, succ_mod_add]

theorem rabs_enq_deq (n : Nat) (s : Ring α) (m : α) (hi : RInv n s) (t : Nat) :
    rabs n { head := (s.head + 1) % n, tail := t, count := s.count,
             regs := fun i => if i = s.tail then m else s.regs i } = (rabs n s ++ [m]).tail := by
  apply List.ext_getElem
  · simp
  · intro i h1 h2
    simp only [rabs_length] at h1
    rw [rabs_getElem]
    simp only [List.getElem_tail]
    rw [succ_mod_add]
    by_cases hic : i + 1 < s.count
    · rw [List.getElem_append_left (by simpa using hic), rabs_getElem]
      rw [if_neg]
      rw [hi.htail]
      exact add_mod_ne hic (by have := hi.hcnt; omega)
    · have : i + 1 = s.count := by omega
      rw [List.getElem_append_right (by simp; omega)]
      simp [hi.htail, this]

theorem rabs_front (n : Nat) (s : Ring α) (hi : RInv n s) (m : α) :
    front (rabs n s) m = if s.count = 0 then m else s.regs s.head := by
  by_cases h0 : s.count = 0
  · have : rabs n s = [] := by simp [rabs, h0]
    simp [this, h0, front]
  · obtain ⟨c, hc⟩ : ∃ c, s.count = c + 1 := ⟨s.count - 1, by omega⟩
    simp [rabs, hc, List.range_succ_eq_map, Nat.mod_eq_of_lt hi.hhead, front]

/-- the next state of `ringStep` as a function of reset and the two transfer bits (`ringStep_fst`) -/
def ringCore (n : Nat) (s : Ring α) (m : α) (rst ex dx : Bool) : Ring α :=
  { head  := if rst then 0 else if dx then ptrInc n s.head else s.head
    tail  := if rst then 0 else if ex then ptrInc n s.tail else s.tail
    count := if rst then 0 else if ex && !dx then cntInc n s.count else if !ex && dx then cntDec n s.count else s.count
    regs  := if ex then (fun a => if a = s.tail then m else s.regs a) else s.regs }

/-- the same update with unbounded arithmetic -/
def ringIdeal {α} (n : Nat) (s : Ring α) (m : α) (rst ex dx : Bool) : Ring α :=
  let regs' := if ex then (fun a => if a = s.tail then m else s.regs a) else s.regs
  if rst then { head := 0, tail := 0, count := 0, regs := regs' }
  else
    { head  := if dx then (s.head + 1) % n else s.head
      tail  := if ex then (s.tail + 1) % n else s.tail
      count := if ex && !dx then s.count + 1 else if !ex && dx then s.count - 1 else s.count
      regs  := regs' }

theorem ringStep_fst (gate : Bool) (k : Kind) (n : Nat) (s : Ring α) (i : In α) :
    (ringStep gate k n s i).1 = ringCore n s i.msg i.rst
      (i.enq && (ringStep gate k n s i).2.enqRdy) (i.deq && (ringStep gate k n s i).2.deqRdy) := by
  unfold ringStep; cases i.rst <;> rfl

/-- the normal and the pipe queue show `regs[head]` also when empty, but then they are not dequeue-ready -/
theorem ret_of_pos (lv : Bool) (c : Nat) (m x : α) :
    (if (lv && decide (c > 0)) = true then some x else none) =
      if (lv && decide (c > 0)) = true then some (if c = 0 then m else x) else none := by
  by_cases h0 : c = 0
  · subst h0; cases lv <;> rfl
  · rw [if_neg h0]

theorem ringStep_snd (gate : Bool) (k : Kind) (n : Nat) (s : Ring α) (i : In α) :
    (ringStep gate k n s i).2 =
      let dr := !(gate && i.rst) && deqLaw k s.count i.enq
      { enqRdy := !(gate && i.rst) && enqLaw k n s.count i.deq, deqRdy := dr,
        ret := if dr then some (if s.count = 0 then i.msg else s.regs s.head) else none,
        count := s.count } := by
  simp only [ringStep, numEntries_eq]
  cases k
  · exact congrArg (Out.mk _ _ · _) (ret_of_pos ..)
  · exact congrArg (Out.mk _ _ · _) (ret_of_pos ..)
  · rfl

theorem ringStep_enqRdy (gate : Bool) (k : Kind) (n : Nat) (s : Ring α) (i : In α) :
    (ringStep gate k n s i).2.enqRdy = (!(gate && i.rst) && enqLaw k n s.count i.deq) :=
  congrArg Out.enqRdy (ringStep_snd gate k n s i)

theorem ringCore_eq_ideal (n : Nat) (s : Ring α) (m : α) (rst ex dx : Bool) (hi : RInv n s)
    (h : XferOK ex dx s.count n) :
    ringCore n s m rst ex dx = ringIdeal n s m rst ex dx := by
  obtain ⟨hn, hhead, htail, hcnt⟩ := hi
  have htl : s.tail < n := by rw [htail]; exact Nat.mod_lt _ hn
  cases rst
  · cases ex <;> cases dx
    · rfl
    · simp [ringCore, ringIdeal, ptrInc_eq n _ hn hhead, cntDec_eq n _ hcnt (h.deq rfl rfl)]
    · simp [ringCore, ringIdeal, ptrInc_eq n _ hn htl, cntInc_eq n _ (h.enq rfl rfl)]
    · simp [ringCore, ringIdeal, ptrInc_eq n _ hn htl, ptrInc_eq n _ hn hhead]
  · rfl

theorem ringIdeal_sim (n : Nat) (s : Ring α) (m : α) (rst ex dx : Bool) (hi : RInv n s)
    (h : XferOK ex dx s.count n) :
    rabs n (ringIdeal n s m rst ex dx) = specCore (rabs n s) m rst ex dx ∧ RInv n (ringIdeal n s m rst ex dx) := by
  have ⟨hn, hhead, htail, hcnt⟩ := hi
  cases rst
  · cases ex <;> cases dx
    · exact ⟨rfl, hi⟩
    · have hpos := h.deq rfl rfl
      refine ⟨rabs_deq n s _, hn, Nat.mod_lt _ hn, ?_, Nat.le_trans (Nat.sub_le ..) hcnt⟩
      show s.tail = ((s.head + 1) % n + (s.count - 1)) % n
      rw [htail, succ_mod_add, Nat.sub_add_cancel hpos]
    · refine ⟨rabs_enq n s m hi (h.enq rfl rfl) _, hn, hhead, ?_, h.enq rfl rfl⟩
      show (s.tail + 1) % n = (s.head + (s.count + 1)) % n
      rw [htail, mod_succ_add]
    · refine ⟨rabs_enq_deq n s m hi _, hn, Nat.mod_lt _ hn, ?_, hcnt⟩
      show (s.tail + 1) % n = ((s.head + 1) % n + s.count) % n
      rw [htail, mod_succ_add, succ_mod_add]
  · exact ⟨rfl, hn, hn, (Nat.zero_mod n).symm, Nat.zero_le n⟩

theorem ringCore_sim (n : Nat) (s : Ring α) (m : α) (rst ex dx : Bool) (hi : RInv n s)
    (h : XferOK ex dx s.count n) :
    rabs n (ringCore n s m rst ex dx) = specCore (rabs n s) m rst ex dx ∧ RInv n (ringCore n s m rst ex dx) := by
  rw [ringCore_eq_ideal n s m rst ex dx hi h]
  exact ringIdeal_sim n s m rst ex dx hi h

theorem ringStep_sim (st : Style) (hr : st.reset = true) (k : Kind) (n : Nat) (s : Ring α) (i : In α) (hi : RInv n s) :
    rabs n (ringStep st.gate k n s i).1 = (specStep st k n (rabs n s) i).1 ∧ RInv n (ringStep st.gate k n s i).1 := by
  rw [ringStep_fst, ringStep_snd, specStep_fst]
  simp only [hr, rabs_length, specEr, specDr, Bool.true_and]
  have hf := ex_dx_facts k n s.count (!(st.gate && i.rst)) i.enq i.deq hi.hn
  exact ringCore_sim n s i.msg i.rst _ _ hi hf

/-- `step` simulates `specStep st k n` through `abs` on the states satisfying `Inv`. The outputs agree in every cycle; the
states are only asked to follow under `Legal`, because the en/rdy one-entry queues clock `enq.en` / `deq.en` without looking at
`rdy` (`q1Step`, `er1Raw`). No other machine needs that hypothesis. -/
structure Sim {σ α : Type} (step : σ → In α → σ × Out α) (st : Style) (k : Kind) (n : Nat) where
  abs : σ → List α
  Inv : σ → Prop
  out_eq : ∀ s i, Inv s → (step s i).2 = (specStep st k n (abs s) i).2
  next : ∀ s i, Inv s → Legal st (step s i).2 i →
    abs (step s i).1 = (specStep st k n (abs s) i).1 ∧ Inv (step s i).1

theorem Sim.run_eq {σ α : Type} {step : σ → In α → σ × Out α} {st : Style} {k : Kind} {n : Nat}
    (S : Sim step st k n) (is : List (In α)) (s : σ) (hs : S.Inv s)
    (hl : LegalTrace st is (run step s is)) :
    run step s is = run (specStep st k n) (S.abs s) is ∧
    S.abs (runState step s is) = runState (specStep st k n) (S.abs s) is := by
  induction is generalizing s with
  | nil => exact ⟨rfl, rfl⟩
  | cons i is ih =>
    obtain ⟨h1, h2⟩ := S.next s i hs hl.1
    obtain ⟨ih1, ih2⟩ := ih _ h2 hl.2
    simp only [run, runState, S.out_eq s i hs, ih1, ih2, h1, and_self]

theorem legalTrace_free (st : Style) (h1 : st.enqEnRdy = false) (h2 : st.deqEnRdy = false)
    (is : List (In α)) (os : List (Out α)) : LegalTrace st is os := by
  induction is generalizing os with
  | nil => simp [LegalTrace]
  | cons j is ih =>
    cases os with
    | nil => simp [LegalTrace]
    | cons o os => exact ⟨⟨by simp [h1], by simp [h2]⟩, ih os⟩

def ringSim (st : Style) (k : Kind) (n : Nat) (hr : st.reset = true) (hp : st.push = false)
    (hf : st.free = false) : Sim (α := α) (ringStep st.gate k n) st k n where
  abs := rabs n
  Inv := RInv n
  out_eq := by
    intro s i hi
    rw [ringStep_snd, specStep_snd]
    simp only [hp, hf, rabs_length, rabs_front n s hi, specEr, specDr, Bool.false_eq_true, if_false]
  next := fun s i hi _ => ringStep_sim st hr k n s i hi

theorem ring_init_inv (n : Nat) (hn : 0 < n) (d : α) : RInv n (Ring.init d) :=
  ⟨hn, hn, by simp [Ring.init], by simp [Ring.init]⟩

def abs1 {α} (s : One α) : List α := if s.full then [s.entry] else []

/-- `p → a = b` in a form that computes when `p` is decided -/
theorem eq_of_ite_eq {β} {p : Prop} [Decidable p] {a b : β} (h : (if p then a else b) = b) (hp : p) : a = b := by
  rwa [if_pos hp] at h

/-- A one-entry machine against the capacity-1 specification is a finite table over the kind, the full bit and the
three control inputs. Each row is checked by evaluation; the entry, the message and the inputs a row does not branch
on stay symbolic. -/
def oneSim {step : One α → In α → One α × Out α} {st : Style} {k : Kind}
    (hout : ∀ s i, (step s i).2 = (specStep st k 1 (abs1 s) i).2)
    (hnext : ∀ s i, (if Legal st (step s i).2 i then abs1 (step s i).1 else (specStep st k 1 (abs1 s) i).1) =
      (specStep st k 1 (abs1 s) i).1) : Sim step st k 1 where
  abs := abs1
  Inv := fun _ => True
  out_eq := fun s i _ => hout s i
  next := fun s i _ hl => ⟨eq_of_ite_eq (hnext s i) hl, trivial⟩

def q1Sim (k : Kind) : Sim (α := α) (q1Step k) styleQ k 1 :=
  oneSim
    (by intro ⟨f, e⟩ ⟨r, en, m, d⟩; cases k <;> cases f <;> cases r <;> rfl)
    (by intro ⟨f, e⟩ ⟨r, en, m, d⟩; cases k <;> cases f <;> cases r <;> cases en <;> cases d <;> rfl)

def s1Sim (k : Kind) : Sim (α := α) (s1Step k) styleS k 1 :=
  oneSim
    (by intro ⟨f, e⟩ ⟨r, en, m, d⟩; cases k <;> cases f <;> cases d <;> rfl)
    (by intro ⟨f, e⟩ ⟨r, en, m, d⟩; cases k <;> cases f <;> cases r <;> cases en <;> cases d <;> rfl)

def v1Sim (k : Kind) : Sim (α := α) (v1Step k) styleV1 k 1 :=
  oneSim
    (by intro ⟨f, e⟩ ⟨r, en, m, d⟩; cases k <;> cases f <;> rfl)
    (by intro ⟨f, e⟩ ⟨r, en, m, d⟩; cases k <;> cases f <;> cases en <;> cases d <;> rfl)

/-- `enrdy_queues.py` one-entry queues: the normal and the pipe queue have no reset, the bypass queue has -/
def erStyle (k : Kind) : Style := match k with | .bypass => styleEB | _ => styleER

def er1Sim (k : Kind) : Sim (α := α) (er1Step k) (erStyle k) k 1 :=
  oneSim
    (by intro ⟨f, e⟩ ⟨r, en, m, d⟩; cases k <;> cases f <;> cases en <;> cases d <;> rfl)
    (by intro ⟨f, e⟩ ⟨r, en, m, d⟩; cases k <;> cases f <;> cases r <;> cases en <;> cases d <;> rfl)

/-- the ready flags of the CL queues (enqueue side, dequeue side) depend on the length only -/
def clRdy (k : Kind) (n len : Nat) (enq deq : Bool) : Bool × Bool :=
  match k with
  | .normal => (decide (len < n), decide (len > 0))
  | .pipe => (decide ((if deq && decide (len > 0) then len - 1 else len) < n), decide (len > 0))
  | .bypass => (decide (len < n), decide ((if enq && decide (len < n) then len + 1 else len) > 0))

/-- popping at the right of a non-empty `deque` and pushing at the left commute, in the content and in what `deq` shows -/
theorem pop_push (q : List α) (m : α) (ex dx er dr : Bool) (c : Nat) (hdr : dr = true → q ≠ [])
    (hdx : dx = true → dr = true) :
    ((if ex then m :: (if dx then q.dropLast else q) else if dx then q.dropLast else q,
      { enqRdy := er, deqRdy := dr, ret := if dr then q.getLast? else none, count := c }) : List α × Out α) =
    (if dx then (if ex then m :: q else q).dropLast else if ex then m :: q else q,
      { enqRdy := er, deqRdy := dr, ret := if dr then (if ex then m :: q else q).getLast? else none, count := c }) := by
  cases ex
  · rfl
  · cases dr
    · cases dx
      · rfl
      · exact absurd (hdx rfl) Bool.false_ne_true
    · have hq := hdr rfl
      simp only [if_true, List.dropLast_cons_of_ne_nil hq, List.getLast?_cons_of_ne_nil hq]
      cases dx <;> rfl

/-- In every kind one cycle of the CL queue is: push at the left if the enqueue handshake happens, then pop at the
right if the dequeue handshake happens, and `deq` returns the rightmost message of the pushed `deque` (the normal and
the pipe queue pop first, but only from a non-empty `deque`, where the order does not matter). -/
theorem clStep_eq (k : Kind) (n : Nat) (q : List α) (i : In α) :
    clStep k n q i =
      let r := clRdy k n q.length i.enq i.deq
      let q1 := if i.enq && r.1 then i.msg :: q else q
      (if i.deq && r.2 then q1.dropLast else q1,
       { enqRdy := r.1, deqRdy := r.2, ret := if r.2 then q1.getLast? else none, count := q.length }) := by
  have hdr : decide (q.length > 0) = true → q ≠ [] := fun h => List.ne_nil_of_length_pos (of_decide_eq_true h)
  cases k
  · exact pop_push q i.msg _ _ _ _ _ hdr (fun h => (Bool.and_eq_true_iff.mp h).2)
  · simp only [clStep, clRdy, apply_ite List.length, List.length_dropLast]
    exact pop_push q i.msg _ _ _ _ _ hdr (fun h => (Bool.and_eq_true_iff.mp h).2)
  · simp only [clStep, clRdy, apply_ite List.length, List.length_cons]
    rfl

theorem clRdy_deq {k : Kind} {n len : Nat} {enq deq : Bool} (h : (clRdy k n len enq deq).2 = true)
    (hex : (enq && (clRdy k n len enq deq).1) = false) : 0 < len := by
  cases k
  · exact of_decide_eq_true h
  · exact of_decide_eq_true h
  · have h' := of_decide_eq_true h
    rwa [if_neg (show ¬(enq && decide (len < n)) = true from hex ▸ Bool.false_ne_true)] at h'

theorem clRdy_eq (k : Kind) (n len : Nat) (enq deq : Bool) (hn : 0 < n) (hl : len ≤ n) :
    clRdy k n len enq deq = (enqLaw k n len deq, deqLaw k len enq) := by
  cases k
  · rfl
  · refine Prod.ext ?_ rfl
    show decide ((if (deq && decide (len > 0)) = true then len - 1 else len) < n) = (decide (len < n) || deq)
    cases deq
    · exact (Bool.or_false _).symm
    · rw [Bool.or_true, decide_eq_true_eq]
      split <;> simp only [Bool.true_and, decide_eq_true_eq] at * <;> omega
  · refine Prod.ext rfl ?_
    show decide ((if (enq && decide (len < n)) = true then len + 1 else len) > 0) = (decide (len > 0) || enq)
    cases enq
    · exact (Bool.or_false _).symm
    · rw [Bool.or_true, decide_eq_true_eq]
      split <;> simp only [Bool.true_and, decide_eq_true_eq] at * <;> omega

theorem getLast?_push (q : List α) (m : α) (ex : Bool) (h : ex = false → 0 < q.length) :
    (if ex then m :: q else q).getLast? = some (front q.reverse m) := by
  rw [← List.head?_reverse, apply_ite List.reverse, List.reverse_cons]
  exact head?_push q.reverse m ex (by rwa [List.length_reverse])

theorem cl_sim (k : Kind) (n : Nat) (hn : 0 < n) (q : List α) (i : In α) (hq : q.length ≤ n) :
    (clStep k n q i).2 = (specStep styleV1 k n q.reverse i).2 ∧
    (clStep k n q i).1.reverse = (specStep styleV1 k n q.reverse i).1 ∧ (clStep k n q i).1.length ≤ n := by
  have hf := ex_dx_facts k n q.length true i.enq i.deq hn
  have hret := fun h => getLast?_push q i.msg _ (clRdy_deq (k := k) (n := n) (enq := i.enq) (deq := i.deq) h)
  rw [clRdy_eq k n _ _ _ hn hq] at hret
  rw [clStep_eq, specStep_fst, specStep_snd, clRdy_eq k n _ _ _ hn hq]
  simp only [specEr, specDr, styleV1, List.length_reverse, Bool.false_and, Bool.not_false, Bool.true_and] at hf ⊢
  generalize (i.enq && enqLaw k n q.length i.deq) = ex at hf hret ⊢
  have hrev : ∀ dx, (if dx = true then (if ex = true then i.msg :: q else q).dropLast
      else if ex = true then i.msg :: q else q).reverse = specCore q.reverse i.msg false ex dx := by
    intro dx; cases ex <;> cases dx <;> simp only [specCore, Bool.false_eq_true, if_false, if_true, List.reverse_cons, ← List.tail_reverse]
  refine ⟨?_, hrev _, ?_⟩
  · cases hdr : deqLaw k q.length i.enq
    · rfl
    · simp only [hret hdr, if_true, if_false, Bool.false_eq_true]
  · rw [← List.length_reverse, hrev]
    exact specCore_length_le (by rw [List.length_reverse]; exact hq) (by rw [List.length_reverse]; exact hf.enq)

def clSim (k : Kind) (n : Nat) (hn : 0 < n) : Sim (α := α) (clStep k n) styleV1 k n where
  abs := List.reverse
  Inv := fun q => q.length ≤ n
  out_eq := fun q i hq => (cl_sim k n hn q i hq).1
  next := fun q i hq _ => (cl_sim k n hn q i hq).2

theorem head?_toList_append_tail (l : List α) : l.head?.toList ++ l.tail = l := by cases l <;> rfl

/-- One ledger step of any machine whose content moves like the specification's under its own two handshakes and
which delivers the oldest message (counting the one accepted in the same cycle): `accepted = delivered ++ content`
is kept. -/
theorem Ledger.step_core (st : Style) (L : Ledger α) (l : List α) (i : In α) (o : Out α)
    (h : L.acc = L.del ++ l)
    (hret : delivered st i o = true → o.ret = (if accepted i o then l ++ [i.msg] else l).head?) :
    (L.step st i o).acc =
      (L.step st i o).del ++ specCore l i.msg (st.reset && i.rst) (accepted i o) (delivered st i o) := by
  have hacc : (if accepted i o then L.acc ++ [i.msg] else L.acc) =
      L.del ++ (if accepted i o then l ++ [i.msg] else l) := by
    rw [h]; split
    · exact List.append_assoc ..
    · rfl
  unfold Ledger.step specCore
  cases st.reset && i.rst
  · cases hd : delivered st i o
    · exact hacc
    · rw [hd] at hret
      simp only [Bool.false_eq_true, if_false, if_true, hacc, hret rfl, List.append_assoc, head?_toList_append_tail]
  · rfl

theorem spec_obs (st : Style) (k : Kind) (n : Nat) (l : List α) (i : In α) :
    accepted i (specStep st k n l i).2 = (i.enq && specEr st k n l.length i) ∧
    delivered st i (specStep st k n l i).2 = (i.deq && specDr st k l.length i) ∧
    (delivered st i (specStep st k n l i).2 = true → (specStep st k n l i).2.ret = some (front l i.msg)) := by
  obtain ⟨rs, g, p, fr, a, b⟩ := st
  cases p
  · exact ⟨rfl, rfl, fun h => if_pos (Bool.and_eq_true_iff.mp h).2⟩
  · exact ⟨rfl, rfl, fun h => if_pos h⟩

theorem spec_step_ledger (st : Style) (k : Kind) (n : Nat) (hn : 0 < n) (l : List α) (i : In α)
    (L : Ledger α) (h : L.acc = L.del ++ l) (hl : l.length ≤ n) :
    (L.step st i (specStep st k n l i).2).acc = (L.step st i (specStep st k n l i).2).del ++ (specStep st k n l i).1 ∧
    (specStep st k n l i).1.length ≤ n := by
  have hf := ex_dx_facts k n l.length (!(st.gate && i.rst)) i.enq i.deq hn
  obtain ⟨ho1, ho2, ho3⟩ := spec_obs st k n l i
  have key := Ledger.step_core st L l i _ h fun hd => by
    rw [ho3 hd, head?_push l i.msg _ fun ha => hf.deq (ho2 ▸ hd) (ho1 ▸ ha)]
  rw [ho1, ho2] at key
  rw [specStep_fst]
  exact ⟨key, specCore_length_le hl hf.enq⟩

/-! ## valrdy NormalQueueRTL -/

/-- occupancy of the full-bit ring -/
def vcount {α} (n : Nat) (s : VRing α) : Nat :=
  if s.full then n else if s.deqPtr ≤ s.enqPtr then s.enqPtr - s.deqPtr else s.enqPtr + n - s.deqPtr

def toRing {α} (n : Nat) (s : VRing α) : Ring α := ⟨s.deqPtr, s.enqPtr, vcount n s, s.regs⟩

structure VInv {α} (n : Nat) (s : VRing α) : Prop where
  hn : 0 < n
  he : s.enqPtr < n
  hd : s.deqPtr < n
  hf : s.full = true → s.enqPtr = s.deqPtr

theorem vinc_eq (n p : Nat) (hp : p < n) :
    (if p = trunc (clog2 n) (n - 1) then 0 else trunc (clog2 n) (p + 1)) = (p + 1) % n := by
  have h1 := le_two_pow_clog2 n
  rw [lastIdx_eq]
  split
  · rw [show p + 1 = n by omega, Nat.mod_self]
  · rw [trunc_of_lt (by omega), Nat.mod_eq_of_lt (by omega)]

theorem toRing_inv (n : Nat) (s : VRing α) (hi : VInv n s) : RInv n (toRing n s) := by
  obtain ⟨hn, he, hd, hf⟩ := hi
  refine ⟨hn, hd, ?_, ?_⟩
  · simp only [toRing, vcount]
    cases hfull : s.full
    · simp only [Bool.false_eq_true, if_false]
      split
      · rw [show s.deqPtr + (s.enqPtr - s.deqPtr) = s.enqPtr by omega, Nat.mod_eq_of_lt he]
      · rw [show s.deqPtr + (s.enqPtr + n - s.deqPtr) = s.enqPtr + n by omega, Nat.add_mod_right,
          Nat.mod_eq_of_lt he]
    · simp [hf hfull, Nat.mod_eq_of_lt hd]
  · simp only [toRing, vcount]
    split
    · omega
    · split <;> omega

/-- `num_free_entries` as `NormalQueueRTLCtrl.comb` computes it, from the pointers in `Bits` arithmetic -/
theorem vnfe_eq (n : Nat) (s : VRing α) (i : In α) (hi : VInv n s) :
    (vrStep n s i).2.count = if i.rst then n else n - vcount n s := by
  obtain ⟨hn, he, hd, hf⟩ := hi
  have h1 := le_two_pow_clog2 n
  have h2 := le_two_pow_clog2 (n + 1)
  simp only [vrStep, numEntries_eq, vcount]
  cases i.rst
  · cases s.full
    · simp only [Bool.false_eq_true, if_false, Bool.not_false, Bool.true_and, decide_eq_true_eq]
      split
      · next h => rw [h, if_pos (Nat.le_refl _), Nat.sub_self]; rfl
      · split
        · next h =>
          rw [if_pos (Nat.le_of_lt h), trunc_sub (Nat.le_of_lt h) (Nat.lt_of_lt_of_le he h1),
            trunc_sub (Nat.le_trans (Nat.sub_le ..) (Nat.le_of_lt he)) (Nat.lt_of_succ_le h2)]
        · next hne hle =>
          have hlt : s.enqPtr < s.deqPtr := by omega
          rw [if_pos hlt, if_neg (Nat.not_le_of_lt hlt), trunc_sub (Nat.le_of_lt hlt) (Nat.lt_of_lt_of_le hd h1)]
          omega
    · exact (Nat.sub_self n).symm
  · rfl

theorem vr_rdy (n : Nat) (s : VRing α) (hi : VInv n s) :
    (!s.full) = decide (vcount n s < n) ∧
    (!(!s.full && decide (s.enqPtr = s.deqPtr))) = decide (vcount n s > 0) ∧
    s.full = decide (vcount n s = n) := by
  obtain ⟨hn, he, hd, hf⟩ := hi
  unfold vcount
  cases hfull : s.full
  · simp only [Bool.false_eq_true, if_false, Bool.not_false, Bool.true_and]
    refine ⟨?_, ?_, ?_⟩
    · symm; rw [decide_eq_true_eq]; split <;> omega
    · by_cases heq : s.enqPtr = s.deqPtr
      · simp [heq]
      · simp only [heq, decide_false, Bool.not_false]
        symm; rw [decide_eq_true_eq]; split <;> omega
    · symm; rw [decide_eq_false_iff_not]; split <;> omega
  · simp [hn]

theorem vcount_unique (n : Nat) (s : VRing α) (c : Nat) (hc : c ≤ n) (hd : s.deqPtr < n)
    (ht : s.enqPtr = (s.deqPtr + c) % n) (hf : s.full = decide (c = n)) : vcount n s = c ∧ VInv n s := by
  have hn : 0 < n := by omega
  have he : s.enqPtr < n := ht ▸ Nat.mod_lt _ hn
  have hm := Pack.mod_cases (n := n) (x := s.deqPtr + c) (by omega)
  rw [← ht] at hm
  by_cases hcn : c = n
  · have hfull : s.full = true := by rw [hf, hcn, decide_eq_true rfl]
    refine ⟨by rw [vcount, if_pos hfull, hcn], hn, he, hd, fun _ => ?_⟩
    rw [ht, hcn, Nat.add_mod_right, Nat.mod_eq_of_lt hd]
  · have hfull : s.full = false := by rw [hf, decide_eq_false hcn]
    refine ⟨?_, hn, he, hd, fun h => by rw [hfull] at h; cases h⟩
    rw [vcount, hfull, if_neg Bool.false_ne_true]
    split <;> omega

theorem toRing_eq {n : Nat} {s : VRing α} {R : Ring α} (hR : RInv n R) (hd : s.deqPtr = R.head)
    (he : s.enqPtr = R.tail) (hf : s.full = decide (R.count = n)) (hr : s.regs = R.regs) :
    toRing n s = R ∧ VInv n s := by
  obtain ⟨hc, hv⟩ := vcount_unique n s R.count hR.hcnt (hd ▸ hR.hhead) (by rw [he, hd, hR.htail]) hf
  exact ⟨by rw [toRing, hd, he, hc, hr], hv⟩

/-- the next state of `vrStep` with the pointer increments as `(p + 1) % n`; `nfe` is latched as it comes (`vrStep_eq`) -/
def vrCore (n : Nat) (s : VRing α) (m : α) (rst ex dx : Bool) (nfe : Nat) : VRing α :=
  let enq' := if ex then (s.enqPtr + 1) % n else s.enqPtr
  { enqPtr := if rst then 0 else enq'
    deqPtr := if rst then 0 else if dx then (s.deqPtr + 1) % n else s.deqPtr
    full   := if rst then false else if ex && !dx && decide (enq' = s.deqPtr) then true
              else if dx && s.full then false else s.full
    nfe    := nfe
    regs   := if ex then (fun a => if a = s.enqPtr then m else s.regs a) else s.regs }

theorem vrStep_eq (n : Nat) (s : VRing α) (i : In α) (hi : VInv n s) :
    vrStep n s i =
      (vrCore n s i.msg i.rst (i.enq && decide (vcount n s < n)) (i.deq && decide (vcount n s > 0)) (vrStep n s i).2.count,
       { enqRdy := decide (vcount n s < n), deqRdy := decide (vcount n s > 0),
         ret := if decide (vcount n s > 0) then some (s.regs s.deqPtr) else none,
         count := if i.rst then n else n - vcount n s }) := by
  obtain ⟨h1, h2, _⟩ := vr_rdy n s hi
  rw [← vnfe_eq n s i hi]
  simp only [vrStep, vrCore, vinc_eq n _ hi.he, vinc_eq n _ hi.hd, ← h1, ← h2, Bool.and_comm i.enq]

theorem succ_ptr_eq_iff {n d c : Nat} (hd : d < n) (hc : c < n) : ((d + c) % n + 1) % n = d ↔ c + 1 = n := by
  rw [mod_succ_add]
  constructor
  · intro h
    by_cases hlt : c + 1 < n
    · exact absurd (by rw [Nat.add_zero, h, Nat.mod_eq_of_lt hd]) (add_mod_ne (h := d) (Nat.succ_pos c) hlt)
    · omega
  · intro h; rw [h, Nat.add_mod_right, Nat.mod_eq_of_lt hd]

/-- the next `full` bit is `decide (next occupancy = n)`; the case with an idea is the enqueue alone, where the pointers meet
iff `c + 1 = n` (`succ_ptr_eq_iff`) -/
theorem vfull_next {n c e d : Nat} {f ex dx : Bool} (hc : c ≤ n) (hd : d < n) (he : e = (d + c) % n)
    (hf : f = decide (c = n)) (hex : ex = true → c < n) (hdx : dx = true → 0 < c) :
    (if ex && !dx && decide ((if ex then (e + 1) % n else e) = d) then true else if dx && f then false else f) =
      decide ((if ex && !dx then c + 1 else if !ex && dx then c - 1 else c) = n) := by
  cases ex
  · cases dx
    · exact hf
    · have hpos := hdx rfl
      exact (show (if f then false else f) = false by cases f <;> rfl).trans
        (decide_eq_false (show c - 1 ≠ n by omega)).symm
  · -- an enqueue finds the queue not full
    have hlt := hex rfl
    have hne := decide_eq_false (Nat.ne_of_lt hlt)
    rw [hf.trans hne, he]
    cases dx
    · exact (show ∀ b : Bool, (if b then true else false) = b by decide) _ |>.trans
        (decide_eq_decide.mpr (succ_ptr_eq_iff hd hlt))
    · exact hne.symm

theorem vrCore_ring (n : Nat) (s : VRing α) (m : α) (rst ex dx : Bool) (x : Nat) (hi : VInv n s)
    (hex : ex = true → vcount n s < n) (hdx : dx = true → 0 < vcount n s) :
    rabs n (toRing n (vrCore n s m rst ex dx x)) = specCore (rabs n (toRing n s)) m rst ex dx ∧
    VInv n (vrCore n s m rst ex dx x) := by
  have hr := toRing_inv n s hi
  have hR := ringIdeal_sim n (toRing n s) m rst ex dx hr ⟨fun h _ => hex h, fun h _ => hdx h⟩
  -- seen through `toRing`, the step is the ring buffer's
  have ht : toRing n (vrCore n s m rst ex dx x) = ringIdeal n (toRing n s) m rst ex dx ∧ VInv n (vrCore n s m rst ex dx x) := by
    cases rst
    · exact toRing_eq hR.2 rfl rfl (vfull_next hr.hcnt hi.hd hr.htail (vr_rdy n s hi).2.2 hex hdx) rfl
    · exact toRing_eq hR.2 rfl rfl (decide_eq_false (Nat.ne_of_lt hi.hn)).symm rfl
  exact ⟨ht.1 ▸ hR.1, ht.2⟩

theorem vr_step_ring (n : Nat) (s : VRing α) (i : In α) (hi : VInv n s) :
    rabs n (toRing n (vrStep n s i).1) = specCore (rabs n (toRing n s)) i.msg i.rst
      (i.enq && decide (vcount n s < n)) (i.deq && decide (vcount n s > 0)) ∧ VInv n (vrStep n s i).1 := by
  rw [vrStep_eq n s i hi]
  exact vrCore_ring n s i.msg i.rst _ _ _ hi (fun h => of_decide_eq_true (Bool.and_eq_true_iff.mp h).2)
    (fun h => of_decide_eq_true (Bool.and_eq_true_iff.mp h).2)

def vrSim (n : Nat) : Sim (α := α) (vrStep n) styleVN .normal n where
  abs := fun s => rabs n (toRing n s)
  Inv := VInv n
  out_eq := by
    intro s i hi
    rw [vrStep_eq n s i hi, specStep_snd]
    simp only [rabs_length, rabs_front n _ (toRing_inv n s hi), specEr, specDr, styleVN, enqLaw, deqLaw,
      Bool.false_and, Bool.not_false, Bool.true_and, if_true, if_false, Bool.false_eq_true]
    exact congrArg (Out.mk _ _ · _) (ret_of_pos true ..)
  next := by
    intro s i hi _
    rw [specStep_fst]
    simp only [specEr, specDr, styleVN, enqLaw, deqLaw, rabs_length, toRing, Bool.false_and, Bool.not_false,
      Bool.true_and]
    exact vr_step_ring n s i hi

theorem vring_init_inv (n : Nat) (hn : 0 < n) (d : α) : VInv n (VRing.init d) :=
  ⟨hn, hn, hn, by simp [VRing.init]⟩

theorem run_append {σ α : Type} (step : σ → In α → σ × Out α) (s : σ) (pre : List (In α)) (i : In α) :
    run step s (pre ++ [i]) = run step s pre ++ [(step (runState step s pre) i).2] := by
  induction pre generalizing s with
  | nil => rfl
  | cons j pre ih => simp only [List.cons_append, run, runState, ih]

theorem runState_inv {σ α : Type} {step : σ → In α → σ × Out α} {P : σ → Prop} (h : ∀ s i, P s → P (step s i).1)
    (is : List (In α)) (s : σ) (hs : P s) : P (runState step s is) := by
  induction is generalizing s with
  | nil => exact hs
  | cons i is ih => exact ih _ (h s i hs)

theorem length_run {σ α : Type} (step : σ → In α → σ × Out α) (s : σ) (is : List (In α)) :
    (run step s is).length = is.length := by
  induction is generalizing s with
  | nil => rfl
  | cons j is ih => simp only [run, List.length_cons, ih]

theorem spec_run_ledger (st : Style) (k : Kind) (n : Nat) (hn : 0 < n) (is : List (In α)) (l : List α)
    (L : Ledger α) (h : L.acc = L.del ++ l) (hl : l.length ≤ n) :
    (ledgerFrom st L is (run (specStep st k n) l is)).acc =
      (ledgerFrom st L is (run (specStep st k n) l is)).del ++ runState (specStep st k n) l is ∧
    (runState (specStep st k n) l is).length ≤ n := by
  induction is generalizing l L with
  | nil => exact ⟨h, hl⟩
  | cons i is ih =>
    obtain ⟨h1, h2⟩ := spec_step_ledger st k n hn l i L h hl
    simp only [run, runState, ledgerFrom]
    exact ih _ _ h1 h2

theorem spec_ledger (st : Style) (k : Kind) (n : Nat) (hn : 0 < n) (is : List (In α)) :
    (ledger st is (runSpec st k n is)).acc =
      (ledger st is (runSpec st k n is)).del ++ runState (specStep st k n) [] is ∧
    (runState (specStep st k n) [] is).length ≤ n :=
  spec_run_ledger st k n hn is [] ⟨[], []⟩ rfl (Nat.zero_le _)

structure Mach (α : Type) where
  σ : Type
  step : σ → In α → σ × Out α
  init : σ

/-- the dispatch of `runCls` (and of `QAdapter.composeCls`): the machine of class `c` built with parameter `n` -/
def Cls.mach (c : Cls) (n : Nat) (d : α) : Mach α :=
  match c with
  | .qNormal | .qPipe | .qBypass =>
    if n = 1 then ⟨_, q1Step c.kind, One.init d⟩ else ⟨_, ringStep true c.kind n, Ring.init d⟩
  | .sNormal | .sPipe | .sBypass =>
    if n = 1 then ⟨_, s1Step c.kind, One.init d⟩ else ⟨_, ringStep false c.kind n, Ring.init d⟩
  | .erNormal1 | .erPipe1 | .erBypass1 => ⟨_, er1Step c.kind, One.init d⟩
  | .erBypass2 => ⟨_, er2Step, (One.init d, One.init d)⟩
  | .vrNormal1 | .vrPipe1 | .vrBypass1 => ⟨_, v1Step c.kind, One.init d⟩
  | .vrNormalN => ⟨_, vrStep n, VRing.init d⟩
  | .clNormal | .clPipe | .clBypass => ⟨_, clStep c.kind n, []⟩

/-- `apply_ite` for a test between two machines; they are given by their parts so that unification finds them in a
goal whose other side has the projections already reduced -/
theorem apply_ite_mach {β σ τ : Type} (F : Mach α → β) (p : Prop) [Decidable p] (f : σ → In α → σ × Out α) (s : σ)
    (g : τ → In α → τ × Out α) (t : τ) :
    (if p then F ⟨σ, f, s⟩ else F ⟨τ, g, t⟩) = F (if p then ⟨σ, f, s⟩ else ⟨τ, g, t⟩) := (apply_ite F ..).symm

theorem runCls_eq (c : Cls) (n : Nat) (d : α) (is : List (In α)) :
    runCls c n d is = run (c.mach n d).step (c.mach n d).init is := by
  cases c
  case qNormal | qPipe | qBypass | sNormal | sPipe | sBypass => exact apply_ite_mach (fun m => run m.step m.init is) ..
  all_goals rfl

def Mach.Refines (m : Mach α) (st : Style) (k : Kind) (n : Nat) : Prop :=
  ∃ S : Sim m.step st k n, S.Inv m.init ∧ S.abs m.init = []

theorem Mach.Refines.of {σ : Type} {step : σ → In α → σ × Out α} {s : σ} {st : Style} {k : Kind} {n : Nat}
    (S : Sim step st k n) (hi : S.Inv s) (ha : S.abs s = []) : Mach.Refines ⟨σ, step, s⟩ st k n := ⟨S, hi, ha⟩

/-- every class but `enrdy_queues.BypassQueue2RTL`, built with a capacity it can be built with, refines the FIFO
specification of its kind, capacity and interface style -/
theorem Cls.mach_sim (c : Cls) (hc : c ≠ .erBypass2) (n : Nat) (hn : c.capOK n) (d : α) :
    (c.mach n d).Refines c.style c.kind (c.cap n) := by
  cases c
  case erBypass2 => exact absurd rfl hc
  case qNormal | qPipe | qBypass =>
    simp only [Cls.mach]
    split
    · next h1 => subst h1; exact .of (q1Sim _) trivial rfl
    · exact .of (ringSim styleQ _ n rfl rfl rfl) (ring_init_inv n hn d) rfl
  case sNormal | sPipe | sBypass =>
    simp only [Cls.mach]
    split
    · next h1 => subst h1; exact .of (s1Sim _) trivial rfl
    · exact .of (ringSim styleS _ n rfl rfl rfl) (ring_init_inv n hn d) rfl
  case erNormal1 | erPipe1 | erBypass1 => exact .of (er1Sim _) trivial rfl
  case vrNormal1 | vrPipe1 | vrBypass1 => exact .of (v1Sim _) trivial rfl
  case vrNormalN => exact .of (vrSim n) (vring_init_inv n (Nat.lt_of_lt_of_le Nat.zero_lt_two hn) d) rfl
  case clNormal | clPipe | clBypass => exact .of (clSim _ n hn) (Nat.zero_le _) rfl

theorem cap_pos (c : Cls) (n : Nat) (hn : c.capOK n) : 0 < c.cap n := by
  cases c <;> simp [Cls.cap, Cls.capOK] at * <;> omega

theorem length_runCls (c : Cls) (n : Nat) (d : α) (is : List (In α)) :
    (runCls c n d is).length = is.length := by
  rw [runCls_eq]; exact length_run ..

/-! ## `enrdy_queues.BypassQueue2RTL`: FIFO order (its enqueue-ready law does not hold, so it has no `Sim`) -/

def abs2 {α} (s : One α × One α) : List α := abs1 s.2 ++ abs1 s.1

theorem abs2_length_le (s : One α × One α) : (abs2 s).length ≤ 2 := by
  obtain ⟨⟨f1, e1⟩, ⟨f2, e2⟩⟩ := s
  cases f1 <;> cases f2 <;> exact Nat.le_of_ble_eq_true rfl

/-- the table behind `er2_step`, in the form of `eq_of_ite_eq`: under `Legal` the content moves by `specCore` on the two observed
handshakes, and a delivery hands over the oldest message (counting the one accepted in the same cycle) -/
theorem er2_core (s : One α × One α) (i : In α) :
    (if Legal styleEB (er2Step s i).2 i then abs2 (er2Step s i).1
      else specCore (abs2 s) i.msg i.rst (accepted i (er2Step s i).2) (delivered styleEB i (er2Step s i).2)) =
      specCore (abs2 s) i.msg i.rst (accepted i (er2Step s i).2) (delivered styleEB i (er2Step s i).2) ∧
    (if delivered styleEB i (er2Step s i).2 then (er2Step s i).2.ret
      else (if accepted i (er2Step s i).2 then abs2 s ++ [i.msg] else abs2 s).head?) =
      (if accepted i (er2Step s i).2 then abs2 s ++ [i.msg] else abs2 s).head? := by
  obtain ⟨⟨f1, e1⟩, ⟨f2, e2⟩⟩ := s
  obtain ⟨r, en, m, d⟩ := i
  constructor
  · cases f1 <;> cases f2 <;> cases r <;> cases en <;> cases d <;> rfl
  · cases f1 <;> cases f2 <;> cases en <;> cases d <;> rfl

theorem er2_step (s : One α × One α) (i : In α) (L : Ledger α) (h : L.acc = L.del ++ abs2 s)
    (hl : Legal styleEB (er2Step s i).2 i) :
    (L.step styleEB i (er2Step s i).2).acc = (L.step styleEB i (er2Step s i).2).del ++ abs2 (er2Step s i).1 := by
  obtain ⟨h1, h2⟩ := er2_core s i
  rw [eq_of_ite_eq h1 hl]
  exact Ledger.step_core styleEB L _ i _ h (eq_of_ite_eq h2)

theorem er2_run (is : List (In α)) (s : One α × One α) (L : Ledger α) (h : L.acc = L.del ++ abs2 s)
    (hl : LegalTrace styleEB is (run er2Step s is)) :
    (ledgerFrom styleEB L is (run er2Step s is)).acc =
      (ledgerFrom styleEB L is (run er2Step s is)).del ++ abs2 (runState er2Step s is) := by
  induction is generalizing s L with
  | nil => exact h
  | cons i is ih =>
    simp only [run, LegalTrace] at hl
    simp only [run, runState, ledgerFrom]
    exact ih _ _ (er2_step s i L h hl.1) hl.2

end PV.Queue
