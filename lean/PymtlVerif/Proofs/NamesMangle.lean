import PymtlVerif.Model.Names
import PymtlVerif.Proofs.Parse
import PymtlVerif.Proofs.ListFacts
/-!
# Lemmas about `__`-joined identifiers and struct type names (`Model/Names.lean`, C13)

Both are read back piece by piece (`Proofs/Parse.lean`): a path segment before the end or `__` and a character other than `_`
(`reads_seg`: a segment may END in `_`, the next one never STARTS with `_`), a struct field `name_type` before the end or `__` and
a non-digit (`reads_field`: type strings start with a digit and contain no `_`, names do not start with a digit). Struct names are
covered for fields that are vectors or lists of vectors; `structName_collision_witnesses` (Props/C13.lean) shows why.
-/
namespace PV.Names
open PV.Parse

/-- Prop form of `okNameL`: starts with a character that is neither `_` nor a digit, contains no `__` -/
def IsOkName (a : List Char) : Prop := (∃ c r, a = c :: r ∧ c ≠ '_' ∧ c.isDigit = false) ∧ NoDunder a

theorem hasDunderL_iff (a : List Char) : hasDunderL a = true ↔ ∃ p q, a = p ++ '_' :: '_' :: q := by
  induction a with
  | nil => simp [hasDunderL]
  | cons c r ih =>
    simp only [hasDunderL, Bool.or_eq_true, Bool.and_eq_true, beq_iff_eq, ih]
    constructor
    · rintro (⟨rfl, hr⟩ | ⟨p, q, rfl⟩)
      · exact ⟨[], r.tail, by cases r <;> simp_all⟩
      · exact ⟨c :: p, q, rfl⟩
    · rintro ⟨_ | ⟨x, p⟩, q, h⟩
      · exact Or.inl (by simp_all)
      · exact Or.inr ⟨p, q, (List.cons.inj h).2⟩

theorem hasDunderL_false_iff (a : List Char) : hasDunderL a = false ↔ NoDunder a := by
  simp only [← Bool.not_eq_true, hasDunderL_iff, not_exists, NoDunder, ne_eq]

theorem okNameL_iff (a : List Char) : okNameL a = true ↔ IsOkName a := by
  cases a with
  | nil => simp [okNameL, IsOkName]
  | cons c r =>
    simp only [okNameL, IsOkName, Bool.and_eq_true, bne_iff_ne, ne_eq, Bool.not_eq_true', hasDunderL_false_iff, List.cons.injEq]
    exact ⟨fun ⟨⟨h1, h2⟩, h3⟩ => ⟨⟨c, r, ⟨rfl, rfl⟩, h1, h2⟩, h3⟩,
      fun ⟨⟨_, _, ⟨rfl, rfl⟩, h1, h2⟩, h3⟩ => ⟨⟨h1, h2⟩, h3⟩⟩

attribute [local simp] toString_toList

theorem seg_shape (s : Seg) (h : s.ok = true) :
    (∃ c r, s.str.toList = c :: r ∧ c ≠ '_') ∧ NoDunder s.str.toList := by
  cases s with
  | name n =>
    obtain ⟨⟨c, r, e, hc, _⟩, hn⟩ := (okNameL_iff _).mp h
    exact ⟨⟨c, r, e, hc⟩, hn⟩
  | idx i =>
    rw [Seg.str, toString_toList]
    refine ⟨?_, noDunder_of_not_mem _ (toDigits_no_underscore i)⟩
    obtain ⟨c, r, e, hc⟩ := toDigits_head i
    refine ⟨c, r, e, ?_⟩
    rintro rfl
    revert hc; decide

theorem seg_str_inj (s t : Seg) (hs : s.ok = true) (ht : t.ok = true) (e : s.str.toList = t.str.toList) : s = t := by
  have clash : ∀ (n : String) (i : Nat), okName n = true → n.toList = (toString i).toList → False := by
    intro n i hn e
    obtain ⟨⟨c, r, e1, _, hc⟩, _⟩ := (okNameL_iff _).mp hn
    have := toDigits_isDigit i c (by rw [← toString_toList, ← e, e1]; simp)
    rw [hc] at this
    exact Bool.noConfusion this
  cases s with
  | name n =>
    cases t with
    | name n' => simp only [Seg.str] at e; rw [String.toList_inj.mp e]
    | idx i => exact (clash n i hs e).elim
  | idx i =>
    cases t with
    | name n' => exact (clash n' i ht e.symm).elim
    | idx i' => rw [toDigits_inj ((toString_toList i).symm.trans (e.trans (toString_toList i')))]

theorem flatId_toList (p : List Seg) :
    (flatId p).toList = ['_', '_'].intercalate (p.map fun s => s.str.toList) := by
  simp [flatId, List.map_map, Function.comp_def]

theorem flatId_names (l : List String) : flatId (l.map Seg.name) = "__".intercalate l := by
  simp [flatId, List.map_map, Function.comp_def, Seg.str]

theorem reads_seg : Reads (·.ok = true) (fun s : Seg => s.str.toList) SegTail :=
  .of_clash seg_clash (fun s hs => (seg_shape s hs).2) seg_str_inj

/-- `"__".join` is injective on paths of well-formed segments: each segment is read back before the end or `__` and a
character other than `_` (`reads_seg`), and the next segment starts with such a character (`seg_shape`). -/
theorem flatId_injOn (p q : List Seg) (hp : ∀ s ∈ p, s.ok = true) (hq : ∀ s ∈ q, s.ok = true)
    (h : flatId p = flatId q) : p = q := by
  have h := congrArg String.toList h
  rw [flatId_toList, flatId_toList] at h
  refine reads_seg.intercalate ['_', '_'] (fun s hs => ?_) (.inl rfl) (fun s T hs => ?_) p q hp hq h
  · obtain ⟨⟨c, r, e, _⟩, _⟩ := seg_shape s hs
    exact e ▸ List.cons_ne_nil _ _
  · obtain ⟨⟨c, r, e, hc⟩, _⟩ := seg_shape s hs
    refine .inr ⟨_, rfl, ?_⟩
    rw [e]
    simpa using hc

theorem nodup_map_flatId (ps : List (List Seg)) (hok : ∀ p ∈ ps, ∀ s ∈ p, s.ok = true) (hd : ps.Nodup) :
    (ps.map flatId).Nodup :=
  nodup_map_of_inj_on hd fun p hp q hq e => flatId_injOn p q (hok p hp) (hok q hq) e

/-- a type string: starts with a digit, contains no `_` -/
def IsTypeStr (y : List Char) : Prop := (∃ c r, y = c :: r ∧ c.isDigit = true) ∧ '_' ∉ y

/-- what may follow a field token: nothing, or the separator followed by a name (which does not start with a digit) -/
def FieldTail (R : List Char) : Prop := R = [] ∨ ∃ c r, R = '_' :: '_' :: c :: r ∧ c.isDigit = false

/-- what follows a field name: `_`, the type string, the tail of the token -/
def AfterName (X : List Char) : Prop := ∃ y R, X = '_' :: (y ++ R) ∧ IsTypeStr y ∧ FieldTail R

/-- A field name may contain single `_`, digits, and may end in `_`; only `__` tells it from what follows. If `d ≠ []` then
`d ++ T = _ y R` and `T = _ y' R'`; `y` has no `_`, so `_ y'` lies in `R` after a piece `e` of `d`; `R` starts with `__` and a
non-digit, `y'` with a digit, so the `__` lies in `e` and `a ++ d` contains it. -/
theorem name_clash (a d T : List Char) (_ : NoDunder a) (ha' : NoDunder (a ++ d)) (ht : AfterName (d ++ T))
    (hT : AfterName T) : d = [] := by
  obtain ⟨y, R, h2, hy, hR⟩ := ht
  obtain ⟨y', R', rfl, ⟨⟨cy', ry', ey', hdy'⟩, _⟩, _⟩ := hT
  cases d with
  | nil => rfl
  | cons c d' =>
    exfalso
    obtain ⟨rfl, h5⟩ := List.cons.inj h2
    -- `R` cannot be `e`, `_` and a type string: the type string starts with a digit, and `R` with `__` and a non-digit
    have key : ∀ e, d' = y ++ e → R = e ++ '_' :: (y' ++ R') → False := by
      intro e h3 h4
      rw [ey'] at h4
      rcases hR with rfl | ⟨x, r, rfl, hx⟩
      · cases e <;> cases h4
      · cases e with
        | nil =>
          obtain rfl := (List.cons.inj (List.cons.inj h4).2).1
          exact absurd hdy' (by decide)
        | cons e1 e =>
          cases e with
          | nil =>
            obtain rfl := (List.cons.inj (List.cons.inj (List.cons.inj h4).2).2).1
            exact absurd hdy' (by rw [hx]; decide)
          | cons e2 e =>
            refine ha' (a ++ '_' :: y) e ?_
            rw [h3, ← (List.cons.inj h4).1, ← (List.cons.inj (List.cons.inj h4).2).1]
            simp
    rcases List.append_eq_append_iff.mp h5.symm with ⟨e, h3, h4⟩ | ⟨e, h3, h4⟩
    · exact key e h3 h4
    · cases e with
      | nil => exact key [] (by rw [h3]; simp) h4.symm
      | cons e1 e => exact hy.2 (by rw [h3, ← (List.cons.inj h4).1]; simp)

/-- `'x'.join(str(d))` -/
def dimsL (ds : List Nat) : List Char := ['x'].intercalate (ds.map (Nat.toDigits 10))

theorem dimsL_eq (dims : List Nat) : ("x".intercalate (dims.map toString)).toList = dimsL dims := by
  simp [dimsL, List.map_map, Function.comp_def]

theorem x_not_digit : ¬ 'x'.isDigit = true := by decide

theorem dimsL_inj (ds ds' : List Nat) (h : dimsL ds = dimsL ds') : ds = ds' :=
  reads_digits.intercalate ['x'] (fun _ _ => Nat.toDigits_ne_nil)
    (stops_nil _) (fun _ _ _ => stops_cons IsDigit x_not_digit _)
    ds ds' (fun _ _ => trivial) (fun _ _ => trivial) h

theorem dimsL_no_underscore (ds : List Nat) : '_' ∉ dimsL ds := by
  cases ds with
  | nil => simp [dimsL]
  | cons d r =>
    rw [dimsL, List.map_cons, intercalate_cons, List.mem_append, List.mem_flatMap, not_or]
    refine ⟨toDigits_no_underscore d, ?_⟩
    rintro ⟨_, hm, hc⟩
    obtain ⟨e, _, rfl⟩ := List.mem_map.mp hm
    rcases List.mem_append.mp hc with hc | hc
    · revert hc; decide
    · exact toDigits_no_underscore e hc

/-- `get_full_name` of a vector or a list of vectors, as a character list -/
def tyL : DT → List Char
  | .vec n => Nat.toDigits 10 n
  | .arr dims (.vec n) => Nat.toDigits 10 n ++ 'x' :: dimsL dims
  | _ => []

theorem flatLeaf_cases (t : DT) (h : t.flatLeaf = true) : (∃ n, t = .vec n) ∨ ∃ ds n, t = .arr ds (.vec n) := by
  cases t with
  | vec n => exact Or.inl ⟨n, rfl⟩
  | struct c fs => simp [DT.flatLeaf] at h
  | arr ds sub =>
    cases sub with
    | vec n => exact Or.inr ⟨ds, n, rfl⟩
    | struct c fs => simp [DT.flatLeaf] at h
    | arr d s => simp [DT.flatLeaf] at h

theorem fullName_flatLeaf (t : DT) (h : t.flatLeaf = true) : t.fullName.toList = tyL t := by
  rcases flatLeaf_cases t h with ⟨n, rfl⟩ | ⟨ds, n, rfl⟩
  · simp [DT.fullName, tyL]
  · simp only [DT.fullName, String.toList_append, dimsL_eq, tyL]
    simp

theorem tyL_isTypeStr (t : DT) (h : t.flatLeaf = true) : IsTypeStr (tyL t) := by
  rcases flatLeaf_cases t h with ⟨n, rfl⟩ | ⟨dims, n, rfl⟩
  · exact ⟨toDigits_head n, toDigits_no_underscore n⟩
  · obtain ⟨c, r, e, hc⟩ := toDigits_head n
    refine ⟨⟨c, r ++ 'x' :: dimsL dims, by simp only [tyL, e, List.cons_append], hc⟩, ?_⟩
    simp only [tyL, List.mem_append, List.mem_cons, not_or]
    exact ⟨toDigits_no_underscore n, by decide, dimsL_no_underscore dims⟩

theorem tyL_inj (t t' : DT) (h : t.flatLeaf = true) (h' : t'.flatLeaf = true) (e : tyL t = tyL t') : t = t' := by
  -- a vector's string is all digits, a list's contains `x`
  have vec_arr : ∀ (n m : Nat) (ds : List Nat), Nat.toDigits 10 n ≠ Nat.toDigits 10 m ++ 'x' :: dimsL ds :=
    fun n m ds e => x_not_digit (toDigits_isDigit n 'x' (by rw [e]; simp))
  rcases flatLeaf_cases t h with ⟨n, rfl⟩ | ⟨ds, n, rfl⟩ <;> rcases flatLeaf_cases t' h' with ⟨m, rfl⟩ | ⟨ds', m, rfl⟩
  · rw [toDigits_inj e]
  · exact absurd e (vec_arr n m ds')
  · exact absurd e.symm (vec_arr m n ds)
  · obtain ⟨rfl, e2⟩ :=
      reads_digits trivial trivial (stops_cons IsDigit x_not_digit _) (stops_cons IsDigit x_not_digit _) e
    rw [dimsL_inj ds ds' (List.cons.inj e2).2]

def tokL (f : String × DT) : List Char := f.1.toList ++ '_' :: tyL f.2

/-- `Struct.get_field_str` of a list of vector / list-of-vector fields, as a character list -/
def fieldStrL (fs : List (String × DT)) : List Char := ['_', '_'].intercalate (fs.map tokL)

def flatFields (fs : List (String × DT)) : Prop := ∀ f ∈ fs, okName f.1 = true ∧ f.2.flatLeaf = true

theorem flatStruct_iff (fs : List (String × DT)) : flatStruct fs = true ↔ fs ≠ [] ∧ flatFields fs := by
  simp only [flatStruct, Bool.and_eq_true, Bool.not_eq_true', List.isEmpty_eq_false_iff, List.all_eq_true, flatFields]

theorem fieldStr_toList (fs : List (String × DT)) (h : flatFields fs) : (fieldStr fs).toList = fieldStrL fs := by
  induction fs with
  | nil => simp [fieldStr, fieldStrL]
  | cons f fs ih =>
    obtain ⟨n, t⟩ := f
    have ht := (h (n, t) (by simp)).2
    cases fs with
    | nil => simp [fieldStr, fieldStrL, tokL, fullName_flatLeaf t ht]
    | cons g gs =>
      simp only [fieldStr, String.toList_append, fullName_flatLeaf t ht]
      rw [ih (List.forall_mem_cons.mp h).2]
      simp [fieldStrL, tokL]

/-- a field token `name_type` is read back before the end or the separator and the next name: first the name
(`name_clash`), then the type string, which contains no `_` while a tail is empty or starts with one -/
theorem reads_field : Reads (fun f : String × DT => okName f.1 = true ∧ f.2.flatLeaf = true) tokL FieldTail := by
  intro f g R R' hf hg hR hR' e
  have hy := tyL_isTypeStr f.2 hf.2
  have hy' := tyL_isTypeStr g.2 hg.2
  obtain ⟨e1, h3⟩ := append_unique name_clash ((okNameL_iff _).mp hf.1).2 ((okNameL_iff _).mp hg.1).2
    ⟨_, R, rfl, hy, hR⟩ ⟨_, R', rfl, hy', hR'⟩ (by simpa only [tokL, List.append_assoc, List.cons_append] using e)
  have tl : ∀ R, FieldTail R → Stops (· ≠ '_') R := by
    rintro R (rfl | ⟨c, r, rfl, _⟩) <;> simp [Stops]
  obtain ⟨e2, e3⟩ := append_unique_of_all (· ≠ '_') (fun c hc e => hy.2 (e ▸ hc)) (fun c hc e => hy'.2 (e ▸ hc))
    (tl R hR) (tl R' hR') (List.cons.inj h3).2
  exact ⟨Prod.ext (String.toList_inj.mp e1) (tyL_inj _ _ hf.2 hg.2 e2), e3⟩

theorem fieldStrL_inj (fs fs' : List (String × DT)) (h : flatFields fs) (h' : flatFields fs')
    (e : fieldStrL fs = fieldStrL fs') : fs = fs' := by
  refine reads_field.intercalate ['_', '_'] (fun f _ => by simp [tokL]) (.inl rfl) (fun f T hf => ?_) fs fs' h h' e
  obtain ⟨⟨c, r, e, _, hc⟩, _⟩ := (okNameL_iff _).mp hf.1
  exact .inr ⟨c, r ++ '_' :: tyL f.2 ++ T, by rw [tokL, e]; rfl, hc⟩

theorem fieldStr_inj (fs fs' : List (String × DT)) (h : flatFields fs) (h' : flatFields fs')
    (e : fieldStr fs = fieldStr fs') : fs = fs' :=
  fieldStrL_inj fs fs' h h' (by rw [← fieldStr_toList fs h, ← fieldStr_toList fs' h', e])

/-- the field string of a flat struct starts with a field name, so not with `_`, and has the `_` between that name and its type -/
theorem fieldStr_shape (fs : List (String × DT)) (h : flatStruct fs = true) :
    (fieldStr fs).toList.head? ≠ some '_' ∧ '_' ∈ (fieldStr fs).toList := by
  obtain ⟨hne, hf⟩ := (flatStruct_iff fs).mp h
  rw [fieldStr_toList fs hf]
  cases fs with
  | nil => exact absurd rfl hne
  | cons f fs =>
    obtain ⟨⟨c, r, e, hc, _⟩, _⟩ := (okNameL_iff _).mp (hf f (.head _)).1
    rw [fieldStrL, List.map_cons, intercalate_cons, tokL, e]
    simpa using hc

/-- the class name in front of a struct name is a segment, read before `__X` -/
theorem cls_cancel (c c' X X' : String) (hc : okName c = true) (hc' : okName c' = true)
    (hX : X.toList.head? ≠ some '_') (hX' : X'.toList.head? ≠ some '_')
    (h : c ++ "__" ++ X = c' ++ "__" ++ X') : c = c' ∧ X = X' := by
  have h := congrArg String.toList h
  simp only [String.toList_append, List.append_assoc] at h
  obtain ⟨e1, e2⟩ := reads_seg (x := .name c) (y := .name c') hc hc' (.inr ⟨_, rfl, hX⟩) (.inr ⟨_, rfl, hX'⟩) h
  exact ⟨Seg.name.inj e1, String.toList_inj.mp (List.cons.inj (List.cons.inj e2).2).2⟩

end PV.Names
