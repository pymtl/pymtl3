import PymtlVerif.Model.Hier
/-!
# The executable elaboration only produces objects of the hierarchy

`elabAll` (what the driver of the correspondence check runs) builds the static objects generation by
generation and then evaluates access expressions, creating field and slice signals on the way; everything
it returns is `Reach`able, and evaluating more accesses only adds objects.
-/
namespace PV.Hier

variable {root : Desc}

theorem expand_sound (n : Nat) (fr items : List Item) (hfr : ∀ x ∈ fr, Reach root x)
    (h : expand n fr = some items) : ∀ x ∈ items, Reach root x := by
  induction n generalizing fr items with
  | zero =>
    rw [expand] at h
    split at h <;> cases h
    exact fun _ hx => nomatch hx
  | succ n ih =>
    rw [expand] at h
    split at h
    · cases h; exact fun _ hx => nomatch hx
    · obtain ⟨rest, he, rfl⟩ := Option.map_eq_some_iff.1 h
      intro x hx
      rcases List.mem_append.1 hx with hx | hx
      · exact hfr x hx
      · refine ih _ _ (fun y hy => ?_) he x hx
        obtain ⟨p, hp, hy⟩ := List.mem_flatMap.1 hy
        exact .slot (hfr p hp) hy

theorem staticItems_sound {items : List Item} (h : staticItems root = some items) :
    ∀ x ∈ items, Reach root x :=
  expand_sound _ _ _ (fun _ hx => by cases List.mem_singleton.1 hx; exact .root) h

theorem sliceVia_sound {known : List Item} (hk : ∀ x ∈ known, Reach root x)
    {x y : Item} (hx : Reach root x) {lo hi : Nat} (h : sliceVia known x lo hi = some y) : Reach root y := by
  rw [sliceVia] at h
  split at h
  · exact .slice hx h
  · split at h
    · split at h
      · rename_i px hpx
        obtain ⟨pp, -, hpx⟩ := Option.bind_eq_some_iff.1 hpx
        exact .slice (hk px (List.mem_of_find?_eq_some hpx)) h
      · cases h
    · cases h

theorem lazyItems_sound {known : List Item} (hk : ∀ x ∈ known, Reach root x)
    (pos : Pos) (t : Tok) : ∀ y ∈ lazyItems known pos t, Reach root y := by
  intro y hy
  rw [lazyItems] at hy
  split at hy
  · cases hy
  · rename_i x hx
    have hxr := hk x (List.mem_of_find?_eq_some hx)
    cases t with
    | root => cases hy
    | attr a => exact .field hxr hy
    | idx i => exact sliceVia_sound hk hxr (Option.mem_toList.1 hy)
    | slice lo hi => exact sliceVia_sound hk hxr (Option.mem_toList.1 hy)

theorem access_spec (e : List Tok) (known known' : List Item) (st : State) (hk : ∀ x ∈ known, Reach root x)
    (h : access known st e = some known') : (∀ x ∈ known, x ∈ known') ∧ ∀ x ∈ known', Reach root x := by
  induction e generalizing known st with
  | nil => cases h; exact ⟨fun _ hx => hx, hk⟩
  | cons t ts ih =>
    rw [access] at h
    split at h
    · obtain ⟨h1, h2⟩ := ih _ _ (fun x hx => (List.mem_append.1 hx).elim (hk x) (lazyItems_sound hk _ _ x)) h
      exact ⟨fun x hx => h1 x (List.mem_append_left _ hx), h2⟩
    · cases h

theorem accessAll_spec (es : List (List Tok)) (known known' : List Item) (hk : ∀ x ∈ known, Reach root x)
    (h : accessAll root known es = some known') : (∀ x ∈ known, x ∈ known') ∧ ∀ x ∈ known', Reach root x := by
  induction es generalizing known with
  | nil => cases h; exact ⟨fun _ hx => hx, hk⟩
  | cons e es ih =>
    rw [accessAll] at h
    split at h
    · rename_i k2 hk2
      obtain ⟨h1, h2⟩ := access_spec e _ _ _ hk hk2
      obtain ⟨h3, h4⟩ := ih _ h2 h
      exact ⟨fun x hx => h3 x (h1 x hx), h4⟩
    · cases h

/-- what an `.ok` run returns: the static objects, all of them, and objects of the hierarchy only -/
theorem elabAll_spec {accs : List (List Tok)} {items : List Item} (h : elabAll root accs = .ok items) :
    ∃ st, staticItems root = some st ∧ (∀ x ∈ st, x ∈ items) ∧ ∀ x ∈ items, Reach root x := by
  rw [elabAll] at h
  split at h
  · cases h
  · rename_i st hst
    split at h
    · cases h
    · split at h <;> cases h
      rename_i hall
      exact ⟨st, hst, accessAll_spec _ _ _ (staticItems_sound hst) hall⟩

end PV.Hier
