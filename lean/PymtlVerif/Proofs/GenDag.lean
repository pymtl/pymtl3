import PymtlVerif.Model.GenDag
import PymtlVerif.Proofs.Nets
/-!
# Lemmas about `Model/GenDag.lean` (C02, value constraints)

1. the parent-chain walk (`chain`/`ancestors`) enumerates exactly the object itself and the objects
   above it;
2. reader-side walk ∪ writer-side walk = the symmetric relation `related` of `Model/Nets.lean`;
3. membership in the lists the pass builds (`expand`, `readerSide`, `writerSide`, …); `Props/C02d.lean` puts them together.
-/
namespace PV.GenDag
open PV.Nets

theorem parent_concat (s : Nat) (k : Kind) (h : Nat) (fs : List Nat) (a : Nat) :
    parent ⟨s, k, h, fs ++ [a], none⟩ = some ⟨s, k, h, fs, none⟩ := by
  simp [parent]

theorem obj_eq_iff (x : Obj) (s : Nat) (k : Kind) (h : Nat) (fs : List Nat) :
    x = ⟨s, k, h, fs, none⟩ ↔ x.sid = s ∧ x.kind = k ∧ x.host = h ∧ x.slice = none ∧ x.fields = fs := by
  obtain ⟨_, _, _, _, _⟩ := x
  simp only [Obj.mk.injEq, and_comm]

theorem mem_chain_unsliced (s : Nat) (k : Kind) (h : Nat) (hk : isSig ⟨s, k, h, [], none⟩ = true) (x : Obj) :
    ∀ (f : Nat) (fs : List Nat), fs.length < f →
      (x ∈ chain f ⟨s, k, h, fs, none⟩ ↔ x.sid = s ∧ x.kind = k ∧ x.host = h ∧ x.slice = none ∧ x.fields <+: fs) := by
  intro f
  induction f with
  | zero => exact fun fs hf => absurd hf (Nat.not_lt_zero _)
  | succ f ih =>
    intro fs hf
    rw [chain, if_pos (show isSig ⟨s, k, h, fs, none⟩ = true from hk)]
    rcases List.eq_nil_or_concat fs with rfl | ⟨fs, a, rfl⟩
    · simp only [parent, List.isEmpty_nil, if_true, List.mem_singleton, List.prefix_nil, obj_eq_iff]
    · rw [List.concat_eq_append] at hf ⊢
      rw [List.length_append] at hf
      rw [parent_concat, List.mem_cons, ih fs (Nat.lt_of_succ_lt_succ hf), obj_eq_iff]
      simp only [List.prefix_concat_iff, ← and_or_left]

theorem mem_ancestors (o x : Obj) :
    x ∈ ancestors o ↔ isSig o = true ∧
      (x = o ∨ (x.sid = o.sid ∧ x.kind = o.kind ∧ x.host = o.host ∧ x.slice = none ∧ x.fields <+: o.fields)) := by
  -- the fuel `fields.length + 2` of `ancestors`: one step for a slice, then one per prefix of the field path
  obtain ⟨s, k, h, fs, sl⟩ := o
  by_cases hk : isSig ⟨s, k, h, fs, sl⟩ = true
  · rw [and_iff_right hk]
    cases sl with
    | some a =>
      rw [ancestors, chain, if_pos hk, List.mem_cons]
      exact or_congr_right (mem_chain_unsliced s k h hk x _ fs (Nat.lt_succ_self _))
    | none =>
      rw [ancestors, mem_chain_unsliced s k h hk x _ fs (Nat.lt_add_of_pos_right (by omega))]
      exact ⟨Or.inr, fun h => h.elim (fun e => e ▸ ⟨rfl, rfl, rfl, rfl, List.prefix_refl _⟩) id⟩
  · rw [ancestors, chain, if_neg hk]
    simp only [List.not_mem_nil, hk, Bool.false_eq_true, false_and]

/-- what the reader-side walk from `r` and the writer-side walk from `w` find between them -/
def Found (w r : Obj) : Prop :=
  w ∈ ancestors r ∨ (isSig r = true ∧ sibling r w = true ∧ sliceOverlap w r = true) ∨ r ∈ ancestors w

/-- `PV.Nets.SliceOk` asked of signals only, as `Input.wf` checks it -/
def SliceOk' (o : Obj) : Prop := isSig o = true → ∀ s, o.slice = some s → s.1 < s.2

/-- what `found_iff_related` needs of every pair of objects of the input (`Input.wf` checks it, `C02d.wf_checked`) -/
structure Input.WF (I : Input) : Prop where
  /-- kind and host are attributes of the top-level signal -/
  coh : ∀ a ∈ I.objs, ∀ b ∈ I.objs, a.sid = b.sid → a.kind = b.kind ∧ a.host = b.host
  /-- slices of signals are non-empty ranges -/
  slices : ∀ o ∈ I.objs, SliceOk' o

theorem related_iff_or (a b : Obj) : related a b = true ↔ isSig a = true ∧ isSig b = true ∧ a.sid = b.sid ∧
    ((a.slice = none ∧ a.fields <+: b.fields) ∨ (b.slice = none ∧ b.fields <+: a.fields) ∨
      (a.fields = b.fields ∧ sliceOverlap a b = true)) := by
  rw [related_iff, isSig, isSig, bne_iff_ne, bne_iff_ne, sliceOverlap]
  refine and_congr_right fun _ => and_congr_right fun _ => and_congr_right fun _ => ?_
  cases a.slice <;> cases b.slice <;>
    simp only [true_and, reduceCtorEq, false_and, and_false, Bool.false_eq_true, or_false, false_or]

theorem parent_eq_iff {w r : Obj} {x y : Nat × Nat} (hw : w.slice = some x) (hr : r.slice = some y) :
    parent w = parent r ↔ w.sid = r.sid ∧ w.kind = r.kind ∧ w.host = r.host ∧ w.fields = r.fields := by
  obtain ⟨_, _, _, _, _⟩ := w
  obtain ⟨_, _, _, _, _⟩ := r
  cases hw; cases hr
  simp only [parent, Option.some.injEq, Obj.mk.injEq, and_true]

theorem sibling_overlap_iff (r w : Obj) : (sibling r w = true ∧ sliceOverlap w r = true) ↔
    w ≠ r ∧ w.sid = r.sid ∧ w.kind = r.kind ∧ w.host = r.host ∧ w.fields = r.fields ∧ sliceOverlap w r = true := by
  unfold sibling sliceOverlap
  split
  · next x y hw hr =>
    simp only [hw, hr, Option.isSome_some, Bool.true_and, Bool.and_eq_true, bne_iff_ne, ne_eq, beq_iff_eq, parent_eq_iff hw hr,
      and_assoc]
  · simp only [Bool.false_eq_true, and_false]

theorem found_iff_related (w r : Obj)
    (hc : w.sid = r.sid → w.kind = r.kind ∧ w.host = r.host) (hw : SliceOk' w) (hr : SliceOk' r) :
    Found w r ↔ related w r = true := by
  have hsig : ∀ {a b : Obj}, a.kind = b.kind → isSig b = true → isSig a = true := fun e h => by rw [isSig, e]; exact h
  rw [Found, mem_ancestors, mem_ancestors, sibling_overlap_iff]
  constructor
  · rintro (⟨hk, rfl | ⟨hs, hk', -, hsl, hp⟩⟩ | ⟨hk, -, hs, hk', -, hf, ho⟩ | ⟨hk, rfl | ⟨hs, hk', -, hsl, hp⟩⟩)
    · exact related_self _ (bne_iff_ne.mp hk) (hw hk)
    · exact (related_iff_or w r).mpr ⟨hsig hk' hk, hk, hs, Or.inl ⟨hsl, hp⟩⟩
    · exact (related_iff_or w r).mpr ⟨hsig hk' hk, hk, hs, Or.inr (Or.inr ⟨hf, ho⟩)⟩
    · exact related_self _ (bne_iff_ne.mp hk) (hr hk)
    · exact (related_iff_or w r).mpr ⟨hk, hsig hk' hk, hs.symm, Or.inr (Or.inl ⟨hsl, hp⟩)⟩
  · intro h
    obtain ⟨hkw, hkr, hs, h⟩ := (related_iff_or w r).mp h
    obtain ⟨hk', hh⟩ := hc hs
    rcases h with ⟨hsl, hp⟩ | ⟨hsl, hp⟩ | ⟨hf, ho⟩
    · exact Or.inl ⟨hkr, Or.inr ⟨hs, hk', hh, hsl, hp⟩⟩
    · exact Or.inr (Or.inr ⟨hkw, Or.inr ⟨hs.symm, hk'.symm, hh.symm, hsl, hp⟩⟩)
    · -- overlapping slices of one object: the same slice is found on the chain, another one among the siblings
      by_cases e : w = r
      · exact Or.inl ⟨hkr, Or.inl e⟩
      · exact Or.inr (Or.inl ⟨hkr, e, hs, hk', hh, hf, ho⟩)

theorem mem_readBlks (I : Input) (o : Obj) (b : Blk) : b ∈ readBlks I o ↔ b ∈ I.blks ∧ o ∈ b.reads :=
  List.mem_filter.trans (and_congr_right fun _ => decide_eq_true_iff)

theorem mem_writeBlks (I : Input) (o : Obj) (b : Blk) : b ∈ writeBlks I o ↔ b ∈ I.blks ∧ o ∈ b.writes :=
  List.mem_filter.trans (and_congr_right fun _ => decide_eq_true_iff)

theorem mem_readObjs (I : Input) (o : Obj) : o ∈ readObjs I ↔ ∃ b ∈ I.blks, o ∈ b.reads := List.mem_flatMap

theorem mem_writtenObjs (I : Input) (o : Obj) : o ∈ writtenObjs I ↔ ∃ b ∈ I.blks, o ∈ b.writes := List.mem_flatMap

/-- the pair an entry `RD/WR(x) < U` (`lt`) or `RD/WR(x) > U` yields for a block `b` that reads/writes `x` -/
def VC.pair (c : VC) (b : Nat) : Nat × Nat := if c.lt then (b, c.blk) else (c.blk, b)

theorem mem_expand (blksOf : Obj → List Blk) (cs : List VC) (t : Tagged) :
    t ∈ expand blksOf cs ↔ ∃ c ∈ cs, ∃ b ∈ blksOf c.obj, c.blk ≠ b.id ∧ t = (c.pair b.id, c.obj) := by
  unfold expand
  simp only [List.mem_flatMap, List.mem_map, List.mem_filter, bne_iff_ne, ne_eq]
  constructor
  · rintro ⟨c, hc, b, ⟨hb, hne⟩, rfl⟩; exact ⟨c, hc, b, hb, hne, rfl⟩
  · rintro ⟨c, hc, b, hb, hne, rfl⟩; exact ⟨c, hc, b, ⟨hb, hne⟩, rfl⟩

theorem mem_expand_pairs (blksOf : Obj → List Blk) (cs : List VC) (p : Nat × Nat) :
    p ∈ (expand blksOf cs).map (·.1) ↔ ∃ c ∈ cs, ∃ b ∈ blksOf c.obj, c.blk ≠ b.id ∧ p = c.pair b.id := by
  simp only [List.mem_map, mem_expand]
  constructor
  · rintro ⟨_, ⟨c, hc, b, hb, hne, rfl⟩, rfl⟩; exact ⟨c, hc, b, hb, hne, rfl⟩
  · rintro ⟨c, hc, b, hb, hne, rfl⟩; exact ⟨_, ⟨c, hc, b, hb, hne, rfl⟩, rfl⟩

theorem mem_foundWriters (I : Input) (r w : Obj) :
    w ∈ foundWriters I r ↔ w ∈ writtenObjs I ∧
      (w ∈ ancestors r ∨ (isSig r = true ∧ sibling r w = true ∧ sliceOverlap w r = true)) := by
  simp only [foundWriters, sibWriters, List.mem_append, List.mem_filter, List.mem_ite_nil_right, decide_eq_true_eq,
    Bool.and_eq_true, and_or_left, and_left_comm, and_comm (a := w ∈ ancestors r)]

theorem mem_foundReaders (I : Input) (w r : Obj) :
    r ∈ foundReaders I w ↔ r ∈ readObjs I ∧ r ∈ ancestors w := by
  simp only [foundReaders, List.mem_filter, decide_eq_true_eq, and_comm]

/-- a non-ff block with id `A` writes some `w`, another block with id `B` reads some `r`, and `P w r` -/
def Pairing (I : Input) (A B : Nat) (P : Obj → Obj → Prop) : Prop :=
  ∃ a ∈ I.blks, ∃ b ∈ I.blks, a.id = A ∧ b.id = B ∧ A ≠ B ∧ a.ff = false ∧
    ∃ w ∈ a.writes, ∃ r ∈ b.reads, P w r

theorem Pairing.imp {I : Input} {A B : Nat} {P Q : Obj → Obj → Prop} (h : ∀ w r, P w r → Q w r) :
    Pairing I A B P → Pairing I A B Q :=
  Exists.imp fun _ => And.imp_right <| Exists.imp fun _ => And.imp_right <| And.imp_right <| And.imp_right <|
    And.imp_right <| And.imp_right <| Exists.imp fun w => And.imp_right <| Exists.imp fun r => And.imp_right (h w r)

theorem mem_readerSide (I : Input) (A B : Nat) (o : Obj) :
    ((A, B), o) ∈ readerSide I ↔ Pairing I A B (fun w r => r = o ∧
      (w ∈ ancestors r ∨ (isSig r = true ∧ sibling r w = true ∧ sliceOverlap w r = true))) := by
  unfold readerSide Pairing
  simp only [List.mem_flatMap, List.mem_map, List.mem_filter, mem_readBlks, mem_writeBlks, mem_foundWriters,
    Prod.mk.injEq, bne_iff_ne, ne_eq, Bool.not_eq_eq_eq_not, Bool.not_true]
  constructor
  · rintro ⟨r, _, w, ⟨_, hf⟩, a, ⟨⟨ha, hw⟩, hff⟩, b, ⟨⟨hb, hr⟩, hne⟩, ⟨rfl, rfl⟩, rfl⟩
    exact ⟨a, ha, b, hb, rfl, rfl, hne, hff, w, hw, r, hr, rfl, hf⟩
  · rintro ⟨a, ha, b, hb, rfl, rfl, hne, hff, w, hw, r, hr, rfl, hf⟩
    exact ⟨r, (mem_readObjs I r).mpr ⟨b, hb, hr⟩, w, ⟨(mem_writtenObjs I w).mpr ⟨a, ha, hw⟩, hf⟩,
      a, ⟨⟨ha, hw⟩, hff⟩, b, ⟨⟨hb, hr⟩, hne⟩, ⟨rfl, rfl⟩, rfl⟩

theorem mem_writerSide (I : Input) (A B : Nat) (o : Obj) :
    ((A, B), o) ∈ writerSide I ↔ Pairing I A B (fun w r => w = o ∧ r ∈ ancestors w) := by
  unfold writerSide Pairing
  simp only [List.mem_flatMap, List.mem_map, List.mem_filter, mem_readBlks, mem_writeBlks, mem_foundReaders,
    Prod.mk.injEq, bne_iff_ne, ne_eq, Bool.not_eq_eq_eq_not, Bool.not_true]
  constructor
  · rintro ⟨w, _, a, ⟨⟨ha, hw⟩, hff⟩, r, ⟨_, hf⟩, b, ⟨⟨hb, hr⟩, hne⟩, ⟨rfl, rfl⟩, rfl⟩
    exact ⟨a, ha, b, hb, rfl, rfl, hne, hff, w, hw, r, hr, rfl, hf⟩
  · rintro ⟨a, ha, b, hb, rfl, rfl, hne, hff, w, hw, r, hr, rfl, hf⟩
    exact ⟨w, (mem_writtenObjs I w).mpr ⟨a, ha, hw⟩, a, ⟨⟨ha, hw⟩, hff⟩, r, ⟨(mem_readObjs I r).mpr ⟨b, hb, hr⟩, hf⟩,
      b, ⟨⟨hb, hr⟩, hne⟩, ⟨rfl, rfl⟩, rfl⟩

theorem found_tagged {I : Input} {a b : Blk} (ha : a ∈ I.blks) (hb : b ∈ I.blks) (hne : a.id ≠ b.id) (hff : a.ff = false)
    {w r : Obj} (hw : w ∈ a.writes) (hr : r ∈ b.reads) (hf : Found w r) :
    ∃ x, ((a.id, b.id), x) ∈ implicitTagged I ∧ (x = w ∨ x = r) := by
  have pair : ∀ {P : Obj → Obj → Prop}, P w r → Pairing I a.id b.id P :=
    fun hp => ⟨a, ha, b, hb, rfl, rfl, hne, hff, w, hw, r, hr, hp⟩
  rcases hf with hf | hf | hf
  · exact ⟨r, List.mem_append_left _ ((mem_readerSide I _ _ r).mpr (pair ⟨rfl, Or.inl hf⟩)), Or.inr rfl⟩
  · exact ⟨r, List.mem_append_left _ ((mem_readerSide I _ _ r).mpr (pair ⟨rfl, Or.inr hf⟩)), Or.inr rfl⟩
  · exact ⟨w, List.mem_append_right _ ((mem_writerSide I _ _ w).mpr (pair ⟨rfl, hf⟩)), Or.inl rfl⟩

theorem implicitTagged_congr {I J : Input} (h : I.blks = J.blks) : implicitTagged I = implicitTagged J := by
  obtain ⟨_, _, _, _⟩ := I
  obtain ⟨_, _, _, _⟩ := J
  cases h
  rfl

theorem mem_objs_of_read {I : Input} {b : Blk} {o : Obj} (hb : b ∈ I.blks) (ho : o ∈ b.reads) : o ∈ I.objs :=
  List.mem_append_left _ (List.mem_append_left _ (List.mem_append_left _ ((mem_readObjs I o).mpr ⟨b, hb, ho⟩)))

theorem mem_objs_of_write {I : Input} {b : Blk} {o : Obj} (hb : b ∈ I.blks) (ho : o ∈ b.writes) : o ∈ I.objs :=
  List.mem_append_left _ (List.mem_append_left _ (List.mem_append_right _ ((mem_writtenObjs I o).mpr ⟨b, hb, ho⟩)))

theorem blkPair_congr {I : Input} {A B : Nat} {P Q : Blk → Blk → Prop} (h : ∀ a ∈ I.blks, ∀ b ∈ I.blks, (P a b ↔ Q a b)) :
    (∃ a ∈ I.blks, ∃ b ∈ I.blks, a.id = A ∧ b.id = B ∧ A ≠ B ∧ a.ff = false ∧ P a b) ↔
      ∃ a ∈ I.blks, ∃ b ∈ I.blks, a.id = A ∧ b.id = B ∧ A ≠ B ∧ a.ff = false ∧ Q a b :=
  exists_congr fun a => and_congr_right fun ha => exists_congr fun b => and_congr_right fun hb =>
    and_congr_right fun _ => and_congr_right fun _ => and_congr_right fun _ => and_congr_right fun _ => h a ha b hb

theorem pairing_congr {I : Input} {A B : Nat} {P Q : Obj → Obj → Prop}
    (h : ∀ w r, w ∈ I.objs → r ∈ I.objs → (P w r ↔ Q w r)) : Pairing I A B P ↔ Pairing I A B Q :=
  blkPair_congr fun _ ha _ hb => exists_congr fun w => and_congr_right fun hw => exists_congr fun r =>
    and_congr_right fun hr => h w r (mem_objs_of_write ha hw) (mem_objs_of_read hb hr)

theorem topoFor_iff (E : List (Nat × Nat)) (o : List Nat) :
    topoFor E o = true ↔ ∀ e ∈ E, posOf o e.1 < posOf o e.2 := by
  simp only [topoFor, List.all_eq_true, decide_eq_true_eq]

end PV.GenDag
