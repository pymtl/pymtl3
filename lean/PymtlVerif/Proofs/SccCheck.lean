import PymtlVerif.Proofs.SccGraph
/-!
What the soundness of the executable checkers of `Model/Scc.lean` (`scc check`; `PV.C11s.check_sound`) needs: a group that
passes `stronglyB` is strongly connected (`stronglyB_sound`), and `groupOf` finds the group of a covered vertex
(`groupOf_spec`). The checkers are evaluated on the partitions read back from the real schedules of DynamicSchedulePass,
Mamba2020Pass and OpenLoopCLPass. `acyclicB` is only evaluated (`Props/C11s.lean`, the driver); no theorem speaks of it.
-/
namespace PV.Scc

theorem reach_transpose {E : List (Nat × Nat)} {r v : Nat} (h : Reach (adjTOf E) r v) : Reach (adjOf E) v r :=
  RA.closed_back (fun _ _ _ he hy => RA.tail hy (mem_adjOf.mpr (mem_adjTOf.mp he)) trivial) h (Reach.refl _ _)

theorem foldl_insert_forall (P : Nat → Prop) : ∀ (new S : List Nat), (∀ x ∈ S, P x) → (∀ x ∈ new, P x) →
    ∀ x ∈ new.foldl (fun acc v => if v ∈ acc then acc else acc ++ [v]) S, P x := by
  intro new
  induction new with
  | nil => intro S hS _; exact hS
  | cons a new ih =>
    intro S hS hn
    obtain ⟨ha, hn'⟩ := List.forall_mem_cons.mp hn
    refine ih _ ?_ hn'
    show ∀ x ∈ (if a ∈ S then S else S ++ [a]), P x
    split
    · exact hS
    · exact forall_mem_concat hS ha

theorem closure_sound (G : Graph) (dom : List Nat) (r : Nat) : ∀ (n : Nat) (S : List Nat), (∀ s ∈ S, Reach G r s) →
    ∀ v ∈ closure G dom n S, Reach G r v := by
  intro n
  induction n with
  | zero => intro S hS; exact hS
  | succ n ih =>
    intro S hS
    refine ih _ (foldl_insert_forall _ _ _ hS fun s h => ?_)
    obtain ⟨a, ha, hsa⟩ := List.mem_flatMap.mp (List.mem_filter.mp h).1
    exact (hS a ha).trans (Reach.edge hsa)

theorem stronglyB_sound (E : List (Nat × Nat)) (g : List Nat) (h : stronglyB (adjOf E) (adjTOf E) g = true) :
    ∀ x ∈ g, ∀ y ∈ g, Reach (adjOf E) x y := by
  cases g with
  | nil => simp [stronglyB] at h
  | cons r t =>
    simp only [stronglyB, List.all_eq_true, Bool.and_eq_true, decide_eq_true_eq] at h
    have cl : ∀ (G' : Graph) (v : Nat), v ∈ closure G' (r :: t) (r :: t).length [r] → Reach G' r v := fun G' =>
      closure_sound G' _ r _ [r] fun s hs => List.mem_singleton.mp hs ▸ Reach.refl _ _
    intro x hx y hy
    exact (reach_transpose (cl _ x (h x hx).2)).trans (cl _ y (h y hy).1)

theorem groupOf_spec {groups : List (List Nat)} {x : Nat} (h : x ∈ groups.flatten) :
    ∃ g, groups[groupOf groups x]? = some g ∧ x ∈ g := by
  obtain ⟨g, hg, hx⟩ := List.mem_flatten.mp h
  have hlt : groupOf groups x < groups.length := List.findIdx_lt_length_of_exists ⟨g, hg, decide_eq_true hx⟩
  exact ⟨_, List.getElem?_eq_getElem hlt,
    of_decide_eq_true (List.findIdx_getElem (p := fun g => decide (x ∈ g)) (xs := groups) (w := hlt))⟩

end PV.Scc
