import PymtlVerif.Model.SConn
import PymtlVerif.Proofs.Nets
/-!
# The walk of `_check_port_in_nets` and of `gen_connections` (`walk`)

`S=[writer]; visited={writer}; while S: u=S.pop(); for v in adjacency[u]: if v not in visited:
visited.add(v); S.append(v); check(u,v)`.

* `TreeOrd V L`: the pairs come in discovery order: the source of each pair has been seen before (it is in `V` or the
  target of an earlier pair), the target is new (`TreeOrd.split`). Hence no node is the target of two pairs, no pair is listed
  both ways (`Fresh`), and the source of a pair is connected to the root by earlier pairs, which do not touch its
  target (`TreeOrd.source`, the induction along such an order): it stays connected when the connection is removed
  (`SpanTree.oriented`);
* `SpanTree E w L`: `L` is in such an order from `[w]`, consists of connections of `E` and reaches the whole component of
  `w`. `walk_spanTree`: that is what the walk from `w` lists, given fuel for a closed set of nodes around `w`
  (`walk_treeOrd`, `walk_step`, `walk_complete`);
* `walk_fuel`: more fuel changes nothing.
-/

-- `TreeOrd` is stated over `Pair` of `Model/SConn.lean`, whose theorems (C03) speak of it: hence the namespace and the import
namespace PV.SConn
open PV.Nets

variable {S : List Edge}

/-- every source is in `V` or the target of an earlier edge, every target is new -/
def TreeOrd : List Nat → List Pair → Prop
  | _, [] => True
  | V, p :: L => p.1 ∈ V ∧ p.2 ∉ V ∧ TreeOrd (p.2 :: V) L

theorem TreeOrd.congr {V V' : List Nat} (h : ∀ x, x ∈ V ↔ x ∈ V') : ∀ {L : List Pair}, TreeOrd V L → TreeOrd V' L := by
  intro L
  induction L generalizing V V' with
  | nil => intro _; trivial
  | cons p L ih =>
    intro ⟨h1, h2, h3⟩
    refine ⟨(h _).mp h1, fun hc => h2 ((h _).mpr hc), ih ?_ h3⟩
    intro x
    simp only [List.mem_cons, h x]

/-- a star from a seen node `u` to distinct new nodes may be put in front of a discovery order that starts with them seen -/
theorem treeOrd_star (u : Nat) {B : List Pair} : ∀ (new V : List Nat), new.Nodup → u ∈ V → (∀ x ∈ new, x ∉ V) →
    TreeOrd (new ++ V) B → TreeOrd V (new.map (fun v => (u, v)) ++ B) := by
  intro new
  induction new with
  | nil => intro _ _ _ _ hB; exact hB
  | cons v new ih =>
    intro V hnd hu hnew hB
    have hnd' := List.nodup_cons.mp hnd
    refine ⟨hu, hnew v (List.mem_cons_self ..), ih (v :: V) hnd'.2 (List.mem_cons_of_mem _ hu) ?_ (hB.congr fun x => ?_)⟩
    · intro x hx hc
      rcases List.mem_cons.mp hc with rfl | hc
      · exact hnd'.1 hx
      · exact hnew x (List.mem_cons_of_mem _ hx) hc
    · simp only [List.cons_append, List.mem_cons, List.mem_append, or_left_comm]

theorem TreeOrd.split {V : List Nat} {pre post : List Pair} {p : Pair} (h : TreeOrd V (pre ++ p :: post)) :
    (p.1 ∈ V ∨ p.1 ∈ pre.map (·.2)) ∧ p.2 ∉ V ∧ p.2 ∉ pre.map (·.2) := by
  induction pre generalizing V with
  | nil => exact ⟨Or.inl h.1, h.2.1, List.not_mem_nil⟩
  | cons q pre ih =>
    obtain ⟨a, b, c⟩ := ih h.2.2
    rw [List.map_cons, List.mem_cons, List.mem_cons]
    refine ⟨?_, fun hc => b (List.mem_cons_of_mem _ hc), fun hc => hc.elim (fun e => b (e ▸ List.mem_cons_self ..)) c⟩
    rcases a with a | a
    · exact (List.mem_cons.mp a).elim (fun e => Or.inr (Or.inl e)) Or.inl
    · exact Or.inr (Or.inr a)

theorem TreeOrd.target_new {V : List Nat} {L : List Pair} (h : TreeOrd V L) : ∀ p ∈ L, p.2 ∉ V ∧ p.1 ≠ p.2 := by
  intro p hp
  obtain ⟨pre, post, rfl⟩ := List.append_of_mem hp
  obtain ⟨a, b, c⟩ := h.split
  exact ⟨b, fun e => a.elim (fun x => b (e ▸ x)) fun x => c (e ▸ x)⟩

theorem TreeOrd.pairwise_ends {V : List Nat} {L : List Pair} (h : TreeOrd V L) :
    L.Pairwise (fun p q => q.2 ≠ p.1 ∧ q.2 ≠ p.2) := by
  induction L generalizing V with
  | nil => exact .nil
  | cons q L ih =>
    refine List.pairwise_cons.mpr ⟨fun p hp => ?_, ih h.2.2⟩
    have hn := (h.2.2.target_new p hp).1
    exact ⟨fun e => hn (e ▸ List.mem_cons_of_mem _ h.1), fun e => hn (e ▸ List.mem_cons_self ..)⟩

/-- what the pairs of a discovery order show by themselves: no pair is a loop, and the target of a pair is neither end of an
earlier pair. It is kept when such lists over unconnected parts are put one after the other, which `TreeOrd` from one
root is not. -/
structure Fresh (L : List Pair) : Prop where
  ne : ∀ p ∈ L, p.1 ≠ p.2
  pw : L.Pairwise (fun p q => q.2 ≠ p.1 ∧ q.2 ≠ p.2)

theorem TreeOrd.isFresh {V : List Nat} {L : List Pair} (h : TreeOrd V L) : Fresh L :=
  ⟨fun p hp => (h.target_new p hp).2, h.pairwise_ends⟩

theorem Fresh.snd_nodup {L : List Pair} (h : Fresh L) : (L.map (·.2)).Nodup :=
  List.pairwise_map.mpr (h.pw.imp fun f => Ne.symm f.2)

theorem TreeOrd.snd_nodup {V : List Nat} {L : List Pair} (h : TreeOrd V L) : (L.map (·.2)).Nodup := h.isFresh.snd_nodup

/-- induction along a discovery order, up to a listed pair `p`: what holds of `V` and is passed on by every pair that does not
touch the target of `p` holds of the source of `p`: the pairs before `p` lead to it, and its target is new to them -/
theorem TreeOrd.source {Q : Nat → Prop} {V : List Nat} {L : List Pair} (h : TreeOrd V L) {p : Pair} (hp : p ∈ L)
    (hV : ∀ x ∈ V, Q x) (hL : ∀ q ∈ L, q.1 ≠ p.2 → q.2 ≠ p.2 → Q q.1 → Q q.2) : Q p.1 := by
  induction L generalizing V with
  | nil => cases hp
  | cons q L ih =>
    rcases List.mem_cons.mp hp with rfl | hp
    · exact hV _ h.1
    · refine ih h.2.2 hp (fun x hx => ?_) fun q hq => hL q (List.mem_cons_of_mem _ hq)
      have hn := (h.2.2.target_new p hp).1
      rcases List.mem_cons.mp hx with rfl | hx
      · exact hL q (List.mem_cons_self ..) (fun e => hn (e ▸ List.mem_cons_of_mem _ h.1)) (fun e => hn (e ▸ List.mem_cons_self ..))
          (hV _ h.1)
      · exact hV x hx

theorem TreeOrd.forall_ends {Q : Nat → Prop} {V : List Nat} {L : List Pair} (h : TreeOrd V L) (hV : ∀ x ∈ V, Q x)
    (hL : ∀ p ∈ L, Q p.1 → Q p.2) : ∀ p ∈ L, Q p.1 ∧ Q p.2 := fun p hp =>
  have h1 := h.source hp hV fun q hq _ _ => hL q hq
  ⟨h1, hL p hp h1⟩

theorem reach_of_mem_singleton {w x : Nat} (hx : x ∈ [w]) : Reach S w x :=
  List.mem_singleton.mp hx ▸ Reach.refl _

/-- `L` lists a spanning tree of the connected component of `w` in `E`, rooted at `w`, parent before child -/
structure SpanTree (E : List Edge) (w : Nat) (L : List Pair) : Prop where
  ord : TreeOrd [w] L
  step : ∀ p ∈ L, Step E p.1 p.2
  complete : ∀ y, Reach E w y → y ≠ w → ∃ u, (u, y) ∈ L

namespace SpanTree
variable {E : List Edge} {w : Nat} {L : List Pair}

theorem reach (h : SpanTree E w L) : ∀ p ∈ L, Reach E w p.1 ∧ Reach E w p.2 :=
  h.ord.forall_ends (fun _ => reach_of_mem_singleton) fun p hp h1 => Reach.step h1 (h.step p hp)

theorem induct {Q : Nat → Prop} (h : SpanTree E w L) (hw : Q w) (hL : ∀ p ∈ L, Q p.1 → Q p.2) (y : Nat) (hr : Reach E w y) : Q y :=
  if hy : y = w then hy ▸ hw else
    let ⟨u, hu⟩ := h.complete y hr hy
    (h.ord.forall_ends (fun _ hx => List.mem_singleton.mp hx ▸ hw) hL (u, y) hu).2

theorem root_not_target (h : SpanTree E w L) : w ∉ L.map (·.2) := fun hc =>
  let ⟨p, hp, e⟩ := List.mem_map.mp hc
  (h.ord.target_new p hp).1 (List.mem_singleton.mpr e)

theorem oriented (h : SpanTree E w L) (p : Pair) (hp : p ∈ L) (e : Edge) (he : e = (p.1, p.2) ∨ e = (p.2, p.1)) :
    Reach (E.erase e) w p.1 :=
  h.ord.source hp (fun _ => reach_of_mem_singleton) fun q hq h1 h2 hr =>
    Reach.step hr (step_erase_of_not_end (h.step q hq) (he.elim (· ▸ Or.inr rfl) (· ▸ Or.inl rfl)) h1 h2)

end SpanTree

end PV.SConn

namespace PV.Nets
open PV.SConn (TreeOrd treeOrd_star SpanTree)

variable {S : List Edge} {adjf : Nat → List Nat}

theorem stack_sub {new St V : List Nat} (h : ∀ x ∈ St, x ∈ V) : ∀ x ∈ new.reverse ++ St, x ∈ new ++ V := fun x hx =>
  (List.mem_append.mp hx).elim (fun hx => List.mem_append_left _ (List.mem_reverse.mp hx)) fun hx => List.mem_append_right _ (h x hx)

theorem walk_treeOrd {nb : Nat → List Nat} (hnd : ∀ u, (nb u).Nodup) (f : Nat) (St V : List Nat) (hSt : ∀ x ∈ St, x ∈ V) :
    TreeOrd V (walk nb f St V) := by
  fun_induction walk nb f St V with
  | case1 => trivial
  | case2 => trivial
  | case3 _ u _ V _ ih =>
    exact treeOrd_star u _ V ((hnd u).filter _) (hSt u (List.mem_cons_self ..))
      (fun x hx => of_decide_eq_true (List.mem_filter.mp hx).2) (ih (stack_sub fun x hx => hSt x (List.mem_cons_of_mem _ hx)))

theorem walk_step (hadj : ∀ u v, v ∈ adjf u ↔ Step S u v) (f : Nat) (St V : List Nat) : ∀ p ∈ walk adjf f St V, Step S p.1 p.2 := by
  fun_induction walk adjf f St V with
  | case1 => nofun
  | case2 => nofun
  | case3 _ u _ _ _ ih =>
    intro p hp
    rcases List.mem_append.mp hp with hp | hp
    · obtain ⟨v, hv, rfl⟩ := List.mem_map.mp hp
      exact (hadj u v).mp (List.mem_filter.mp hv).1
    · exact ih p hp

open PV.Loop (Front)

/-- one pop of the walk is one pop of a search that marks what it pushes (`Loop.Front.pop`), in a set `N` closed under
connections -/
theorem walk_pop (hadj : ∀ u v, v ∈ adjf u ↔ Step S u v) (hnd : ∀ u, (adjf u).Nodup) {N : List Nat}
    (hN : ∀ x ∈ N, ∀ y, Step S x y → y ∈ N) {u : Nat} {St V : List Nat} (hF : Front adjf N (u :: St) V) :
    Front adjf N (((adjf u).filter (fun v => decide (v ∉ V))).reverse ++ St) ((adjf u).filter (fun v => decide (v ∉ V)) ++ V) ∧
      unseen N ((adjf u).filter (fun v => decide (v ∉ V)) ++ V) +
        (((adjf u).filter (fun v => decide (v ∉ V))).reverse ++ St).length < unseen N V + (u :: St).length :=
  hF.pop (fun s hs t ht => hN s hs t ((hadj s t).mp ht)) ((hnd u).filter _)
    (fun t => by rw [List.mem_filter, decide_eq_true_eq])
    (fun t => by rw [List.mem_append, List.mem_reverse]) (fun t => List.mem_append)
    (by rw [List.length_append, List.length_reverse])

/-- with enough fuel, everything seen at the end (`V` and the targets of the checked pairs) is
closed under connections. The measure is `unseen N V + St.length`. -/
theorem walk_closed (hadj : ∀ u v, v ∈ adjf u ↔ Step S u v) (hnd : ∀ u, (adjf u).Nodup) (N : List Nat)
    (hN : ∀ x ∈ N, ∀ y, Step S x y → y ∈ N) (f : Nat) (St V : List Nat) (hF : Front adjf N St V)
    (hfuel : unseen N V + St.length < f) :
    ∀ x, (x ∈ V ∨ x ∈ (walk adjf f St V).map (·.2)) → ∀ y, Step S x y →
      (y ∈ V ∨ y ∈ (walk adjf f St V).map (·.2)) := by
  fun_induction walk adjf f St V with
  | case1 => exact absurd hfuel (Nat.not_lt_zero _)
  | case2 =>
    intro x hx y hs
    simp only [List.map_nil, List.not_mem_nil, or_false] at hx ⊢
    exact hF.done x hx y ((hadj x y).mpr hs)
  | case3 _ _ _ _ _ ih =>
    intro x hx y hs
    obtain ⟨hF', hlt⟩ := walk_pop hadj hnd hN hF
    -- with `new` the neighbours this pop pushes, what is seen at the end is `new ++ V` and what
    -- the rest of the walk sees
    have swap : ∀ {a b c : Prop}, (a ∨ b ∨ c) ↔ ((b ∨ a) ∨ c) := or_left_comm.trans or_assoc.symm
    simp only [List.map_append, List.map_map, Function.comp_def, List.map_id', List.mem_append] at hx ⊢
    rw [swap, ← List.mem_append] at hx ⊢
    exact ih hF' (Nat.lt_of_succ_lt_succ (Nat.lt_of_lt_of_le (Nat.succ_lt_succ hlt) hfuel)) x hx y hs

theorem walk_fuel (hadj : ∀ u v, v ∈ adjf u ↔ Step S u v) (hnd : ∀ u, (adjf u).Nodup)
    (N : List Nat) (hN : ∀ x ∈ N, ∀ y, Step S x y → y ∈ N) (f f' : Nat) (St V : List Nat) (hF : Front adjf N St V)
    (hfuel : unseen N V + St.length < f) (hle : f ≤ f') : walk adjf f St V = walk adjf f' St V := by
  fun_induction walk adjf f St V generalizing f' with
  | case1 => exact absurd hfuel (Nat.not_lt_zero _)
  | case2 => cases f' <;> rfl
  | case3 _ _ _ _ _ ih =>
    match f', hle with
    | f' + 1, hle =>
      obtain ⟨hF', hlt⟩ := walk_pop hadj hnd hN hF
      rw [walk]
      congr 1
      exact ih _ hF' (Nat.lt_of_succ_lt_succ (Nat.lt_of_lt_of_le (Nat.succ_lt_succ hlt) hfuel)) (Nat.le_of_succ_le_succ hle)

theorem walk_complete (hadj : ∀ u v, v ∈ adjf u ↔ Step S u v) (hnd : ∀ u, (adjf u).Nodup) (N : List Nat) (w : Nat)
    (hw : w ∈ N) (hN : ∀ x ∈ N, ∀ y, Step S x y → y ∈ N) (y : Nat) (hr : Reach S w y) (hne : y ≠ w) :
    ∃ u, (u, y) ∈ walk adjf (N.length + 1) [w] [w] := by
  have closed := walk_closed hadj hnd N hN (N.length + 1) [w] [w] (Front.init hw)
    (Nat.succ_lt_succ (unseen_singleton_lt N w hw))
  have all : ∀ z, Reach S w z → (z ∈ [w] ∨ z ∈ (walk adjf (N.length + 1) [w] [w]).map (·.2)) := by
    intro z hz
    induction hz with
    | refl => exact Or.inl (List.mem_singleton.mpr rfl)
    | step _ hs ih => exact closed _ ih _ hs
  rcases all y hr with h | h
  · exact absurd (List.mem_singleton.mp h) hne
  · obtain ⟨p, hp, rfl⟩ := List.mem_map.mp h
    exact ⟨p.1, hp⟩

theorem walk_spanTree (hadj : ∀ u v, v ∈ adjf u ↔ Step S u v) (hnd : ∀ u, (adjf u).Nodup) {N : List Nat} {w : Nat}
    (hw : w ∈ N) (hN : ∀ x ∈ N, ∀ y, Step S x y → y ∈ N) : SpanTree S w (walk adjf (N.length + 1) [w] [w]) :=
  ⟨walk_treeOrd hnd _ _ _ fun _ hx => hx, walk_step hadj _ _ _, walk_complete hadj hnd N w hw hN⟩

/-- the walk of `_check_port_in_nets` over a resolved net `(w, N)`: the net is what the merged connections reach from its writer,
so it is closed under them and its length is fuel enough -/
theorem Final.portWalk {D : Design} {st : RState} (hF : Final D st) {w : Nat} {N : List Nat} (h : (w, N) ∈ st.headed) :
    SpanTree (simple D.edges) w (walk (fun u => sortDedup (adj (simple D.edges) u)) (N.length + 1) [w] [w]) ∧
      ∀ y, y ∈ N ↔ Reach (simple D.edges) w y := by
  obtain ⟨hN, hwN, _⟩ := hF.inv.hnets _ h
  have hspec := (nets_spec hN).2.2.2
  have hrw := (hspec w).mp hwN
  have hmem : ∀ y, y ∈ N ↔ Reach (simple D.edges) w y := fun y => by
    rw [reach_simple, hspec]
    exact ⟨reach_trans (reach_symm hrw), reach_trans hrw⟩
  exact ⟨walk_spanTree (adjf_simple D.edges) (fun u => sorted_nodup (sorted_sortDedup _)) hwN
    fun x hx y hs => (hmem y).mpr (Reach.step ((hmem x).mp hx) hs), hmem⟩

end PV.Nets
