import PymtlVerif.Model.Place
/-!
Lemmas about `Model/Place.lean` for `Props/C09p.lean`: an index classified as constant is the run-time index (`classify_sound`), so
the recorded objects contain the element a run writes to (`expand_covers`); all objects recorded for a target are of one kind,
bit / slice / part-marked exactly when a step is left over after the list dimensions (`expand_cut_iff`, with fields
`resolve_class`); the rows of `verdict`.
-/
namespace PV.Place

theorem Tgt.mem_names_iff (x : String) (t : Tgt) : x ∈ t.names ↔ t.Binds x := by
  induction t with
  | name y =>
    exact ⟨fun h => List.mem_singleton.1 h ▸ .name, fun h => by cases h; exact List.mem_singleton_self x⟩
  | pair a b iha ihb =>
    rw [Tgt.names, List.mem_append, iha, ihb]
    exact ⟨fun h => h.elim .left .right, fun h => by
      cases h with
      | left h => exact .inl h
      | right h => exact .inr h⟩
  | starred t ih => exact ih.trans ⟨.starred, fun h => by cases h; assumption⟩
  | other => exact ⟨nofun, nofun⟩

theorem Scope.mem_bound_iff (sc : Scope) (x : String) : x ∈ sc.bound ↔ ∃ t ∈ sc.tgts, t.Binds x := by
  simp [Scope.bound, List.mem_flatMap, Tgt.mem_names_iff]

theorem classify_bound (sc : Scope) (x : String) (hb : x ∈ sc.bound) (hc : lookup sc.closure x = none) :
    classify sc (.name x) = .star := by
  simp [classify, hc, hb]

theorem classify_sound (sc : Scope) (hwf : sc.WF) (ρ : Rt) (e : IExpr) (n : Nat) (h : classify sc e = .const n) :
    evalIdx sc ρ e = n := by
  cases e with
  | num m => simpa [classify, evalIdx] using h
  | dyn k => simp [classify] at h
  | name x =>
    simp only [classify] at h
    by_cases hb : x ∈ sc.bound
    · have hc := hwf x hb
      simp [hc, hb] at h
    · cases hc : lookup sc.closure x with
      | some v =>
        simp only [hc, SIdx.const.injEq] at h
        simp [evalIdx, hb, hc, h]
      | none =>
        cases hg : lookup sc.globals x with
        | some v =>
          simp [hc, hb, hg] at h
          simp [evalIdx, hb, hc, hg, h]
        | none => simp [hc, hb, hg] at h

theorem classify_covers (sc : Scope) (hwf : sc.WF) (ρ : Rt) (e : IExpr) :
    classify sc e = .star ∨ .const (evalIdx sc ρ e) = classify sc e := by
  cases hc : classify sc e with
  | star => exact .inl rfl
  | const n => exact .inr (congrArg _ (classify_sound sc hwf ρ e n hc))

theorem expand_nil (st : List Step) :
    ∃ sl pt, expand [] st = [⟨[], false, sl, pt⟩] ∧ (st ≠ [] → (sl || pt) = true) := by
  match st with
  | [] => exact ⟨_, _, rfl, fun h => absurd rfl h⟩
  | .idx .star :: _ => exact ⟨_, _, rfl, fun _ => rfl⟩
  | .idx (.const _) :: _ => exact ⟨_, _, rfl, fun _ => rfl⟩
  | .slc _ _ :: _ => exact ⟨_, _, rfl, fun _ => rfl⟩

theorem mem_expand_idx {d : Nat} {ds : List Nat} {i : SIdx} {r : List Step} {o : RObj} :
    o ∈ expand (d :: ds) (.idx i :: r) ↔
      ∃ j, (i = .star ∨ .const j = i) ∧ j < d ∧ ∃ o' ∈ expand ds r, { o' with path := j :: o'.path } = o := by
  cases i with
  | star => simp only [expand, List.mem_flatMap, List.mem_range, List.mem_map, true_or, true_and]
  | const n =>
    simp only [expand, reduceCtorEq, false_or, SIdx.const.injEq, exists_eq_left]
    by_cases hn : n < d
    · simp only [hn, if_true, List.mem_map, true_and]
    · simp only [hn, if_false, List.not_mem_nil, false_and]

theorem expand_covers (sc : Scope) (hwf : sc.WF) (ρ : Rt) (tl : List Step) :
    ∀ (dims : List Nat) (subs : List IExpr) (p : List Nat),
      dynPath dims (subs.map (evalIdx sc ρ)) = some p →
      ∃ o ∈ expand dims ((subs.map (classify sc)).map .idx ++ tl), o.path = p := by
  intro dims
  induction dims with
  | nil =>
    intro subs p h
    obtain ⟨sl, pt, he, _⟩ := expand_nil ((subs.map (classify sc)).map .idx ++ tl)
    rw [dynPath, Option.some.injEq] at h
    exact ⟨_, he ▸ List.mem_singleton_self _, h⟩
  | cons d ds ih =>
    intro subs p h
    cases subs with
    | nil => cases h
    | cons e es =>
      simp only [List.map_cons, dynPath] at h
      by_cases hv : evalIdx sc ρ e < d
      · simp only [hv, if_true, Option.map_eq_some_iff] at h
        obtain ⟨p', hp', rfl⟩ := h
        obtain ⟨o, ho, rfl⟩ := ih es p' hp'
        exact ⟨_, mem_expand_idx.2 ⟨_, classify_covers sc hwf ρ e, hv, o, ho, rfl⟩, rfl⟩
      · simp [hv] at h

/-- an index step for every list dimension and at least one more step (an index or the tail): every recorded object
is a bit / slice / run-time selected part of a signal -/
theorem expand_cut : ∀ (dims : List Nat) (is : List SIdx) (tl : List Step),
    dims.length ≤ is.length → (dims.length < is.length ∨ tl ≠ []) →
    ∀ o ∈ expand dims (is.map .idx ++ tl), o.cut = true
  | [], is, tl, _, hne, o, ho => by
    obtain ⟨sl, pt, he, hc⟩ := expand_nil (is.map .idx ++ tl)
    rw [he, List.mem_singleton] at ho
    subst ho
    refine hc fun h => ?_
    rw [List.append_eq_nil_iff, List.map_eq_nil_iff] at h
    exact hne.elim (fun hl => by rw [h.1] at hl; cases hl) (fun ht => ht h.2)
  | d :: ds, [], _, hl, _, _, _ => by cases hl
  | d :: ds, i :: is, tl, hl, hne, o, ho => by
    obtain ⟨_, _, _, o', ho', rfl⟩ := mem_expand_idx.1 ho
    exact expand_cut ds is tl (Nat.le_of_succ_le_succ hl) (hne.imp_left Nat.lt_of_succ_lt_succ) o' ho'

theorem expand_whole : ∀ (dims : List Nat) (st : List Step), st.length ≤ dims.length →
    ∀ o ∈ expand dims st, o.whole = true
  | [], [], _, o, ho => by rw [List.mem_singleton.1 ho]; rfl
  | [], _ :: _, hl, _, _ => by cases hl
  | d :: ds, [], _, o, ho => by
    obtain ⟨_, _, rfl⟩ := List.mem_map.1 ho
    rfl
  | d :: ds, .idx i :: r, hl, o, ho => by
    obtain ⟨_, _, _, o', ho', rfl⟩ := mem_expand_idx.1 ho
    exact expand_whole ds r (Nat.le_of_succ_le_succ hl) o' ho'
  | d :: ds, .slc lo hi :: _, _, o, ho => by
    simp only [expand, List.mem_flatMap, List.mem_map] at ho
    obtain ⟨_, _, _, _, rfl⟩ := ho
    rfl

theorem tailSteps_length (sc : Scope) (tl : Tail) : (tailSteps sc tl).length = if tl = .none then 0 else 1 := by
  cases tl <;> rfl

theorem tailSteps_nil_iff (sc : Scope) (tl : Tail) : tailSteps sc tl = [] ↔ tl = .none := by
  cases tl <;> simp [tailSteps]

theorem applyField_path (tl : List Step) (o : RObj) : (applyField tl o).path = o.path := by
  unfold applyField
  split
  · rfl
  · split <;> rfl

theorem RObj.cut_of_whole {o : RObj} (h : o.whole = true) : o.cut = false := by
  unfold RObj.whole at h
  rw [Bool.and_eq_true, Bool.and_eq_true, Bool.not_eq_true', Bool.not_eq_true', Bool.not_eq_true'] at h
  unfold RObj.cut
  rw [h.1.2, h.2]
  rfl

/-- the test of `applyField` is `o.cut` with the operands the other way round -/
theorem RObj.part_or_sliced (o : RObj) : (o.part || o.sliced) = o.cut := Bool.or_comm _ _

theorem applyField_not_whole (tl : List Step) (o : RObj) : (applyField tl o).whole = false := by
  unfold applyField
  rw [o.part_or_sliced]
  split
  next hc =>
    exact Bool.eq_false_iff.2 fun hw => Bool.false_ne_true ((RObj.cut_of_whole hw).symm.trans hc)
  next => split <;> rfl

theorem applyField_cut (tl : List Step) (o : RObj) :
    (applyField tl o).cut = true ↔ o.cut = true ∨ tl ≠ [] := by
  unfold applyField
  rw [o.part_or_sliced]
  by_cases hc : o.cut = true
  · rw [if_pos hc]
    exact iff_of_true hc (.inl hc)
  · rw [if_neg hc]
    match tl with
    | [] => exact iff_of_false hc (not_or.2 ⟨hc, fun h => h rfl⟩)
    | .idx .star :: _ => exact iff_of_true (Bool.or_true _) (.inr nofun)
    | .idx (.const _) :: _ => exact iff_of_true rfl (.inr nofun)
    | .slc _ _ :: _ => exact iff_of_true rfl (.inr nofun)

theorem resolve_nofield {t : Target} (hf : t.fields = 0) (sc : Scope) (dims : List Nat) :
    resolve sc dims t = expand dims ((t.subs.map (classify sc)).map .idx ++ tailSteps sc t.tail) := by
  rw [resolve, if_pos hf, subSteps, List.map_map]; rfl

/-- with fields the list walk ends before them (`++ []`: nothing follows the subscripts) -/
theorem resolve_field {t : Target} (hf : t.fields ≠ 0) (sc : Scope) (dims : List Nat) :
    resolve sc dims t =
      (expand dims ((t.subs.map (classify sc)).map .idx ++ [])).map (applyField (tailSteps sc t.tail)) := by
  rw [resolve, if_neg hf, subSteps, List.map_map, List.append_nil]; rfl

/-- index steps, then at most one more step: all recorded objects are of one kind, slice objects / part-marked exactly when a
step is left over after the list dimensions, whole signals otherwise (`expand_cut` and `expand_whole` together) -/
theorem expand_cut_iff (dims : List Nat) (is : List SIdx) (tl : List Step) (htl : tl.length ≤ 1) :
    ∀ o ∈ expand dims (is.map .idx ++ tl),
      o.whole = !o.cut ∧ (o.cut = true ↔ dims.length < is.length + tl.length) := by
  intro o ho
  by_cases h : dims.length < is.length + tl.length
  · have hne : dims.length < is.length ∨ tl ≠ [] := by
      cases tl with
      | nil => exact .inl h
      | cons _ _ => exact .inr nofun
    have hc := expand_cut dims is tl (Nat.le_of_lt_succ (Nat.lt_of_lt_of_le h (Nat.add_le_add_left htl _))) hne o ho
    refine ⟨?_, iff_of_true hc h⟩
    rw [hc]
    exact Bool.eq_false_iff.2 fun hw => Bool.false_ne_true ((RObj.cut_of_whole hw).symm.trans hc)
  · have hw := expand_whole dims _ (by rw [List.length_append, List.length_map]; exact Nat.le_of_not_lt h) o ho
    have hc := RObj.cut_of_whole hw
    exact ⟨by rw [hw, hc]; rfl, iff_of_false (by rw [hc]; nofun) h⟩

theorem resolve_class (sc : Scope) (dims : List Nat) (t : Target) : ∀ o ∈ resolve sc dims t,
    (o.cut = false ↔ t.noCut dims) ∧ (o.whole = true ↔ t.isWhole dims) := by
  intro o ho
  have hts := tailSteps_length sc t.tail
  by_cases hf : t.fields = 0
  · rw [resolve_nofield hf] at ho
    obtain ⟨hw, hcut⟩ := expand_cut_iff dims _ _ (by rw [hts]; split <;> decide) o ho
    have hc : o.cut = false ↔ t.noCut dims := by
      rw [← Bool.not_eq_true, hcut, List.length_map, hts, Nat.not_lt, Target.noCut]
      by_cases htl : t.tail = .none
      · rw [if_pos htl]; exact (and_iff_left (.inl htl)).symm
      · rw [if_neg htl]; exact ⟨fun h => ⟨Nat.le_of_succ_le h, .inr ⟨hf, h⟩⟩, fun h => (h.2.resolve_left htl).2⟩
    exact ⟨hc, by rw [hw, Bool.not_eq_true']; exact hc.trans (and_iff_right hf).symm⟩
  · -- a field: the walk ends before it, the tail decides; never a whole signal
    rw [resolve_field hf] at ho
    obtain ⟨o', ho', rfl⟩ := List.mem_map.1 ho
    obtain ⟨_, hcut⟩ := expand_cut_iff dims _ [] (Nat.zero_le _) o' ho'
    refine ⟨?_, iff_of_false (fun h => Bool.false_ne_true ((applyField_not_whole _ o').symm.trans h)) fun h => hf h.1⟩
    rw [← Bool.not_eq_true, applyField_cut, hcut, Ne, tailSteps_nil_iff, List.length_map, not_or, Nat.not_lt,
      Decidable.not_not, Target.noCut]
    exact and_congr_right fun _ => (or_iff_left fun h => hf h.1).symm

theorem verdict_helper (ff : Bool) (op : AOp) (objs : List RObj) :
    verdict ff true op objs =
      if (op = .ff && objs.any RObj.cut) = true then .reject .updateFFNonTop else .accept := rfl

theorem verdict_update (op : AOp) {objs : List RObj} (hne : objs ≠ []) :
    verdict false false op objs = if op = .at then .accept else .reject .updateBlockWrite := by
  cases objs with
  | nil => exact absurd rfl hne
  | cons _ _ => rfl

theorem verdict_ff (op : AOp) {objs : List RObj} (hne : objs ≠ []) :
    verdict true false op objs =
      if op ≠ .ff then .reject .updateFFBlockWrite
      else if objs.all RObj.whole then .accept else .reject .updateFFNonTop := by
  cases objs with
  | nil => exact absurd rfl hne
  | cons _ _ => rfl

end PV.Place
