import PymtlVerif.Proofs.PipeRef0
/-!
Refinement proof, part 1: the queues between the processor and its environment.  A one-entry bypass queue in front of
an in-order source is a FIFO (`BypQ.chan`: instruction responses, mngr2proc), the two stages of the request
queue conserve their content (`enrdyq_conserve`), hence the whole fetch path is a FIFO (`fetch_fifo`); the
data-memory response channel holds exactly what is owed to the instruction in M (`dcnt_next`, `dchan_drain`).
-/
namespace PV.Pipe
open PV.TinyRV0 (W32 Mem loadWord storeWord rget rset)

/-- `queues.BypassQueue1EntryRTL` in front of a source that delivers the list `L` in order and only into an
empty queue: queue ++ `L` loses its head exactly when a dequeue meets `deq.rdy`, and that head is `deq.ret` -/
theorem BypQ.chan (q : BypQ) {r : Bool} (hr : r = false) (en deq : Bool) (msg : Nat) (L : List Nat)
    (hen : en = true → q.full = false ∧ ∃ rest, L = msg :: rest) :
    ((q.deq_rdy r en = true → opt [q.entry] q.full ++ L =
        q.deq_ret msg :: (opt [q.entry] q.full ++ L).tail)) ∧
    opt [(q.next r en msg deq).entry] (q.next r en msg deq).full ++ (if en then L.tail else L) =
      if deq && q.deq_rdy r en then (opt [q.entry] q.full ++ L).tail
      else opt [q.entry] q.full ++ L := by
  subst hr
  obtain ⟨f, e⟩ := q
  cases en
  · cases f <;> cases deq <;> simp [BypQ.next, BypQ.deq_rdy, BypQ.deq_ret]
  · obtain ⟨hf, rest, hL⟩ := hen rfl
    cases hf
    cases deq <;> simp [BypQ.next, BypQ.deq_rdy, BypQ.deq_ret, hL]

/-- one stage of `BypassQueue2RTL` (`enrdy_queues.BypassQueue1RTL`): it accepts only when empty and hands on
only what it has or is being given; what leaves plus what stays is what was there plus what came -/
theorem enrdyq_conserve (full enq deq : Bool) (buf msg : Nat) (h1 : enq = true → full = false)
    (h2 : deq = true → (enq || full) = true) :
    opt [if full then buf else msg] deq ++
      opt [if enq && !deq then msg else buf] ((enq || full) && !deq) =
    opt [buf] full ++ opt [msg] enq := by
  cases full <;> cases enq <;> cases deq <;> simp_all

section step
variable {p : Prog} {N : Nat} {s : State} {E : Env} {c : Nat} {i : EnvIn}

theorem q1_conserve (hr : i.reset = false) :
    opt [q1_deq_msg s] (q1_deq_en s i) ++ opt [(next s i).q1_buf] (next s i).q1_full =
    opt [s.q1_buf] s.q1_full ++ opt [imemreq_addr s] (imemreq_en s i) := by
  rw [show (next s i).q1_full = _ from if_neg (ne_true_of_eq_false hr)]
  refine enrdyq_conserve _ _ _ _ _ (fun h => ?_) (fun h => (Bool.and_eq_true _ _ ▸ h).1)
  simp [imemreq_en, imemreq_rdy] at h
  exact h.2

theorem q2_conserve (hr : i.reset = false) :
    opt [q2_deq_msg s] (q2_deq_en s i) ++ opt [(next s i).q2_buf] (next s i).q2_full =
    opt [s.q2_buf] s.q2_full ++ opt [q1_deq_msg s] (q1_deq_en s i) := by
  rw [show (next s i).q2_full = _ from if_neg (ne_true_of_eq_false hr)]
  refine enrdyq_conserve _ _ _ _ _ (fun h => ?_) (fun h => (Bool.and_eq_true _ _ ▸ h).1)
  simp [q1_deq_en, q1_deq_rdy] at h
  exact h.2

/-- addresses in the two-entry request queue, oldest first -/
def reqq (s : State) : List Nat :=
  opt [s.q2_buf] s.q2_full ++ opt [s.q1_buf] s.q1_full

theorem reqq_conserve (hr : i.reset = false) :
    opt [q2_deq_msg s] (q2_deq_en s i) ++ reqq (next s i) =
      reqq s ++ opt [imemreq_addr s] (imemreq_en s i) := by
  unfold reqq
  rw [← List.append_assoc, q2_conserve hr, List.append_assoc, q1_conserve hr, List.append_assoc]

/-- instruction words in the response queue or owed by the memory, oldest first -/
def respWords (p : Prog) (s : State) (E : Env) : List Nat :=
  opt [s.imemresp_q.entry] s.imemresp_q.full ++ E.ipend.map (loadWord p.mem0)

theorem fetchWords_eq (p : Prog) (s : State) (E : Env) :
    fetchWords p s E = respWords p s E ++ (reqq s).map (loadWord p.mem0) := by
  simp only [fetchWords, respWords, reqq, opt, List.map_append, List.append_assoc]

theorem respWords_chan (hE : envOk p E i (out s i)) :
    (drop_in_rdy s i = true → respWords p s E = imemresp_data s i :: (respWords p s E).tail) ∧
    respWords p (next s i) (envNext E i (out s i)) =
      (if drop_in_en s i && drop_in_rdy s i then (respWords p s E).tail else respWords p s E) ++
      opt [loadWord p.mem0 (q2_deq_msg s)] (q2_deq_en s i) := by
  have h := BypQ.chan s.imemresp_q hE.1 i.imem_resp_en (drop_in_en s i) i.imem_resp_data
    (E.ipend.map (loadWord p.mem0)) (fun he => by
      obtain ⟨hrdy, a, rest, h1, h2⟩ := hE.2.1 he
      simp [out, BypQ.enq_rdy] at hrdy
      exact ⟨hrdy.2, rest.map _, by rw [h1, h2]; rfl⟩)
  refine ⟨h.1, ?_⟩
  show _ ++ List.map _ (_ ++ _) = _
  rw [List.map_append, ← List.append_assoc, apply_ite (List.map _), List.map_tail, apply_ite (List.map _)]
  exact congrArg (· ++ _) h.2

/-- the whole fetch path is a FIFO: the head leaves when the drop unit takes a response, a new request
joins at the tail -/
theorem fetch_fifo (hE : envOk p E i (out s i)) :
    (drop_in_rdy s i = true → fetchWords p s E = imemresp_data s i :: (fetchWords p s E).tail) ∧
    fetchWords p (next s i) (envNext E i (out s i)) =
      (if drop_in_en s i && drop_in_rdy s i then (fetchWords p s E).tail else fetchWords p s E) ++
      opt [loadWord p.mem0 (imemreq_addr s)] (imemreq_en s i) := by
  obtain ⟨hhead, hresp⟩ := respWords_chan (p := p) hE
  have hne : drop_in_rdy s i = true → respWords p s E ≠ [] := fun h e => by rw [hhead h] at e; cases e
  have hreq := congrArg (List.map (loadWord p.mem0)) (reqq_conserve (s := s) hE.1)
  simp only [List.map_append, map_opt] at hreq
  refine ⟨fun h => ?_, ?_⟩
  · rw [fetchWords_eq, List.tail_append_of_ne_nil (hne h), ← List.cons_append, ← hhead h]
  · rw [fetchWords_eq, fetchWords_eq, hresp, List.append_assoc, hreq, ← List.append_assoc]
    congr 1
    split
    · next h => rw [List.tail_append_of_ne_nil (hne (Bool.and_eq_true _ _ ▸ h).2)]
    · rfl

/-- the mngr2proc channel: queue ++ source list loses its head exactly when D reads it (spelt as the clause `Inv.inp`, which
it serves by `rw`) -/
theorem mchan (hE : envOk p E i (out s i)) :
    (mngr2proc_en s i = false →
      (if (next s i).mngr2proc_q.full then [(next s i).mngr2proc_q.entry] else []) ++ (envNext E i (out s i)).src =
      (if s.mngr2proc_q.full then [s.mngr2proc_q.entry] else []) ++ E.src) ∧
    (mngr2proc_en s i = true → mngr2proc_rdy s i = true →
      (if s.mngr2proc_q.full then [s.mngr2proc_q.entry] else []) ++ E.src = mngr2proc_data s i ::
      ((if (next s i).mngr2proc_q.full then [(next s i).mngr2proc_q.entry] else []) ++ (envNext E i (out s i)).src)) := by
  have h := BypQ.chan s.mngr2proc_q hE.1 i.mngr2proc_en (mngr2proc_en s i) i.mngr2proc_msg E.src (fun he => by
    obtain ⟨hrdy, v, rest, h1, h2⟩ := hE.2.2.2 he
    simp [out, BypQ.enq_rdy] at hrdy
    exact ⟨hrdy.2, rest, by rw [h1, h2]⟩)
  refine ⟨fun hd => h.2.trans ?_, fun hd hrdy => (h.1 hrdy).trans (congrArg _ (h.2.trans ?_).symm)⟩
  · rw [hd]; rfl
  · rw [hd]; exact if_pos hrdy

/-- a one-entry bypass queue (`full`) in front of a list `L` of owed responses that together hold what is owed
to at most one instruction (`k`): after a cycle in which a response may arrive (`en`) and the instruction may
take its response (`deq`, only when one is there), they hold what is still owed -/
theorem dchan_count {α : Type} {r full en deq k : Bool} {L : List α} (hr : r = false)
    (hcnt : full.toNat + L.length = k.toNat) (hen : en = true → full = false ∧ ∃ a rest, L = a :: rest)
    (hdeq : deq = true → k = true ∧ (!r && (full || en)) = true) :
    (!r && (!deq && (en || full))).toNat + (if en then L.tail else L).length = (k && !deq).toNat := by
  subst hr
  cases en
  · cases deq
    · simpa using hcnt
    · -- the response taken was in the queue, and it was the only one
      obtain ⟨rfl, hf⟩ := hdeq rfl
      simp only [Bool.not_false, Bool.true_and, Bool.or_false] at hf
      subst hf
      simpa using hcnt
  · obtain ⟨rfl, a, rest, rfl⟩ := hen rfl
    cases deq <;> cases k <;> simp_all

section
variable (I : Inv p N s E c) (hE : envOk p E i (out s i))
include I hE

theorem dchan_next :
    (next s i).dmemresp_q.full.toNat + (if i.dmem_resp_en then E.dresp.tail else E.dresp).length =
      (s.val_M && (s.cm.dmemreq_type != 0) && !dmemresp_en s i).toNat := by
  refine dchan_count hE.1 I.dcnt (fun he => ?_) (fun hd => ?_)
  · obtain ⟨hrdy, r, rest, h1, _⟩ := hE.2.2.1 he
    simp [out, BypQ.enq_rdy] at hrdy
    exact ⟨hrdy.2, r, rest, h1⟩
  · simp only [dmemresp_en, Bool.and_eq_true, Bool.not_eq_true'] at hd
    obtain ⟨⟨hv, hs⟩, ht⟩ := hd
    simp [stall_M, hv, ostall_M, ostall_dmem_M, ht] at hs
    exact ⟨by rw [hv]; exact ht, hs.1.1⟩

theorem dchan_drain (hs : stall_M s i = false) :
    (next s i).dmemresp_q.full = false ∧ (if i.dmem_resp_en then E.dresp.tail else E.dresp) = [] := by
  have h := dchan_next I hE
  rw [show dmemresp_en s i = (s.val_M && (s.cm.dmemreq_type != 0)) by simp [dmemresp_en, hs, nr]] at h
  simp only [Bool.and_not_self, Bool.toNat_false, Nat.add_eq_zero_iff, Bool.toNat_eq_zero, List.length_eq_zero_iff] at h
  exact h

end

theorem no_dreq_of_stall_M (hs : stall_M s i = true) : dmemreq_en s i = false := by
  rcases Bool.eq_false_or_eq_true s.val_X with hv | hv
  · simp [dmemreq_en, stall_X_of_stall_M s i hs hv]
  · simp [dmemreq_en, hv]

theorem envNext_dresp (E : Env) (i : EnvIn) (s : State) :
    (envNext E i (out s i)).dresp = (if i.dmem_resp_en then E.dresp.tail else E.dresp) ++
      opt [if dmemreq_type s == 1 then none else some (loadWord E.dmem (alu_out_X s))] (dmemreq_en s i) := rfl

theorem dcnt_next (I : Inv p N s E c) (hE : envOk p E i (out s i)) :
    (next s i).dmemresp_q.full.toNat + (envNext E i (out s i)).dresp.length =
      ((next s i).val_M && ((next s i).cm.dmemreq_type != 0)).toNat := by
  have hr := hE.1
  rw [envNext_dresp, List.length_append, ← Nat.add_assoc, dchan_next I hE]
  rcases Bool.eq_false_or_eq_true (stall_M s i) with hs | hs
  · -- M holds its instruction; no request is sent
    obtain ⟨h1, h2, _⟩ := hold_M s i hr hs
    rw [h1, h2, no_dreq_of_stall_M hs, show dmemresp_en s i = false by simp [dmemresp_en, hs]]
    simp
  · -- M's response is taken; what X sends now is owed to the new M
    obtain ⟨e1, e2, _⟩ := load_M s i hr hs
    rw [e1, e2, show dmemresp_en s i = (s.val_M && (s.cm.dmemreq_type != 0)) by simp [dmemresp_en, hs, nr]]
    simp only [Bool.and_not_self, Bool.toNat_false, Nat.zero_add, ctlM_next, dmemreq_en, next_val_X, nr]
    exact length_opt _ _

end step
end PV.Pipe
