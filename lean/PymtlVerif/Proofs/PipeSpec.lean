import PymtlVerif.Proofs.PipeIsa
import PymtlVerif.Proofs.Pipe
/-!
Statement side of the refinement proof (level 3 of `Props/C20p.lean`): the ISA run of a program (`isaAt`), the hypothesis on the
program (`Runs`), the environment assumption as an explicit predicate (`Env`, `envOk`, `envNext`,
`EnvTrace`), and the refinement invariant `Inv` between a pipeline state, the environment's state and the
number of commits so far.
-/
namespace PV.Pipe
open PV.TinyRV0 (W32 Mem loadWord storeWord rget rset)

/-- a program: the initial memory image and the mngr2proc source list -/
structure Prog where
  mem0 : Mem
  inp : List Nat

/-- ISA state after `j` instructions (stays put once the interpreter stops) -/
def isaAt (p : Prog) : Nat → TinyRV0.State
  | 0 => TinyRV0.State.init p.mem0 p.inp
  | j + 1 => match TinyRV0.step (isaAt p j) with
    | .ok s' => s'
    | .error _ => isaAt p j

/-- the word of the program image at the PC of the `j`-th instruction -/
def wordAt (p : Prog) (j : Nat) : Nat := loadWord p.mem0 (isaAt p j).pc

/-- `Runs p N`: from reset the ISA interpreter executes `N` instructions without stopping (no illegal word,
no behaviour the document leaves undefined, no `csrr mngr2proc` on an empty FIFO), and each of them is
still the word of the initial image (the program does not overwrite an instruction before executing
it: fetches are served ahead of time by the instruction port) -/
def Runs (p : Prog) (N : Nat) : Prop :=
  ∀ j, j < N → (∃ s', TinyRV0.step (isaAt p j) = .ok s') ∧
    loadWord (isaAt p j).mem (isaAt p j).pc = wordAt p j

/-! ## the environment assumption -/

/-- state of the environment: what it owes the processor -/
structure Env where
  /-- addresses of accepted instruction fetches not answered yet, oldest first -/
  ipend : List Nat := []
  /-- data memory after all accepted stores -/
  dmem : Mem
  /-- data responses owed, oldest first: `some v` = result of a load (read when the request was accepted),
  `none` = acknowledgement of a store (its data field is unconstrained) -/
  dresp : List (Option Nat) := []
  /-- mngr2proc messages not delivered yet -/
  src : List Nat
  /-- proc2mngr messages received -/
  out : List Nat := []

def Env.init (p : Prog) : Env := { dmem := p.mem0, src := p.inp }

/-- what the environment may drive in one cycle, given what it owes (`o` = the processor's outputs of the
same cycle; only the `rdy` of the three receive interfaces is looked at, and those depend on the
processor's state only).  No fairness: it may stall everything forever.
* reset stays low;
* an instruction response is the word of the image at the oldest unanswered fetch address, only when
  the processor is ready for it;
* a data response answers the oldest unanswered request; for a load its data is the little-endian word
  read when the request was accepted;
* a mngr2proc message is the next element of the source list.
`imem.req.rdy`, `dmem.req.rdy`, `proc2mngr.rdy` and the whole accelerator interface are unconstrained. -/
def envOk (p : Prog) (E : Env) (i : EnvIn) (o : EnvOut) : Prop :=
  i.reset = false ∧
  (i.imem_resp_en = true → o.imem_resp_rdy = true ∧
     ∃ a rest, E.ipend = a :: rest ∧ i.imem_resp_data = loadWord p.mem0 a) ∧
  (i.dmem_resp_en = true → o.dmem_resp_rdy = true ∧
     ∃ r rest, E.dresp = r :: rest ∧ ∀ v, r = some v → i.dmem_resp_data = v) ∧
  (i.mngr2proc_en = true → o.mngr2proc_rdy = true ∧
     ∃ v rest, E.src = v :: rest ∧ i.mngr2proc_msg = v)

/-- how the environment's state moves: answered requests leave, accepted requests enter (a store
updates the memory at acceptance, a load reads it at acceptance: requests are served in order) -/
def envNext (E : Env) (i : EnvIn) (o : EnvOut) : Env where
  ipend := (if i.imem_resp_en then E.ipend.tail else E.ipend) ++ (if o.imem_req_en then [o.imem_req_addr] else [])
  dmem := if o.dmem_req_en && (o.dmem_req_type == 1) then storeWord E.dmem o.dmem_req_addr o.dmem_req_data else E.dmem
  dresp := (if i.dmem_resp_en then E.dresp.tail else E.dresp) ++
    (if o.dmem_req_en then [if o.dmem_req_type == 1 then none else some (loadWord E.dmem o.dmem_req_addr)] else [])
  src := if i.mngr2proc_en then E.src.tail else E.src
  out := E.out ++ (if o.proc2mngr_en then [o.proc2mngr_msg] else [])

/-- an input list the environment may produce against the processor started in `s` -/
def EnvTrace (p : Prog) : Env → State → List EnvIn → Prop
  | _, _, [] => True
  | E, s, i :: is => envOk p E i (out s i) ∧ EnvTrace p (envNext E i (out s i)) (next s i) is

/-- the environment's state after the trace -/
def envRun : Env → State → List EnvIn → Env
  | E, _, [] => E
  | E, s, i :: is => envRun (envNext E i (out s i)) (next s i) is

/-- number of commits (`commit_inst` pulses) during the trace -/
def commitCount : State → List EnvIn → Nat
  | _, [] => 0
  | s, i :: is => (commit_inst s i).toNat + commitCount (next s i) is

/-- the processor right after reset: nothing valid, PC register at the reset value, queues empty,
registers zero (`RegisterFile` has no reset: the power-on zeros) -/
structure PostReset (s : State) : Prop where
  vF : s.val_F = false
  vD : s.val_D = false
  vX : s.val_X = false
  vM : s.val_M = false
  vW : s.val_W = false
  pc : s.pc_F = 0x1fc
  rf : s.rf = List.replicate 32 0
  dw : s.drop_wait = false
  q1 : s.q1_full = false
  q2 : s.q2_full = false
  iq : s.imemresp_q.full = false
  dq : s.dmemresp_q.full = false
  mq : s.mngr2proc_q.full = false
  ex : s.cx.proc2mngr_en = false ∧ s.cm.proc2mngr_en = false ∧ s.cw.proc2mngr_en = false

/-! ## the refinement invariant -/

/-- index (in ISA program order) of the instruction in M / X / D / F when `c` instructions have committed -/
def iM (s : State) (c : Nat) : Nat := c + s.val_W.toNat
def iX (s : State) (c : Nat) : Nat := iM s c + s.val_M.toNat
def iD (s : State) (c : Nat) : Nat := iX s c + s.val_X.toNat
def iF (s : State) (c : Nat) : Nat := iD s c + s.val_D.toNat

/-- X holds a branch that the ISA takes -/
def tkX (p : Prog) (N : Nat) (s : State) (c : Nat) : Prop :=
  s.val_X = true ∧ iX s c < N ∧ U.taken (isaAt p (iX s c)) (wordAt p (iX s c)) = true
def tkD (p : Prog) (N : Nat) (s : State) (c : Nat) : Prop :=
  s.val_D = true ∧ iD s c < N ∧ U.taken (isaAt p (iD s c)) (wordAt p (iD s c)) = true

/-- X-stage control word of an instruction word -/
def ctlX_of (w : Nat) : CtlX := ctlX_next { inst_D := w }

/-- instruction words owed to the F stage, oldest first: response queue, memory, request queue -/
def fetchWords (p : Prog) (s : State) (E : Env) : List Nat :=
  (if s.imemresp_q.full then [s.imemresp_q.entry] else []) ++
  (E.ipend ++ (if s.q2_full then [s.q2_buf] else []) ++ (if s.q1_full then [s.q1_buf] else [])).map (loadWord p.mem0)

/-- W holds instruction `j` with its result -/
structure WOk (p : Prog) (s : State) (j : Nat) : Prop where
  wen : s.cw.rf_wen_pending = (U.cs (wordAt p j)).rf_wen_pending
  waddr : s.cw.rf_waddr = rd (wordAt p j)
  p2m : s.cw.proc2mngr_en = U.p2m (wordAt p j)
  val : ((U.cs (wordAt p j)).rf_wen_pending = true ∨ U.p2m (wordAt p j) = true) →
    s.wb_result_W = U.wb (isaAt p j) (wordAt p j)

/-- M holds instruction `j`; a load's value is in the response queue or owed by the memory -/
structure MOk (p : Prog) (s : State) (E : Env) (j : Nat) : Prop where
  wen : s.cm.rf_wen_pending = (U.cs (wordAt p j)).rf_wen_pending
  waddr : s.cm.rf_waddr = rd (wordAt p j)
  p2m : s.cm.proc2mngr_en = U.p2m (wordAt p j)
  dty : s.cm.dmemreq_type = (U.cs (wordAt p j)).dmemreq_type
  sel : s.cm.wb_result_sel = (U.cs (wordAt p j)).wb_result_sel
  xcel : s.cm.xcelreq = false
  val : (U.cs (wordAt p j)).wb_result_sel = 0 →
    ((U.cs (wordAt p j)).rf_wen_pending = true ∨ U.p2m (wordAt p j) = true) →
    s.ex_result_M = U.aluv (isaAt p j) (wordAt p j)
  ldv : (U.cs (wordAt p j)).dmemreq_type = ld →
    (s.dmemresp_q.full = true → s.dmemresp_q.entry = loadWord (isaAt p j).mem (U.aluv (isaAt p j) (wordAt p j))) ∧
    (∀ r ∈ E.dresp, r = some (loadWord (isaAt p j).mem (U.aluv (isaAt p j) (wordAt p j))))

/-- X holds instruction `j` with the operands the ISA reads -/
structure XOk (p : Prog) (s : State) (j : Nat) : Prop where
  ctl : s.cx = ctlX_of (wordAt p j)
  op1 : (U.cs (wordAt p j)).rs1_en = true → s.op1_X = U.op1 (isaAt p j) (wordAt p j)
  op2 : ((U.cs (wordAt p j)).op2_sel ≠ 0 ∨ (U.cs (wordAt p j)).rs2_en = true) → s.op2_X = U.op2 (isaAt p j) (wordAt p j)
  sto : (U.cs (wordAt p j)).rs2_en = true → s.store_X = U.rs2v (isaAt p j) (wordAt p j)
  tgt : (U.cs (wordAt p j)).br_type = true → s.br_target_X = ((isaAt p j).pc + U.imm (wordAt p j)) % W32

/-- the refinement invariant: `c` = number of commits so far -/
structure Inv (p : Prog) (N : Nat) (s : State) (E : Env) (c : Nat) : Prop where
  /-- architectural state: register file and proc2mngr stream are the ISA's after `c` instructions -/
  rf : c ≤ N → s.rf = (isaAt p c).regs
  out : c ≤ N → E.out = (isaAt p c).out
  /-- the stages hold consecutive instructions of the ISA run -/
  w : s.val_W = true → c < N → WOk p s c
  m : s.val_M = true → iM s c < N → MOk p s E (iM s c)
  x : s.val_X = true → iX s c < N → XOk p s (iX s c)
  /-- memory and input stream run ahead of the commits: stores are sent from X, mngr2proc is read in D -/
  dmem : iX s c ≤ N → E.dmem = (isaAt p (iX s c)).mem
  dcnt : s.dmemresp_q.full.toNat + E.dresp.length = (s.val_M && (s.cm.dmemreq_type != 0)).toNat
  inp : iD s c ≤ N →
    (if s.mngr2proc_q.full then [s.mngr2proc_q.entry] else []) ++ E.src = (isaAt p (iD s c)).inp
  /-- D and F are on the ISA's path unless an older in-flight branch is taken -/
  d : s.val_D = true → iD s c < N → ¬ tkX p N s c →
    s.pc_D = (isaAt p (iD s c)).pc ∧ s.inst_D = wordAt p (iD s c)
  f : s.val_F = true → iF s c ≤ N → ¬ tkX p N s c → ¬ tkD p N s c → s.pc_F = (isaAt p (iF s c)).pc
  f0 : s.val_F = false → s.val_D = false ∧ s.val_X = false ∧ s.val_M = false ∧ s.val_W = false ∧
    s.drop_wait = false ∧ c = 0 ∧ s.pc_F = 0x1fc
  /-- fetch accounting: the words owed to F are the squashed fetch the drop unit waits for (if any) and
  the word at the PC register -/
  fw : ∃ junk, fetchWords p s E =
    (if s.drop_wait then [junk] else []) ++ (if s.val_F then [loadWord p.mem0 s.pc_F] else [])
  q1 : s.q1_full = true → s.drop_wait = true
  wt : s.drop_wait = true → s.val_D = false ∧ s.val_X = false
  /-- no control word both writes a register and sends to proc2mngr (so a stalled W never writes) -/
  excl : (s.cx.proc2mngr_en = true → s.cx.rf_wen_pending = false) ∧
    (s.cm.proc2mngr_en = true → s.cm.rf_wen_pending = false) ∧
    (s.cw.proc2mngr_en = true → s.cw.rf_wen_pending = false)

end PV.Pipe
