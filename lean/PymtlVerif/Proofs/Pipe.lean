import PymtlVerif.Model.Pipe
/-!
One-cycle facts about `Model/Pipe.lean` that need no invariant (core Lean only): the stall chain
(`stall_W → stall_M → stall_X → stall_D → stall_F` for valid stages), the valid bits after the edge, a stalled
stage keeps its registers, a stage whose predecessor stalls / is squashed / is empty receives a bubble, squashes
originate from `osquash_X` only, register-file writes.  Before them the two principles the other pipeline files
argue by: the control table has thirteen rows (`csTable_forall`), and what every cycle preserves holds along
every run (`runS_inv`).  After them F's register and the drop unit as one-place buffers of any kind of item (`stage_step`,
`leaves_F`, `drop_unit`, `dropOut_length`).
-/
namespace PV.Pipe

/-- the control table has thirteen rows (twelve instruction types and the `else` row): what holds of all of them
holds of every `csTable t` -/
theorem csTable_forall {P : CS → Prop}
    (h : ∀ t ∈ [NOP, CSRRX, CSRR, CSRW, ADD, SLL, SRL, ADDI, LW, SW, BNE, AND, ZERO], P (csTable t)) (t : Nat) :
    P (csTable t) := by
  by_cases m : t ∈ [NOP, CSRRX, CSRR, CSRW, ADD, SLL, SRL, ADDI, LW, SW, BNE, AND]
  · exact h t (List.mem_append_left [ZERO] m)
  · simp only [List.mem_cons, List.not_mem_nil, or_false, not_or] at m
    rw [show csTable t = csTable ZERO by simp [csTable, m]; decide]
    exact h ZERO (by decide)

theorem runS_inv {P : State → Prop} (h : ∀ s i, P s → P (next s i)) :
    ∀ (envs : List EnvIn) (s : State), P s → P (runS s envs)
  | [], _, hs => hs
  | i :: is, s, hs => runS_inv h is _ (h s i hs)

theorem stall_W_val (s : State) (i : EnvIn) (h : stall_W s i = true) : s.val_W = true := by
  simp [stall_W] at h; exact h.1
theorem stall_M_val (s : State) (i : EnvIn) (h : stall_M s i = true) : s.val_M = true := by
  simp [stall_M] at h; exact h.1
theorem stall_X_val (s : State) (i : EnvIn) (h : stall_X s i = true) : s.val_X = true := by
  simp [stall_X] at h; exact h.1
theorem stall_D_val (s : State) (i : EnvIn) (h : stall_D s i = true) : s.val_D = true := by
  simp [stall_D] at h; exact h.1
theorem stall_M_of_stall_W (s : State) (i : EnvIn) (h : stall_W s i = true) (hv : s.val_M = true) :
    stall_M s i = true := by
  simp [stall_W, stall_M] at *; grind
theorem stall_X_of_stall_M (s : State) (i : EnvIn) (h : stall_M s i = true) (hv : s.val_X = true) :
    stall_X s i = true := by
  simp [stall_M, stall_X] at *; grind
theorem stall_D_of_stall_X (s : State) (i : EnvIn) (h : stall_X s i = true) (hv : s.val_D = true) :
    stall_D s i = true := by
  simp [stall_X, stall_D] at *; grind
theorem stall_F_of_stall_D (s : State) (i : EnvIn) (h : stall_D s i = true) (hv : s.val_F = true) :
    stall_F s i = true := by
  simp [stall_D, stall_F] at *; grind

structure NextVals (s : State) (i : EnvIn) : Prop where
  val_F : (next s i).val_F = (if reg_en_F s i then true else s.val_F)
  val_D : (next s i).val_D = (if reg_en_D s i then next_val_F s i else s.val_D)
  val_X : (next s i).val_X = (if reg_en_X s i then next_val_D s i else s.val_X)
  val_M : (next s i).val_M = (if reg_en_M s i then next_val_X s i else s.val_M)
  val_W : (next s i).val_W = (if reg_en_W s i then next_val_M s i else s.val_W)
  drop_wait : (next s i).drop_wait = (if s.drop_wait then !drop_in_rdy s i else squash_F s i && !drop_in_rdy s i)

theorem next_vals (s : State) (i : EnvIn) (hr : i.reset = false) : NextVals s i := by
  have nr : ¬i.reset = true := ne_true_of_eq_false hr
  refine ⟨if_neg nr, if_neg nr, if_neg nr, if_neg nr, if_neg nr, ?_⟩
  simp [next, hr, imemresp_drop]
  cases s.drop_wait <;> simp

/-- F is never empty after a cycle without reset: its register is disabled only while it holds a fetch -/
theorem val_F_next (s : State) (i : EnvIn) (hr : i.reset = false) : (next s i).val_F = true := by
  rw [(next_vals s i hr).val_F]
  cases hv : s.val_F <;> simp [reg_en_F, stall_F, hv]

theorem next_reset (s : State) (i : EnvIn) (hr : i.reset = true) :
    (next s i).val_F = false ∧ (next s i).val_D = false ∧ (next s i).val_X = false ∧
    (next s i).val_M = false ∧ (next s i).val_W = false ∧ (next s i).drop_wait = false := by
  simp [next, hr]

/-! a register with reset `r` (to `x`), enable `en`, input `d` and content `q` -/
section reg
variable {α β : Type} {r en : Bool} {x d q : α}

theorem reg_hold (hr : r = false) (he : en = false) : (if r then x else if en then d else q) = q := by
  subst hr he; rfl
theorem reg_load (hr : r = false) (he : en = true) : (if r then x else if en then d else q) = d := by
  subst hr he; rfl
theorem reg_cases (r en : Bool) (q d : α) :
    (if r then q else if en then d else q) = q ∨ (if r then q else if en then d else q) = d := by
  cases r <;> cases en <;> simp
theorem reg_proj (f : α → β) (r en : Bool) (d q : α) :
    (if r then f q else if en then f d else f q) = f (if r then q else if en then d else q) := by
  cases r <;> cases en <;> rfl
end reg

theorem hold_W (s : State) (i : EnvIn) (hr : i.reset = false) (h : stall_W s i = true) :
    (next s i).val_W = s.val_W ∧ (next s i).cw = s.cw ∧ (next s i).wb_result_W = s.wb_result_W := by
  have e : reg_en_W s i = false := by simp [reg_en_W, h]
  exact ⟨reg_hold hr e, reg_hold hr e, reg_hold hr e⟩
theorem hold_M (s : State) (i : EnvIn) (hr : i.reset = false) (h : stall_M s i = true) :
    (next s i).val_M = s.val_M ∧ (next s i).cm = s.cm ∧ (next s i).ex_result_M = s.ex_result_M := by
  have e : reg_en_M s i = false := by simp [reg_en_M, h]
  exact ⟨reg_hold hr e, reg_hold hr e, reg_hold hr e⟩
theorem hold_X (s : State) (i : EnvIn) (hr : i.reset = false) (h : stall_X s i = true) :
    (next s i).val_X = s.val_X ∧ (next s i).cx = s.cx ∧ (next s i).op1_X = s.op1_X ∧ (next s i).op2_X = s.op2_X
      ∧ (next s i).store_X = s.store_X ∧ (next s i).br_target_X = s.br_target_X := by
  have e : reg_en_X s i = false := by simp [reg_en_X, h]
  exact ⟨reg_hold hr e, reg_hold hr e, reg_hold hr e, reg_hold hr e, reg_hold hr e, reg_hold hr e⟩
theorem hold_D (s : State) (i : EnvIn) (hr : i.reset = false) (h : stall_D s i = true) (hs : squash_D s i = false) :
    (next s i).val_D = s.val_D ∧ (next s i).pc_D = s.pc_D ∧ (next s i).inst_D = s.inst_D := by
  have e : reg_en_D s i = false := by simp [reg_en_D, h, hs]
  exact ⟨reg_hold hr e, reg_hold hr e, reg_hold hr e⟩
theorem hold_F (s : State) (i : EnvIn) (hr : i.reset = false) (h : stall_F s i = true) (hs : squash_F s i = false) :
    (next s i).val_F = s.val_F ∧ (next s i).pc_F = s.pc_F := by
  have e : reg_en_F s i = false := by simp [reg_en_F, h, hs]
  exact ⟨reg_hold hr e, reg_hold hr e⟩

section load
variable (s : State) (i : EnvIn) (hr : i.reset = false)
include hr

theorem load_W (h : stall_W s i = false) :
    (next s i).val_W = next_val_M s i ∧ (next s i).cw = ctlW_next s ∧ (next s i).wb_result_W = bypass_M s i :=
  have he : reg_en_W s i = true := by rw [reg_en_W, h]; rfl
  ⟨reg_load hr he, reg_load hr he, reg_load hr he⟩
theorem load_M (h : stall_M s i = false) :
    (next s i).val_M = next_val_X s i ∧ (next s i).cm = ctlM_next s ∧ (next s i).ex_result_M = alu_out_X s :=
  have he : reg_en_M s i = true := by rw [reg_en_M, h]; rfl
  ⟨reg_load hr he, reg_load hr he, reg_load hr he⟩
theorem load_X (h : stall_X s i = false) :
    (next s i).val_X = next_val_D s i ∧ (next s i).cx = ctlX_next s ∧ (next s i).op1_X = op1_byp_D s i ∧
      (next s i).op2_X = op2_D s i ∧ (next s i).store_X = op2_byp_D s i ∧ (next s i).br_target_X = pc_plus_imm_D s :=
  have he : reg_en_X s i = true := by rw [reg_en_X, h]; rfl
  ⟨reg_load hr he, reg_load hr he, reg_load hr he, reg_load hr he, reg_load hr he, reg_load hr he⟩
theorem load_D (he : reg_en_D s i = true) :
    (next s i).val_D = next_val_F s i ∧ (next s i).pc_D = s.pc_F ∧ (next s i).inst_D = imemresp_data s i :=
  ⟨reg_load hr he, reg_load hr he, reg_load hr he⟩
theorem pc_F_next : (next s i).pc_F = if reg_en_F s i then imemreq_addr s else s.pc_F :=
  if_neg (ne_true_of_eq_false hr)

end load

theorem cx_next (s : State) (i : EnvIn) : (next s i).cx = s.cx ∨ (next s i).cx = ctlX_next s :=
  reg_cases i.reset (reg_en_X s i) s.cx (ctlX_next s)
theorem cm_next (s : State) (i : EnvIn) : (next s i).cm = s.cm ∨ (next s i).cm = ctlM_next s :=
  reg_cases i.reset (reg_en_M s i) s.cm (ctlM_next s)
theorem cw_next (s : State) (i : EnvIn) : (next s i).cw = s.cw ∨ (next s i).cw = ctlW_next s :=
  reg_cases i.reset (reg_en_W s i) s.cw (ctlW_next s)

theorem rf_change (s : State) (i : EnvIn) (h : (next s i).rf ≠ s.rf) :
    s.val_W = true ∧ s.cw.rf_wen_pending = true ∧ s.cw.rf_waddr ≠ 0 ∧
    (next s i).rf = s.rf.set s.cw.rf_waddr s.wb_result_W := by
  change rf_write s.rf (rf_wen_W s) s.cw.rf_waddr s.wb_result_W ≠ s.rf at h
  show _ ∧ _ ∧ _ ∧ rf_write s.rf (rf_wen_W s) s.cw.rf_waddr s.wb_result_W = _
  unfold rf_write at *
  by_cases hc : (rf_wen_W s && s.cw.rf_waddr != 0) = true
  · rw [if_pos hc]
    simp [rf_wen_W] at hc
    exact ⟨hc.1.1, hc.1.2, hc.2, rfl⟩
  · exact absurd (if_neg hc) h

theorem bubble_W (s : State) (i : EnvIn) (hr : i.reset = false) (h : stall_W s i = false)
    (hp : stall_M s i = true ∨ s.val_M = false) : (next s i).val_W = false := by
  rcases hp with hp | hp <;> simp [(next_vals s i hr).val_W, reg_en_W, h, next_val_M, hp]
theorem bubble_M (s : State) (i : EnvIn) (hr : i.reset = false) (h : stall_M s i = false)
    (hp : stall_X s i = true ∨ s.val_X = false) : (next s i).val_M = false := by
  rcases hp with hp | hp <;> simp [(next_vals s i hr).val_M, reg_en_M, h, next_val_X, hp]
theorem bubble_X (s : State) (i : EnvIn) (hr : i.reset = false) (h : stall_X s i = false)
    (hp : stall_D s i = true ∨ squash_D s i = true ∨ s.val_D = false) : (next s i).val_X = false := by
  rcases hp with hp | hp | hp <;> simp [(next_vals s i hr).val_X, reg_en_X, h, next_val_D, hp]
theorem bubble_D (s : State) (i : EnvIn) (hr : i.reset = false) (h : reg_en_D s i = true)
    (hp : stall_F s i = true ∨ squash_F s i = true ∨ s.val_F = false) : (next s i).val_D = false := by
  rcases hp with hp | hp | hp <;> simp [(next_vals s i hr).val_D, h, next_val_F, hp]

theorem squash_D_origin (s : State) (i : EnvIn) (h : squash_D s i = true) :
    s.val_D = true ∧ osquash_X s i = true := by
  simpa [squash_D] using h
theorem squash_F_origin (s : State) (i : EnvIn) (h : squash_F s i = true) :
    s.val_F = true ∧ osquash_X s i = true := by
  simpa [squash_F, osquash_D] using h
theorem osquash_X_origin (s : State) (i : EnvIn) (h : osquash_X s i = true) :
    s.val_X = true ∧ stall_X s i = false ∧ s.cx.br_type = true ∧ s.op1_X ≠ s.op2_X := by
  simp [osquash_X, pc_redirect_X, ne_X, br_ne] at h
  exact ⟨h.1.1, h.1.2, h.2.1.2, h.2.2⟩
theorem squash_effect (s : State) (i : EnvIn) (hr : i.reset = false) (h : osquash_X s i = true) :
    (next s i).val_D = false ∧ (next s i).val_X = false ∧
    (s.val_F = true → (next s i).pc_F = s.br_target_X) := by
  have hx := osquash_X_origin s i h
  have hX : pc_redirect_X s = true := by simp [osquash_X] at h; exact h.2
  have hD : squash_D s i = s.val_D := by simp [squash_D, h]
  have hF : squash_F s i = s.val_F := by simp [squash_F, h]
  refine ⟨?_, bubble_X s i hr hx.2.1 ?_, ?_⟩
  · refine bubble_D s i hr ?_ ?_
    · cases hv : s.val_D <;> simp [reg_en_D, hD, stall_D, hv]
    · cases hv : s.val_F <;> simp [hF, hv]
  · cases hv : s.val_D <;> simp [hD, hv]
  · intro hv
    simp [next, hr, reg_en_F, hF, hv, imemreq_addr, pc_sel_F, hX]

theorem reg_en_W_of_next_val_M (s : State) (i : EnvIn) (h : next_val_M s i = true) : reg_en_W s i = true := by
  simp [next_val_M, reg_en_W] at *
  cases hw : stall_W s i
  · rfl
  · rw [stall_M_of_stall_W s i hw h.1] at h; exact absurd h.2 (by decide)
theorem reg_en_M_of_next_val_X (s : State) (i : EnvIn) (h : next_val_X s i = true) : reg_en_M s i = true := by
  simp [next_val_X, reg_en_M] at *
  cases hw : stall_M s i
  · rfl
  · rw [stall_X_of_stall_M s i hw h.1] at h; exact absurd h.2 (by decide)
theorem reg_en_X_of_next_val_D (s : State) (i : EnvIn) (h : next_val_D s i = true) : reg_en_X s i = true := by
  simp [next_val_D, reg_en_X] at *
  cases hw : stall_X s i
  · rfl
  · rw [stall_D_of_stall_X s i hw h.1.1] at h; exact absurd h.1.2 (by decide)
theorem reg_en_D_of_next_val_F (s : State) (i : EnvIn) (h : next_val_F s i = true) : reg_en_D s i = true := by
  simp [next_val_F, reg_en_D] at *
  cases hw : stall_D s i
  · simp
  · rw [stall_F_of_stall_D s i hw h.1.1] at h; exact absurd h.1.2 (by decide)

/-- in WAIT the drop unit is not ready towards F: a valid F stalls -/
theorem stall_F_of_wait (s : State) (i : EnvIn) (hw : s.drop_wait = true) (hv : s.val_F = true) :
    stall_F s i = true := by
  simp [stall_F, ostall_F, imemresp_rdy, hw, hv]
theorem next_val_F_of_wait (s : State) (i : EnvIn) (hw : s.drop_wait = true) : next_val_F s i = false := by
  cases hv : s.val_F
  · simp [next_val_F, hv]
  · simp [next_val_F, stall_F_of_wait s i hw hv]
theorem osquash_X_val (s : State) (i : EnvIn) (h : s.val_X = false) : osquash_X s i = false := by
  simp [osquash_X, h]
theorem squash_F_of_val_X (s : State) (i : EnvIn) (h : s.val_X = false) : squash_F s i = false := by
  simp [squash_F, osquash_D, osquash_X_val s i h]
theorem squash_D_of_val_X (s : State) (i : EnvIn) (h : s.val_X = false) : squash_D s i = false := by
  simp [squash_D, osquash_X_val s i h]
theorem drop_in_rdy_of_next_val_F (s : State) (i : EnvIn) (h : next_val_F s i = true) :
    drop_in_rdy s i = true ∧ s.drop_wait = false ∧ squash_F s i = false ∧ s.val_F = true ∧ stall_F s i = false := by
  have hw : s.drop_wait = false := by
    cases hw : s.drop_wait
    · rfl
    · rw [next_val_F_of_wait s i hw] at h; cases h
  simp [next_val_F] at h
  obtain ⟨⟨hv, hs⟩, hq⟩ := h
  refine ⟨?_, hw, hq, hv, hs⟩
  simp [stall_F, hv, ostall_F, imemresp_rdy, hw, imemresp_drop, hq] at hs
  exact hs.1.1.1.1

/-- the drop unit waits only while D and X are empty: it enters WAIT on a squash, which empties them, and while it
waits F delivers nothing -/
theorem wait_next (s : State) (i : EnvIn) (hr : i.reset = false)
    (h : s.drop_wait = true → s.val_D = false ∧ s.val_X = false) :
    (next s i).drop_wait = true → (next s i).val_D = false ∧ (next s i).val_X = false := by
  obtain ⟨-, vD, vX, -, -, vwait⟩ := next_vals s i hr
  intro hw'
  rw [vwait] at hw'
  cases hw : s.drop_wait
  · simp [hw] at hw'
    have := squash_effect s i hr (squash_F_origin s i hw'.1).2
    exact ⟨this.1, this.2.1⟩
  · obtain ⟨hd, hx⟩ := h hw
    rw [vD, vX]
    simp [next_val_F_of_wait s i hw, hd, hx, next_val_D]

def opt {α : Type} (l : List α) (b : Bool) : List α := if b then l else []

@[simp] theorem opt_true {α : Type} (l : List α) : opt l true = l := rfl
@[simp] theorem opt_false {α : Type} (l : List α) : opt l false = [] := rfl
theorem length_opt {α : Type} (x : α) (b : Bool) : (opt [x] b).length = b.toNat := by cases b <;> rfl
theorem filter_opt {α : Type} (p : α → Bool) (x : α) (b : Bool) : (opt [x] b).filter p = opt [x] (b && p x) := by
  cases b <;> cases h : p x <;> simp [h]
theorem map_opt {α β : Type} (f : α → β) (x : α) (b : Bool) : (opt [x] b).map f = opt [f x] b := by
  cases b <;> rfl

section buffers
variable {α : Type} {s : State} {i : EnvIn}

/-- one cycle of a pipeline register seen through its logs: what has entered (`A`) is what has left (`B`) plus the
item held; the held item leaves exactly when the register is enabled, and only then can a new one enter -/
theorem stage_step {A B : List α} {t tin : α} {v en ein : Bool} (h : A = B ++ opt [t] v)
    (hin : ein = true → en = true) :
    A ++ opt [tin] ein = B ++ opt [t] (v && en) ++ opt [if en then tin else t] (if en then ein else v) := by
  subst h
  cases en
  · cases ein
    · simp
    · exact absurd (hin rfl) (by decide)
  · simp

/-- what leaves F in a cycle is delivered to D or squashed, never both -/
theorem leaves_F (s : State) (i : EnvIn) (t : α) :
    opt [t] (s.val_F && reg_en_F s i) = opt [t] (next_val_F s i) ++ opt [t] (squash_F s i) := by
  have := squash_F_origin s i
  unfold next_val_F reg_en_F
  cases hv : s.val_F <;> cases stall_F s i <;> cases hq : squash_F s i <;> simp_all

/-- what the drop unit takes out of the response queue in a cycle: the response of the squashed fetch it waits for
(`a`), or that of the fetch leaving F, delivered (`b`) or squashed (`c`); with tags, what `gnext` logs in `consumedF` -/
def dropOut (s : State) (i : EnvIn) (a b c : α) : List α :=
  if s.drop_wait then (if drop_in_rdy s i then [a] else [])
  else if squash_F s i && drop_in_rdy s i then [c]
  else if next_val_F s i then [b] else []

/-- one cycle of the drop unit: the squashed fetch still waited for is a one-place buffer behind F; the fetch that
leaves F joins it, and what the unit takes leaves it.  The drop unit forgets a squash that arrives while it waits, so
the equation needs that none does (`hwq`; in WAIT, X is empty) -/
theorem drop_unit (a b c : α) (hr : i.reset = false) (hwq : s.drop_wait = true → squash_F s i = false) :
    opt [a] s.drop_wait ++ opt [b] (next_val_F s i) ++ opt [c] (squash_F s i) =
      dropOut s i a b c ++
        opt [if !s.drop_wait && squash_F s i && !drop_in_rdy s i then c else a] (next s i).drop_wait := by
  rw [(next_vals s i hr).drop_wait, dropOut]
  cases hw : s.drop_wait
  · cases hq : squash_F s i
    · cases next_val_F s i <;> simp
    · have hn : next_val_F s i = false := by simp [next_val_F, hq]
      cases drop_in_rdy s i <;> simp [hn]
  · rw [hwq hw, next_val_F_of_wait s i hw]; cases drop_in_rdy s i <;> simp

/-- it takes a response exactly in a real dequeue (`en` and `rdy`) while a fetch is outstanding -/
theorem dropOut_length (s : State) (i : EnvIn) (a b c : α) :
    (dropOut s i a b c).length = (drop_in_en s i && drop_in_rdy s i && (s.drop_wait || s.val_F)).toNat := by
  unfold dropOut drop_in_en imemresp_en
  cases hw : s.drop_wait
  · cases hq : squash_F s i
    · cases hn : next_val_F s i
      · simp [next_val_F, hq] at hn
        cases hv : s.val_F <;> simp_all
      · obtain ⟨h1, _, _, h2, h3⟩ := drop_in_rdy_of_next_val_F s i hn
        simp [h1, h2, h3]
    · cases drop_in_rdy s i <;> simp [(squash_F_origin s i hq).1, next_val_F, hq]
  · cases drop_in_rdy s i <;> simp

end buffers

theorem not_stall_D {s : State} {i : EnvIn} (hv : s.val_D = true) (h : stall_D s i = false) :
    ostall_mngr_D s i = false ∧ ostall_hazard_D s = false ∧ stall_X s i = false ∧ stall_M s i = false := by
  simp [stall_D, hv, ostall_D] at h
  simp [stall_X, stall_M, h]
theorem not_stall_F {s : State} {i : EnvIn} (hv : s.val_F = true) (h : stall_F s i = false) :
    stall_D s i = false ∧ stall_X s i = false := by
  simp [stall_F, hv] at h
  simp [stall_D, stall_X, h]

theorem next_val_M_true {s : State} {i : EnvIn} (h : next_val_M s i = true) :
    s.val_M = true ∧ stall_M s i = false := by simpa [next_val_M] using h
theorem next_val_X_true {s : State} {i : EnvIn} (h : next_val_X s i = true) :
    s.val_X = true ∧ stall_X s i = false := by simpa [next_val_X] using h
theorem next_val_D_true {s : State} {i : EnvIn} (h : next_val_D s i = true) :
    s.val_D = true ∧ stall_D s i = false ∧ squash_D s i = false := by
  simpa [next_val_D, and_assoc] using h
theorem next_val_D_eq (s : State) (i : EnvIn) :
    (s.val_D && reg_en_D s i && !squash_D s i) = next_val_D s i := by
  unfold next_val_D reg_en_D
  cases s.val_D <;> cases stall_D s i <;> cases squash_D s i <;> rfl

theorem rf_read_write_ne {rf : List Nat} {wen : Bool} {wa wd a : Nat} (h : a ≠ wa) :
    rf_read (rf_write rf wen wa wd) a = rf_read rf a := by
  unfold rf_write rf_read
  split
  · simp [List.getD_eq_getElem?_getD, List.getElem?_set_ne (Ne.symm h)]
  · rfl
/-- register 0 of the file is never written (`const_zero=True`) -/
theorem rf_zero (s : State) (i : EnvIn) : rf_read (next s i).rf 0 = rf_read s.rf 0 := by
  by_cases h : s.cw.rf_waddr = 0
  · show rf_read (rf_write _ _ _ _) 0 = _
    simp [rf_write, h]
  · exact rf_read_write_ne (Ne.symm h)
theorem rf_other (s : State) (i : EnvIn) (a : Nat) (h : a ≠ s.cw.rf_waddr) :
    rf_read (next s i).rf a = rf_read s.rf a :=
  rf_read_write_ne h

end PV.Pipe
