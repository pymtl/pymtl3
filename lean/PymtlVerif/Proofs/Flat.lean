import PymtlVerif.Model.Flat
import PymtlVerif.Proofs.Pack
import PymtlVerif.Proofs.Parse
import PymtlVerif.Proofs.ListFacts
/-!
Theorems about the flat port map of the Yosys backend (`Model/Flat.lean`): every leaf is a part select of the packed
value and holds the component its path leads to (invariant `SliceOK`), the part selects tile the packed vector
(`Tiles`), and the mangled names of the leaves are distinct, first as paths, then as strings under `GoodName`.
-/
namespace PV.Flat
open PV.SV

def fieldNames : Fields → List String
  | .nil => []
  | .cons f _ rest => f :: fieldNames rest

mutual
  /-- every vector in the type has a positive width -/
  def Pos : PTy → Prop
    | .vec w => 0 < w
    | .arr _ e => Pos e
    | .struct _ fs => PosFields fs
  def PosFields : Fields → Prop
    | .nil => True
    | .cons _ t rest => Pos t ∧ PosFields rest
end

mutual
  /-- the field names of every struct in the type are pairwise distinct (they are the keys of a Python dict) -/
  def Distinct : PTy → Prop
    | .vec _ => True
    | .arr _ e => Distinct e
    | .struct _ fs => (fieldNames fs).Nodup ∧ DistinctFields fs
  def DistinctFields : Fields → Prop
    | .nil => True
    | .cons _ t rest => Distinct t ∧ DistinctFields rest
end

theorem hasTy_vec {w : Nat} {v : Val} (h : HasTy v (.vec w)) : ∃ x, v = .bits x ∧ x < 2 ^ w := by
  cases v with
  | bits x => exact ⟨x, rfl, h⟩
  | _ => exact h.elim

theorem hasTy_arr {n : Nat} {e : PTy} {v : Val} (h : HasTy v (.arr n e)) :
    ∃ es, v = .arr es ∧ es.length = n ∧ ∀ x ∈ es, HasTy x e := by
  cases v with
  | arr es => exact ⟨es, rfl, h⟩
  | _ => exact h.elim

theorem hasTy_struct {nm : String} {fs : Fields} {v : Val} (h : HasTy v (.struct nm fs)) :
    ∃ vs, v = .struct vs ∧ HasTyFields vs fs := by
  cases v with
  | struct vs => exact ⟨vs, rfl, h⟩
  | _ => exact h.elim

theorem hasTyFields_cons {f : String} {t : PTy} {rest : Fields} {vs : List Val} (h : HasTyFields vs (.cons f t rest)) :
    ∃ v vs', vs = v :: vs' ∧ HasTy v t ∧ HasTyFields vs' rest := by
  cases vs with
  | nil => exact h.elim
  | cons v vs => exact ⟨v, vs, rfl, h⟩

theorem packLE_lt (w : Nat) (xs : List Nat) (h : ∀ x ∈ xs, x < 2 ^ w) :
    packLE w xs < 2 ^ (xs.length * w) := by
  induction xs with
  | nil => exact Nat.two_pow_pos _
  | cons x xs ih =>
    obtain ⟨hx, hxs⟩ := List.forall_mem_cons.mp h
    rw [packLE, List.length_cons, Nat.succ_mul, Nat.add_comm _ w, Nat.pow_add]
    exact Pack.cat_lt hx (ih hxs)

theorem packLE_extract (w : Nat) (xs : List Nat) (h : ∀ x ∈ xs, x < 2 ^ w) (i : Nat) (hi : i < xs.length) :
    packLE w xs / 2 ^ (i * w) % 2 ^ w = xs[i] := by
  induction xs generalizing i with
  | nil => exact absurd hi (Nat.not_lt_zero _)
  | cons x xs ih =>
    obtain ⟨hx, hxs⟩ := List.forall_mem_cons.mp h
    cases i with
    | zero =>
      rw [packLE, Nat.zero_mul, Nat.pow_zero, Nat.div_one, Pack.cat_mod hx]
      rfl
    | succ i =>
      rw [packLE, Nat.succ_mul, Nat.add_comm (i * w), Nat.pow_add, ← Nat.div_div_eq_div_mul, Pack.cat_div hx]
      exact ih hxs i (Nat.lt_of_succ_lt_succ hi)

/-- the packed fields in the orientation of Proofs/Pack.lean: the later fields are the low digit, the first field the high part -/
theorem fieldsBits_cons (f : String) (t : PTy) (rest : Fields) (v : Val) (vs : List Val) :
    fieldsBits (.cons f t rest) (v :: vs) = fieldsBits rest vs + 2 ^ rest.width * toBits t v :=
  (Nat.add_comm ..).trans (congrArg _ (Nat.mul_comm ..))

mutual
  theorem toBits_lt (T : PTy) (v : Val) (h : HasTy v T) : toBits T v < 2 ^ T.width := by
    cases T with
    | vec w =>
      obtain ⟨x, rfl, hx⟩ := hasTy_vec h
      exact hx
    | arr n e =>
      obtain ⟨es, rfl, rfl, he⟩ := hasTy_arr h
      have := packLE_lt e.width _ (List.forall_mem_map.mpr fun v hv => toBits_lt e v (he v hv))
      rwa [List.length_map] at this
    | struct _ fs =>
      obtain ⟨vs, rfl, hvs⟩ := hasTy_struct h
      exact fieldsBits_lt fs vs hvs
  theorem fieldsBits_lt (fs : Fields) (vs : List Val) (h : HasTyFields vs fs) : fieldsBits fs vs < 2 ^ fs.width := by
    cases fs with
    | nil => exact Nat.two_pow_pos _
    | cons f t rest =>
      obtain ⟨v, vs, rfl, hv, hvs⟩ := hasTyFields_cons h
      show fieldsBits (.cons f t rest) (v :: vs) < 2 ^ (t.width + rest.width)
      rw [fieldsBits_cons, Nat.pow_add, Nat.mul_comm (2 ^ t.width)]
      exact Pack.cat_lt (fieldsBits_lt rest vs hvs) (toBits_lt t v hv)
end

theorem toBits_arr_extract {n : Nat} {e : PTy} {es : List Val} (hes : ∀ v ∈ es, HasTy v e) {i : Nat}
    (hi : i < es.length) :
    toBits (.arr n e) (.arr es) / 2 ^ (i * e.width) % 2 ^ e.width = toBits e es[i] := by
  show packLE e.width (es.map (toBits e)) / _ % _ = _
  rw [packLE_extract _ _ (List.forall_mem_map.mpr fun v hv => toBits_lt e v (hes v hv)) i
    (by rw [List.length_map]; exact hi), List.getElem_map]

theorem mem_flatArr {n w : Nat} {ls : List Leaf} {l : Leaf} :
    l ∈ flatArr n w ls ↔ ∃ i, i < n ∧ ∃ l0 ∈ ls, l = Leaf.under (.idx i) (i * w) l0 := by
  simp only [flatArr, List.mem_flatMap, List.mem_range, List.mem_map, eq_comm]

theorem mem_flatFields_cons {f : String} {t : PTy} {rest : Fields} {l : Leaf} :
    l ∈ flatFields (.cons f t rest) ↔
      (∃ l0 ∈ flatPorts t, l = Leaf.under (.fld f) rest.width l0) ∨ l ∈ flatFields rest := by
  show l ∈ _ ++ _ ↔ _
  simp only [List.mem_append, List.mem_map, eq_comm]

theorem path_head_of_mem_flatFields (fs : Fields) (l : Leaf) (hl : l ∈ flatFields fs) :
    ∃ g p, l.path = .fld g :: p ∧ g ∈ fieldNames fs := by
  cases fs with
  | nil => exact (List.not_mem_nil hl).elim
  | cons f t rest =>
    rcases mem_flatFields_cons.mp hl with ⟨l0, _, rfl⟩ | h
    · exact ⟨f, l0.path, rfl, List.mem_cons_self⟩
    · obtain ⟨g, p, h1, h2⟩ := path_head_of_mem_flatFields rest l h
      exact ⟨g, p, h1, List.mem_cons_of_mem _ h2⟩

/-- bit `b` of the packed vector belongs to leaf `l` -/
def covers (b : Nat) (l : Leaf) : Bool := decide (l.lsb ≤ b) && decide (b ≤ l.msb)

theorem covers_iff {b : Nat} {l : Leaf} : covers b l = true ↔ l.lsb ≤ b ∧ b ≤ l.msb := by
  simp only [covers, Bool.and_eq_true, decide_eq_true_eq]

/-- the leaves `ls` tile `[0, w)`: each is a non-empty range, every bit below `w` lies in exactly one of them, no other
bit in any -/
structure Tiles (ls : List Leaf) (w : Nat) : Prop where
  ne : ∀ l ∈ ls, l.lsb ≤ l.msb
  count : ∀ b, ls.countP (covers b) = if b < w then 1 else 0

theorem Tiles.count_le {ls : List Leaf} {w : Nat} (h : Tiles ls w) (b : Nat) : ls.countP (covers b) ≤ 1 := by
  rw [h.count]
  split
  · exact Nat.le_refl 1
  · exact Nat.zero_le 1

theorem Tiles.range {ls : List Leaf} {w : Nat} (h : Tiles ls w) (l : Leaf) (hl : l ∈ ls) : l.lsb ≤ l.msb ∧ l.msb < w := by
  refine ⟨h.ne l hl, Nat.lt_of_not_le fun hw => ?_⟩
  -- the top bit of `l` is covered, so it is counted
  have := List.countP_pos_iff.mpr ⟨l, hl, covers_iff.mpr ⟨h.ne l hl, Nat.le_refl _⟩⟩
  rw [h.count, if_neg (Nat.not_lt.mpr hw)] at this
  exact Nat.lt_irrefl _ this

theorem Tiles.perm {ls ls' : List Leaf} {w : Nat} (h : Tiles ls w) (p : ls.Perm ls') : Tiles ls' w :=
  ⟨fun l hl => h.ne l (p.mem_iff.mpr hl), fun b => (p.countP_eq _).symm.trans (h.count b)⟩

theorem Tiles.nil : Tiles [] 0 :=
  ⟨fun _ hl => (List.not_mem_nil hl).elim, fun b => (if_neg (Nat.not_lt_zero b)).symm⟩

theorem Tiles.vec {w : Nat} (hw : 0 < w) : Tiles [⟨[], w - 1, 0⟩] w := by
  refine ⟨fun l hl => List.mem_singleton.mp hl ▸ Nat.zero_le _, fun b => List.countP_singleton.trans ?_⟩
  exact ite_congr (propext (covers_iff.trans ((and_iff_right (Nat.zero_le b)).trans (Nat.le_sub_one_iff_lt hw))))
    (fun _ => rfl) fun _ => rfl

/-- a tiling of `[0, w)`, moved up by `off`, on top of a tiling of `[0, off)` -/
theorem Tiles.stack {lo hi : List Leaf} {off w : Nat} (hlo : Tiles lo off) (hhi : Tiles hi w) (t : Tok) :
    Tiles (hi.map (Leaf.under t off) ++ lo) (w + off) := by
  refine ⟨fun l hl => ?_, fun b => ?_⟩
  · rcases List.mem_append.mp hl with h | h
    · obtain ⟨l0, hl0, rfl⟩ := List.mem_map.mp h
      exact Nat.add_le_add_right (hhi.ne l0 hl0) _
    · exact hlo.ne l h
  · rw [List.countP_append, List.countP_map, hlo.count b]
    by_cases hb : b < off
    · rw [if_pos hb, if_pos (Nat.lt_add_left w hb), List.countP_eq_zero.mpr]
      exact fun l _ hc => Nat.not_le_of_lt hb (Nat.le_trans (Nat.le_add_left _ _) (covers_iff.mp hc).1)
    · obtain ⟨b, rfl⟩ := Nat.exists_eq_add_of_le' (Nat.le_of_not_lt hb)
      rw [if_neg hb, Nat.add_zero]
      refine (List.countP_congr fun l _ => ?_).trans ((hhi.count b).trans ?_)
      · simp only [Function.comp, covers_iff, Leaf.under, Nat.add_le_add_iff_right]
      · simp only [Nat.add_lt_add_iff_right]

theorem flatArr_succ (n w : Nat) (ls : List Leaf) :
    flatArr (n + 1) w ls = flatArr n w ls ++ ls.map (Leaf.under (.idx n) (n * w)) := by
  simp only [flatArr, List.range_succ, List.flatMap_append, List.flatMap_cons, List.flatMap_nil, List.append_nil]

theorem Tiles.arr {ls : List Leaf} {w : Nat} (h : Tiles ls w) : ∀ n, Tiles (flatArr n w ls) (n * w)
  | 0 => (Nat.zero_mul w).symm ▸ Tiles.nil
  | n + 1 => by
    rw [flatArr_succ, Nat.succ_mul, Nat.add_comm (n * w)]
    exact ((Tiles.arr h n).stack h _).perm List.perm_append_comm

mutual
  theorem tiles (T : PTy) (hp : Pos T) : Tiles (flatPorts T) T.width := by
    cases T with
    | vec w => exact .vec hp
    | arr n e => exact (tiles e hp).arr n
    | struct _ fs => exact tiles_fields fs hp
  theorem tiles_fields (fs : Fields) (hp : PosFields fs) : Tiles (flatFields fs) fs.width := by
    cases fs with
    | nil => exact .nil
    | cons f t rest => exact (tiles_fields rest hp.2).stack (tiles t hp.1) _
end

theorem cover_count_fields : ∀ (fs : Fields), PosFields fs → ∀ b,
    (flatFields fs).countP (covers b) = if b < fs.width then 1 else 0 :=
  fun fs hp => (tiles_fields fs hp).count

theorem not_disjoint_of_covers {a c : Leaf} {b : Nat} (ha : a.lsb ≤ b ∧ b ≤ a.msb) (hc : c.lsb ≤ b ∧ b ≤ c.msb) :
    ¬ (a.msb < c.lsb ∨ c.msb < a.lsb)
  | .inl h => Nat.lt_irrefl _ (Nat.lt_of_le_of_lt (Nat.le_trans hc.1 ha.2) h)
  | .inr h => Nat.lt_irrefl _ (Nat.lt_of_le_of_lt (Nat.le_trans ha.1 hc.2) h)

theorem Tiles.pairwise {ls : List Leaf} {w : Nat} (h : Tiles ls w) :
    ls.Pairwise (fun a c => a.msb < c.lsb ∨ c.msb < a.lsb) := by
  refine List.pairwise_iff_forall_sublist.mpr fun {x c} hs => ?_
  have hx := h.ne x (hs.subset List.mem_cons_self)
  have hc := h.ne c (hs.subset (List.mem_cons_of_mem _ List.mem_cons_self))
  rcases Nat.lt_or_ge x.msb c.lsb with h1 | h1
  · exact .inl h1
  rcases Nat.lt_or_ge c.msb x.lsb with h2 | h2
  · exact .inr h2
  -- otherwise the larger of the two lsb is covered by both
  have := Nat.le_trans (hs.countP_le (p := covers (max x.lsb c.lsb))) (h.count_le _)
  rw [List.countP_cons_of_pos (covers_iff.mpr ⟨Nat.le_max_left .., Nat.max_le.mpr ⟨hx, h1⟩⟩),
    List.countP_cons_of_pos (covers_iff.mpr ⟨Nat.le_max_right .., Nat.max_le.mpr ⟨h2, hc⟩⟩), List.countP_nil] at this
  exact absurd this (by decide)

/-- for a type whose vectors all have positive width, the part selects of the
    flattened ports are non-empty ranges inside `[0, T.width)`, pairwise disjoint, and every bit of the
    packed vector lies in the part select of exactly one flattened port (one list position). -/
theorem flat_partition (T : PTy) (hp : Pos T) :
    (∀ l ∈ flatPorts T, l.lsb ≤ l.msb ∧ l.msb < T.width) ∧
    (flatPorts T).Pairwise (fun a c => a.msb < c.lsb ∨ c.msb < a.lsb) ∧
    (∀ b, b < T.width → ∃ i, ∃ hi : i < (flatPorts T).length,
      ((flatPorts T)[i].lsb ≤ b ∧ b ≤ (flatPorts T)[i].msb) ∧
      ∀ j (hj : j < (flatPorts T).length),
        ((flatPorts T)[j].lsb ≤ b ∧ b ≤ (flatPorts T)[j].msb) → j = i) := by
  have h := tiles T hp
  refine ⟨h.range, h.pairwise, fun b hb => ?_⟩
  have h1 : 0 < (flatPorts T).countP (covers b) := by rw [h.count, if_pos hb]; exact Nat.one_pos
  obtain ⟨l, hl, hc⟩ := List.countP_pos_iff.mp h1
  obtain ⟨i, hi, rfl⟩ := List.getElem_of_mem hl
  have hc := covers_iff.mp hc
  refine ⟨i, hi, hc, fun j hj hcj => ?_⟩
  rcases Nat.lt_trichotomy j i with hlt | heq | hlt
  · exact absurd (List.pairwise_iff_getElem.mp h.pairwise j i hj hi hlt) (not_disjoint_of_covers hcj hc)
  · exact heq
  · exact absurd (List.pairwise_iff_getElem.mp h.pairwise i j hi hj hlt) (not_disjoint_of_covers hc hcj)

theorem leafAt_idx {n : Nat} {e : PTy} {es : List Val} {i : Nat} (hi : i < es.length) (p : List Tok) :
    leafAt (.arr n e) (.arr es) (.idx i :: p) = leafAt e es[i] p := by
  conv => lhs; unfold leafAt
  rw [List.getElem?_eq_getElem hi]

theorem leafAt_fld_head (nm f : String) (t : PTy) (rest : Fields) (v : Val) (vs : List Val) (p : List Tok) :
    leafAt (.struct nm (.cons f t rest)) (.struct (v :: vs)) (.fld f :: p) = leafAt t v p := by
  conv => lhs; unfold leafAt fieldAt
  rw [if_pos rfl]

theorem leafAt_fld_tail {f g : String} (h : f ≠ g) (nm : String) (t : PTy) (rest : Fields) (v : Val)
    (vs : List Val) (p : List Tok) :
    leafAt (.struct nm (.cons f t rest)) (.struct (v :: vs)) (.fld g :: p)
      = leafAt (.struct nm rest) (.struct vs) (.fld g :: p) := by
  conv => lhs; unfold leafAt fieldAt
  rw [if_neg h]
  rfl

/-- `r` resolves to a vector-typed component whose value is bits `[msb:lsb]` of `X` -/
def SliceOK (X msb lsb : Nat) (r : Option (PTy × Val)) : Prop :=
  ∃ T' v', r = some (T', v') ∧ X / 2 ^ lsb % 2 ^ (msb + 1 - lsb) = toBits T' v' ∧
    msb + 1 - lsb = T'.width ∧ HasTy v' T' ∧ ∃ w, T' = .vec w

theorem SliceOK.lift {X x off w msb lsb : Nat} {r : Option (PTy × Val)}
    (hx : X / 2 ^ off % 2 ^ w = x) (hr : lsb ≤ msb ∧ msb < w) (h : SliceOK x msb lsb r) :
    SliceOK X (msb + off) (lsb + off) r := by
  have hk : msb + off + 1 - (lsb + off) = msb + 1 - lsb := by rw [Nat.add_right_comm, Nat.add_sub_add_right]
  have hw : lsb + (msb + 1 - lsb) ≤ w := by rw [Nat.add_sub_cancel' (Nat.le_succ_of_le hr.1)]; exact hr.2
  unfold SliceOK
  rw [hk, Nat.add_comm, ← Pack.field_field X off w lsb _ hw, hx]
  exact h

theorem SliceOK.vec {w x : Nat} (hw : 0 < w) (hx : x < 2 ^ w) : SliceOK x (w - 1) 0 (some (.vec w, .bits x)) := by
  refine ⟨.vec w, .bits x, rfl, ?_, ?_, hx, w, rfl⟩
  · rw [Nat.sub_zero, Nat.sub_add_cancel hw, Nat.pow_zero, Nat.div_one, Nat.mod_eq_of_lt hx]; rfl
  · rw [Nat.sub_zero, Nat.sub_add_cancel hw]; rfl

mutual
  theorem flat_is_slice_aux (T : PTy) (v : Val) (h : HasTy v T) (hp : Pos T) (hd : Distinct T) (l : Leaf)
      (hl : l ∈ flatPorts T) : SliceOK (toBits T v) l.msb l.lsb (leafAt T v l.path) := by
    cases T with
    | vec w =>
      obtain ⟨x, rfl, hx⟩ := hasTy_vec h
      rw [List.mem_singleton.mp hl]
      exact SliceOK.vec hp hx
    | arr n e =>
      obtain ⟨es, rfl, rfl, hes⟩ := hasTy_arr h
      obtain ⟨i, hi, l0, hl0, rfl⟩ := mem_flatArr.mp hl
      show SliceOK _ _ _ (leafAt _ _ (.idx i :: l0.path))
      rw [leafAt_idx hi]
      exact SliceOK.lift (toBits_arr_extract hes hi) ((tiles e hp).range l0 hl0)
        (flat_is_slice_aux e es[i] (hes _ (List.getElem_mem hi)) hp hd l0 hl0)
    | struct nm fs =>
      obtain ⟨vs, rfl, hvs⟩ := hasTy_struct h
      exact fields_slice_aux fs vs hvs hp hd.1 hd.2 nm l hl
  theorem fields_slice_aux (fs : Fields) (vs : List Val) (h : HasTyFields vs fs) (hp : PosFields fs)
      (hn : (fieldNames fs).Nodup) (hd : DistinctFields fs) (nm : String) (l : Leaf) (hl : l ∈ flatFields fs) :
      SliceOK (fieldsBits fs vs) l.msb l.lsb (leafAt (.struct nm fs) (.struct vs) l.path) := by
    cases fs with
    | nil => exact (List.not_mem_nil hl).elim
    | cons f t rest =>
      obtain ⟨v, vs, rfl, hv, hvs⟩ := hasTyFields_cons h
      obtain ⟨hf, hn⟩ := List.nodup_cons.mp hn
      have hrest := fieldsBits_lt rest vs hvs
      rcases mem_flatFields_cons.mp hl with ⟨l0, hl0, rfl⟩ | hm
      · show SliceOK _ _ _ (leafAt _ _ (.fld f :: l0.path))
        rw [leafAt_fld_head]
        exact SliceOK.lift (by rw [fieldsBits_cons, Pack.cat_div hrest, Nat.mod_eq_of_lt (toBits_lt t v hv)])
          ((tiles t hp.1).range l0 hl0)
          (flat_is_slice_aux t v hv hp.1 hd.1 l0 hl0)
      · obtain ⟨g, p, hpath, hg⟩ := path_head_of_mem_flatFields rest l hm
        rw [hpath, leafAt_fld_tail (fun (e : f = g) => hf (e ▸ hg)), ← hpath]
        exact SliceOK.lift (off := 0) (by rw [fieldsBits_cons, Nat.pow_zero, Nat.div_one, Pack.cat_mod hrest])
          ((tiles_fields rest hp.2).range l hm)
          (fields_slice_aux rest vs hvs hp.2 hn hd.2 nm l hm)
end

/-- for a well-typed value `v : T`, every flattened port `l` of the Yosys backend
    names a vector-typed component `v'` of `v` (reached by `l.path`) and the bits `[l.msb : l.lsb]` of
    `to_bits(v)` are exactly that component. -/
theorem flat_is_slice {T : PTy} {v : Val} (h : HasTy v T) (hp : Pos T) (hd : Distinct T)
    {l : Leaf} (hl : l ∈ flatPorts T) :
    ∃ T' v', leafAt T v l.path = some (T', v') ∧
      toBits T v / 2 ^ l.lsb % 2 ^ (l.msb + 1 - l.lsb) = toBits T' v' ∧
      l.msb + 1 - l.lsb = T'.width ∧ HasTy v' T' ∧ ∃ w, T' = .vec w :=
  flat_is_slice_aux T v h hp hd l hl

theorem pairwise_under (t : Tok) (off : Nat) (ls : List Leaf)
    (h : ls.Pairwise (fun a c => a.path ≠ c.path)) :
    (ls.map (Leaf.under t off)).Pairwise (fun a c => a.path ≠ c.path) :=
  List.pairwise_map.mpr (h.imp fun hac e => hac (List.cons.inj e).2)

theorem pairwise_flatArr (w : Nat) (ls : List Leaf) (h : ls.Pairwise (fun a c => a.path ≠ c.path)) (n : Nat) :
    (flatArr n w ls).Pairwise (fun a c => a.path ≠ c.path) := by
  induction n with
  | zero => exact List.Pairwise.nil
  | succ n ih =>
    rw [flatArr_succ, List.pairwise_append]
    refine ⟨ih, pairwise_under _ _ _ h, fun a ha c hc => ?_⟩
    obtain ⟨i, hi, a0, _, rfl⟩ := mem_flatArr.mp ha
    obtain ⟨c0, _, rfl⟩ := List.mem_map.mp hc
    exact fun e => Nat.ne_of_lt hi (Tok.idx.inj (List.cons.inj e).1)

mutual
  theorem paths_pairwise (T : PTy) (hd : Distinct T) : (flatPorts T).Pairwise (fun a c => a.path ≠ c.path) := by
    cases T with
    | vec w => exact List.pairwise_singleton _ _
    | arr n e => exact pairwise_flatArr _ _ (paths_pairwise e hd) n
    | struct _ fs => exact paths_pairwise_fields fs hd.1 hd.2
  theorem paths_pairwise_fields : ∀ (fs : Fields), (fieldNames fs).Nodup → DistinctFields fs →
      (flatFields fs).Pairwise (fun a c => a.path ≠ c.path) := by
    intro fs hn hd
    cases fs with
    | nil => exact List.Pairwise.nil
    | cons f t rest =>
      obtain ⟨hf, hn⟩ := List.nodup_cons.mp hn
      refine List.pairwise_append.mpr
        ⟨pairwise_under _ _ _ (paths_pairwise t hd.1), paths_pairwise_fields rest hn hd.2, fun a ha c hc => ?_⟩
      obtain ⟨a0, _, rfl⟩ := List.mem_map.mp ha
      obtain ⟨g, p, hp, hg⟩ := path_head_of_mem_flatFields rest c hc
      exact fun e => hf (Tok.fld.inj (List.cons.inj (e.trans hp)).1 ▸ hg)
end

theorem flat_paths_nodup (T : PTy) (hd : Distinct T) : ((flatPorts T).map (·.path)).Nodup := by
  rw [List.nodup_iff_pairwise_ne, List.pairwise_map]
  exact paths_pairwise T hd

theorem flat_paths_injective (T : PTy) (hd : Distinct T) {l₁ l₂ : Leaf}
    (h₁ : l₁ ∈ flatPorts T) (h₂ : l₂ ∈ flatPorts T) (e : l₁.path = l₂.path) : l₁ = l₂ :=
  eq_of_nodup_map (flat_paths_nodup T hd) h₁ h₂ e

/-- a field name that can be told apart inside a mangled name: it contains no `__`, does not end
    with `_`, is non-empty and does not start with a decimal digit (Python identifiers satisfy the
    last two) -/
def GoodName (f : String) : Prop :=
  (∀ p q, f.toList ≠ p ++ '_' :: '_' :: q) ∧ (∀ p, f.toList ≠ p ++ ['_']) ∧
  ∃ c r, f.toList = c :: r ∧ c.isDigit = false

/-- all field names on a path are good -/
def GoodPath (p : List Tok) : Prop := ∀ f, Tok.fld f ∈ p → GoodName f

open PV.Parse

theorem goodName_of_no_underscore (f : String) (h : '_' ∉ f.toList)
    (hd : ∃ c r, f.toList = c :: r ∧ c.isDigit = false) : GoodName f :=
  ⟨(noSepL_of_not_mem _ h).1, (noSepL_of_not_mem _ h).2, hd⟩

/-- `GoodPath` token by token: a field token carries a good name, an index token is always fine -/
def GoodTok (t : Tok) : Prop := ∀ f, t = .fld f → GoodName f

theorem GoodPath.tok {p : List Tok} (h : GoodPath p) : ∀ t ∈ p, GoodTok t := fun _ ht f e => h f (e ▸ ht)

/-- a field name and the decimal digits of an index are both read back as values: no `__`, no `_` at the end; a good
field name does not start with a digit, a number does -/
theorem reads_tok : Reads GoodTok (fun t => t.name.toList) ValueTail := by
  refine .of_clash value_clash (fun t h => ?_) fun t t' h h' e => ?_
  · cases t with
    | fld f => exact ⟨(h f rfl).1, (h f rfl).2.1⟩
    | idx i => exact noSepL_of_not_mem _ (Nat.toList_repr ▸ toDigits_no_underscore i)
  · have clash : ∀ f i, GoodName f → f.toList = (Nat.repr i).toList → False := by
      intro f i hg e
      obtain ⟨c, r, hc, hnd⟩ := hg.2.2
      have := toDigits_isDigit i c (Nat.toList_repr ▸ e ▸ hc ▸ List.mem_cons_self)
      exact Bool.false_ne_true (hnd.symm.trans this)
    cases t with
    | fld f =>
      cases t' with
      | fld f' => exact congrArg Tok.fld (String.toList_inj.mp e)
      | idx i => exact (clash f i (h f rfl) e).elim
    | idx i =>
      cases t' with
      | fld f' => exact (clash f' i (h' f' rfl) e.symm).elim
      | idx i' => exact congrArg Tok.idx (toDigits_inj (Nat.toList_repr.symm.trans (e.trans Nat.toList_repr)))

theorem mangleTail_toList (p : List Tok) : (mangleTail p).toList = p.flatMap fun t => ['_', '_'] ++ t.name.toList := by
  induction p with
  | nil => rfl
  | cons t p ih => simp [mangleTail, String.toList_append, ih]

theorem mangle_injective (base : String) (p₁ p₂ : List Tok) (h₁ : GoodPath p₁) (h₂ : GoodPath p₂)
    (e : mangle base p₁ = mangle base p₂) : p₁ = p₂ := by
  refine (reads_tok.prefix ['_', '_']).flatMap (fun _ _ => List.cons_ne_nil _ _) (.inl rfl) (fun _ _ _ => .inr ⟨_, rfl⟩)
    p₁ p₂ h₁.tok h₂.tok ?_
  simpa [mangle, String.toList_append, mangleTail_toList] using congrArg String.toList e

mutual
  /-- well-formed names: in every struct the field names are pairwise distinct and good -/
  def WFNames : PTy → Prop
    | .vec _ => True
    | .arr _ e => WFNames e
    | .struct _ fs => (fieldNames fs).Nodup ∧ WFNamesFields fs
  def WFNamesFields : Fields → Prop
    | .nil => True
    | .cons f t rest => GoodName f ∧ WFNames t ∧ WFNamesFields rest
end

mutual
  theorem WFNames.distinct : ∀ (T : PTy), WFNames T → Distinct T := by
    intro T h
    cases T with
    | vec _ => trivial
    | arr _ e => exact WFNames.distinct e h
    | struct _ fs => exact ⟨h.1, WFNamesFields.distinct fs h.2⟩
  theorem WFNamesFields.distinct : ∀ (fs : Fields), WFNamesFields fs → DistinctFields fs := by
    intro fs h
    cases fs with
    | nil => trivial
    | cons _ t rest => exact ⟨WFNames.distinct t h.2.1, WFNamesFields.distinct rest h.2.2⟩
end

theorem goodPath_cons {t : Tok} {p : List Tok} (ht : GoodTok t) (hp : GoodPath p) :
    GoodPath (t :: p) := by
  intro f hf
  rcases List.mem_cons.mp hf with e | hm
  · exact ht f e.symm
  · exact hp f hm

mutual
  theorem flat_paths_good (T : PTy) (h : WFNames T) (l : Leaf) (hl : l ∈ flatPorts T) : GoodPath l.path := by
    cases T with
    | vec w =>
      rw [List.mem_singleton.mp hl]
      exact fun _ hf => nomatch hf
    | arr n e =>
      obtain ⟨i, _, l0, hl0, rfl⟩ := mem_flatArr.mp hl
      exact goodPath_cons (fun _ hf => nomatch hf) (flat_paths_good e h l0 hl0)
    | struct _ fs => exact flat_paths_good_fields fs h.2 l hl
  theorem flat_paths_good_fields : ∀ (fs : Fields), WFNamesFields fs → ∀ l ∈ flatFields fs, GoodPath l.path := by
    intro fs h l hl
    cases fs with
    | nil => exact (List.not_mem_nil hl).elim
    | cons f t rest =>
      rcases mem_flatFields_cons.mp hl with ⟨l0, hl0, rfl⟩ | hm
      · exact goodPath_cons (fun _ hg => Tok.fld.inj hg ▸ h.1) (flat_paths_good t h.2.1 l0 hl0)
      · exact flat_paths_good_fields rest h.2.2 l hm
end

theorem goodPath_append {p q : List Tok} (hp : GoodPath p) (hq : GoodPath q) : GoodPath (p ++ q) :=
  fun f hf => (List.mem_append.mp hf).elim (hp f) (hq f)

theorem flat_names_injective_prefix (T : PTy) (hw : WFNames T) (base : String) (pre : List Tok) (hpre : GoodPath pre)
    {l₁ l₂ : Leaf} (h₁ : l₁ ∈ flatPorts T) (h₂ : l₂ ∈ flatPorts T)
    (e : mangle base (pre ++ l₁.path) = mangle base (pre ++ l₂.path)) : l₁ = l₂ :=
  flat_paths_injective T (WFNames.distinct T hw) h₁ h₂ (List.append_cancel_left (mangle_injective base _ _
    (goodPath_append hpre (flat_paths_good T hw l₁ h₁)) (goodPath_append hpre (flat_paths_good T hw l₂ h₂)) e))

/-- string level: for a type with well-formed field names, two flattened
    ports of a port `base` with the same mangled name are the same port (same path, same part select).
    Nothing is assumed about `base`. -/
theorem flat_names_injective (T : PTy) (hw : WFNames T) (base : String) {l₁ l₂ : Leaf}
    (h₁ : l₁ ∈ flatPorts T) (h₂ : l₂ ∈ flatPorts T)
    (e : mangle base l₁.path = mangle base l₂.path) : l₁ = l₂ :=
  flat_names_injective_prefix T hw base [] (fun _ h => nomatch h) h₁ h₂ e

/-- the same for the names the driver produces (`portLeaves true`): the port signal `t :: rest` of the
    component (a port, an element of a list of ports, a port of an interface …) -/
theorem portLeaves_names_injective (T : PTy) (hw : WFNames T) (t : Tok) (rest : List Tok) (hr : GoodPath rest)
    (dims : List Nat) {q₁ q₂ : PortLeaf}
    (h₁ : q₁ ∈ portLeaves true (t :: rest) dims T) (h₂ : q₂ ∈ portLeaves true (t :: rest) dims T)
    (e : q₁.svName = q₂.svName) : q₁ = q₂ := by
  simp only [portLeaves, if_true, List.mem_map] at h₁ h₂
  obtain ⟨l₁, hl₁, rfl⟩ := h₁
  obtain ⟨l₂, hl₂, rfl⟩ := h₂
  rw [flat_names_injective_prefix T hw t.name rest hr hl₁ hl₂ e]

/-! ## non-vacuity: `struct Pt { a : vec 4; b : arr 3 (vec 2); c : struct Inner { x : vec 3; y : vec 5 } }` -/

def exInner : PTy := .struct "Inner" (.cons "x" (.vec 3) (.cons "y" (.vec 5) .nil))
def exPt : PTy := .struct "Pt" (.cons "a" (.vec 4) (.cons "b" (.arr 3 (.vec 2)) (.cons "c" exInner .nil)))
def exAB : PTy := .struct "AB" (.cons "a" (.vec 4) (.cons "b" (.arr 3 (.vec 2)) .nil))
def exPtVal : Val := .struct [.bits 0xA, .arr [.bits 1, .bits 2, .bits 3], .struct [.bits 5, .bits 0x13]]

/-- what the real translator emits for a port `p : Pt`:
    `p__a [17:14]`, `p__b__0 [9:8]`, `p__b__1 [11:10]`, `p__b__2 [13:12]`, `p__c__x [7:5]`, `p__c__y [4:0]` -/
theorem exPt_flatPorts : (flatPorts exPt).map (fun l => (mangle "p" l.path, l.msb, l.lsb)) =
    [("p__a", 17, 14), ("p__b__0", 9, 8), ("p__b__1", 11, 10), ("p__b__2", 13, 12),
     ("p__c__x", 7, 5), ("p__c__y", 4, 0)] := by decide +kernel

example : (flatPorts exPt).map (fun l => (mangle "p" l.path, l.msb, l.lsb)) =
    [("p__a", 17, 14), ("p__b__0", 9, 8), ("p__b__1", 11, 10), ("p__b__2", 13, 12),
     ("p__c__x", 7, 5), ("p__c__y", 4, 0)] := exPt_flatPorts

/-- `to_bits()` of `AB(a=0xA, b=[1,2,3])` is `0x2b9` -/
example : toBits exAB (.struct [.bits 0xA, .arr [.bits 1, .bits 2, .bits 3]]) = 0x2b9 := rfl

example : toBits exPt exPtVal = 0x2b9 * 2 ^ 8 + 5 * 2 ^ 5 + 0x13 := rfl
example : toBits exPt exPtVal / 2 ^ 8 % 2 ^ 10 = 0x2b9 := rfl

example : HasTy exPtVal exPt :=
  have b (x w : Nat) (h : x < 2 ^ w) : HasTy (.bits x) (.vec w) := h
  ⟨b 10 4 (by decide), ⟨rfl, List.forall_mem_cons.mpr ⟨b 1 2 (by decide), List.forall_mem_cons.mpr ⟨b 2 2 (by decide),
    List.forall_mem_cons.mpr ⟨b 3 2 (by decide), fun _ h => nomatch h⟩⟩⟩⟩, ⟨b 5 3 (by decide), b 19 5 (by decide), trivial⟩, trivial⟩
example : Pos exPt := by simp only [exPt, exInner, Pos, PosFields]; decide
example : leafAt exPt exPtVal [.fld "b", .idx 1] = some (.vec 2, .bits 2) := rfl
example : toBits exPt exPtVal / 2 ^ 10 % 2 ^ (11 + 1 - 10) = 2 := rfl
example : GoodName "msg" := goodName_of_no_underscore _ (by decide) ⟨'m', ['s', 'g'], by decide, by decide⟩
example : WFNames exPt := by
  -- a string literal is `String.ofList` of its characters
  have good (c : Char) (h : '_' ≠ c ∧ c.isDigit = false) : GoodName (String.ofList [c]) :=
    goodName_of_no_underscore _ (by rw [String.toList_ofList]; exact fun hm => h.1 (List.mem_singleton.mp hm))
      ⟨c, [], String.toList_ofList, h.2⟩
  exact ⟨by decide +kernel, good 'a' (by decide), trivial, good 'b' (by decide), trivial, good 'c' (by decide),
    ⟨by decide +kernel, good 'x' (by decide), trivial, good 'y' (by decide), trivial, trivial⟩, trivial⟩
/-- the side conditions matter: without them two different paths can be mangled to the same name -/
example : mangle "p" [.fld "a", .fld "b"] = mangle "p" [.fld "a__b"] := by decide +kernel
example : mangle "p" [.fld "3"] = mangle "p" [.idx 3] := by decide +kernel
example : mangle "p" [.fld "a_", .fld "b"] = mangle "p" [.fld "a", .fld "_b"] := by decide +kernel
example : portLeaves false [.fld "ifc", .idx 1, .fld "msg"] [2] exPt = [⟨"ifc__msg", 1, 17, 0⟩] := by decide +kernel
theorem exPt_portLeaves : (portLeaves true [.fld "ifc", .idx 1, .fld "msg"] [2] exPt).map (·.svName) =
    ["ifc__1__msg__a", "ifc__1__msg__b__0", "ifc__1__msg__b__1", "ifc__1__msg__b__2",
     "ifc__1__msg__c__x", "ifc__1__msg__c__y"] := by decide +kernel

example : (portLeaves true [.fld "ifc", .idx 1, .fld "msg"] [2] exPt).map (·.svName) =
    ["ifc__1__msg__a", "ifc__1__msg__b__0", "ifc__1__msg__b__1", "ifc__1__msg__b__2",
     "ifc__1__msg__c__x", "ifc__1__msg__c__y"] := exPt_portLeaves

end PV.Flat
