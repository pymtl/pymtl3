import PymtlVerif.Model.Bits
/-! Helper lemmas about `Model/Bits.lean`. -/
namespace PV.Bits

theorem cast_two_pow (n : Nat) : ((2 ^ n : Nat) : Int) = 2 ^ n := by simp

theorem upperTab_eq : ∀ n, upperTab n = upper n
  | 0 => rfl
  | 1 => rfl
  | (i+2) => by
    have hp := Nat.two_pow_pos (i+1)
    rw [upperTab, upperTab_eq (i+1), upper, upper, Nat.pow_succ 2 (i+1)]
    omega

theorem lowerTab_eq : ∀ n, 1 ≤ n → lowerTab n = lower n
  | 1, _ => rfl
  | (i+2), _ => by
    rw [lowerTab, lowerTab_eq (i+1) (Nat.le_add_left 1 i)]
    show -(2 : Int) ^ i * 2 = -(2 ^ (i + 1))
    rw [Int.pow_succ, Int.neg_mul]

theorem upper_cast (n : Nat) : ((upper n : Nat) : Int) = 2 ^ n - 1 := by
  rw [upper, Int.natCast_sub (Nat.two_pow_pos n), cast_two_pow, Int.natCast_one]

/-- the test every method applies to an int operand -/
theorem int_range (n : Nat) (k : Int) : (k < 0 ∨ k > (upper n : Int)) ↔ (k < 0 ∨ k ≥ 2 ^ n) := by
  rw [upper_cast]; omega

/-- the test the constructor and the assignments apply to an int value -/
theorem ctor_range (n : Nat) (k : Int) :
    (k < lower n ∨ k > (upper n : Int)) ↔ (k < -(2 ^ (n - 1) : Int) ∨ k ≥ 2 ^ n) := by
  rw [upper_cast, lower]; omega

/-- that test in front of a result `X` (constructor, `@=`, slice write): passed exactly by `-2^(w-1) .. 2^w - 1` -/
theorem value_test {α : Type} (w : Nat) (k : Int) (X : Except Err α) :
    ((-(2 ^ (w - 1) : Int) ≤ k ∧ k < 2 ^ w) →
        (if k < lower w || k > (upper w : Int) then .error .range else X) = X) ∧
    ((k < -(2 ^ (w - 1) : Int) ∨ k ≥ 2 ^ w) →
        (if k < lower w || k > (upper w : Int) then .error .range else X) = .error .range) := by
  simp only [Bool.or_eq_true, decide_eq_true_eq, ctor_range]
  exact ⟨fun h => if_neg (by omega), fun h => if_pos h⟩

theorem maskInt_lt (n : Nat) (k : Int) : maskInt n k < 2 ^ n := by
  have hp : (0 : Int) < 2 ^ n := Int.pow_pos (by decide)
  rw [maskInt, Int.toNat_lt (Int.emod_nonneg k (Int.ne_of_gt hp)), cast_two_pow]
  exact Int.emod_lt_of_pos k hp

theorem maskInt_natCast (n k : Nat) : maskInt n (k : Int) = k % 2 ^ n := by
  rw [maskInt, ← cast_two_pow, ← Int.natCast_emod, Int.toNat_natCast]

theorem maskInt_of_lt (n : Nat) (k : Nat) (h : k < 2 ^ n) : maskInt n (k : Int) = k := by
  rw [maskInt_natCast, Nat.mod_eq_of_lt h]

theorem maskInt_of_nonneg (n : Nat) (k : Int) (h0 : 0 ≤ k) (h1 : k < 2 ^ n) : (maskInt n k : Int) = k := by
  rw [maskInt, Int.emod_eq_of_lt h0 h1, Int.toNat_of_nonneg h0]

theorem maskInt_add_pow (n : Nat) (k : Int) : maskInt n (k + 2 ^ n) = maskInt n k := by
  unfold maskInt; rw [Int.add_emod_right]

theorem maskInt_sub (n a b : Nat) (hb : b ≤ 2 ^ n) :
    maskInt n ((a : Int) - (b : Int)) = (a + 2 ^ n - b) % 2 ^ n := by
  have := cast_two_pow n
  rw [← maskInt_add_pow, ← maskInt_natCast, show (a : Int) - b + 2 ^ n = ((a + 2 ^ n - b : Nat) : Int) by omega]

theorem maskInt_neg_succ (n a : Nat) (ha : a < 2 ^ n) :
    maskInt n (-(a : Int) - 1) = 2 ^ n - 1 - a := by
  have := cast_two_pow n
  rw [← maskInt_add_pow, show -(a : Int) - 1 + 2 ^ n = ((2 ^ n - 1 - a : Nat) : Int) by omega,
    maskInt_of_lt _ _ (by omega)]

theorem maskInt_neg (n : Nat) (k : Int) (h0 : k < 0) (h1 : -(2 ^ n : Int) ≤ k) :
    (maskInt n k : Int) = 2 ^ n + k := by
  rw [← maskInt_add_pow, maskInt, Int.emod_eq_of_lt (by omega) (by omega), Int.toNat_of_nonneg (by omega),
    Int.add_comm]

theorem upper_lt (n : Nat) : upper n < 2 ^ n := Nat.sub_one_lt (Nat.ne_of_gt (Nat.two_pow_pos n))

theorem le_upper_iff (n k : Nat) : k ≤ upper n ↔ k < 2 ^ n :=
  (Nat.le_sub_one_iff_lt (Nat.two_pow_pos n))

theorem toNat_lt_of_range {n : Nat} {k : Int} (h : ¬ (k < 0 ∨ k > (upper n : Int))) : k.toNat < 2 ^ n :=
  (le_upper_iff _ _).mp (by omega)

theorem of_ite_error {α : Type} {c : Prop} [Decidable c] {e : Err} {X : Except Err α} {r : α}
    (h : (if c then .error e else X) = .ok r) : ¬ c ∧ X = .ok r := by
  by_cases hc : c
  · rw [if_pos hc] at h; cases h
  · rw [if_neg hc] at h; exact ⟨hc, h⟩

theorem imatmul_n {x : B} {v : Opnd} {b : B} (h : imatmul x v = .ok b) : b.n = x.n := by
  unfold imatmul at h
  cases v with
  | bits y => cases (of_ite_error h).2; rfl
  | int k => cases (of_ite_error h).2; rfl
  | other => cases h

theorem binop_same_width (op : BinOp) (x : B) (b : Nat) :
    binop op x (.bits ⟨x.n, b⟩) =
      match binRaw op x.n x.v b with
      | .ok r => .ok ⟨x.n, r⟩
      | .error e => .error e := by
  simp only [binop, ne_eq, not_true_eq_false, if_false]
  rfl

theorem cmpop_same_width (op : CmpOp) (x : B) (b : Nat) :
    cmpop op x (.bits ⟨x.n, b⟩) = .ok (b1 (cmpRaw op x.v b)) := by
  simp only [cmpop, ne_eq, not_true_eq_false, if_false]

theorem binop_int (op : BinOp) (x : B) (k : Int) :
    binop op x (.int k) =
      if k < 0 ∨ k > (upper x.n : Int) then .error .range else binop op x (.bits ⟨x.n, k.toNat⟩) := by
  simp only [binop, ne_eq, not_true_eq_false, if_false, Bool.or_eq_true, decide_eq_true_eq]

theorem cmpop_int (op : CmpOp) (x : B) (k : Int) :
    cmpop op x (.int k) =
      if k < 0 ∨ k > (upper x.n : Int) then .error .range else cmpop op x (.bits ⟨x.n, k.toNat⟩) := by
  simp only [cmpop, ne_eq, not_true_eq_false, if_false, Bool.or_eq_true, decide_eq_true_eq]

theorem rbinop_int (op : BinOp) (x : B) (k : Int) (hop : op = .sub ∨ op = .floordiv ∨ op = .mod) :
    rbinop op (.int k) x =
      if k < 0 ∨ k > (upper x.n : Int) then .error .range else binop op ⟨x.n, k.toNat⟩ (.bits x) := by
  rcases hop with rfl | rfl | rfl <;>
    simp only [rbinop, binop, ne_eq, not_true_eq_false, if_false, Bool.or_eq_true, decide_eq_true_eq]

/-- what `k op x` does with an int `k`: the forward method (`+ * & | ^`), the operator with the int on the left
(`- // %`), or a TypeError (the shifts have no reflected method) -/
theorem rbinop_int_cases (op : BinOp) (x : B) (k : Int) (P : R → Prop) (hf : P (binop op x (.int k)))
    (hl : P (if k < 0 ∨ k > (upper x.n : Int) then .error .range else binop op ⟨x.n, k.toNat⟩ (.bits x)))
    (ht : P (.error .type)) : P (rbinop op (.int k) x) := by
  cases op
  case sub => rw [rbinop_int _ _ _ (.inl rfl)]; exact hl
  case floordiv => rw [rbinop_int _ _ _ (.inr (.inl rfl))]; exact hl
  case mod => rw [rbinop_int _ _ _ (.inr (.inr rfl))]; exact hl
  case lshift => exact ht
  case rshift => exact ht
  all_goals exact hf

theorem binop_natCast (op : BinOp) (x : B) (k : Nat) (hk : k < 2 ^ x.n) :
    binop op x (.int k) = binop op x (.bits ⟨x.n, k⟩) := by
  have := cast_two_pow x.n
  rw [binop_int, if_neg (mt (int_range _ _).mp (by omega)), Int.toNat_natCast]

theorem rbinop_natCast (op : BinOp) (hop : op = .sub ∨ op = .floordiv ∨ op = .mod) (x : B) (k : Nat)
    (hk : k < 2 ^ x.n) : rbinop op (.int k) x = binop op ⟨x.n, k⟩ (.bits x) := by
  have := cast_two_pow x.n
  rw [rbinop_int op _ _ hop, if_neg (mt (int_range _ _).mp (by omega)), Int.toNat_natCast]

end PV.Bits

-- lets `decide` compare results (`R`, `Except Err Reg`) in the examples of the property files
deriving instance DecidableEq for Except
