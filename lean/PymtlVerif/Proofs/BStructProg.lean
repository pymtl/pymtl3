import PymtlVerif.Model.BStructProg
import PymtlVerif.Proofs.BitStruct
/-!
Helper lemmas for `Props/C06g.lean`: evaluating the canonical programs of `Model/BStructProg.lean`
gives the model functions of `Model/BitStruct.lean` (value-level part: to_bits, from_bits, ==, hash).
The heap-level part is in `Proofs/BStructProgHeap.lean`.
-/
namespace PV.BStructProg
open PV.BitStruct
open PV.Bits (B Reg)

/-- a field list: what may follow a field in a `.pair` chain -/
def Chain : Ty → Prop
  | .unit => True
  | .pair _ _ => True
  | _ => False

/-- every `.pair` tail is a field list again (structs are `.pair` chains ending in `.unit`) and every
leaf is at least one bit wide (there is no `Bits0`) -/
def WF : Ty → Prop
  | .bits n => 1 ≤ n
  | .unit => True
  | .pair A R => WF A ∧ WF R ∧ Chain R
  | .arr _ t => WF t

/-- a struct proper (`Ty.IsRec`: a `.pair` chain ending in `.unit`) as an inductive; all the field loops need of `Chain R ∧ WF R` -/
inductive Fields : Ty → Prop
  | unit : Fields .unit
  | pair {A R} : Fields R → Fields (.pair A R)

theorem Fields.of : ∀ {R : Ty}, Chain R → WF R → Fields R
  | .unit, _, _ => .unit
  | .pair _ _, _, hw => .pair (Fields.of hw.2.2 hw.2.1)
  | .bits _, hc, _ => hc.elim
  | .arr _ _, hc, _ => hc.elim

/-- a list type, or an element (`Bits` or a nested struct: the generators treat them alike); cf. `PV.BitStruct.Ty.arrInd` -/
theorem Ty.arrCases {motive : Ty → Prop} (arr : ∀ k t, motive t → motive (.arr k t))
    (elem : ∀ A, isArr A = false → motive A) : ∀ A, motive A
  | .arr k t => arr k t (arrCases arr elem t)
  | .bits _ => elem _ rfl
  | .unit => elem _ rfl
  | .pair _ _ => elem _ rfl

theorem elemPaths_elem {A : Ty} (ha : isArr A = false) (q : Path) : elemPaths A q = [q] := by
  cases A with
  | arr _ _ => cases ha
  | _ => rfl

theorem unroll_elem {A : Ty} (ha : isArr A = false) (g : Path → Expr) (q : Path) : unroll g A q = g q := by
  cases A with
  | arr _ _ => cases ha
  | _ => rfl

theorem unrollT_elem {A : Ty} (ha : isArr A = false) (g : Path → Expr) (q : Path) : unrollT g A q = g q := by
  cases A with
  | arr _ _ => cases ha
  | _ => rfl

theorem getV_append (v : Val) (p q : Path) : getV v (p ++ q) = (getV v p).bind (getV · q) := by
  induction p generalizing v with
  | nil => rfl
  | cons s p ih =>
    simp only [List.cons_append, getV]
    cases stepV v s with
    | none => rfl
    | some w => exact ih w

theorem getV_snoc {root : Val} {p : Path} {x : Val} (h : getV root p = some x) (s : Step) :
    getV root (p ++ [s]) = stepV x s := by
  rw [getV_append, h]
  show (stepV x s).bind (getV · []) = _
  cases stepV x s <;> rfl

/-- `c` is `s` from position `i` on (`get = fieldVal`: fields of a struct; `elemVal`: elements of a list).
The loops of to_bits, `==`, hash, `@=` / `<<=` / `_flip` and clone over the fields of a struct or the elements of a list are followed
with it: the loop has reached index `i` of `s` and `c` is what is left; one round takes `Tail.head` for index `i` and goes on with `Tail.tail`. -/
def Tail {α : Type} (get : α → Nat → Option α) (s c : α) (i : Nat) : Prop := ∀ j, get c j = get s (i + j)

theorem Tail.refl {α : Type} {get : α → Nat → Option α} (s : α) : Tail get s s 0 := fun j => by rw [Nat.zero_add]

/-- for `c = .pair a b` / `.acons a b`, `h0` here and `hb` of `Tail.tail` are `rfl` -/
theorem Tail.head {α : Type} {get : α → Nat → Option α} {s c a : α} {i : Nat} (h : Tail get s c i)
    (h0 : get c 0 = some a) : get s i = some a := (h 0).symm.trans h0

theorem Tail.tail {α : Type} {get : α → Nat → Option α} {s c b : α} {i : Nat} (h : Tail get s c i)
    (hb : ∀ j, get c (j + 1) = get b j) : Tail get s b (i + 1) := fun j => by
  rw [← hb, h (j + 1), Nat.add_right_comm]; rfl

abbrev TailV := Tail fieldVal
abbrev ETailV := Tail elemVal

theorem TailV.get {s a b : Val} {i : Nat} (h : TailV s (.pair a b) i) : getV s [.fld i] = some a :=
  (congrArg (Option.bind · _) (h.head rfl)).trans rfl

theorem mapOpt_append {α β} (f : α → Option β) (xs ys : List α) (a b : List β)
    (h1 : mapOpt f xs = some a) (h2 : mapOpt f ys = some b) : mapOpt f (xs ++ ys) = some (a ++ b) := by
  induction xs generalizing a with
  | nil => cases h1; exact h2
  | cons x xs ih =>
    simp only [mapOpt] at h1
    cases hx : f x with
    | none => simp [hx] at h1
    | some y =>
      cases hxs : mapOpt f xs with
      | none => simp [hx, hxs] at h1
      | some ys' =>
        simp only [hx, hxs, Option.some.injEq] at h1; subst h1
        simp only [List.cons_append, mapOpt, hx, ih ys' hxs]

/-- what `evalToBits` maps over the paths (it is stated with this function as a `fun`) -/
def tbRead (root : Val) (p : Path) : Option B := (getV root p).bind asBits

theorem tb_arr (root : Val) (t : Ty) (q : Path) (X : Val) (hX : getV root q = some X)
    (ih : ∀ (v : Val) (p : Path), HasTy v t → getV root p = some v →
      mapOpt (tbRead root) (tbPaths t 0 p) = some (concatArgs v)) :
    ∀ (k s : Nat) (xs : Val), HasTy xs (.arr k t) → ETailV X xs s →
      mapOpt (tbRead root) (revFrom (fun j => tbPaths t 0 (q ++ [.idx j])) s k) = some (concatArgs xs) := by
  intro k
  induction k with
  | zero => intro s xs h _; cases h; rfl
  | succ k ihk =>
    intro s xs h ht
    cases h with | acons hx hr =>
    exact mapOpt_append _ _ _ _ _ (ihk (s + 1) _ hr (ht.tail fun _ => rfl))
      (ih _ _ hx ((getV_snoc hX _).trans (ht.head rfl)))

/-- `tbPaths T i p` lists the leaves of the tail from field `i` of the struct at `p` (the second use `tbPaths` has, for a field list `T`) -/
def TbTail (root : Val) (T : Ty) : Prop := ∀ (s v : Val) (i : Nat) (p : Path), HasTy v T → getV root p = some s → TailV s v i →
  mapOpt (tbRead root) (tbPaths T i p) = some (concatArgs v)

theorem tb_main (root : Val) : ∀ (T : Ty), WF T →
    (∀ (v : Val) (p : Path), HasTy v T → getV root p = some v → mapOpt (tbRead root) (tbPaths T 0 p) = some (concatArgs v)) ∧
      (Chain T → TbTail root T) := by
  intro T
  induction T with
  | bits n =>
    refine fun _ => ⟨fun v p h hg => ?_, fun hc => hc.elim⟩
    cases h
    simp only [tbPaths, mapOpt, tbRead, hg, Option.bind_some, asBits, concatArgs]
  | unit => exact fun _ => ⟨fun v p h _ => by cases h; rfl, fun _ s v i p h _ _ => by cases h; rfl⟩
  | pair A R ihA ihR =>
    intro hw
    have tl : TbTail root (.pair A R) := by
      intro s v i p h hg ht
      cases h with | pair ha hb =>
      exact mapOpt_append _ _ _ _ _ ((ihA hw.1).1 _ _ ha ((getV_snoc hg _).trans (ht.head rfl)))
        ((ihR hw.2.1).2 hw.2.2 s _ (i + 1) p hb hg (ht.tail fun _ => rfl))
    exact ⟨fun v p h hg => tl v v 0 p h hg (Tail.refl v), fun _ => tl⟩
  | arr k t iht =>
    exact fun hw => ⟨fun v p h hg => tb_arr root t p v hg (iht hw).1 k 0 v h (Tail.refl v), fun hc => hc.elim⟩

theorem evalToBits_canonical {T : Ty} (hw : WF T) {v : Val} (h : HasTy v T) :
    evalToBits (tbPaths T 0 []) v = some (toBitsPy v) :=
  congrArg (Option.map PV.Bits.concat) ((tb_main v T hw).1 v [] h rfl)

/-- the argument list of a struct value -/
def chainV : Val → Val
  | .pair a b => .acons a (chainV b)
  | _ => .anil

theorem wrapV_hasTy {a : Val} {A : Ty} (h : HasTy a A) : wrapV A a = some a := by
  cases h <;> simp [wrapV]

theorem newV_chain {R : Ty} (hf : Fields R) : ∀ {r : Val}, HasTy r R → newV R (chainV r) = some r := by
  induction hf with
  | unit => intro r h; cases h; rfl
  | pair _ ih =>
    intro r h
    cases h with | pair ha hb =>
    simp only [chainV, newV, wrapV_hasTy ha, ih hb]

/-- as `PV.BitStruct.iterArr_succ` -/
theorem fbArr_succ (f : Nat → Expr × Nat) (k e : Nat) (acc : Expr) : fbArr f (k + 1) e acc =
    (.cons (f (fbArr f k e acc).2).1 (fbArr f k e acc).1, (f (fbArr f k e acc).2).2) := by
  induction k generalizing e acc with
  | zero => rfl
  | succ k ih => rw [fbArr, ih, fbArr]

theorem fbExpr_arr_succ (k : Nat) (t : Ty) (e : Nat) : fbExpr (.arr (k + 1) t) e =
    (.cons (fbExpr t (fbExpr (.arr k t) e).2).1 (fbExpr (.arr k t) e).1, (fbExpr t (fbExpr (.arr k t) e).2).2) := by
  rw [fbExpr, fbArr_succ, ← fbExpr]

/-- the generator `f` (`fbExpr`, or `fbExpr.fbArgs` for a field list) agrees with `fromBitsAt` below every `end_bit = e`:
its expression evaluates to `val` (`id`, resp. `chainV`) of what `fromBitsAt` unpacks, and it leaves the same `end_bit` -/
def FbOk (env : VEnv) (f : Ty → Nat → Expr × Nat) (val : Val → Val) (T : Ty) : Prop :=
  ∀ e, T.width ≤ e → e ≤ env.bits.n →
    evalV env (f T e).1 = some (val (fromBitsAt T e env.bits.v).1) ∧ (f T e).2 = (fromBitsAt T e env.bits.v).2

theorem fb_main (env : VEnv) : ∀ (T : Ty), WF T →
    FbOk env fbExpr id T ∧ (Chain T → FbOk env fbExpr.fbArgs chainV T) := by
  intro T
  induction T using Ty.arrInd with
  | bits n =>
    refine fun hw => ⟨fun e h1 h2 => ⟨?_, rfl⟩, fun hc => hc.elim⟩
    obtain ⟨sf, ot, ⟨bn, bv⟩⟩ := env
    have h1 : n ≤ e := h1
    have hlt : e - n < e := Nat.sub_lt (Nat.lt_of_lt_of_le hw h1) hw
    simp only [fbExpr, fromBitsAt, evalV]
    rw [PV.C05.get_slice bn bv (e - n) e hlt h2, slice_eq, Nat.sub_sub_self h1]; rfl
  | unit => exact fun _ => ⟨fun e _ _ => ⟨rfl, rfl⟩, fun _ e _ _ => ⟨rfl, rfl⟩⟩
  | pair A R ihA ihR =>
    intro hw
    have args : FbOk env fbExpr.fbArgs chainV (.pair A R) := by
      intro e h1 h2
      have hA : A.width ≤ e := Nat.le_trans (Nat.le_add_right _ _) h1
      obtain ⟨a1, a2⟩ := (ihA hw.1).1 e hA h2
      have hs := fromBitsAt_snd A e env.bits.v hA
      obtain ⟨r1, r2⟩ := (ihR hw.2.1).2 hw.2.2 (fromBitsAt A e env.bits.v).2
        (hs ▸ Nat.le_sub_of_add_le' h1) (hs ▸ Nat.le_trans (Nat.sub_le _ _) h2)
      simp only [fbExpr.fbArgs, fromBitsAt, evalV, a2, a1, r1, r2, chainV, id]
      exact ⟨trivial, trivial⟩
    refine ⟨fun e h1 h2 => ?_, fun _ => args⟩
    obtain ⟨k1, k2⟩ := args e h1 h2
    refine ⟨?_, k2⟩
    show (evalV env (fbExpr.fbArgs (.pair A R) e).1).bind (newV (.pair A R)) = _
    rw [k1]
    exact newV_chain (.of (R := .pair A R) trivial hw) (hasTy_fromBitsAt (.pair A R) e env.bits.v h1)
  | anil t => exact fun _ => ⟨fun e _ _ => ⟨rfl, rfl⟩, fun hc => hc.elim⟩
  | acons k t iht ihk =>
    refine fun hw => ⟨fun e h1 h2 => ?_, fun hc => hc.elim⟩
    have h1 : k * t.width + t.width ≤ e := Nat.succ_mul k _ ▸ h1
    have hk : (Ty.arr k t).width ≤ e := Nat.le_trans (Nat.le_add_right _ _) h1
    obtain ⟨r1, r2⟩ := (ihk hw).1 e hk h2
    have hs := fromBitsAt_snd (.arr k t) e env.bits.v hk
    obtain ⟨x1, x2⟩ := (iht hw).1 (fromBitsAt (.arr k t) e env.bits.v).2
      (hs ▸ Nat.le_sub_of_add_le' h1) (hs ▸ Nat.le_trans (Nat.sub_le _ _) h2)
    rw [fbExpr_arr_succ, fromBitsAt_arr_succ, r2]
    simp only [evalV, x1, r1, id]
    exact ⟨trivial, x2⟩

theorem fbExpr_fields {T : Ty} (hf : Fields T) (e : Nat) : (fbExpr T e).1 = .new T (fbExpr.fbArgs T e).1 := by
  cases hf <;> rfl

theorem evalFromBits_canonical {T : Ty} (hw : WF T) (hc : Chain T) (other : B) :
    evalFromBits T (fbExpr.fbArgs T (nbitsPy T)).1 other = fromBitsPy T other := by
  rw [evalFromBits, fromBitsPy, ← fbExpr_fields (.of hc hw)]
  by_cases hn : nbitsPy T = other.n
  · rw [if_neg (fun h => h hn), if_neg (fun h => h hn),
      ((fb_main ⟨.unit, .unit, other⟩ T hw).1 _ (nbitsPy_eq T ▸ Nat.le_refl _) (Nat.le_of_eq hn)).1]
    rfl
  · rw [if_pos hn, if_pos hn]

/-- the fields as a `List` (for `eqList`); `chainV` is the same fields as the `.acons` chain `newV` and `hashV` take -/
def fieldsV : Val → List Val
  | .pair a b => a :: fieldsV b
  | _ => []

theorem eqPaths_get {T : Ty} (hf : Fields T) : ∀ {c : Val}, HasTy c T → ∀ (s : Val) (i : Nat), TailV s c i →
    mapOpt (getV s) (eqPaths T i) = some (fieldsV c) := by
  induction hf with
  | unit => intro c h s i _; cases h; rfl
  | pair _ ih =>
    intro c h s i ht
    cases h with | pair ha hb =>
    simp only [eqPaths, mapOpt, fieldsV, ht.get, ih hb s (i + 1) (ht.tail fun _ => rfl)]

theorem eqList_fields {T : Ty} (hf : Fields T) : ∀ {v w : Val}, HasTy v T → HasTy w T →
    eqList (fieldsV v) (fieldsV w) = eqPy v w := by
  induction hf with
  | unit => intro v w hv hw; cases hv; cases hw; rfl
  | pair _ ih =>
    intro v w hv hw
    cases hv with | pair ha hb =>
    cases hw with | pair hc hd =>
    simp only [fieldsV, eqList, eqPy, ih hb hd]

theorem evalEq_canonical {T : Ty} (hw : WF T) (hc : Chain T) (sameClass : Bool) {v w : Val}
    (hv : HasTy v T) (hw' : HasTy w T) :
    evalEq (eqPaths T 0) (eqPaths T 0) sameClass v w = some (eqCls sameClass v w) := by
  simp only [evalEq, eqPaths_get (.of hc hw) hv v 0 (Tail.refl v), eqPaths_get (.of hc hw) hw' w 0 (Tail.refl w),
    eqCls, eqList_fields (.of hc hw) hv hw']

/-- evaluating `[ p[0], p[1], … ]` (tuple displays or list displays) over the list dimensions of a field rebuilds
the field's value -/
theorem unroll_go_self (env : VEnv) (t : Ty) (X : Val) (f : Nat → Expr)
    (ih : ∀ j x, elemVal X j = some x → HasTy x t → evalV env (f j) = some x) :
    ∀ (k s : Nat) (xs : Val), HasTy xs (.arr k t) → ETailV X xs s →
      evalV env (unroll.go f s k) = some xs := by
  intro k
  induction k with
  | zero => intro s xs h _; cases h; rfl
  | succ k ihk =>
    intro s xs h ht
    cases h with | acons hx hr =>
    simp only [unroll.go, evalV, ih s _ (ht.head rfl) hx, ihk (s + 1) _ hr (ht.tail fun _ => rfl)]

theorem unrollT_self (self other : Val) (bb : B) : ∀ (A : Ty) (q : Path) (X : Val), HasTy X A → getV self q = some X →
    evalV ⟨self, other, bb⟩ (unrollT .self A q) = some X := by
  intro A
  induction A using Ty.arrCases with
  | elem A ha => intro q X _ hq; rw [unrollT_elem ha]; exact hq
  | arr k t iht =>
    intro q X hX hq
    exact unroll_go_self ⟨self, other, bb⟩ t X _
      (fun j x hj hx => iht _ x hx ((getV_snoc hq (.idx j)).trans hj)) k 0 X hX (Tail.refl X)

theorem hashArgs_eval {T : Ty} (hf : Fields T) : ∀ {c : Val}, HasTy c T → ∀ (s : Val) (i : Nat), TailV s c i →
    evalV ⟨s, s, default⟩ (hashArgs T i) = some (chainV c) := by
  induction hf with
  | unit => intro c h s i _; cases h; rfl
  | @pair A _ _ ih =>
    intro c h s i ht
    cases h with | pair ha hb =>
    simp only [hashArgs, evalV, chainV, unrollT_self s s default A _ _ ha ht.get, ih hb s (i + 1) (ht.tail fun _ => rfl)]

theorem hashRest_chainV {α : Type} (hb : Nat → Nat → α) (ht : List α → α) {T : Ty} (hf : Fields T) :
    ∀ {v : Val}, HasTy v T → hashV.hashRest hb ht (chainV v) = hashV.hashRest hb ht v := by
  induction hf with
  | unit => intro v h; cases h; rfl
  | pair _ ih => intro v h; cases h with | pair _ hb' => simp only [chainV, hashV.hashRest, ih hb']

theorem hashV_chainV {α : Type} (hb : Nat → Nat → α) (ht : List α → α) {v : Val} {T : Ty} (h : HasTy v T)
    (hf : Fields T) : hashV hb ht (chainV v) = hashV hb ht v := by
  cases hf with
  | unit => cases h; rfl
  | pair hR => cases h with | pair _ hb' => simp only [chainV, hashV, hashRest_chainV hb ht hR hb']

/-- `newV T` undoes `chainV` -/
theorem chainV_inj {T : Ty} (hf : Fields T) {v w : Val} (hv : HasTy v T) (hw : HasTy w T) (e : chainV v = chainV w) : v = w :=
  Option.some.inj ((newV_chain hf hv).symm.trans ((congrArg (newV T) e).trans (newV_chain hf hw)))

end PV.BStructProg
