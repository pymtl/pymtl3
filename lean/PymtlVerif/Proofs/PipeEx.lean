import PymtlVerif.Proofs.PipeRef4
/-!
A concrete program for the non-vacuity examples of the refinement theorems: `addi x1, x0, 5 ; csrw proc2mngr, x1` at the reset
vector (the `csrw` reads x1 through the bypass network).  The image is a `Std.HashMap`, which the kernel does
not evaluate, so the two ISA steps are established by rewriting (`TinyRV0.lw_sw`).
-/
namespace PV.Pipe
open PV.TinyRV0

/-- `addi x1, x0, 5 ; csrw proc2mngr, x1` at the reset vector -/
def tiny : Prog := { mem0 := loadImage [(0x200, 0x00500093), (0x204, 0x7c009073)], inp := [] }

theorem tiny_w0 : loadWord tiny.mem0 0x200 = 0x00500093 := by
  simp [tiny, loadImage, lw_sw, W32]
theorem tiny_w1 : loadWord tiny.mem0 0x204 = 0x7c009073 := by
  simp [tiny, loadImage, lw_sw, W32]

theorem tiny_s1 : isaAt tiny 1 = { (isaAt tiny 0) with pc := 0x204, regs := rset (isaAt tiny 0).regs 1 5 } ∧
    (∃ s', TinyRV0.step (isaAt tiny 0) = .ok s') := by
  have hs : TinyRV0.step (isaAt tiny 0) = .ok { (isaAt tiny 0) with pc := 0x204, regs := rset (isaAt tiny 0).regs 1 5 } := by
    rw [TinyRV0.step, fetch_eq (i := .addi 1 0 5) (by decide) (tiny_w0 ▸ by decide)]; rfl
  have e : isaAt tiny 1 = match TinyRV0.step (isaAt tiny 0) with
      | .ok s' => s'
      | .error _ => isaAt tiny 0 := rfl
  exact ⟨by rw [e, hs], _, hs⟩

theorem tiny_s2 : ∃ s', TinyRV0.step (isaAt tiny 1) = .ok s' := by
  rw [tiny_s1.1, TinyRV0.step, fetch_eq (i := .csrw 0x7c0 1) (by decide) (tiny_w1 ▸ by decide)]
  exact ⟨_, rfl⟩

theorem tiny_runs : Runs tiny 2 := by
  intro j hj
  have : j = 0 ∨ j = 1 := by omega
  rcases this with h | h <;> subst h
  · exact ⟨tiny_s1.2, by show loadWord tiny.mem0 0x200 = loadWord tiny.mem0 0x200; rfl⟩
  · refine ⟨tiny_s2, ?_⟩
    simp only [wordAt, tiny_s1.1]
    rfl


/-! ### the real `ProcRTL` running `tiny` (recorded after the reset cycles; memory latency 2) -/

def tinyTrace : List EnvIn := [
  { imem_req_rdy := true, dmem_req_rdy := true, proc2mngr_rdy := true, xcel_req_rdy := true },
  { imem_req_rdy := true, dmem_req_rdy := true, proc2mngr_rdy := true, xcel_req_rdy := true },
  { imem_req_rdy := true, imem_resp_en := true, imem_resp_data := 5243027, dmem_req_rdy := true, proc2mngr_rdy := true, xcel_req_rdy := true },
  { imem_req_rdy := true, imem_resp_data := 5243027, dmem_req_rdy := true, proc2mngr_rdy := true, xcel_req_rdy := true },
  { imem_req_rdy := true, imem_resp_en := true, imem_resp_data := 2080411763, dmem_req_rdy := true, proc2mngr_rdy := true, xcel_req_rdy := true },
  { imem_req_rdy := true, imem_resp_data := 2080411763, dmem_req_rdy := true, proc2mngr_rdy := true, xcel_req_rdy := true },
  { imem_req_rdy := true, imem_resp_en := true, dmem_req_rdy := true, proc2mngr_rdy := true, xcel_req_rdy := true },
  { imem_req_rdy := true, dmem_req_rdy := true, proc2mngr_rdy := true, xcel_req_rdy := true },
  { imem_req_rdy := true, imem_resp_en := true, dmem_req_rdy := true, proc2mngr_rdy := true, xcel_req_rdy := true }
]

def tinyS0 : State := next State.init { reset := true }

theorem tiny_w2 : loadWord tiny.mem0 0x208 = 0 := by
  have : loadWord Mem.empty 0x208 = 0 := by simp [loadWord, Mem.get_empty]
  simp [tiny, loadImage, lw_sw, this]
theorem tiny_w3 : loadWord tiny.mem0 0x20c = 0 := by
  have : loadWord Mem.empty 0x20c = 0 := by simp [loadWord, Mem.get_empty]
  simp [tiny, loadImage, lw_sw, this]

/-- the recorded inputs are admissible for `tiny`: the four instruction responses answer the oldest pending
fetch (found by evaluating the model) with the word of the image at that address; nothing else is driven -/
theorem tinyTrace_ok : EnvTrace tiny (Env.init tiny) tinyS0 tinyTrace :=
  have quiet : ∀ {E : Env} {o : EnvOut} {i : EnvIn}, i.reset = false → i.imem_resp_en = false →
      i.dmem_resp_en = false → i.mngr2proc_en = false → envOk tiny E i o :=
    fun h0 h1 h2 h3 => ⟨h0, fun h => absurd (h1.symm.trans h) Bool.false_ne_true,
      fun h => absurd (h2.symm.trans h) Bool.false_ne_true, fun h => absurd (h3.symm.trans h) Bool.false_ne_true⟩
  ⟨quiet rfl rfl rfl rfl, quiet rfl rfl rfl rfl,
   ⟨rfl, fun _ => ⟨rfl, _, _, rfl, tiny_w0.symm⟩, nofun, nofun⟩, quiet rfl rfl rfl rfl,
   ⟨rfl, fun _ => ⟨rfl, _, _, rfl, tiny_w1.symm⟩, nofun, nofun⟩, quiet rfl rfl rfl rfl,
   ⟨rfl, fun _ => ⟨rfl, _, _, rfl, tiny_w2.symm⟩, nofun, nofun⟩, quiet rfl rfl rfl rfl,
   ⟨rfl, fun _ => ⟨rfl, _, _, rfl, tiny_w3.symm⟩, nofun, nofun⟩, trivial⟩

end PV.Pipe
