import PymtlVerif.Model.OpenLoop
import PymtlVerif.Proofs.ListFacts
/-!
Run-time part of `Model/OpenLoop.lean`: the wrapper indices, and the invariant of `actual_method` over arbitrary
sequences of top-level calls.
-/
namespace PV.OpenLoop

def Ev.isRun : Ev → Bool
  | .run _ => true
  | .meth _ => false

/-- "non-port count": the number of non-method entries of `schedule` before index `p`, i.e. the index in
`schedule_no_method` of the first function at or behind `p`; `my_idx_new` of a CalleePort at `p` (`wrapAt_spec`) -/
def npc (S : List Slot) (p : Nat) : Nat := (snm (S.take p)).length

theorem snm_append (A B : List Slot) : snm (A ++ B) = snm A ++ snm B := List.filter_append ..

theorem runRange_of_le {a b : Nat} (h : b ≤ a) : runRange a b = [] := by
  have : b - a = 0 := by omega
  simp [runRange, this]

theorem runRange_self (a : Nat) : runRange a a = [] := runRange_of_le (Nat.le_refl a)

theorem runRange_append {a b c : Nat} (h1 : a ≤ b) (h2 : b ≤ c) : runRange a b ++ runRange b c = runRange a c := by
  obtain ⟨d, rfl⟩ := Nat.exists_eq_add_of_le h1
  obtain ⟨e, rfl⟩ := Nat.exists_eq_add_of_le h2
  rw [runRange, runRange, runRange, Nat.add_sub_cancel_left, Nat.add_sub_cancel_left, Nat.add_assoc, Nat.add_sub_cancel_left,
    ← List.map_append, List.range'_append_1]

theorem runRange_cons (k n : Nat) : runRange k (k + (n + 1)) = Ev.run k :: runRange (k + 1) (k + 1 + n) := by
  simp only [runRange, Nat.add_sub_cancel_left, List.range'_succ, List.map_cons]

theorem runRange_zero (n : Nat) : runRange 0 n = (List.range n).map Ev.run := by
  simp [runRange, List.range_eq_range']

theorem filter_runRange (a b : Nat) : (runRange a b).filter Ev.isRun = runRange a b := by
  unfold runRange
  rw [List.filter_eq_self]
  intro e he
  obtain ⟨k, _, rfl⟩ := List.mem_map.mp he
  rfl

theorem snm_port {x : Slot} {xs : List Slot} (hx : x.isPort = true) : snm (x :: xs) = snm xs := by
  rw [snm, List.filter_cons, hx]; rfl

theorem snm_fn {x : Slot} {xs : List Slot} (hx : x.isPort = false) : snm (x :: xs) = x :: snm xs := by
  rw [snm, List.filter_cons, hx]; rfl

theorem fullEvents_port {x : Slot} {xs : List Slot} {p k : Nat} (hx : x.isPort = true) :
    fullEvents (x :: xs) p k = Ev.meth p :: fullEvents xs (p + 1) k := by
  rw [fullEvents, hx]; rfl

theorem fullEvents_fn {x : Slot} {xs : List Slot} {p k : Nat} (hx : x.isPort = false) :
    fullEvents (x :: xs) p k = Ev.run k :: fullEvents xs (p + 1) (k + 1) := by
  rw [fullEvents, hx]; rfl

theorem fullEvents_append (A B : List Slot) (p k : Nat) :
    fullEvents (A ++ B) p k = fullEvents A p k ++ fullEvents B (p + A.length) (k + (snm A).length) := by
  -- the cases of `fullEvents.induct`, here and below: `case2` the entry `x` is a CalleePort, `case3` it is not
  fun_induction fullEvents A p k with
  | case1 => rfl
  | case2 x xs p k hx ih =>
    rw [List.cons_append, fullEvents_port hx, snm_port hx, ih, List.length_cons, Nat.add_assoc, Nat.add_comm 1]; rfl
  | case3 x xs p k hx ih =>
    have hx := eq_false_of_ne_true hx
    rw [List.cons_append, fullEvents_fn hx, snm_fn hx, ih, List.length_cons, List.length_cons, Nat.add_assoc, Nat.add_comm 1,
      Nat.add_assoc, Nat.add_comm 1]; rfl

theorem fullEvents_length (A : List Slot) (p k : Nat) : (fullEvents A p k).length = A.length := by
  fun_induction fullEvents A p k with
  | case1 => rfl
  | case2 x xs p k hx ih => rw [List.length_cons, ih, List.length_cons]
  | case3 x xs p k hx ih => rw [List.length_cons, ih, List.length_cons]

theorem fullEvents_split (S : List Slot) {j : Nat} (hj : j ≤ S.length) :
    fullEvents S 0 0 = fullEvents (S.take j) 0 0 ++ fullEvents (S.drop j) j (npc S j) := by
  have := fullEvents_append (S.take j) (S.drop j) 0 0
  rwa [List.take_append_drop, Nat.zero_add, Nat.zero_add, List.length_take, Nat.min_eq_left hj] at this

theorem filter_fullEvents (A : List Slot) (p k : Nat) :
    (fullEvents A p k).filter Ev.isRun = runRange k (k + (snm A).length) := by
  fun_induction fullEvents A p k with
  | case1 p k => exact (runRange_self k).symm
  | case2 x xs p k hx ih => rw [snm_port hx]; exact ih
  | case3 x xs p k hx ih => rw [snm_fn (eq_false_of_ne_true hx), List.length_cons, runRange_cons, ← ih]; rfl

theorem mem_fullEvents {A : List Slot} {p k : Nat} {e : Ev} (h : e ∈ fullEvents A p k) :
    (∀ q, e = Ev.meth q → p ≤ q) ∧ (∀ r, e = Ev.run r → k ≤ r) := by
  fun_induction fullEvents A p k with
  | case1 => cases h
  | case2 x xs p k hx ih =>
    rcases List.mem_cons.mp h with rfl | h
    · exact ⟨fun q hq => (by cases hq; exact Nat.le_refl _), fun r hr => (by cases hr)⟩
    · obtain ⟨h1, h2⟩ := ih h
      exact ⟨fun q hq => Nat.le_of_succ_le (h1 q hq), h2⟩
  | case3 x xs p k hx ih =>
    rcases List.mem_cons.mp h with rfl | h
    · exact ⟨fun q hq => (by cases hq), fun r hr => (by cases hr; exact Nat.le_refl _)⟩
    · obtain ⟨h1, h2⟩ := ih h
      exact ⟨fun q hq => Nat.le_of_succ_le (h1 q hq), fun r hr => Nat.le_of_succ_le (h2 r hr)⟩

theorem fullEvents_nodup (A : List Slot) (p k : Nat) : (fullEvents A p k).Nodup := by
  fun_induction fullEvents A p k with
  | case1 => exact List.nodup_nil
  | case2 x xs p k hx ih => exact List.nodup_cons.mpr ⟨fun h => Nat.lt_irrefl _ ((mem_fullEvents h).1 p rfl), ih⟩
  | case3 x xs p k hx ih => exact List.nodup_cons.mpr ⟨fun h => Nat.lt_irrefl _ ((mem_fullEvents h).2 k rfl), ih⟩

theorem fullEvents_getElem (S : List Slot) (q : Nat) (hq : q < S.length) :
    (fullEvents S 0 0)[q]'(by rw [fullEvents_length]; exact hq) = if S[q].isPort then Ev.meth q else Ev.run (npc S q) := by
  -- split the schedule at `q`: the event is the head of what `S.drop q` contributes
  refine List.getElem_of_append (l₁ := fullEvents (S.take q) 0 0) (l₂ := fullEvents (S.drop (q + 1)) (q + 1) (if S[q].isPort then npc S q else npc S q + 1)) ?_
    (by rw [fullEvents_length, List.length_take, Nat.min_eq_left (Nat.le_of_lt hq)])
  rw [fullEvents_split S (Nat.le_of_lt hq), List.drop_eq_getElem_cons hq]
  simp only [fullEvents]
  cases S[q].isPort <;> rfl

theorem lastIdx_none (x : Slot) : ∀ (l : List Slot) (k : Nat), x ∉ l → lastIdx x l k = none := by
  intro l
  induction l with
  | nil => intro k _; rfl
  | cons y ys ih =>
    intro k h
    have h1 : x ∉ ys := fun h' => h (List.mem_cons_of_mem _ h')
    have h2 : y ≠ x := fun h' => h (h' ▸ List.mem_cons_self)
    simp [lastIdx, ih (k + 1) h1, h2]

theorem npc_add (S : List Slot) (a d : Nat) : npc S (a + d) = npc S a + (snm ((S.drop a).take d)).length := by
  unfold npc
  rw [List.take_add, snm_append, List.length_append]

theorem npc_le_of_le (S : List Slot) {a b : Nat} (h : a ≤ b) : npc S a ≤ npc S b := by
  obtain ⟨d, rfl⟩ := Nat.exists_eq_add_of_le h
  rw [npc_add]; exact Nat.le_add_right _ _

theorem npc_length (S : List Slot) : npc S S.length = (snm S).length := by simp [npc]

theorem take_succ_port {S : List Slot} {p v : Nat} (hp : S[p]? = some (Slot.port v)) : S.take (p + 1) = S.take p ++ [Slot.port v] := by
  rw [List.take_add_one, hp]; rfl

theorem npc_succ_port {S : List Slot} {p v : Nat} (hp : S[p]? = some (Slot.port v)) : npc S (p + 1) = npc S p := by
  rw [npc, take_succ_port hp, snm_append]; exact congrArg List.length (List.append_nil _)

/-- `mapping[l[i]]` is `i` when no entry occurs twice (the enumeration starting at `k`) -/
theorem lastIdx_getElem {l : List Slot} (hnd : l.Nodup) (k : Nat) {i : Nat} (h : i < l.length) : lastIdx l[i] l k = some (k + i) := by
  induction l generalizing k i with
  | nil => cases h
  | cons y ys ih =>
    obtain ⟨hy, hys⟩ := List.nodup_cons.mp hnd
    cases i with
    | zero => rw [List.getElem_cons_zero, lastIdx, lastIdx_none y ys (k + 1) hy]; exact if_pos rfl
    | succ i =>
      rw [List.getElem_cons_succ, lastIdx, ih hys (k + 1) (Nat.lt_of_succ_lt_succ h), Nat.add_assoc, Nat.add_comm 1]

/-- `schedule[next_func]` is the function at index `npc (i + 1)` of `schedule_no_method`, if there is one: the first
non-method behind `i` is the head of what `schedule_no_method` keeps of `schedule[i+1:]` -/
theorem getElem?_nextFunc (S : List Slot) (i : Nat) : S[nextFunc S i]? = (snm S)[npc S (i + 1)]? := by
  have h1 : snm S = snm (S.take (i + 1)) ++ snm (S.drop (i + 1)) := by rw [← snm_append, List.take_append_drop]
  rw [h1, npc, List.getElem?_append_right (Nat.le_refl _), Nat.sub_self, ← List.head?_eq_getElem?, snm, List.head?_filter,
    List.find?_eq_getElem?_findIdx, nextFunc, List.takeWhile_eq_take_findIdx_not, List.length_take,
    Nat.min_eq_left List.findIdx_le_length, List.getElem?_drop]

/-- what the run-time theorems need of a schedule: no function occurs twice in `schedule_no_method`, and the last entry
is a function (`ffs` is never empty) -/
structure SchedOK (S : List Slot) : Prop where
  nodup : (snm S).Nodup
  last : ∃ x, S.getLast? = some x ∧ x.isPort = false

/-- **wrapper indices**: `my_idx_orig = p`, `my_idx_new` = the number of non-method entries before `p` -/
theorem wrapAt_spec {S : List Slot} (ok : SchedOK S) {p v : Nat} (hp : S[p]? = some (Slot.port v)) :
    wrapAt S p = some ⟨p, npc S p⟩ := by
  -- the last entry is a function, so `schedule_no_method` has more than `npc S p` entries
  have hlt : npc S p < (snm S).length := by
    obtain ⟨x, hx, hxp⟩ := ok.last
    obtain ⟨S', rfl⟩ := List.getLast?_eq_some_iff.mp hx
    obtain ⟨hpl, _⟩ := List.getElem?_eq_some_iff.mp hp
    have hS' : npc (S' ++ [x]) S'.length = (snm S').length := by rw [npc, List.take_left]
    rw [snm_append, List.length_append, ← hS', show snm [x] = [x] from snm_fn hxp]
    rw [List.length_append] at hpl
    exact Nat.lt_succ_of_le (npc_le_of_le _ (Nat.le_of_lt_succ hpl))
  rw [wrapAt, hp]
  dsimp only
  rw [getElem?_nextFunc, npc_succ_port hp, List.getElem?_eq_getElem hlt]
  dsimp only
  rw [lastIdx_getElem ok.nodup 0 hlt, Nat.zero_add]; rfl

theorem wrapAt_some {S : List Slot} {p : Nat} {w : Wrap} (h : wrapAt S p = some w) : ∃ v, S[p]? = some (Slot.port v) := by
  unfold wrapAt at h
  split at h
  · next v hv => exact ⟨v, hv⟩
  · cases h

/-- the call of the CalleePort at index `p`, with the wrapper indices of `wrapAt_spec` -/
def callS (S : List Slot) (s : St) (p : Nat) : St := callW (snm S).length ⟨p, npc S p⟩ s

def execS (S : List Slot) (s : St) (calls : List Nat) : St := calls.foldl (callS S) s

theorem callAt_eq {S : List Slot} (ok : SchedOK S) (s : St) {p v : Nat} (hp : S[p]? = some (Slot.port v)) :
    callAt S s p = some (callS S s p) := by
  unfold callAt callS
  rw [wrapAt_spec ok hp]; rfl

theorem exec_iff {S : List Slot} (ok : SchedOK S) : ∀ (calls : List Nat) (s r : St),
    exec S s calls = some r ↔ (∀ p ∈ calls, ∃ v, S[p]? = some (Slot.port v)) ∧ r = execS S s calls := by
  intro calls
  induction calls with
  | nil => intro s r; exact ⟨fun h => ⟨nofun, (Option.some.inj h).symm⟩, fun h => h.2 ▸ rfl⟩
  | cons p ps ih =>
    intro s r
    rw [exec, List.forall_mem_cons]
    cases hw : wrapAt S p with
    | none =>
      rw [callAt, hw]
      exact ⟨nofun, fun ⟨⟨⟨v, hv⟩, _⟩, _⟩ => by rw [wrapAt_spec ok hv] at hw; cases hw⟩
    | some w =>
      obtain ⟨v, hv⟩ := wrapAt_some hw
      rw [callAt_eq ok s hv, Option.bind_some, ih]
      exact ⟨fun h => ⟨⟨⟨v, hv⟩, h.1⟩, h.2⟩, fun h => ⟨h.1.2, h.2⟩⟩

/-- invariant of `actual_method`: `i` is the number of functions before `schedule[j]`; the log of the running cycle is a
sublist of the first `j` entries and holds exactly the runs `0 .. i-1`; every finished cycle is a sublist of the whole
schedule and holds every run -/
structure Inv (S : List Slot) (s : St) : Prop where
  jle : s.j ≤ S.length
  ieq : s.i = npc S s.j
  cur_sub : s.cur.Sublist (fullEvents (S.take s.j) 0 0)
  cur_run : s.cur.filter Ev.isRun = runRange 0 s.i
  done_sub : ∀ c ∈ s.done, c.Sublist (fullEvents S 0 0)
  done_run : ∀ c ∈ s.done, c.filter Ev.isRun = runRange 0 (snm S).length

theorem inv_init (S : List Slot) : Inv S St.init :=
  ⟨Nat.zero_le _, rfl, List.nil_sublist _, rfl, nofun, nofun⟩

theorem Inv.i_le {S : List Slot} {s : St} (inv : Inv S s) {p : Nat} (hj : s.j ≤ p) : s.i ≤ npc S p :=
  inv.ieq ▸ npc_le_of_le S hj

/-- **the plan of one call**, in closed form; the invariant says that catching up never runs backwards (`Inv.i_le`) -/
theorem callS_eq {S : List Slot} {s : St} (inv : Inv S s) (p : Nat) :
    callS S s p =
      if s.j ≤ p then
        ⟨npc S p, p + 1, s.cycles, s.done, s.cur ++ runRange (npc S s.j) (npc S p) ++ [Ev.meth p]⟩
      else
        ⟨npc S p, p + 1, s.cycles + 1, s.done ++ [s.cur ++ runRange (npc S s.j) (snm S).length],
          runRange 0 (npc S p) ++ [Ev.meth p]⟩ := by
  have hmax : ∀ {i n : Nat}, i ≤ n → (if i < n then n else i) = n := fun h => by split <;> omega
  unfold callS callW
  by_cases hj : s.j ≤ p
  · rw [if_neg (Nat.not_lt.mpr hj), if_pos hj]
    dsimp only
    rw [hmax (inv.i_le hj), inv.ieq]
  · rw [if_pos (Nat.lt_of_not_le hj), if_neg hj]
    dsimp only
    rw [hmax (Nat.zero_le _), inv.ieq]; rfl

/-- running `schedule_no_method` from `npc L j` to the end after a sublist of the first `j` entries gives a sublist of the
whole; with `L` a prefix of the schedule this is "catching up", with `L` the schedule "finishing the cycle" -/
theorem sub_flush {L : List Slot} {cur : List Ev} {j : Nat} (hj : j ≤ L.length)
    (h : cur.Sublist (fullEvents (L.take j) 0 0)) :
    (cur ++ runRange (npc L j) (snm L).length).Sublist (fullEvents L 0 0) := by
  have hN : (snm L).length = npc L j + (snm (L.drop j)).length := by
    rw [npc, ← List.length_append, ← snm_append, List.take_append_drop]
  rw [fullEvents_split L hj, hN, ← filter_fullEvents (L.drop j) j]
  exact h.append List.filter_sublist

theorem run_catchup {cur : List Ev} {i i' : Nat} (h : cur.filter Ev.isRun = runRange 0 i) (hi : i ≤ i') :
    (cur ++ runRange i i').filter Ev.isRun = runRange 0 i' := by
  rw [List.filter_append, h, filter_runRange]; exact runRange_append (Nat.zero_le _) hi

/-- finishing the cycle: `while i < len(schedule_no_method): …` -/
theorem inv_flush {S : List Slot} {s : St} (inv : Inv S s) :
    Inv S ⟨0, 0, s.cycles + 1, s.done ++ [s.cur ++ runRange s.i (snm S).length], []⟩ :=
  ⟨Nat.zero_le _, rfl, List.nil_sublist _, rfl,
    forall_mem_concat inv.done_sub (inv.ieq ▸ sub_flush inv.jle inv.cur_sub),
    forall_mem_concat inv.done_run (run_catchup inv.cur_run (npc_length S ▸ inv.i_le inv.jle))⟩

/-- catching up and calling: `while i < my_idx_new: …; j = my_idx_orig + 1; method()` -/
theorem inv_advance {S : List Slot} {s : St} (inv : Inv S s) {p v : Nat} (hp : S[p]? = some (Slot.port v)) (hj : s.j ≤ p) :
    Inv S ⟨npc S p, p + 1, s.cycles, s.done, s.cur ++ runRange s.i (npc S p) ++ [Ev.meth p]⟩ := by
  obtain ⟨hpl, _⟩ := List.getElem?_eq_some_iff.mp hp
  have hlen : (S.take p).length = p := by rw [List.length_take, Nat.min_eq_left (Nat.le_of_lt hpl)]
  refine ⟨hpl, (npc_succ_port hp).symm, ?_, ?_, inv.done_sub, inv.done_run⟩
  · have htt : (S.take p).take s.j = S.take s.j := by rw [List.take_take, Nat.min_eq_left hj]
    have hi : npc (S.take p) s.j = s.i := by rw [inv.ieq, npc, npc, htt]
    have := sub_flush (L := S.take p) (hlen.symm ▸ hj) (htt.symm ▸ inv.cur_sub)
    rw [hi] at this
    show List.Sublist _ (fullEvents (S.take (p + 1)) 0 0)
    rw [take_succ_port hp, fullEvents_append, Nat.zero_add, hlen]
    exact this.append (List.Sublist.refl _)
  · show List.filter _ _ = _
    rw [List.filter_append, run_catchup inv.cur_run (inv.i_le hj)]; exact List.append_nil _

theorem inv_call {S : List Slot} {s : St} (inv : Inv S s) {p v : Nat} (hp : S[p]? = some (Slot.port v)) : Inv S (callS S s p) := by
  rw [callS_eq inv p]
  split
  · exact inv.ieq ▸ inv_advance inv hp ‹_›
  · exact inv.ieq ▸ inv_advance (inv_flush inv) hp (Nat.zero_le _)

theorem inv_exec {S : List Slot} (calls : List Nat) (s : St) (h : Inv S s)
    (hc : ∀ p ∈ calls, ∃ v, S[p]? = some (Slot.port v)) : Inv S (execS S s calls) :=
  List.foldlRecOn calls (callS S) h fun _ hs p hp => let ⟨_, hv⟩ := hc p hp; inv_call hs hv

def Ev.methIdx : Ev → Option Nat
  | .meth p => some p
  | .run _ => none

def methsOf (s : St) : List Nat := (s.done.flatten ++ s.cur).filterMap Ev.methIdx

theorem filterMap_runRange (a b : Nat) : (runRange a b).filterMap Ev.methIdx = [] := by
  unfold runRange
  rw [List.filterMap_eq_nil_iff]
  intro e he
  obtain ⟨k, _, rfl⟩ := List.mem_map.mp he
  rfl

theorem methsOf_call (S : List Slot) (s : St) (p : Nat) : methsOf (callS S s p) = methsOf s ++ [p] := by
  unfold callS callW methsOf
  by_cases hj : s.j > p
  · simp [hj, List.filterMap_append, filterMap_runRange, Ev.methIdx]
  · simp [hj, List.filterMap_append, filterMap_runRange, Ev.methIdx]

theorem methsOf_exec (S : List Slot) : ∀ (calls : List Nat) (s : St), methsOf (execS S s calls) = methsOf s ++ calls := by
  intro calls
  induction calls with
  | nil => intro s; exact (List.append_nil _).symm
  | cons p ps ih =>
    intro s
    rw [execS, List.foldl_cons, ← execS, ih, methsOf_call, List.append_assoc]; rfl

/-- the number of calls that end the running cycle, when the previous call was served at `orig_schedule_index = j` -/
def descFrom : Nat → List Nat → Nat
  | _, [] => 0
  | j, p :: ps => (if j > p then 1 else 0) + descFrom (p + 1) ps

theorem callS_cycles (S : List Slot) (s : St) (p : Nat) :
    (callS S s p).cycles = s.cycles + (if s.j > p then 1 else 0) ∧ (callS S s p).j = p + 1 ∧
    (callS S s p).done.length = s.done.length + (if s.j > p then 1 else 0) := by
  unfold callS callW
  by_cases hj : s.j > p <;> simp [hj]

theorem execS_cycles (S : List Slot) : ∀ (calls : List Nat) (s : St),
    (execS S s calls).cycles = s.cycles + descFrom s.j calls ∧
    (execS S s calls).done.length = s.done.length + descFrom s.j calls := by
  intro calls
  induction calls with
  | nil => intro s; exact ⟨rfl, rfl⟩
  | cons p ps ih =>
    intro s
    obtain ⟨h1, h2, h3⟩ := callS_cycles S s p
    rw [execS, List.foldl_cons, ← execS, (ih _).1, (ih _).2, h1, h2, h3, descFrom]
    omega

/-! ## frame: the log already there does not influence what the calls do -/

/-- put an earlier log in front of a state's log: `c` cycles counted before, `d` their events, `pre` the events of the
cycle that was running -/
def prefixLog (c : Nat) (d : List (List Ev)) (pre : List Ev) (s : St) : St :=
  match s.done with
  | [] => ⟨s.i, s.j, c + s.cycles, d, pre ++ s.cur⟩
  | c0 :: rest => ⟨s.i, s.j, c + s.cycles, d ++ (pre ++ c0) :: rest, s.cur⟩

theorem callS_prefix (S : List Slot) (c : Nat) (d : List (List Ev)) (pre : List Ev) (s : St) (p : Nat) :
    callS S (prefixLog c d pre s) p = prefixLog c d pre (callS S s p) := by
  obtain ⟨i, j, cy, dn, cur⟩ := s
  cases dn with
  | nil =>
    by_cases hj : j > p
    · simp [callS, callW, prefixLog, hj, Nat.add_assoc]
    · simp [callS, callW, prefixLog, hj]
  | cons c0 rest =>
    by_cases hj : j > p
    · simp [callS, callW, prefixLog, hj, Nat.add_assoc]
    · simp [callS, callW, prefixLog, hj]

theorem execS_prefix (S : List Slot) (c : Nat) (d : List (List Ev)) (pre : List Ev) (calls : List Nat) (s : St) :
    execS S (prefixLog c d pre s) calls = prefixLog c d pre (execS S s calls) :=
  List.foldl_hom (prefixLog c d pre) (H := fun s p => callS_prefix S c d pre s p)

theorem prefixLog_self (s : St) : prefixLog s.cycles s.done s.cur ⟨s.i, s.j, 0, [], []⟩ = s := by
  simp [prefixLog]

end PV.OpenLoop
