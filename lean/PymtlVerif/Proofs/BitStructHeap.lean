import PymtlVerif.Proofs.BitStruct
/-!
Helper lemmas about the heap part of `Model/BitStruct.lean`: frame properties of
`build` / `clone` / the statement lists of `@=`, `<<=` and `_flip`.

A struct `pair a b` and a list `acons a b` have the same leaves, `cells a ++ cells b`, and every operation
runs over `a`, then over `b`: what two runs in a row do is stated once, about the two cell lists (`Fresh.append`, `Frame.append`).

The three mutating methods are stores: `store g h i v` writes the leaves of `v` into the leaves of `i`, each through `g`;
`@=` and `_flip` store through `gAssign`, `<<=` through `gNb` (`zipWithM_eq`, `flip_total`). What a store leaves alone:
`store_frame`, `store_inv`; what is read back: `read_store`, `readNext_store`. No statement changes the width of a leaf
(`Widths`), which is why the second half of a statement list finds the widths the first half found.
-/
namespace PV.BitStruct
open PV.Bits (B Reg)

/-- all leaf objects of the instance exist in the heap -/
def InHeap (h : Heap) (i : Inst) : Prop := ∀ c ∈ cells i, c < h.size

def Disj (a b : Inst) : Prop := ∀ c ∈ cells a, c ∉ cells b

theorem Disj.symm {a b : Inst} (h : Disj a b) : Disj b a := fun c hb ha => h c ha hb

theorem read_congr (h h' : Heap) (i : Inst) (H : ∀ c ∈ cells i, (h'.cell c).cur = (h.cell c).cur) :
    read h' i = read h i := by
  induction i with
  | leaf c => simp only [read]; rw [H c (List.mem_singleton_self c)]
  | unit | anil => rfl
  | pair a b iha ihb | acons a b iha ihb =>
    obtain ⟨Ha, Hb⟩ := List.forall_mem_append.1 H
    simp only [read]
    rw [iha Ha, ihb Hb]

theorem readNext_congr (h h' : Heap) (i : Inst)
    (H : ∀ c ∈ cells i, (h'.cell c).next = (h.cell c).next ∧ (h'.cell c).cur.n = (h.cell c).cur.n) :
    readNext h' i = readNext h i := by
  induction i with
  | leaf c => simp only [readNext]; rw [(H c (List.mem_singleton_self c)).1, (H c (List.mem_singleton_self c)).2]
  | unit | anil => rfl
  | pair a b iha ihb | acons a b iha ihb =>
    obtain ⟨Ha, Hb⟩ := List.forall_mem_append.1 H
    simp only [readNext]
    rw [iha Ha, ihb Hb]

@[simp] theorem upd_cell_same (h : Heap) (c : Nat) (r : Reg) : (h.upd c r).cell c = r := if_pos rfl
theorem upd_cell_ne (h : Heap) (c d : Nat) (r : Reg) (hne : d ≠ c) : (h.upd c r).cell d = h.cell d := if_neg hne
@[simp] theorem upd_size (h : Heap) (c : Nat) (r : Reg) : (h.upd c r).size = h.size := rfl

def Frame (h h' : Heap) (cs : List Nat) : Prop := ∀ c, c ∉ cs → h'.cell c = h.cell c

theorem Frame.refl (h : Heap) (cs : List Nat) : Frame h h cs := fun _ _ => rfl

theorem Frame.upd (h : Heap) (d : Nat) (r : Reg) : Frame h (h.upd d r) [d] :=
  fun _ hc => upd_cell_ne _ _ _ _ fun e => hc (e ▸ List.mem_singleton_self _)

theorem Frame.append {h h1 h2 : Heap} {xs ys : List Nat} (f1 : Frame h h1 xs) (f2 : Frame h1 h2 ys) :
    Frame h h2 (xs ++ ys) := fun c hc => by
  rw [f2 c fun hy => hc (List.mem_append_right _ hy), f1 c fun hx => hc (List.mem_append_left _ hx)]

theorem Frame.read {h h' : Heap} {cs : List Nat} (f : Frame h h' cs) {j : Inst} (hj : ∀ c ∈ cells j, c ∉ cs) :
    read h' j = read h j :=
  read_congr _ _ _ fun c hc => by rw [f c (hj c hc)]

theorem Frame.readNext {h h' : Heap} {cs : List Nat} (f : Frame h h' cs) {j : Inst} (hj : ∀ c ∈ cells j, c ∉ cs) :
    readNext h' j = readNext h j :=
  readNext_congr _ _ _ fun c hc => by rw [f c (hj c hc)]; exact ⟨rfl, rfl⟩

theorem read_upd_of_not_mem (h : Heap) (i : Inst) (c : Nat) (r : Reg) (hc : c ∉ cells i) :
    read (h.upd c r) i = read h i :=
  read_congr _ _ _ fun d hd => by rw [upd_cell_ne _ _ _ _ fun (e : d = c) => hc (e ▸ hd)]

/-- two instances without a common leaf, reading `va` and `vb`: a later write to a leaf of either is invisible through the other -/
theorem Disj.independent {h : Heap} {a b : Inst} (dj : Disj a b) {va vb : Val} (ra : read h a = va) (rb : read h b = vb) :
    (∀ c ∈ cells a, ∀ r, read (h.upd c r) b = vb) ∧ (∀ c ∈ cells b, ∀ r, read (h.upd c r) a = va) :=
  ⟨fun c hc r => (read_upd_of_not_mem h b c r (dj c hc)).trans rb,
   fun c hc r => (read_upd_of_not_mem h a c r (dj.symm c hc)).trans ra⟩

theorem alloc_cell_new (h : Heap) (r : Reg) : (h.alloc r).1.cell (h.alloc r).2 = r := if_pos rfl
theorem alloc_cell_old (h : Heap) (r : Reg) {c : Nat} (hc : c < h.size) : (h.alloc r).1.cell c = h.cell c :=
  if_neg (Nat.ne_of_lt hc)

/-- `h'` is `h` after allocations only: every cell of `h` is as it was, and `cs` lists, each once, cells that are new
since `h` and have no `_next` (not necessarily all of them: `Fresh.sublist`) -/
structure Fresh (h h' : Heap) (cs : List Nat) : Prop where
  size_le : h.size ≤ h'.size
  old : ∀ c, c < h.size → h'.cell c = h.cell c
  range : ∀ c ∈ cs, h.size ≤ c ∧ c < h'.size
  nodup : cs.Nodup
  next_none : ∀ c ∈ cs, (h'.cell c).next = none

theorem Fresh.nil (h : Heap) : Fresh h h [] :=
  ⟨Nat.le_refl _, fun _ _ => rfl, fun _ hc => (nomatch hc), List.nodup_nil, fun _ hc => (nomatch hc)⟩

theorem Fresh.alloc (h : Heap) (b : B) : Fresh h (h.alloc ⟨b, none⟩).1 [h.size] where
  size_le := Nat.le_succ _
  old _ hc := alloc_cell_old h _ hc
  range c hc := by cases List.mem_singleton.1 hc; exact ⟨Nat.le_refl _, Nat.lt_succ_self _⟩
  nodup := List.nodup_cons.2 ⟨List.not_mem_nil, List.nodup_nil⟩
  next_none c hc := by cases List.mem_singleton.1 hc; exact congrArg Reg.next (alloc_cell_new h _)

theorem Fresh.append {h h1 h2 : Heap} {xs ys : List Nat} (f1 : Fresh h h1 xs) (f2 : Fresh h1 h2 ys) :
    Fresh h h2 (xs ++ ys) where
  size_le := Nat.le_trans f1.size_le f2.size_le
  old c hc := by rw [f2.old c (Nat.lt_of_lt_of_le hc f1.size_le), f1.old c hc]
  range c hc := (List.mem_append.1 hc).elim
    (fun hx => ⟨(f1.range c hx).1, Nat.lt_of_lt_of_le (f1.range c hx).2 f2.size_le⟩)
    (fun hy => ⟨Nat.le_trans f1.size_le (f2.range c hy).1, (f2.range c hy).2⟩)
  nodup := List.nodup_append.2 ⟨f1.nodup, f2.nodup, fun a ha b hb e =>
    Nat.lt_irrefl a (Nat.lt_of_lt_of_le (f1.range a ha).2 (e ▸ (f2.range b hb).1))⟩
  next_none c hc := (List.mem_append.1 hc).elim
    (fun hx => by rw [f2.old c (f1.range c hx).2]; exact f1.next_none c hx) (f2.next_none c)

theorem Fresh.perm {h h' : Heap} {xs ys : List Nat} (f : Fresh h h' xs) (p : ys.Perm xs) : Fresh h h' ys :=
  ⟨f.size_le, f.old, fun c hc => f.range c (p.mem_iff.1 hc), p.nodup_iff.2 f.nodup, fun c hc => f.next_none c (p.mem_iff.1 hc)⟩

theorem Fresh.sublist {h h' : Heap} {xs ys : List Nat} (f : Fresh h h' xs) (s : ys.Sublist xs) : Fresh h h' ys :=
  ⟨f.size_le, f.old, fun c hc => f.range c (s.subset hc), f.nodup.sublist s, fun c hc => f.next_none c (s.subset hc)⟩

/-- a new object takes the place of `x`: forget `x`, allocate, and list the new cell where `x` stood -/
theorem Fresh.renew {h hk : Heap} {xs ys : List Nat} {x : Nat} (f : Fresh h hk (xs ++ x :: ys)) (b : B) :
    Fresh h (hk.alloc ⟨b, none⟩).1 (xs ++ hk.size :: ys) :=
  (((f.perm List.perm_middle.symm).sublist (List.sublist_cons_self ..)).append (Fresh.alloc hk b)).perm
    (List.perm_middle.trans (List.perm_append_singleton _ _).symm)

theorem Fresh.read_old {h h' : Heap} {cs : List Nat} (f : Fresh h h' cs) {j : Inst} (hj : InHeap h j) :
    read h' j = read h j :=
  read_congr _ _ _ fun c hc => by rw [f.old c (hj c hc)]

theorem Fresh.inHeap_old {h h' : Heap} {cs : List Nat} (f : Fresh h h' cs) {j : Inst} (hj : InHeap h j) :
    InHeap h' j := fun c hc => Nat.lt_of_lt_of_le (hj c hc) f.size_le

theorem Fresh.inHeap {h h' : Heap} {i : Inst} (f : Fresh h h' (cells i)) : InHeap h' i := fun c hc => (f.range c hc).2

theorem Fresh.disj {h h' : Heap} {i : Inst} (f : Fresh h h' (cells i)) {j : Inst} (hj : InHeap h j) : Disj i j :=
  fun c hc hcj => Nat.lt_irrefl c (Nat.lt_of_lt_of_le (hj c hcj) (f.range c hc).1)

theorem build_spec (h : Heap) (v : Val) :
    Fresh h (build h v).1 (cells (build h v).2) ∧ read (build h v).1 (build h v).2 = v := by
  induction v generalizing h with
  | bits n x => exact ⟨Fresh.alloc h ⟨n, x⟩, by simp only [build, read]; rw [alloc_cell_new]⟩
  | unit | anil => exact ⟨Fresh.nil h, rfl⟩
  | pair a b iha ihb | acons a b iha ihb =>
    obtain ⟨fa, ra⟩ := iha h
    obtain ⟨fb, rb⟩ := ihb (build h a).1
    refine ⟨fa.append fb, ?_⟩
    simp only [build, read]
    rw [rb, fb.read_old fa.inHeap, ra]

theorem clone_eq_build (h : Heap) (i : Inst) (hin : InHeap h i) : clone h i = build h (read h i) := by
  induction i generalizing h with
  | leaf c => rfl
  | unit | anil => rfl
  | pair a b iha ihb | acons a b iha ihb =>
    have fa := (build_spec h (read h a)).1
    obtain ⟨ha, hb⟩ := List.forall_mem_append.1 hin
    simp only [clone, build, read]
    rw [iha h ha, ihb _ (fa.inHeap_old hb), fa.read_old hb]

/-- what `@=` leaves in a destination leaf -/
def gAssign (r : Reg) (b : B) : Reg := { r with cur := ⟨r.cur.n, b.v⟩ }
/-- what `<<=` leaves in a destination leaf -/
def gNb (r : Reg) (b : B) : Reg := { r with next := some b.v }

theorem gAssign_next (r : Reg) (b : B) : (gAssign r b).next = r.next := rfl
theorem gAssign_width (r : Reg) (b : B) : (gAssign r b).cur.n = r.cur.n := rfl
theorem gNb_cur (r : Reg) (b : B) : (gNb r b).cur = r.cur := rfl

theorem leafAssign_ok (h : Heap) (d s : Nat) (hn : (h.cell s).cur.n = (h.cell d).cur.n) :
    leafAssign h d s = .ok (h.upd d (gAssign (h.cell d) (h.cell s).cur)) := by
  simp [leafAssign, PV.Bits.imatmul, hn, gAssign]

theorem leafAssign_err (h : Heap) (d s : Nat) (hn : (h.cell s).cur.n ≠ (h.cell d).cur.n) :
    leafAssign h d s = .error (.bits .width) := by
  simp [leafAssign, PV.Bits.imatmul, hn]

theorem leafNb_ok (h : Heap) (d s : Nat) (hn : (h.cell s).cur.n = (h.cell d).cur.n) :
    leafNb h d s = .ok (h.upd d (gNb (h.cell d) (h.cell s).cur)) := by
  simp [leafNb, PV.Bits.ilshift, PV.Bits.imatmul, hn, gNb]

theorem leafFlip_ok (h : Heap) (d w : Nat) (hn : (h.cell d).next = some w) :
    leafFlip h d = .ok (h.upd d { (h.cell d) with cur := ⟨(h.cell d).cur.n, w⟩ }) := by
  simp [leafFlip, PV.Bits.flip, hn]

theorem leafFlip_err (h : Heap) (d : Nat) (hn : (h.cell d).next = none) :
    leafFlip h d = .error .attr := by
  simp [leafFlip, PV.Bits.flip, hn]

theorem bind_two_eq_some {oa ob : Option Val} {f : Val → Val → Val} {v : Val}
    (h : (oa.bind fun a => ob.bind fun b => some (f a b)) = some v) : ∃ a b, oa = some a ∧ ob = some b ∧ f a b = v := by
  cases oa with
  | none => cases h
  | some a => cases ob with
    | none => cases h
    | some b => exact ⟨a, b, rfl, rfl, Option.some.inj h⟩

/-- write the leaves of `v` into the leaves of `i`, each through `g`: what the statement list of a method leaves behind -/
def store (g : Reg → B → Reg) : Heap → Inst → Val → Heap
  | h, .leaf d, .bits n x => h.upd d (g (h.cell d) ⟨n, x⟩)
  | h, .pair a b, .pair u v => store g (store g h a u) b v
  | h, .acons a b, .acons u v => store g (store g h a u) b v
  | h, _, _ => h

theorem store_frame (g : Reg → B → Reg) (h : Heap) (i : Inst) (v : Val) : Frame h (store g h i v) (cells i) := by
  fun_induction store g h i v with
  | case1 h d n x => exact Frame.upd h d _
  | case2 h a b u v ih1 ih2 | case3 h a b u v ih1 ih2 => exact ih1.append ih2
  | case4 => exact Frame.refl _ _

/-- what `g` keeps of a leaf, `store g` keeps of every cell -/
theorem store_inv {α : Type} (P : Reg → α) {g : Reg → B → Reg} (hg : ∀ r b, P (g r b) = P r) (h : Heap) (i : Inst) (v : Val) (c : Nat) :
    P ((store g h i v).cell c) = P (h.cell c) := by
  fun_induction store g h i v with
  | case1 h d n x =>
    by_cases e : c = d
    · rw [e, upd_cell_same, hg]
    · rw [upd_cell_ne _ _ _ _ e]
  | case2 h a b u v ih1 ih2 | case3 h a b u v ih1 ih2 => rw [ih2, ih1]
  | case4 => rfl

def Widths (W : Nat → Nat) (h : Heap) : Prop := ∀ c, (h.cell c).cur.n = W c

theorem Widths.store {W : Nat → Nat} {h : Heap} (hW : Widths W h) {g : Reg → B → Reg} (hg : ∀ r b, (g r b).cur.n = r.cur.n)
    (i : Inst) (v : Val) : Widths W (store g h i v) :=
  fun c => (store_inv (·.cur.n) hg h i v c).trans (hW c)

/-- `v` has the tree shape of `i`, and its leaves the widths `W` gives those of `i` -/
inductive Fits (W : Nat → Nat) : Inst → Val → Prop
  | leaf {d n x} : W d = n → Fits W (.leaf d) (.bits n x)
  | unit : Fits W .unit .unit
  | pair {a b u v} : Fits W a u → Fits W b v → Fits W (.pair a b) (.pair u v)
  | anil : Fits W .anil .anil
  | acons {a b u v} : Fits W a u → Fits W b v → Fits W (.acons a b) (.acons u v)

theorem fits_of_hasTy (h : Heap) : ∀ (i : Inst) {v : Val} {T : Ty}, HasTy (read h i) T → HasTy v T →
    Fits (fun c => (h.cell c).cur.n) i v := by
  intro i
  induction i with
  | leaf c => intro v T hi hv; cases hi; cases hv; exact .leaf rfl
  | unit => intro v T hi hv; cases hi; cases hv; exact .unit
  | anil => intro v T hi hv; cases hi; cases hv; exact .anil
  | pair a b iha ihb => intro v T hi hv; cases hi with | pair h1 h2 => cases hv with | pair h3 h4 => exact .pair (iha h1 h3) (ihb h2 h4)
  | acons a b iha ihb => intro v T hi hv; cases hi with | acons h1 h2 => cases hv with | acons h3 h4 => exact .acons (iha h1 h3) (ihb h2 h4)

theorem fits_of_readNext (h : Heap) : ∀ (i : Inst) {v : Val}, readNext h i = some v → Fits (fun c => (h.cell c).cur.n) i v := by
  intro i
  induction i with
  | leaf c => intro v hv; obtain ⟨w, _, rfl⟩ := Option.map_eq_some_iff.1 hv; exact .leaf rfl
  | unit => intro v hv; cases hv; exact .unit
  | anil => intro v hv; cases hv; exact .anil
  | pair a b iha ihb => intro v hv; obtain ⟨va, vb, hra, hrb, rfl⟩ := bind_two_eq_some hv; exact .pair (iha hra) (ihb hrb)
  | acons a b iha ihb => intro v hv; obtain ⟨va, vb, hra, hrb, rfl⟩ := bind_two_eq_some hv; exact .acons (iha hra) (ihb hrb)

theorem read_store {W : Nat → Nat} {i : Inst} {v : Val} (hf : Fits W i v) :
    ∀ h, Widths W h → (cells i).Nodup → read (store gAssign h i v) i = v := by
  induction hf with
  | leaf e => intro h hW _; simp only [store, read, upd_cell_same, gAssign, hW _, e]
  | unit | anil => exact fun _ _ _ => rfl
  | pair _ _ ih1 ih2 | acons _ _ ih1 ih2 =>
    intro h hW nd
    obtain ⟨nd1, nd2, ndx⟩ := List.nodup_append.1 nd
    rw [store, read, ih2 _ (hW.store gAssign_width _ _) nd2, Frame.read (store_frame _ _ _ _) fun c hc hc2 => ndx c hc c hc2 rfl, ih1 _ hW nd1]

theorem readNext_store {W : Nat → Nat} {i : Inst} {v : Val} (hf : Fits W i v) :
    ∀ h, Widths W h → (cells i).Nodup → readNext (store gNb h i v) i = some v := by
  induction hf with
  | leaf e => intro h hW _; simp only [store, readNext, upd_cell_same, gNb, hW _, e, Option.map_some]
  | unit | anil => exact fun _ _ _ => rfl
  | pair _ _ ih1 ih2 | acons _ _ ih1 ih2 =>
    intro h hW nd
    obtain ⟨nd1, nd2, ndx⟩ := List.nodup_append.1 nd
    rw [store, readNext, ih2 _ (hW.store (g := gNb) (fun _ _ => rfl) _ _) nd2,
      Frame.readNext (store_frame _ _ _ _) fun c hc hc2 => ndx c hc c hc2 rfl, ih1 _ hW nd1]
    rfl

/-- the statement list on two instances that fit one value (two instances of one class): it succeeds and stores the value of `src`.
The hypothesis is `Disj dst src`; it is needed so that no source leaf is an earlier destination -/
theorem zipWithM_eq (op : Heap → Nat → Nat → Except Err Heap) (g : Reg → B → Reg)
    (hop : ∀ h d s, (h.cell s).cur.n = (h.cell d).cur.n → op h d s = .ok (h.upd d (g (h.cell d) (h.cell s).cur)))
    (hg : ∀ r b, (g r b).cur.n = r.cur.n) {W : Nat → Nat} {dst src : Inst} {v : Val} (fd : Fits W dst v) (fs : Fits W src v) :
    ∀ h, Widths W h → Disj dst src → zipWithM op h dst src = .ok (store g h dst (read h src)) := by
  induction fd generalizing src with
  | leaf ed => cases fs with | leaf es => exact fun h hW _ => hop h _ _ (by rw [hW, hW, es, ed])
  | unit => cases fs; exact fun h _ _ => rfl
  | anil => cases fs; exact fun h _ _ => rfl
  | @pair a1 a2 _ _ _ _ ih1 ih2 | @acons a1 a2 _ _ _ _ ih1 ih2 =>
    cases fs
    rename_i b1 b2 fs1 fs2
    intro h hW dj
    have e1 := ih1 fs1 h hW fun c hc hb => dj c (List.mem_append_left _ hc) (List.mem_append_left _ hb)
    have e2 := ih2 fs2 (store g h a1 (read h b1)) (hW.store hg _ _) fun c hc hb => dj c (List.mem_append_right _ hc) (List.mem_append_right _ hb)
    -- the second run starts from a heap that differs only in leaves of the first part, none of which is a source
    rw [Frame.read (store_frame g h _ _) fun c hc hc1 => dj c (List.mem_append_left _ hc1) (List.mem_append_right _ hc)] at e2
    rw [zipWithM, e1]; exact e2

/-- `_flip` stores the pending value, as `@=` would; an AttributeError exactly when some leaf has nothing pending -/
theorem flip_total : ∀ (i : Inst) (h : Heap), flip h i =
    match readNext h i with | some v => .ok (store gAssign h i v) | none => .error .attr := by
  intro i
  induction i with
  | leaf d =>
    intro h
    cases hn : (h.cell d).next with
    | none => simp only [flip, readNext, hn, Option.map_none]; exact leafFlip_err h d hn
    | some w => simp only [flip, readNext, hn, Option.map_some]; exact leafFlip_ok h d w hn
  | unit | anil => exact fun h => rfl
  | pair a b iha ihb | acons a b iha ihb =>
    intro h
    rw [flip, iha h]
    cases ha : readNext h a with
    | none => simp only [readNext, ha]; rfl
    | some va =>
      have hb : readNext (store gAssign h a va) b = readNext h b := readNext_congr _ _ _ fun c _ =>
        ⟨store_inv Reg.next gAssign_next h a va c, store_inv (·.cur.n) gAssign_width h a va c⟩
      simp only [readNext, ha]
      rw [ihb, hb]
      cases readNext h b <;> rfl

theorem flip_spec (i : Inst) (h : Heap) (v : Val) (hv : readNext h i = some v) (nd : (cells i).Nodup) :
    ∃ h', flip h i = .ok h' ∧ read h' i = v ∧ Frame h h' (cells i) :=
  ⟨_, by rw [flip_total, hv], read_store (fits_of_readNext h i hv) h (fun _ => rfl) nd, store_frame _ _ _ _⟩

theorem imatmulSame_spec (h : Heap) (dst src : Inst) {T : Ty} (hd : HasTy (read h dst) T) (hs : HasTy (read h src) T)
    (nd : (cells dst).Nodup) (dj : Disj dst src) :
    ∃ h', imatmulSame h dst src = .ok h' ∧ read h' dst = read h src ∧ read h' src = read h src ∧
      Frame h h' (cells dst) ∧ (∀ c, (h'.cell c).next = (h.cell c).next) :=
  have fd := fits_of_hasTy h dst hd hs
  ⟨_, zipWithM_eq leafAssign gAssign leafAssign_ok gAssign_width fd (fits_of_hasTy h src hs hs) h (fun _ => rfl) dj,
    read_store fd h (fun _ => rfl) nd, Frame.read (store_frame _ _ _ _) fun c hc hd => dj c hd hc, store_frame _ _ _ _,
    store_inv Reg.next gAssign_next _ _ _⟩

theorem ilshiftSame_spec (h : Heap) (dst src : Inst) {T : Ty} (hd : HasTy (read h dst) T) (hs : HasTy (read h src) T)
    (nd : (cells dst).Nodup) (dj : Disj dst src) :
    ∃ h', ilshiftSame h dst src = .ok h' ∧ (∀ c, (h'.cell c).cur = (h.cell c).cur) ∧
      readNext h' dst = some (read h src) ∧ Frame h h' (cells dst) :=
  have fd := fits_of_hasTy h dst hd hs
  ⟨_, zipWithM_eq leafNb gNb leafNb_ok (fun _ _ => rfl) fd (fits_of_hasTy h src hs hs) h (fun _ => rfl) dj,
    store_inv Reg.cur gNb_cur _ _ _, readNext_store fd h (fun _ => rfl) nd, store_frame _ _ _ _⟩

/-- the cross-class prologue: a temporary instance, all of new objects, holding `from_bits(src.to_bits())` -/
theorem convert_spec (T U : Ty) (h : Heap) (src : Inst) (hs : HasTy (read h src) U) (hw : U.width = T.width)
    (h1 : 1 ≤ T.width) (h2 : T.width < 1024) :
    ∃ hp tmp, convert T h src = .ok (hp, tmp) ∧ Fresh h hp (cells tmp) ∧
      read hp tmp = fromBits T (toBits (read h src)).2 := by
  refine ⟨_, _, ?_, build_spec h (fromBits T (toBits (read h src)).2)⟩
  simp only [convert, (toBitsPy_eq hs).1 (hw ▸ ⟨h1, h2⟩), (fromBitsPy_eq T U.width _).1 hw]

end PV.BitStruct
