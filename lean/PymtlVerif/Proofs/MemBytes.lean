import PymtlVerif.Model.Mem
import PymtlVerif.Proofs.Pack
/-!
The byte store of `Model/Mem.lean`: what `writeLE` leaves in each cell, what `readLE` makes of the cells, `Bytes`, the two's-complement
form of `sint` and the value range of `amoFun`.
-/
namespace PV.Mem

theorem writeLE_byte (k : Nat) (m : Store) (a d b : Nat) :
    writeLE m a k d b = if a ≤ b ∧ b < a + k then (d / 256 ^ (b - a)) % 256 else m b := by
  induction k generalizing m a d with
  | zero => exact (if_neg fun h => Nat.not_lt.mpr h.1 h.2).symm
  | succ k ih =>
    rw [writeLE, ih, upd]
    rcases Nat.lt_trichotomy b a with h | rfl | h
    · rw [if_neg fun h' => Nat.not_le_of_lt (Nat.lt_succ_of_lt h) h'.1, if_neg (Nat.ne_of_lt h),
        if_neg fun h' => Nat.not_le_of_lt h h'.1]
    · rw [if_neg fun h' => Nat.not_succ_le_self b h'.1, if_pos rfl,
        if_pos ⟨Nat.le_refl b, Nat.lt_add_of_pos_right (Nat.succ_pos k)⟩, Nat.sub_self, Nat.pow_zero, Nat.div_one]
    · -- above `a`: the same cell of the write of `d / 256` from `a + 1`, one digit further up in `d`
      obtain ⟨j, rfl⟩ := Nat.exists_eq_add_of_lt h
      rw [if_neg (Nat.ne_of_gt h), Nat.add_sub_add_right, Nat.add_assoc a j 1, Nat.add_sub_cancel_left,
        Nat.add_sub_cancel_left, Nat.div_div_eq_div_mul, ← Nat.pow_succ']
      simp only [Nat.add_assoc, Nat.add_le_add_iff_left, Nat.le_add_left, Nat.le_add_right, true_and,
        Nat.add_lt_add_iff_left, Nat.add_comm 1 k, Nat.succ_lt_succ_iff]

theorem writeLE_add (k : Nat) (m : Store) (a d i : Nat) :
    writeLE m a k d (a + i) = if i < k then (d / 256 ^ i) % 256 else m (a + i) := by
  simp only [writeLE_byte, Nat.le_add_right, true_and, Nat.add_lt_add_iff_left, Nat.add_sub_cancel_left]

theorem write_frame (k : Nat) (m : Store) (a d b : Nat) (h : b < a ∨ a + k ≤ b) :
    writeLE m a k d b = m b :=
  (writeLE_byte k m a d b).trans (if_neg (fun h' => h.elim (Nat.not_lt.mpr h'.1) (fun h2 => Nat.not_lt.mpr h2 h'.2)))

theorem read_congr (k : Nat) (m m' : Store) (a : Nat) (h : ∀ b, a ≤ b → b < a + k → m b = m' b) :
    readLE m a k = readLE m' a k := by
  induction k generalizing a with
  | zero => rfl
  | succ k ih =>
    rw [readLE, readLE, h a (Nat.le_refl a) (Nat.lt_add_of_pos_right (Nat.succ_pos k)),
      ih (a+1) (fun b h1 h2 => h b (Nat.le_of_succ_le h1) (Nat.succ_add_eq_add_succ a k ▸ h2))]

theorem read_write (k : Nat) (m : Store) (a d : Nat) : readLE (writeLE m a k d) a k = d % 256 ^ k := by
  induction k generalizing m a d with
  | zero => exact (Nat.mod_one d).symm
  | succ k ih =>
    rw [readLE, writeLE, write_frame k _ _ _ _ (.inl (Nat.lt_add_one a)), ih, upd, if_pos rfl, Nat.pow_succ', Nat.mod_mul,
      Nat.add_comm, Nat.mul_comm]

/-- a store all of whose cells are bytes -/
def Bytes (m : Store) : Prop := ∀ b, m b < 256

theorem write_bytes (k : Nat) (m : Store) (a d : Nat) (h : Bytes m) : Bytes (writeLE m a k d) := by
  intro b
  rw [writeLE_byte]
  split
  · exact Nat.mod_lt _ (by decide)
  · exact h b

theorem readLE_lt (k : Nat) (m : Store) (a : Nat) (h : Bytes m) : readLE m a k < 256 ^ k := by
  induction k generalizing a with
  | zero => exact Nat.one_pos
  | succ k ih =>
    rw [readLE, Nat.pow_succ']
    exact Pack.cat_lt (h a) (ih (a+1))

theorem readLE_byte (k : Nat) (m : Store) (a i : Nat) (hb : Bytes m) (h : i < k) :
    (readLE m a k / 256 ^ i) % 256 = m (a + i) := by
  induction k generalizing a i with
  | zero => exact absurd h (Nat.not_lt_zero _)
  | succ k ih =>
    rw [readLE]
    cases i with
    | zero => rw [Nat.pow_zero, Nat.div_one, Pack.cat_mod (hb a)]; rfl
    | succ i =>
      rw [Nat.pow_succ', ← Nat.div_div_eq_div_mul, Pack.cat_div (hb a), ih (a+1) i (Nat.lt_of_succ_lt_succ h),
        Nat.succ_add_eq_add_succ]

theorem pow256 (k : Nat) : (2 : Nat) ^ (8 * k) = 256 ^ k := Nat.pow_mul 2 8 k

theorem readLE_lt_two_pow (k : Nat) (m : Store) (a : Nat) (h : Bytes m) : readLE m a k < 2 ^ (8 * k) :=
  pow256 k ▸ readLE_lt k m a h

theorem byte_mod (d k j : Nat) (h : j < k) : (d % 2 ^ (8 * k) / 256 ^ j) % 256 = (d / 256 ^ j) % 256 := by
  obtain ⟨r, rfl⟩ := Nat.exists_eq_add_of_lt h
  rw [pow256, Nat.pow_succ, Nat.pow_add, Nat.mul_assoc, Nat.mod_mul_right_div_self, Nat.mod_mul_left_mod]

theorem sint_eq (w x : Nat) : sint w x = if x < 2 ^ (w - 1) then (x : Int) else (x : Int) - 2 ^ w := by
  simp only [sint, Nat.div_eq_zero_iff_lt (Nat.two_pow_pos (w - 1))]

/-- every `AMO_FUNS` entry maps two `w`-bit operands to a `w`-bit value (so what an AMO writes back needs no truncation) -/
theorem amoFun_lt (w : Nat) (op : AmoOp) (m a : Nat) (hm : m < 2 ^ w) (ha : a < 2 ^ w) : amoFun w op m a < 2 ^ w := by
  cases op <;> simp only [amoFun]
  case add => exact Nat.mod_lt _ (Nat.two_pow_pos w)
  case and => exact Nat.and_lt_two_pow _ ha
  case or => exact Nat.or_lt_two_pow hm ha
  case xor => exact Nat.xor_lt_two_pow hm ha
  case swap => exact ha
  all_goals (split <;> assumption)

end PV.Mem
