import PymtlVerif.Proofs.Meta
/-!
# Component trees and their flattening to the path-indexed hierarchy of `Model/Meta.lean` (C15)

`Tree` / `Forest` are the component tree as an inductive type (a forest of named children in
first-child / next-sibling form); `Tree.set` is real subtree replacement by recursion along the path.
`Forest.set_flatten`, `Tree.set_flatten`: flattening commutes with replacement up to the order of the list (the two
sides have the same members) — `Meta.set` (drop every component whose path has
the prefix `p`, append the new subtree mounted at `p`) is subtree replacement, provided sibling names
are distinct and `p` is the path of a component.
-/
namespace PV.Meta

inductive Forest where
  | nil
  | cons (name : String) (c : Comp) (kids : Forest) (rest : Forest)

structure Tree where
  c : Comp
  kids : Forest

namespace Forest

def flatten (q : Name) : Forest → Hier
  | nil => []
  | cons n c k r => (q ++ [n], c) :: (k.flatten (q ++ [n]) ++ r.flatten q)

def names : Forest → List String
  | nil => []
  | cons n _ _ r => n :: r.names

/-- sibling names are distinct, at every level -/
def Wf : Forest → Prop
  | nil => True
  | cons n _ k r => n ∉ r.names ∧ k.Wf ∧ r.Wf

/-- `p` is the (relative, non-empty) path of a component of the forest -/
def has : Forest → Name → Prop
  | nil, _ => False
  | cons _ _ _ _, [] => False
  | cons n _ k r, a :: p => (n = a ∧ (p = [] ∨ k.has p)) ∨ (n ≠ a ∧ r.has (a :: p))

/-- replace the subtree at the relative path `p` -/
def set : Forest → Name → Tree → Forest
  | nil, _, _ => nil
  | cons n c k r, [], _ => cons n c k r
  | cons n c k r, a :: p, N =>
    if n = a then
      (match p with
       | [] => cons n N.c N.kids r
       | _ :: _ => cons n c (k.set p N) r)
    else cons n c k (r.set (a :: p) N)

end Forest

def Tree.flatten (t : Tree) : Hier := ([], t.c) :: t.kids.flatten []

def Tree.set (t : Tree) (p : Name) (N : Tree) : Tree :=
  match p with
  | [] => N
  | _ :: _ => ⟨t.c, t.kids.set p N⟩

theorem Forest.pre_flatten (p q : Name) (f : Forest) :
    pre p (f.flatten q) = f.flatten (p ++ q) := by
  induction f generalizing q with
  | nil => rfl
  | cons n c k r ihk ihr =>
    simp only [Forest.flatten, pre, List.map_cons, List.map_append, List.append_assoc] at *
    rw [ihk, ihr]

theorem Forest.mem_flatten_prefix {f : Forest} {q : Name} {x : Name × Comp}
    (h : x ∈ f.flatten q) : ∃ m ∈ f.names, q ++ [m] <+: x.1 := by
  induction f generalizing q with
  | nil => cases h
  | cons n c k r ihk ihr =>
    simp only [Forest.flatten, List.mem_cons, List.mem_append] at h
    rcases h with rfl | h | h
    · exact ⟨n, by simp [Forest.names], List.prefix_refl _⟩
    · obtain ⟨m, _, hm⟩ := ihk h
      exact ⟨n, by simp [Forest.names], (List.prefix_append _ [m]).trans hm⟩
    · obtain ⟨m, hm, hp⟩ := ihr h
      exact ⟨m, by simp [Forest.names, hm], hp⟩

theorem prefix_snoc_ne {q : Name} {m a : String} {rest x : Name} (hne : m ≠ a)
    (h1 : q ++ [m] <+: x) (h2 : q ++ a :: rest <+: x) : False := by
  obtain ⟨t1, rfl⟩ := h1
  obtain ⟨t2, h2⟩ := h2
  simp only [List.append_assoc, List.cons_append, List.nil_append] at h2
  have := List.append_cancel_left h2
  injection this with h _
  exact hne h.symm

theorem not_under_of_ne {q : Name} {n a : String} (hne : n ≠ a) (rest : Name) {x : Name}
    (h : q ++ [n] <+: x) : under (q ++ a :: rest) x = false :=
  Bool.eq_false_iff.2 fun hu => prefix_snoc_ne hne h (under_iff.1 hu)

theorem Forest.not_under_of_not_name {f : Forest} {q : Name} {a : String} {rest : Name}
    {x : Name × Comp} (ha : a ∉ f.names) (h : x ∈ f.flatten q) :
    under (q ++ a :: rest) x.1 = false := by
  obtain ⟨m, hm, hp⟩ := Forest.mem_flatten_prefix h
  exact not_under_of_ne (fun (e : m = a) => ha (e ▸ hm)) rest hp

theorem Forest.under_of_mem {f : Forest} {q : Name} {x : Name × Comp} (h : x ∈ f.flatten q) :
    under q x.1 = true := by
  obtain ⟨m, _, hp⟩ := Forest.mem_flatten_prefix h
  exact under_iff.2 ((List.prefix_append q [m]).trans hp)

theorem not_under_shorter (q : Name) (a b : String) (rest : Name) :
    under (q ++ a :: b :: rest) (q ++ [a]) = false :=
  Bool.eq_false_iff.2 fun h => by
    have := (under_iff.1 h).length_le
    simp at this

theorem Forest.set_flatten (f : Forest) : ∀ (q p : Name) (N : Tree), f.Wf → f.has p →
    ∀ x, x ∈ (f.set p N).flatten q ↔
      x ∈ (f.flatten q).filter (fun y => !under (q ++ p) y.1) ++ pre (q ++ p) N.flatten := by
  have keep {P : Name} {l : Hier} (h : ∀ y ∈ l, under P y.1 = false) :
      l.filter (fun y => !under P y.1) = l :=
    List.filter_eq_self.2 fun y hy => by rw [h y hy]; rfl
  induction f with
  | nil => intro q p N _ hp; cases hp
  | cons n c k r ihk ihr =>
    intro q p N ⟨hn, hwk, hwr⟩ hp x
    match p, hp with
    | a :: p', hp =>
      rcases hp with ⟨rfl, hp⟩ | ⟨hne, hp⟩
      · -- the path enters this child; the later siblings stay
        have hr := keep fun y hy => Forest.not_under_of_not_name (q := q) (rest := p') hn hy
        match p', hp with
        | [], _ =>
          -- the child is replaced: it and its subtree go
          have hk : (k.flatten (q ++ [n])).filter (fun y => !under (q ++ [n]) y.1) = [] :=
            List.filter_eq_nil_iff.2 fun y hy => by rw [Forest.under_of_mem hy]; nofun
          have hN : (N.kids.flatten []).map (fun x => (q ++ [n] ++ x.1, x.2)) = N.kids.flatten (q ++ [n]) :=
            (Forest.pre_flatten (q ++ [n]) [] N.kids).trans (by rw [List.append_nil])
          simp only [Forest.set, if_true, Forest.flatten, List.filter_cons, List.filter_append,
            under_self, hk, hr, Tree.flatten, pre, List.map_cons, List.append_nil, hN,
            Bool.not_true, Bool.false_eq_true, if_false, List.nil_append,
            List.mem_append, List.mem_cons]
          exact or_assoc.symm.trans or_comm
        | b :: p'', hp =>
          have ih := ihk (q ++ [n]) (b :: p'') N hwk (hp.resolve_left nofun) x
          rw [List.append_assoc, List.singleton_append] at ih
          simp only [Forest.set, if_true, Forest.flatten, List.filter_cons, List.filter_append,
            not_under_shorter, hr, Bool.not_false, if_true, List.mem_cons, List.mem_append, ih,
            or_assoc]
          exact or_congr_right (or_congr_right or_comm)
      · -- the path goes on among the later siblings; this child and its subtree stay
        have hk := keep (l := k.flatten (q ++ [n])) fun y hy =>
          not_under_of_ne hne p' (under_iff.1 (Forest.under_of_mem hy))
        simp only [Forest.set, if_neg hne, Forest.flatten, List.filter_cons, List.filter_append,
          not_under_of_ne hne p' (List.prefix_refl (q ++ [n])), hk, Bool.not_false, if_true,
          List.mem_cons, List.mem_append, ihr q (a :: p') N hwr hp x, or_assoc]

theorem Tree.set_flatten (t : Tree) (p : Name) (N : Tree) (hw : t.kids.Wf)
    (hp : p = [] ∨ t.kids.has p) :
    ∀ x, x ∈ (t.set p N).flatten ↔ x ∈ PV.Meta.set t.flatten p N.flatten := by
  intro x
  match p, hp with
  | [], _ =>
    have hf : t.flatten.filter (fun y => !under [] y.1) = [] :=
      List.filter_eq_nil_iff.2 fun _ _ => nofun
    simp [Tree.set, PV.Meta.set, hf, pre]
  | a :: p', hp =>
    have h := Forest.set_flatten t.kids [] (a :: p') N hw (hp.resolve_left nofun) x
    simp only [Tree.set, Tree.flatten, PV.Meta.set, List.filter_cons, under, List.isPrefixOf,
      Bool.not_false, if_true, List.mem_cons, List.mem_append, h, List.nil_append, or_assoc]

end PV.Meta
