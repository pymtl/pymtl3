import PymtlVerif.Proofs.SVEqns
import PymtlVerif.Proofs.Pack
/-
C03 / C12: semantic preservation of the RTLIR → SystemVerilog / Yosys-Verilog expression translation
(`PV.VTr.tr`) with respect to the PyMTL simulation semantics (`evalPy` / `refPy`) and the IEEE-1800
context-width evaluation of the emitted expression (`PV.SV.eval` / `loc`), under the typing invariant
`WT` the PyMTL type checker establishes.

Formulation: every translated node is evaluated in a context whose width is the
node's own width; the typing invariant guarantees that this is the width the enclosing operator
propagates.
-/
namespace PV.SVProofs
open PV.SV PV.VTr

theorem shl_big (a b w : Nat) (h : b ≥ w) : (a * 2 ^ b) % 2 ^ w = 0 := by
  obtain ⟨k, rfl⟩ : ∃ k, b = w + k := ⟨b - w, by omega⟩
  have : a * 2 ^ (w + k) = 2 ^ w * (a * 2 ^ k) := by
    rw [Nat.pow_add, Nat.mul_left_comm]
  rw [this]
  exact Nat.mul_mod_right _ _

theorem replVal_one_zero (k : Nat) : replVal 1 0 k = 0 := by
  induction k with
  | zero => rfl
  | succ k ih => simp [replVal, ih]

theorem replVal_one_one (k : Nat) : replVal 1 1 k = 2 ^ k - 1 := by
  induction k with
  | zero => rfl
  | succ k ih =>
    have := Nat.two_pow_pos k
    simp only [replVal, ih, Nat.pow_succ]; omega

theorem b2n_lt (b : Bool) : b2n b < 2 := by cases b <;> simp [b2n]

theorem parity_lt (f v : Nat) : parity f v < 2 := by
  induction f generalizing v with
  | zero => simp [parity]
  | succ f ih =>
    simp only [parity]
    split
    · omega
    · exact Nat.mod_lt _ (by omega)

theorem msb_eq (a w : Nat) (hw : 0 < w) (ha : a < 2 ^ w) :
    (a / 2 ^ (w - 1)) % 2 = b2n (decide (a ≥ 2 ^ (w - 1))) := by
  have hp : 0 < 2 ^ (w - 1) := Nat.two_pow_pos _
  have h2 : 2 ^ w = 2 ^ (w - 1) * 2 := by
    rw [← Nat.pow_succ]; congr 1; omega
  have hlt : a / 2 ^ (w - 1) < 2 := by
    rw [Nat.div_lt_iff_lt_mul hp]; omega
  by_cases hge : a ≥ 2 ^ (w - 1)
  · have : 1 ≤ a / 2 ^ (w - 1) := by
      rw [Nat.le_div_iff_mul_le hp]; omega
    simp [b2n, hge]; omega
  · have : a / 2 ^ (w - 1) = 0 := Nat.div_eq_of_lt (by omega)
    simp [b2n, hge, this]

theorem pySext_lt (cw w a : Nat) (hcw : cw ≤ w) (ha : a < 2 ^ cw) : pySext cw w a < 2 ^ w := by
  have : 2 ^ cw ≤ 2 ^ w := Nat.pow_le_pow_right (by omega) hcw
  unfold pySext; split <;> omega

/-- value of the sign-extension template `{ {k{b}}, v }` -/
theorem sext_val (cw w a : Nat) (hlt : cw < w) :
    replVal 1 (b2n (decide (a ≥ 2 ^ (cw - 1)))) (w - cw) * 2 ^ cw + a = pySext cw w a := by
  have hw : 2 ^ (w - cw) * 2 ^ cw = 2 ^ w := by rw [← Nat.pow_add]; congr 1; omega
  have hp := Nat.two_pow_pos (w - cw)
  unfold pySext
  by_cases hge : a ≥ 2 ^ (cw - 1)
  · simp only [hge, decide_true, b2n, if_true, replVal_one_one, Nat.sub_mul, Nat.one_mul, hw]
    have : 2 ^ cw ≤ 2 ^ w := Nat.pow_le_pow_right (by omega) (Nat.le_of_lt hlt)
    omega
  · simp [hge, b2n, replVal_one_zero]

theorem ext_self (s : Bool) (w v : Nat) : ext s w w v = v := by simp [ext]

theorem ext_false (w W v : Nat) : ext false w W v = v := by simp [ext]

theorem selfWidth_of_typeOf {Γ : Env} {x : Expr} {d : Decl} (h : typeOf Γ x = some d) :
    selfWidth Γ x = d.ty.width := by
  cases x with
  | ident y => simp [typeOf] at h; simp [selfWidth, h]
  | member e f => simp [selfWidth, h]
  | index e i => simp [selfWidth, h]
  | range e hi lo =>
    simp only [typeOf] at h
    split at h <;> simp at h
    next h1 h2 h3 => subst h; simp [selfWidth, h2, h3, PTy.width]
  | plusSel e b w =>
    simp only [typeOf] at h
    split at h <;> simp at h
    next h1 h2 => subst h; simp [selfWidth, h2, PTy.width]
  | _ => simp [typeOf] at h

/-- expressions whose value depends neither on the width nor on the type of the context (every operand is
    self-determined and the result is unsigned) -/
def ctxFree : Expr → Bool
  | .num _ => false
  | .sgn _ => false
  | .cast _ e => !signedOf e
  | .un op _ => match op with | .bnot | .neg | .plus => false | _ => true
  | .bin op _ _ =>
    match op with
    | .add | .sub | .mul | .div | .mod | .band | .bor | .bxor | .bxnor | .shl | .shr | .ashr | .pow => false
    | _ => true
  | .cond _ _ _ => false
  | _ => true

/-- `_selectable` of `visit_SignExt`: the operands whose text can be bit-selected -/
def sextSelectable : RExpr → Bool
  | .sig _ _ | .field _ _ _ | .index _ _ _ | .slice _ _ _ _ _ => true
  | .tmpvar _ _ ex => ex
  | _ => false

/-- Attribute / TmpVar nodes (a one-bit operand of another kind is its own sign bit) -/
def sextAttrOrTmp : RExpr → Bool
  | .sig _ _ | .field _ _ _ | .const _ _ _ | .tmpvar _ _ _ => true
  | _ => false

/-- plain signals and elements of lists of signals, whose last bit is selected: `x[n-1]` -/
def isBaseSel : RExpr → Bool
  | .sig _ _ | .field _ _ _ | .index _ _ _ => true
  | .tmpvar _ _ ex => ex
  | _ => false

/-- What `BehavioralRTLIRTypeCheckL1–L5` (plus the restriction to the plain-Verilog forms for the Yosys
    backend) guarantee about a typed RTLIR expression.  The mode index distinguishes
    * `none`: value position — the node is an operand, its annotation `RExpr.width` is its bit width;
    * `some d`: reference position — the node denotes (part of) the declared variable at its root and
      `d` is the SystemVerilog type (packed type, remaining unpacked dimensions) of that part.
    `C`: the constants of the component as (`localparam` name, value). -/
inductive WTm (be : Backend) (Γ : Env) (C : List (String × Nat)) : Option Decl → RExpr → Prop
  | rsig {x w d} : Γ x = some d → WTm be Γ C (some d) (.sig x w)
  | rtmp {x w d} : Γ x = some d → WTm be Γ C (some d) (.tmpvar x w true)
  | rfield {e f w n fs off t} : be = .verilog → WTm be Γ C (some ⟨.struct n fs, []⟩) e →
      fs.find f = some (off, t) → WTm be Γ C (some ⟨t, []⟩) (.field e f w)
  | ridxU {e i w t d ds} : WTm be Γ C (some ⟨t, d :: ds⟩) e → WTm be Γ C none i →
      WTm be Γ C (some ⟨t, ds⟩) (.index e i w)
  | ridxA {e i w n t} : WTm be Γ C (some ⟨.arr n t, []⟩) e → WTm be Γ C none i →
      WTm be Γ C (some ⟨t, []⟩) (.index e i w)
  | ridxB {e i w W} : WTm be Γ C (some ⟨.vec W, []⟩) e → WTm be Γ C none i →
      WTm be Γ C (some ⟨.vec 1, []⟩) (.index e i w)
  | rslice {e lo hi lw uw W} : WTm be Γ C (some ⟨.vec W, []⟩) e → lo < hi → hi ≤ W → lo < 2 ^ lw →
      hi - 1 < 2 ^ uw → WTm be Γ C (some ⟨.vec (hi - lo), []⟩) (.slice e lo hi lw uw)
  | rpartsel {e b w W} : WTm be Γ C (some ⟨.vec W, []⟩) e → WTm be Γ C none b → 0 < w → w ≤ W →
      WTm be Γ C (some ⟨.vec w, []⟩) (.partsel e b w)
  /- value position: a fully selected signal (no unpacked dimension left) whose packed width is the
     annotated width -/
  | ofRef {e ty} : WTm be Γ C (some ⟨ty, []⟩) e → ty.width = e.width → 0 < e.width → WTm be Γ C none e
  | num {w v} : 0 < w → v < 2 ^ w → WTm be Γ C none (.num w v)
  | castC {w v} : 0 < w → v < 2 ^ w → WTm be Γ C none (.castC w v)
  | tmpI {x w ty} : Γ x = some ⟨ty, []⟩ → ty.width = w → 0 < w → WTm be Γ C none (.tmpvar x w false)
  | loopvar {blk x w} : Γ (loopVarName be blk x) = some ⟨.vec 32, []⟩ → 0 < w → w ≤ 32 →
      WTm be Γ C none (.loopvar blk x w)
  | constV {x w v cw} : be = .verilog → 0 < w → v < 2 ^ w → Γ x = some ⟨.vec cw, []⟩ → v < 2 ^ cw →
      (x, v) ∈ C → WTm be Γ C none (.const x w v)
  | constY {x w v} : be = .yosys → 0 < w → v < 2 ^ w → WTm be Γ C none (.const x w v)
  | freevarV {x w v cw} : be = .verilog → 0 < w → v < 2 ^ w →
      Γ ("__const__" ++ x) = some ⟨.vec cw, []⟩ → v < 2 ^ cw → ("__const__" ++ x, v) ∈ C →
      WTm be Γ C none (.freevar x w v)
  | freevarY {x w v} : be = .yosys → 0 < w → v < 2 ^ w → WTm be Γ C none (.freevar x w v)
  | castEq {w e} : WTm be Γ C none e → e.width = w → WTm be Γ C none (.cast w e)
  | castY {w e} : be = .yosys → WTm be Γ C none e → e.width < w → WTm be Γ C none (.cast w e)
  | castV {w e} : be = .verilog → WTm be Γ C none e → e.width ≤ w → ctxFree (tr .verilog e) = true →
      WTm be Γ C none (.cast w e)
  | cat1 {e} : WTm be Γ C none e → WTm be Γ C none (.cat1 e)
  | concat {a r} : WTm be Γ C none a → WTm be Γ C none r → WTm be Γ C none (.concat a r)
  | zext {w e} : WTm be Γ C none e → e.width ≤ w → WTm be Γ C none (.zext w e)
  | trunc {w e} : WTm be Γ C none e → 0 < w → w ≤ e.width → WTm be Γ C none (.trunc w e)
  | sextId {w e} : WTm be Γ C none e → e.width = w → WTm be Γ C none (.sext w e)
  | sextOne {w e} : WTm be Γ C none e → e.width = 1 → sextAttrOrTmp e = false → 1 < w →
      WTm be Γ C none (.sext w e)
  | sextCmp {w e} : WTm be Γ C none e → sextSelectable e = false → e.width < w →
      WTm be Γ C none (.sext w e)
  | sextSlice {w b lo hi lw uw W} : WTm be Γ C (some ⟨.vec W, []⟩) b → lo < hi → hi ≤ W →
      lo < 2 ^ lw → hi - 1 < 2 ^ uw → hi - lo < w → WTm be Γ C none (.sext w (.slice b lo hi lw uw))
  | sextSel {w e} : WTm be Γ C (some ⟨.vec e.width, []⟩) e → isBaseSel e = true → 0 < e.width →
      e.width < w → WTm be Γ C none (.sext w e)
  | reduce {op e} : WTm be Γ C none e → WTm be Γ C none (.reduce op e)
  | inv {e} : WTm be Γ C none e → WTm be Γ C none (.inv e)
  | arith {op a b} : WTm be Γ C none a → WTm be Γ C none b → a.width = b.width →
      op ≠ .shl ∧ op ≠ .shr → WTm be Γ C none (.bin op a b)
  | shl {a b} : WTm be Γ C none a → WTm be Γ C none b → WTm be Γ C none (.bin .shl a b)
  | shr {a b} : WTm be Γ C none a → WTm be Γ C none b → WTm be Γ C none (.bin .shr a b)
  | cmp {op a b} : WTm be Γ C none a → WTm be Γ C none b → a.width = b.width →
      WTm be Γ C none (.cmp op a b)
  | ifexp {c t f} : WTm be Γ C none c → WTm be Γ C none t → WTm be Γ C none f → t.width = f.width →
      WTm be Γ C none (.ifexp c t f)

def WT (be : Backend) (Γ : Env) (C : List (String × Nat)) (e : RExpr) : Prop := WTm be Γ C none e
def WTref (be : Backend) (Γ : Env) (C : List (String × Nat)) (e : RExpr) : Prop :=
  ∃ d, WTm be Γ C (some d) e

theorem WTm.width_pos {be Γ C m e} (h : WTm be Γ C m e) : m = none → 0 < e.width := by
  induction h with
  | rsig | rtmp | rfield | ridxU | ridxA | ridxB | rslice | rpartsel => intro h; cases h
  | ofRef _ _ hp | tmpI _ _ hp | trunc _ hp => exact fun _ => hp
  | num hp | castC hp | loopvar _ hp | constV _ hp | constY _ hp | freevarV _ hp | freevarY _ hp => exact fun _ => hp
  | @castEq w e _ hw ih | @castY w e _ _ hw ih | @castV w e _ _ hw _ ih | @zext w e _ hw ih | @sextId w e _ hw ih
  | @sextCmp w e _ _ hw ih =>
    intro _; have := ih rfl; show 0 < w; omega
  | @sextOne w e _ _ _ hw | @sextSel w e _ _ _ hw => intro _; show 0 < w; omega
  | @sextSlice w b lo hi lw uw W _ _ _ _ _ hw => intro _; show 0 < w; omega
  | @concat a r _ _ iha => intro _; have := iha rfl; show 0 < a.width + r.width; omega
  | reduce | cmp => exact fun _ => Nat.one_pos
  | cat1 _ ih | inv _ ih | arith _ _ _ _ ih | shl _ _ ih | shr _ _ ih => exact ih
  | ifexp _ _ _ _ _ ih => exact ih

theorem WT.width_pos {be Γ C e} (h : WT be Γ C e) : 0 < e.width := WTm.width_pos h rfl

/-- the constants of the component hold their values in the `localparam` variables -/
def HoldsC (σ : Store) (C : List (String × Nat)) : Prop := ∀ x v, (x, v) ∈ C → σ.get (x, 0) = v

/-- value position: the translation, evaluated in a context of the node's width — of whatever type `S` the
    enclosing expression propagates to it (a signed context only reaches signed operands, §11.8.1) — has the
    Python value -/
def SoundV (be : Backend) (cb : Bool) (Γ : Env) (σ : Store) (e : RExpr) : Prop :=
  selfWidth Γ (tr be e) = e.width ∧
  ∀ v, evalPy be Γ σ e = some v →
    (∀ S, (S = true → signedOf (tr be e) = true) → evalC cb Γ σ e.width S (tr be e) = v) ∧ v < 2 ^ e.width

/-- reference position: the translation resolves to the same storage, of the declared type -/
def SoundR (be : Backend) (cb : Bool) (Γ : Env) (σ : Store) (d : Decl) (e : RExpr) : Prop :=
  typeOf Γ (tr be e) = some d ∧
  ∀ l, refPy be Γ σ e = some l →
    loc cb Γ σ (tr be e) = some l ∧ l.ok = true ∧ l.ty = d.ty ∧ l.dims = d.dims

theorem andL {a b : Bool} (h : (a && b) = true) : a = true := (Bool.and_eq_true_iff.1 h).1
theorem andR {a b : Bool} (h : (a && b) = true) : b = true := (Bool.and_eq_true_iff.1 h).2

section cases
variable {be : Backend} {cb : Bool} {Γ : Env} {σ : Store} {e e' a b c t f i r : RExpr} {w v lo hi lw uw W : Nat}
  {x blk : String}

theorem SoundV.ctx (h : SoundV be cb Γ σ e) (hv : evalPy be Γ σ e = some v) (S : Bool)
    (hS : S = true → signedOf (tr be e) = true) : evalC cb Γ σ e.width S (tr be e) = v := (h.2 v hv).1 S hS

theorem SoundV.lt (h : SoundV be cb Γ σ e) (hv : evalPy be Γ σ e = some v) :
    v < 2 ^ e.width := (h.2 v hv).2

theorem SoundV.self (h : SoundV be cb Γ σ e) (hv : evalPy be Γ σ e = some v) :
    eval cb Γ σ e.width (tr be e) = v := h.ctx hv _ id

theorem SoundV.selfDet (h : SoundV be cb Γ σ e) (hv : evalPy be Γ σ e = some v) :
    eval cb Γ σ (selfWidth Γ (tr be e)) (tr be e) = v := by rw [h.1, h.self hv]

theorem SoundV.congr (hE : SoundV be cb Γ σ e) (htr : tr be e' = tr be e) (hw : e'.width = e.width)
    (hpy : evalPy be Γ σ e' = evalPy be Γ σ e) : SoundV be cb Γ σ e' := by
  unfold SoundV; rw [htr, hw, hpy]; exact hE

theorem SoundR.resolve {ty : PTy} {ds : List Nat} (h : SoundR be cb Γ σ ⟨ty, ds⟩ e) {l : Loc}
    (hr : refPy be Γ σ e = some l) :
    ∃ x el lo, l = ⟨x, el, lo, ty, ds, true⟩ ∧ loc cb Γ σ (tr be e) = some ⟨x, el, lo, ty, ds, true⟩ := by
  obtain ⟨h1, h2, h3, h4⟩ := h.2 l hr
  obtain ⟨x, el, lo, t, d, ok⟩ := l
  cases h2; cases h3; cases h4
  exact ⟨x, el, lo, rfl, h1⟩

theorem sound_rvar {d : Decl} (htr : tr be e = .ident x)
    (hpy : refPy be Γ σ e = match Γ x with | some d => some ⟨x, 0, 0, d.ty, d.dims, true⟩ | none => none)
    (h : Γ x = some d) : SoundR be cb Γ σ d e := by
  refine ⟨by rw [htr]; exact h, fun l hr => ?_⟩
  simp only [hpy, h, Option.some.injEq] at hr; subst hr
  exact ⟨by simp only [htr, loc_ident, h], rfl, rfl, rfl⟩

theorem sound_rfield {f : String} {n : String} {fs : Fields} {off : Nat} {t : PTy}
    (hR : SoundR .verilog cb Γ σ ⟨.struct n fs, []⟩ e) (hf : fs.find f = some (off, t)) :
    SoundR .verilog cb Γ σ ⟨t, []⟩ (.field e f w) := by
  refine ⟨by simp only [tr_field_verilog, typeOf, hR.1, hf, Option.map], fun l hr => ?_⟩
  cases hre : refPy .verilog Γ σ e with
  | none => simp only [refPy_field, hre, reduceCtorEq] at hr
  | some l0 =>
    obtain ⟨x, el, lo, rfl, h1⟩ := hR.resolve hre
    simp only [refPy_field, hre, hf, Option.some.injEq] at hr; subst hr
    exact ⟨by simp only [tr_field_verilog, loc_member, h1, hf], rfl, rfl, rfl⟩

theorem refPy_index_some {l : Loc} (h : refPy be Γ σ (.index e i w) = some l) :
    ∃ l0 iv, refPy be Γ σ e = some l0 ∧ evalPy be Γ σ i = some iv := by
  cases hre : refPy be Γ σ e with
  | none => simp only [refPy_index, hre, reduceCtorEq] at h
  | some l0 =>
    cases hi : evalPy be Γ σ i with
    | none => simp only [refPy_index, hre, hi, reduceCtorEq] at h
    | some iv => exact ⟨l0, iv, rfl, rfl⟩

/-- what one index makes of a declared type: it removes an unpacked dimension, selects an element of a packed array, or a
    bit of a vector (the three `index` clauses of `typeOf` and of `loc`) -/
inductive IdxStep : Decl → Decl → Prop
  | unpacked {ty : PTy} {n : Nat} {ds : List Nat} : IdxStep ⟨ty, n :: ds⟩ ⟨ty, ds⟩
  | packed {n : Nat} {ty : PTy} : IdxStep ⟨.arr n ty, []⟩ ⟨ty, []⟩
  | bit {n : Nat} : IdxStep ⟨.vec n, []⟩ ⟨.vec 1, []⟩

theorem sound_ridx {d d' : Decl} (hR : SoundR be cb Γ σ d e) (hI : SoundV be cb Γ σ i) (hd : IdxStep d d') :
    SoundR be cb Γ σ d' (.index e i w) := by
  cases hd
  all_goals
    refine ⟨by simp only [tr_index, typeOf, hR.1], fun l hr => ?_⟩
    obtain ⟨l0, iv, hre, hi⟩ := refPy_index_some hr
    obtain ⟨x, el, lo, rfl, h1⟩ := hR.resolve hre
    simp only [refPy_index, hre, hi, Option.ite_none_right_eq_some, Option.some.injEq] at hr
    obtain ⟨hlt, rfl⟩ := hr
    exact ⟨by simp only [tr_index, loc_index, h1, hI.selfDet hi, hlt, decide_true, Bool.and_self], rfl, rfl, rfl⟩

theorem sound_rslice (hR : SoundR be cb Γ σ ⟨.vec W, []⟩ e) (h1 : lo < hi) (h2 : hi ≤ W) (h3 : lo < 2 ^ lw)
    (h4 : hi - 1 < 2 ^ uw) :
    SoundR be cb Γ σ ⟨.vec (hi - lo), []⟩ (.slice e lo hi lw uw) := by
  have c1 : constVal (.lit uw (hi - 1)) = some (hi - 1) := congrArg some (Nat.mod_eq_of_lt h4)
  have c2 : constVal (.lit lw lo) = some lo := congrArg some (Nat.mod_eq_of_lt h3)
  have e1 : hi - 1 + 1 - lo = hi - lo := by omega
  refine ⟨by simp only [tr_slice, typeOf, hR.1, c1, c2, e1], fun l hr => ?_⟩
  cases hre : refPy be Γ σ e with
  | none => simp only [refPy_slice, hre, reduceCtorEq] at hr
  | some l0 =>
    obtain ⟨x, el, lo0, rfl, g1⟩ := hR.resolve hre
    simp only [refPy_slice, hre, h1, h2, and_self, if_true, Option.some.injEq] at hr; subst hr
    have hd : decide (lo ≤ hi - 1 ∧ hi - 1 < W) = true := decide_eq_true (by omega)
    exact ⟨by simp only [tr_slice, loc_range, g1, c1, c2, e1, hd, Bool.and_self], rfl, rfl, rfl⟩

theorem sound_rpartsel (hR : SoundR be cb Γ σ ⟨.vec W, []⟩ e) (hB : SoundV be cb Γ σ b) :
    SoundR be cb Γ σ ⟨.vec w, []⟩ (.partsel e b w) := by
  have c : constVal (.num w) = some w := rfl
  refine ⟨by simp only [tr_partsel, typeOf, hR.1, c], fun l hr => ?_⟩
  cases hre : refPy be Γ σ e with
  | none => simp only [refPy_partsel, hre, reduceCtorEq] at hr
  | some l0 =>
    cases hi : evalPy be Γ σ b with
    | none => obtain ⟨x, el, lo, rfl, -⟩ := hR.resolve hre; simp only [refPy_partsel, hre, hi, reduceCtorEq] at hr
    | some bv =>
      obtain ⟨x, el, lo, rfl, h1⟩ := hR.resolve hre
      simp only [refPy_partsel, hre, hi, Option.ite_none_right_eq_some, Option.some.injEq] at hr
      obtain ⟨hlt, rfl⟩ := hr
      exact ⟨by simp only [tr_partsel, loc_plusSel, h1, c, hB.selfDet hi, hlt, decide_true, Bool.and_self],
        rfl, rfl, rfl⟩

/-- the RTLIR forms that denote storage -/
def isSel : RExpr → Bool
  | .sig _ _ | .tmpvar _ _ _ | .field _ _ _ | .index _ _ _ | .slice _ _ _ _ _ | .partsel _ _ _ => true
  | _ => false

theorem evalPy_sel (h : isSel e = true) :
    evalPy be Γ σ e = (refPy be Γ σ e).map (readLoc σ) := by
  cases e with
  | sig | tmpvar | field | index | slice | partsel =>
    rw [evalPy.eq_def]; dsimp only; generalize refPy be Γ σ _ = r; cases r <;> rfl
  | _ => cases h

theorem sound_ofRef {ty : PTy} (hs : isSel e = true)
    (hR : SoundR be cb Γ σ ⟨ty, []⟩ e) (hw : ty.width = e.width) : SoundV be cb Γ σ e := by
  refine ⟨by rw [selfWidth_of_typeOf hR.1]; exact hw, fun v hv => ?_⟩
  rw [evalPy_sel hs] at hv
  obtain ⟨l, hre, rfl⟩ := Option.map_eq_some_iff.1 hv
  obtain ⟨h1, -, h3, -⟩ := hR.2 l hre
  refine ⟨fun _ _ => evalC_of_loc h1, ?_⟩
  have := readLoc_lt σ l
  rwa [h3, show (Decl.mk ty []).ty.width = e.width from hw] at this

theorem sound_lit {w u v : Nat} (htr : tr be e = .lit w u) (hw : e.width = w)
    (hpy : evalPy be Γ σ e = some v) (hu : u % 2 ^ w = v) : SoundV be cb Γ σ e := by
  subst hw hu
  refine ⟨by rw [htr]; rfl, fun v' h => ?_⟩
  cases hpy.symm.trans h
  exact ⟨fun S _ => by rw [htr, evalC_lit], Nat.mod_lt _ (Nat.two_pow_pos _)⟩

theorem evalC_cast_ident {ty : PTy} {S : Bool} (h : Γ x = some ⟨ty, []⟩) :
    evalC cb Γ σ W S (.cast w (.ident x)) = (σ.get (x, 0) % 2 ^ ty.width) % 2 ^ w := by
  rw [evalC_cast, evalC_ident_scalar h, show signedOf (.ident x) = false from rfl, Bool.and_false, ext_false]

theorem sound_castIdent {ty : PTy} (htr : tr be e = .cast w (.ident x))
    (hw : e.width = w) (hx : Γ x = some ⟨ty, []⟩) (hpy : evalPy be Γ σ e = some v)
    (hval : σ.get (x, 0) % 2 ^ ty.width = v) (hv : v < 2 ^ w) : SoundV be cb Γ σ e := by
  subst hw
  refine ⟨by rw [htr]; rfl, fun v' h => ?_⟩
  cases hpy.symm.trans h
  exact ⟨fun S _ => by rw [htr, evalC_cast_ident hx, hval, Nat.mod_eq_of_lt hv], hv⟩

theorem sound_tmpI {ty : PTy} (h : Γ x = some ⟨ty, []⟩) (hw : ty.width = w) :
    SoundV be cb Γ σ (.tmpvar x w false) := by
  refine sound_castIdent (v := σ.get (x, 0) % 2 ^ ty.width) rfl rfl h ?_ rfl (hw ▸ Nat.mod_lt _ (Nat.two_pow_pos _))
  rw [evalPy_sel rfl, refPy_tmpvar, h]
  simp [readLoc]

theorem sound_loopvar (h : Γ (loopVarName be blk x) = some ⟨.vec 32, []⟩)
    (hw : w ≤ 32) : SoundV be cb Γ σ (.loopvar blk x w) := by
  by_cases hlt : σ.get (loopVarName be blk x, 0) < 2 ^ w
  · have hpy : evalPy be Γ σ (.loopvar blk x w) = some (σ.get (loopVarName be blk x, 0)) := by
      rw [evalPy_loopvar, if_pos hlt]
    have h32 : σ.get (loopVarName be blk x, 0) % 2 ^ 32 = σ.get (loopVarName be blk x, 0) :=
      Nat.mod_eq_of_lt (Nat.lt_of_lt_of_le hlt (Nat.pow_le_pow_right (by omega) hw))
    cases be with
    | verilog => exact sound_castIdent rfl rfl h hpy h32 hlt
    | yosys =>
      -- `w'($signed(x))`: the operand is signed, but as wide as (or wider than) the context
      have hsw : selfWidth Γ (.ident (loopVarName .yosys blk x)) = 32 :=
        selfWidth_of_typeOf (x := .ident (loopVarName .yosys blk x)) h
      have hsw' : selfWidth Γ (.sgn (.ident (loopVarName .yosys blk x))) = 32 := hsw
      refine ⟨rfl, fun v' hv' => ?_⟩
      cases hpy.symm.trans hv'
      refine ⟨fun S _ => ?_, hlt⟩
      show evalC cb Γ σ w S (.cast w (.sgn (.ident (loopVarName .yosys blk x)))) = _
      rw [evalC_cast, hsw', Nat.max_eq_right hw, ite_self, ext_self, evalC_sgn, hsw, ext_self, eval,
        evalC_ident_scalar h]
      simp [PTy.width, h32, Nat.mod_eq_of_lt hlt]
  · refine ⟨by cases be <;> rfl, fun v hv => ?_⟩
    rw [evalPy_loopvar, if_neg hlt] at hv; cases hv

theorem sound_inv (hE : SoundV be cb Γ σ e) : SoundV be cb Γ σ (.inv e) := by
  refine ⟨hE.1, fun v hv => ?_⟩
  rw [evalPy_inv] at hv
  obtain ⟨a, he, rfl⟩ := Option.map_eq_some_iff.1 hv
  have g3 := hE.lt he
  have := Nat.two_pow_pos e.width
  refine ⟨fun S hS => ?_, show 2 ^ e.width - 1 - a < 2 ^ e.width by omega⟩
  rw [tr_inv, evalC_un]
  show 2 ^ e.width - 1 - evalC cb Γ σ e.width S (tr be e) % 2 ^ e.width = _
  rw [hE.ctx he S hS, Nat.mod_eq_of_lt g3]

theorem pyReduce_lt (op : ROp) (W a : Nat) : pyReduce op W a < 2 := by
  cases op
  · exact b2n_lt _
  · exact b2n_lt _
  · exact parity_lt _ _

theorem sound_reduce {op : ROp} (hE : SoundV be cb Γ σ e) :
    SoundV be cb Γ σ (.reduce op e) := by
  refine ⟨by cases op <;> rfl, fun v hv => ?_⟩
  rw [evalPy_reduce] at hv
  obtain ⟨a, he, rfl⟩ := Option.map_eq_some_iff.1 hv
  refine ⟨fun S _ => ?_, pyReduce_lt ..⟩
  rw [tr_reduce, evalC_reduce, hE.selfDet he, hE.1]
  cases op <;> rfl

theorem selfWidth_arith {op : RBin} (hop : op ≠ .shl ∧ op ≠ .shr) (a b : Expr) :
    selfWidth Γ (.bin (trBin op) a b) = max (selfWidth Γ a) (selfWidth Γ b) := by
  cases op with
  | shl => exact absurd rfl hop.1
  | shr => exact absurd rfl hop.2
  | _ => rfl

theorem signedOf_arith {op : RBin} (hop : op ≠ .shl ∧ op ≠ .shr) (a b : Expr) :
    signedOf (.bin (trBin op) a b) = (signedOf a && signedOf b) := by
  cases op with
  | shl => exact absurd rfl hop.1
  | shr => exact absurd rfl hop.2
  | _ => rfl

theorem binVal_trBin {op : RBin} {W a b v : Nat} {S : Bool} (hop : op ≠ .shl ∧ op ≠ .shr)
    (hS : op = .mod → S = false) (hb : b < 2 ^ W) (h : pyBin op W a b = some v) :
    binVal (trBin op) W S a b = v := by
  cases op with
  | shl => exact absurd rfl hop.1
  | shr => exact absurd rfl hop.2
  | mod =>
    cases hS rfl
    by_cases hz : b = 0
    · simp [pyBin, hz] at h
    · simpa [pyBin, trBin, binVal, hz] using h
  | sub =>
    cases h
    show (a + 2 ^ W - b % 2 ^ W) % 2 ^ W = _
    rw [Nat.mod_eq_of_lt hb]
  | _ => exact Option.some.inj h

theorem pyBin_lt {op : RBin} {W a b v : Nat} (ha : a < 2 ^ W) (hb : b < 2 ^ W ∨ op = .shl ∨ op = .shr)
    (h : pyBin op W a b = some v) : v < 2 ^ W := by
  have hp := Nat.two_pow_pos W
  cases op with
  | add | sub | mul => cases h; exact Nat.mod_lt _ hp
  | mod =>
    by_cases hz : b = 0
    · simp [pyBin, hz] at h
    · simp [pyBin, hz] at h; subst h; exact Nat.lt_of_le_of_lt (Nat.mod_le _ _) ha
  | and => cases h; exact Nat.lt_of_le_of_lt Nat.and_le_left ha
  | or => cases h; exact Nat.or_lt_two_pow ha (hb.resolve_right (by decide))
  | xor => cases h; exact Nat.xor_lt_two_pow ha (hb.resolve_right (by decide))
  | shl => cases h; show (if b ≥ W then 0 else _) < _; split; exact hp; exact Nat.mod_lt _ hp
  | shr => cases h; exact Nat.lt_of_le_of_lt (Nat.div_le_self _ _) ha

/-- the operators `+ - * % & | ^`; `%` applied to two signed operands is a signed remainder: excluded (`hss`) -/
theorem sound_arith {op : RBin} (hA : SoundV be cb Γ σ a) (hB : SoundV be cb Γ σ b)
    (hw : a.width = b.width) (hop : op ≠ .shl ∧ op ≠ .shr)
    (hss : op = .mod → (sgnOf be a && sgnOf be b) = false) : SoundV be cb Γ σ (.bin op a b) := by
  refine ⟨?_, fun v hv => ?_⟩
  · rw [tr_bin, selfWidth_arith hop, hA.1, hB.1, ← hw, Nat.max_self]; rfl
  rw [evalPy_bin] at hv
  obtain ⟨va, hea, hv⟩ := Option.bind_eq_some_iff.1 hv
  obtain ⟨vb, heb, hv⟩ := Option.bind_eq_some_iff.1 hv
  have b3 := hB.lt heb
  rw [← hw] at b3
  refine ⟨fun S hS => ?_, pyBin_lt (hA.lt hea) (.inl b3) hv⟩
  -- the type of the node: signed iff both operands are
  rw [tr_bin, signedOf_arith hop] at hS
  have hb := hB.ctx heb S fun h => andR (hS h)
  rw [← hw] at hb
  show evalC cb Γ σ a.width S (.bin (trBin op) (tr be a) (tr be b)) = v
  rw [evalC_arith hop, hA.ctx hea S fun h => andL (hS h), hb]
  refine binVal_trBin hop (fun hm => ?_) b3 hv
  cases S with
  | false => rfl
  | true =>
    have hu : (signedOf (tr be a) && signedOf (tr be b)) = false := hss hm
    exact absurd (hS rfl) (by rw [hu]; decide)

theorem sound_shift {op : RBin} (hop : op = .shl ∨ op = .shr) (hA : SoundV be cb Γ σ a) (hB : SoundV be cb Γ σ b) :
    SoundV be cb Γ σ (.bin op a b) := by
  refine ⟨by rcases hop with rfl | rfl <;> exact hA.1, fun v hv => ?_⟩
  rw [evalPy_bin] at hv
  obtain ⟨va, hea, hv⟩ := Option.bind_eq_some_iff.1 hv
  obtain ⟨vb, heb, hv⟩ := Option.bind_eq_some_iff.1 hv
  refine ⟨fun S hS => ?_, pyBin_lt (hA.lt hea) (.inr hop) hv⟩
  have ha := hA.ctx hea S (by rcases hop with rfl | rfl <;> exact hS)
  show evalC cb Γ σ a.width S (.bin (trBin op) (tr be a) (tr be b)) = v
  rw [evalC_shift hop, hB.selfDet heb, ha]
  rcases hop with rfl | rfl <;> cases hv
  · rfl
  · exact Nat.shiftRight_eq_div_pow _ _

theorem binVal_trCmp {op : RCmp} {s : Bool} (hs : op.ordering = true → s = false) (W a b : Nat) :
    binVal (trCmp op) W s a b = pyCmp op a b := by
  cases op with
  | eq | ne => rfl
  | _ => cases hs rfl; rfl

/-- comparisons: the two operands form their own context, signed iff both are signed; an ordering comparison of
    two signed operands is a signed comparison: excluded (`hss`) -/
theorem sound_cmp {op : RCmp} (hA : SoundV be cb Γ σ a) (hB : SoundV be cb Γ σ b)
    (hw : a.width = b.width) (hss : op.ordering = true → (sgnOf be a && sgnOf be b) = false) :
    SoundV be cb Γ σ (.cmp op a b) := by
  refine ⟨by cases op <;> rfl, fun v hv => ?_⟩
  rw [evalPy_cmp] at hv
  obtain ⟨va, hea, hv⟩ := Option.bind_eq_some_iff.1 hv
  obtain ⟨vb, heb, hv⟩ := Option.bind_eq_some_iff.1 hv
  cases hv
  refine ⟨fun S _ => ?_, show _ < 2 ^ 1 by cases op <;> exact b2n_lt _⟩
  have hb := hB.ctx heb (signedOf (tr be a) && signedOf (tr be b)) andR
  rw [← hw] at hb
  rw [tr_cmp, evalC_cmp, hA.1, hB.1, ← hw, Nat.max_self,
    hA.ctx hea _ andL, hb]
  exact binVal_trCmp hss ..

theorem sound_ifexp (hC : SoundV be cb Γ σ c) (hT : SoundV be cb Γ σ t)
    (hF : SoundV be cb Γ σ f) (hw : t.width = f.width) : SoundV be cb Γ σ (.ifexp c t f) := by
  refine ⟨?_, fun v hv => ?_⟩
  · show max (selfWidth Γ (tr be t)) (selfWidth Γ (tr be f)) = t.width
    rw [hT.1, hF.1, ← hw, Nat.max_self]
  rw [evalPy_ifexp] at hv
  obtain ⟨vc, hec, hv⟩ := Option.bind_eq_some_iff.1 hv
  by_cases hz : vc ≠ 0
  · rw [if_pos hz] at hv
    refine ⟨fun S hS => ?_, hT.lt hv⟩
    rw [tr_ifexp, evalC_cond, hC.selfDet hec, if_pos hz]
    exact hT.ctx hv S fun h => andL (hS h)
  · rw [if_neg hz] at hv
    refine ⟨fun S hS => ?_, hw ▸ hF.lt hv⟩
    rw [tr_ifexp, evalC_cond, hC.selfDet hec, if_neg hz]
    exact hw ▸ hF.ctx hv S fun h => andR (hS h)

theorem sound_cat1 (hE : SoundV be cb Γ σ e) : SoundV be cb Γ σ (.cat1 e) := by
  refine ⟨hE.1, fun v hv => ?_⟩
  rw [evalPy_cat1] at hv
  exact ⟨fun S _ => by rw [tr_cat1, evalC_cat1, hE.selfDet hv], hE.lt hv⟩

theorem sound_concat (hA : SoundV be cb Γ σ a) (hR : SoundV be cb Γ σ r) :
    SoundV be cb Γ σ (.concat a r) := by
  refine ⟨?_, fun v hv => ?_⟩
  · show selfWidth Γ (tr be a) + selfWidth Γ (tr be r) = a.width + r.width
    rw [hA.1, hR.1]
  rw [evalPy_concat] at hv
  obtain ⟨va, hea, hv⟩ := Option.bind_eq_some_iff.1 hv
  obtain ⟨vr, her, hv⟩ := Option.bind_eq_some_iff.1 hv
  cases hv
  have a3 := hA.lt hea
  have r3 := hR.lt her
  refine ⟨fun S _ => by rw [tr_concat, evalC_concat, hA.selfDet hea, hR.selfDet her, hR.1], ?_⟩
  show _ < 2 ^ (a.width + r.width)
  rw [Nat.pow_add, Nat.add_comm, Nat.mul_comm va, Nat.mul_comm (2 ^ a.width)]
  exact Pack.cat_lt r3 a3

theorem evalC_sextTpl {k W : Nat} {S : Bool} {b x : Expr} :
    evalC cb Γ σ W S (sextTpl k b x) =
      replVal (selfWidth Γ b) (evalC cb Γ σ (selfWidth Γ b) (signedOf b) b) k * 2 ^ selfWidth Γ x
        + evalC cb Γ σ (selfWidth Γ x) (signedOf x) x := by
  rw [sextTpl, evalC_concat, eval, evalC_repl, eval, evalC_cat1]; rfl

theorem sextTpl_width {k : Nat} {b x : Expr} :
    selfWidth Γ (sextTpl k b x) = k * selfWidth Γ b + selfWidth Γ x := rfl

theorem evalC_zextTpl {k W : Nat} {S : Bool} {x : Expr} :
    evalC cb Γ σ W S (zextTpl k x) = evalC cb Γ σ (selfWidth Γ x) (signedOf x) x := by
  rw [show zextTpl k x = sextTpl k (.lit 1 0) x from rfl, evalC_sextTpl, evalC_lit]
  show replVal 1 0 k * _ + _ = _
  rw [replVal_one_zero, Nat.zero_mul, Nat.zero_add]

theorem zextTpl_width {k : Nat} {x : Expr} : selfWidth Γ (zextTpl k x) = k + selfWidth Γ x :=
  (sextTpl_width (b := .lit 1 0)).trans (by rw [show selfWidth Γ (.lit 1 0) = 1 from rfl, Nat.mul_one])

theorem sound_zextTpl (hE : SoundV be cb Γ σ e) (hw : e.width < w)
    (htr : tr be e' = zextTpl (w - e.width) (tr be e)) (hw' : e'.width = w)
    (hpy : evalPy be Γ σ e' = evalPy be Γ σ e) : SoundV be cb Γ σ e' := by
  subst hw'
  have hle : 2 ^ e.width ≤ 2 ^ e'.width := Nat.pow_le_pow_right (by omega) (Nat.le_of_lt hw)
  refine ⟨by rw [htr, zextTpl_width, hE.1]; omega, fun v hv => ?_⟩
  rw [hpy] at hv
  have g3 := hE.lt hv
  refine ⟨fun S _ => ?_, by omega⟩
  rw [htr, evalC_zextTpl, hE.1]; exact hE.self hv

theorem sound_zext (hE : SoundV be cb Γ σ e) (hw : e.width ≤ w) :
    SoundV be cb Γ σ (.zext w e) := by
  by_cases hk : w - e.width = 0
  · exact hE.congr (by rw [tr_zext, if_pos hk]) (show w = e.width by omega) (evalPy_zext ..)
  · exact sound_zextTpl (w := w) hE (by omega) (by rw [tr_zext, if_neg hk]) rfl (evalPy_zext ..)

theorem evalC_ctxFree {cb Γ σ x} (h : ctxFree x = true) (W W' : Nat) (S S' : Bool) :
    evalC cb Γ σ W S x = evalC cb Γ σ W' S' x := by
  cases x with
  | un op e =>
    rw [evalC_un, evalC_un]
    cases op with
    | bnot | neg | plus => cases h
    | _ => rfl
  | bin op a b =>
    rw [evalC_bin, evalC_bin]
    cases op with
    | eq | ne | lt | le | gt | ge | land | lor => rfl
    | _ => cases h
  | cond | num | sgn => cases h
  | cast w e =>
    have hu : signedOf e = false := by cases hs : signedOf e <;> simp [ctxFree, hs] at h ⊢
    rw [evalC_cast, evalC_cast, hu, Bool.and_false, Bool.and_false, ext_false, ext_false]
  | _ => rw [evalC.eq_def, evalC.eq_def]

/-- the emitted size cast `w'(x)` cuts the value of its operand to `w` bits, provided the cast does not widen the context
    the operand is evaluated in, or the operand does not depend on its context -/
theorem SoundV.cast (h : SoundV be cb Γ σ e) (hv : evalPy be Γ σ e = some v)
    (hc : w ≤ e.width ∨ ctxFree (tr be e) = true) (S : Bool) :
    evalC cb Γ σ w S (.cast w (tr be e)) = v % 2 ^ w := by
  rw [evalC_cast, ext_self, h.1]
  congr 1
  rcases hc with hc | hc
  · rw [Nat.max_eq_right hc, ite_self]; exact h.self hv
  · exact (evalC_ctxFree hc ..).trans (h.self hv)

theorem sound_trunc (hE : SoundV be cb Γ σ e) (hw : w ≤ e.width) :
    SoundV be cb Γ σ (.trunc w e) := by
  by_cases hk : e.width > w
  · refine ⟨by rw [tr_trunc, if_pos hk]; rfl, fun v hv => ?_⟩
    rw [evalPy_trunc] at hv
    obtain ⟨a, he, rfl⟩ := Option.map_eq_some_iff.1 hv
    exact ⟨fun S _ => by rw [tr_trunc, if_pos hk]; exact hE.cast he (.inl hw) S, Nat.mod_lt _ (Nat.two_pow_pos _)⟩
  · have hw' : w = e.width := by omega
    refine hE.congr (by rw [tr_trunc, if_neg hk]) hw' ?_
    rw [evalPy_trunc]
    cases he : evalPy be Γ σ e with
    | none => rfl
    | some a => exact congrArg some (Nat.mod_eq_of_lt (hw' ▸ hE.lt he))

/-- size cast, SystemVerilog backend: `w'(x)` of an operand that has `w` bits itself, or is narrower and does not depend on
    the context (literal, identifier, cast of an identifier, select, concatenation, comparison …) -/
theorem sound_castV (hE : SoundV .verilog cb Γ σ e) (hw : e.width ≤ w)
    (hc : w ≤ e.width ∨ ctxFree (tr .verilog e) = true) : SoundV .verilog cb Γ σ (.cast w e) := by
  have hle : 2 ^ e.width ≤ 2 ^ w := Nat.pow_le_pow_right (by omega) hw
  refine ⟨rfl, fun v hv => ?_⟩
  rw [evalPy_cast] at hv
  have hv' : v < 2 ^ w := Nat.lt_of_lt_of_le (hE.lt hv) hle
  exact ⟨fun S _ => (hE.cast hv hc S).trans (Nat.mod_eq_of_lt hv'), hv'⟩

theorem sound_castEq (hE : SoundV be cb Γ σ e) (hw : e.width = w) :
    SoundV be cb Γ σ (.cast w e) := by
  subst hw
  cases be with
  | verilog => exact sound_castV hE (Nat.le_refl _) (.inl (Nat.le_refl _))
  | yosys => exact hE.congr (if_pos rfl) rfl (evalPy_cast ..)

/-- widening size cast, Yosys backend: zero-extension template -/
theorem sound_castY (hE : SoundV .yosys cb Γ σ e) (hw : e.width < w) :
    SoundV .yosys cb Γ σ (.cast w e) :=
  sound_zextTpl (w := w) hE hw ((if_neg (by omega)).trans (if_neg (by omega))) rfl (evalPy_cast ..)

theorem tr_sext (be : Backend) (w : Nat) (e : RExpr) : tr be (.sext w e) =
    if w - e.width = 0 then tr be e
    else if e.width = 1 ∧ (!sextAttrOrTmp e) = true then sextTpl (w - e.width) (tr be e) (tr be e)
    else if (!sextSelectable e) = true then
      sextTpl (w - e.width) (.bin .ge (tr be e) (.lit e.width (2 ^ (e.width - 1)))) (tr be e)
    else match e with
      | .slice b _ hi _ uw => sextTpl (w - e.width) (.index (tr be b) (.lit uw (hi - 1))) (tr be e)
      | _ => sextTpl (w - e.width) (.index (tr be e) (.num (e.width - 1))) (tr be e) := by
  cases e <;> rfl

theorem tr_sext_id (hk : w - e.width = 0) :
    tr be (.sext w e) = tr be e := by
  rw [tr_sext, if_pos hk]

theorem tr_sext_one (hk : e.width < w)
    (h1 : e.width = 1) (ha : sextAttrOrTmp e = false) :
    tr be (.sext w e) = sextTpl (w - e.width) (tr be e) (tr be e) := by
  rw [tr_sext, if_neg (Nat.sub_ne_zero_of_lt hk), if_pos ⟨h1, by rw [ha]; rfl⟩]

theorem tr_sext_cmp (hk : e.width < w)
    (h1 : ¬ (e.width = 1 ∧ sextAttrOrTmp e = false)) (hs : sextSelectable e = false) :
    tr be (.sext w e) =
      sextTpl (w - e.width) (.bin .ge (tr be e) (.lit e.width (2 ^ (e.width - 1)))) (tr be e) := by
  rw [tr_sext, if_neg (Nat.sub_ne_zero_of_lt hk), if_neg (by rwa [Bool.not_eq_true']), if_pos (by rw [hs]; rfl)]

theorem tr_sext_slice (hk : hi - lo < w) (h1 : ¬ hi - lo = 1) :
    tr be (.sext w (.slice b lo hi lw uw)) =
      sextTpl (w - (hi - lo)) (.index (tr be b) (.lit uw (hi - 1))) (tr be (.slice b lo hi lw uw)) := by
  rw [tr_sext]
  exact (if_neg (Nat.sub_ne_zero_of_lt hk)).trans ((if_neg fun h => h1 h.1).trans (if_neg Bool.false_ne_true))

theorem tr_sext_sel (hk : e.width < w)
    (h1 : ¬ (e.width = 1 ∧ sextAttrOrTmp e = false)) (hs : isBaseSel e = true) :
    tr be (.sext w e) = sextTpl (w - e.width) (.index (tr be e) (.num (e.width - 1))) (tr be e) := by
  rw [tr_sext, if_neg (Nat.sub_ne_zero_of_lt hk), if_neg (by rwa [Bool.not_eq_true'])]
  cases e with
  | sig | field | index => rfl
  | tmpvar x w ex => cases hs; rfl
  | _ => cases hs

theorem sound_sextId (hE : SoundV be cb Γ σ e) (hw : e.width = w) :
    SoundV be cb Γ σ (.sext w e) := by
  subst hw
  refine hE.congr (tr_sext_id (Nat.sub_self _)) rfl ?_
  rw [evalPy_sext]
  cases evalPy be Γ σ e with
  | none => rfl
  | some a => exact congrArg some (by unfold pySext; split <;> omega)

/-- all templates: `{ {k{B}}, v }` where the one-bit expression `B` is the sign bit of the operand -/
theorem sound_sext_core {B : Expr} (hE : SoundV be cb Γ σ e)
    (hlt : e.width < w)
    (htr : tr be (.sext w e) = sextTpl (w - e.width) B (tr be e))
    (hB1 : selfWidth Γ B = 1)
    (hB2 : ∀ v, evalPy be Γ σ e = some v →
      evalC cb Γ σ 1 (signedOf B) B = b2n (decide (v ≥ 2 ^ (e.width - 1)))) :
    SoundV be cb Γ σ (.sext w e) := by
  refine ⟨by rw [htr, sextTpl_width, hB1, hE.1]; show _ = w; omega, fun v hv => ?_⟩
  rw [evalPy_sext] at hv
  obtain ⟨a, he, rfl⟩ := Option.map_eq_some_iff.1 hv
  refine ⟨fun S _ => ?_, pySext_lt _ _ _ (Nat.le_of_lt hlt) (hE.lt he)⟩
  rw [htr, evalC_sextTpl, hB1, hB2 a he, hE.1, hE.ctx he _ id, sext_val _ _ _ hlt]

/-- (1) a one-bit operand that is not an Attribute / TmpVar node is replicated itself -/
theorem sound_sextOne (hE : SoundV be cb Γ σ e) (h1 : e.width = 1)
    (ha : sextAttrOrTmp e = false) (hlt : 1 < w) : SoundV be cb Γ σ (.sext w e) := by
  have hk : e.width < w := by omega
  apply sound_sext_core (B := tr be e) hE hk (tr_sext_one hk h1 ha) (by rw [hE.1, h1])
  intro v hv
  have g1 := hE.ctx hv _ id
  have g3 := hE.lt hv
  rw [h1] at g1 g3
  rw [g1, h1]
  have : v = 0 ∨ v = 1 := by omega
  rcases this with rfl | rfl <;> rfl

/-- (2) any operand that is not a signal reference: sign bit by comparison with `2^(n-1)`
    (or rule (1) when it is one bit wide); the literal is unsigned, so the comparison is -/
theorem sound_sextCmp (hE : SoundV be cb Γ σ e)
    (hs : sextSelectable e = false) (hpos : 0 < e.width) (hlt : e.width < w) :
    SoundV be cb Γ σ (.sext w e) := by
  by_cases h1 : e.width = 1 ∧ sextAttrOrTmp e = false
  · exact sound_sextOne hE h1.1 h1.2 (by omega)
  have hp : 2 ^ (e.width - 1) < 2 ^ e.width := Nat.pow_lt_pow_right (by omega) (by omega)
  apply sound_sext_core (B := .bin .ge (tr be e) (.lit e.width (2 ^ (e.width - 1)))) hE hlt
    (tr_sext_cmp hlt h1 hs) rfl
  intro v hv
  have hw : max (selfWidth Γ (tr be e)) (selfWidth Γ (.lit e.width (2 ^ (e.width - 1)))) = e.width := by
    rw [hE.1]; exact Nat.max_self _
  have hu : (signedOf (tr be e) && signedOf (.lit e.width (2 ^ (e.width - 1)))) = false := Bool.and_false _
  refine (evalC_cmp cb Γ σ 1 false (tr be e) (.lit e.width (2 ^ (e.width - 1))) .ge).trans ?_
  rw [hw, hu, hE.ctx hv false (fun h => nomatch h), evalC_lit, Nat.mod_eq_of_lt hp]
  rfl

theorem readLoc_msb (σ : Store) (x : String) (el lo n : Nat) (hn : 0 < n) :
    readLoc σ ⟨x, el, lo + (n - 1), .vec 1, [], true⟩ =
      b2n (decide (readLoc σ ⟨x, el, lo, .vec n, [], true⟩ ≥ 2 ^ (n - 1))) := by
  have hm := msb_eq (σ.get (x, el) / 2 ^ lo % 2 ^ n) n hn (Nat.mod_lt _ (Nat.two_pow_pos _))
  rw [Pack.field_field _ _ _ _ 1 (by omega)] at hm
  exact hm

/-- (3) `x[hi-1:lo]` is extended with `x[hi-1]` (a one-bit slice by rule (1)) -/
theorem sound_sextSlice (hR : SoundR be cb Γ σ ⟨.vec W, []⟩ b) (h1 : lo < hi) (h2 : hi ≤ W) (h3 : lo < 2 ^ lw)
    (h4 : hi - 1 < 2 ^ uw) (hlt : hi - lo < w) :
    SoundV be cb Γ σ (.sext w (.slice b lo hi lw uw)) := by
  have e1 : ∀ a : Nat, a + (hi - 1) = a + lo + (hi - lo - 1) := fun a => by omega
  have e2 : hi - 1 < W := by omega
  have hS := sound_rslice (lw := lw) (uw := uw) hR h1 h2 h3 h4
  have hE : SoundV be cb Γ σ (.slice b lo hi lw uw) := sound_ofRef rfl hS rfl
  by_cases hb : hi - lo = 1
  · exact sound_sextOne hE hb rfl (by omega)
  apply sound_sext_core (B := .index (tr be b) (.lit uw (hi - 1))) hE hlt (tr_sext_slice hlt hb)
  · exact selfWidth_of_typeOf (d := ⟨.vec 1, []⟩) (by simp only [typeOf, hR.1])
  intro v hv
  rw [evalPy_sel rfl] at hv
  obtain ⟨l, hre, rfl⟩ := Option.map_eq_some_iff.1 hv
  cases hrb : refPy be Γ σ b with
  | none => simp only [refPy_slice, hrb, reduceCtorEq] at hre
  | some l0 =>
    obtain ⟨x, el, lo0, rfl, g1⟩ := hR.resolve hrb
    simp only [refPy_slice, hrb, h1, h2, and_self, if_true, Option.some.injEq] at hre; subst hre
    have hloc : loc cb Γ σ (.index (tr be b) (.lit uw (hi - 1))) =
        some ⟨x, el, lo0 + lo + (hi - lo - 1), .vec 1, [], true⟩ := by
      simp only [loc_index, g1, eval, evalC_lit, Nat.mod_eq_of_lt h4, e1, e2, decide_true, Bool.and_self]
    rw [evalC_of_loc hloc]
    exact readLoc_msb σ x el (lo0 + lo) (hi - lo) (by omega)

/-- (4) a signal, struct member, explicit temporary or element of a list of signals, of vector type:
    extended with its last bit `x[n-1]` (a one-bit element by rule (1)) -/
theorem sound_sextSel (hR : SoundR be cb Γ σ ⟨.vec e.width, []⟩ e)
    (hc : isBaseSel e = true) (hpos : 0 < e.width) (hlt : e.width < w) :
    SoundV be cb Γ σ (.sext w e) := by
  have hs : isSel e = true := by
    cases e with
    | sig | field | index | tmpvar => rfl
    | _ => cases hc
  have hE : SoundV be cb Γ σ e := sound_ofRef hs hR rfl
  by_cases h1 : e.width = 1 ∧ sextAttrOrTmp e = false
  · exact sound_sextOne hE h1.1 h1.2 (by omega)
  apply sound_sext_core (B := .index (tr be e) (.num (e.width - 1))) hE hlt (tr_sext_sel hlt h1 hc)
  · exact selfWidth_of_typeOf (d := ⟨.vec 1, []⟩) (by simp only [typeOf, hR.1])
  intro v hv
  rw [evalPy_sel hs] at hv
  obtain ⟨l, hre, rfl⟩ := Option.map_eq_some_iff.1 hv
  obtain ⟨x, el, lo0, rfl, g1⟩ := hR.resolve hre
  have hloc : loc cb Γ σ (.index (tr be e) (.num (e.width - 1))) =
      some ⟨x, el, lo0 + (e.width - 1), .vec 1, [], true⟩ := by
    have e1 : eval cb Γ σ (selfWidth Γ (.num (e.width - 1))) (.num (e.width - 1)) = e.width - 1 := by
      rw [eval, evalC_num]; exact ext_self ..
    have e2 : e.width - 1 < e.width := by omega
    simp only [loc_index, g1, e1, e2, decide_true, Bool.and_self]
  rw [evalC_of_loc hloc]
  exact readLoc_msb σ x el lo0 e.width hpos

end cases

/-- soundness at either mode -/
def Sound (be : Backend) (cb : Bool) (Γ : Env) (σ : Store) : Option Decl → RExpr → Prop
  | none, e => SoundV be cb Γ σ e
  | some d, e => SoundR be cb Γ σ d e

theorem isSel_of_WTm {be Γ C d e} (h : WTm be Γ C (some d) e) : isSel e = true := by
  cases h <;> rfl

/-- nothing the SystemVerilog backend emits is signed: its loop variables are `int unsigned`, everything else is
    `logic`, a sized literal or a concatenation -/
theorem signedOf_tr_verilog (e : RExpr) : signedOf (tr .verilog e) = false := by
  induction e with
  | num | castC | sig | const | freevar | loopvar | field | index | slice | partsel | cat1 | concat => rfl
  | tmpvar x w ex => cases ex <;> rfl
  | reduce op | cmp op => cases op <;> rfl
  | cast w e ih | inv e ih => exact ih
  | zext w e ih => rw [tr_zext]; split; exact ih; rfl
  | trunc w e ih => rw [tr_trunc]; split <;> exact ih
  | sext w e ih =>
    -- either the operand itself or one of the concatenation templates
    rw [tr_sext]; split
    · exact ih
    · repeat' split
      all_goals rfl
  | bin op a b iha =>
    cases op with
    | shl | shr => exact iha
    | _ => show (signedOf (tr .verilog a) && _) = false; rw [iha]; rfl
  | ifexp c t f _ iht => show (signedOf (tr .verilog t) && _) = false; rw [iht]; rfl

theorem signSafe_verilog (e : RExpr) : signSafe .verilog e = true := by
  have hu : ∀ (c : Bool) (a b : RExpr), (!(c && sgnOf .verilog a && sgnOf .verilog b)) = true := fun c a b => by
    rw [sgnOf, signedOf_tr_verilog, Bool.and_false, Bool.false_and]; rfl
  induction e with
  | num | castC | sig | const | freevar | loopvar | tmpvar => rfl
  | cast _ _ ih | field _ _ _ ih | slice _ _ _ _ _ ih | cat1 _ ih | zext _ _ ih | sext _ _ ih | trunc _ _ ih
  | reduce _ _ ih | inv _ ih => exact ih
  | index _ _ _ ih1 ih2 | partsel _ _ _ ih1 ih2 | concat _ _ ih1 ih2 => show (_ && _) = true; rw [ih1, ih2]; rfl
  | bin op a b ih1 ih2 | cmp op a b ih1 ih2 => show (_ && _ && _) = true; rw [ih1, ih2, hu]; rfl
  | ifexp _ _ _ ih1 ih2 ih3 => show (_ && _ && _) = true; rw [ih1, ih2, ih3]; rfl

theorem signSafeS_verilog (s : RStmt) : signSafeS .verilog s = true := by
  induction s <;> simp_all [signSafeS, signSafe_verilog]

/-- `signSafe` requires `!(c && sa && sb)` at a binary node, `c`: the operator is `%` / an ordering comparison,
    `sa`, `sb`: the operands are signed.  When `c` holds, not both operands are signed. -/
theorem signSafe_guard {c x y : Bool} (h : (!(c && x && y)) = true) (hc : c = true) : (x && y) = false := by
  subst hc; cases x <;> cases y <;> first | rfl | cases h

theorem sound {be : Backend} {cb : Bool} {Γ : Env} {C : List (String × Nat)} {σ : Store}
    (hC : HoldsC σ C) {m : Option Decl} {e : RExpr} (h : WTm be Γ C m e) (hs : signSafe be e = true) :
    Sound be cb Γ σ m e := by
  induction h with
  | rsig h => exact sound_rvar rfl (refPy_sig ..) h
  | rtmp h => exact sound_rvar rfl (refPy_tmpvar ..) h
  | rfield hbe _ hf ih => subst hbe; exact sound_rfield (ih hs) hf
  | ridxU _ _ ihe ihi => exact sound_ridx (ihe (andL hs)) (ihi (andR hs)) .unpacked
  | ridxA _ _ ihe ihi => exact sound_ridx (ihe (andL hs)) (ihi (andR hs)) .packed
  | ridxB _ _ ihe ihi => exact sound_ridx (ihe (andL hs)) (ihi (andR hs)) .bit
  | rslice _ h1 h2 h3 h4 ih => exact sound_rslice (ih hs) h1 h2 h3 h4
  | rpartsel _ _ _ _ ihe ihb => exact sound_rpartsel (ihe (andL hs)) (ihb (andR hs))
  | ofRef h hw _ ih => exact sound_ofRef (isSel_of_WTm h) (ih hs) hw
  | num _ hv => exact sound_lit rfl rfl (evalPy_num ..) (Nat.mod_eq_of_lt hv)
  | castC _ hv => exact sound_lit rfl rfl (evalPy_castC ..) (by rw [Nat.mod_mod, Nat.mod_eq_of_lt hv])
  | tmpI h hw _ => exact sound_tmpI h hw
  | loopvar h _ hw => exact sound_loopvar h hw
  | constV hbe _ hv h hcv hm =>
    subst hbe
    exact sound_castIdent rfl rfl h (evalPy_const ..) (by rw [hC _ _ hm]; exact Nat.mod_eq_of_lt hcv) hv
  | constY hbe _ hv => subst hbe; exact sound_lit rfl rfl (evalPy_const ..) (Nat.mod_eq_of_lt hv)
  | freevarV hbe _ hv h hcv hm =>
    subst hbe
    exact sound_castIdent rfl rfl h (evalPy_freevar ..) (by rw [hC _ _ hm]; exact Nat.mod_eq_of_lt hcv) hv
  | freevarY hbe _ hv => subst hbe; exact sound_lit rfl rfl (evalPy_freevar ..) (Nat.mod_eq_of_lt hv)
  | castEq _ hw ih => exact sound_castEq (ih hs) hw
  | castY hbe _ hw ih => subst hbe; exact sound_castY (ih hs) hw
  | castV hbe _ hw hcf ih => subst hbe; exact sound_castV (ih hs) hw (.inr hcf)
  | cat1 _ ih => exact sound_cat1 (ih hs)
  | concat _ _ iha ihr => exact sound_concat (iha (andL hs)) (ihr (andR hs))
  | zext _ hw ih => exact sound_zext (ih hs) hw
  | trunc _ _ hw ih => exact sound_trunc (ih hs) hw
  | sextId _ hw ih => exact sound_sextId (ih hs) hw
  | sextOne _ h1 ha hw ih => exact sound_sextOne (ih hs) h1 ha hw
  | sextCmp h hss hw ih => exact sound_sextCmp (ih hs) hss (WTm.width_pos h rfl) hw
  | sextSlice _ h1 h2 h3 h4 hw ih => exact sound_sextSlice (ih hs) h1 h2 h3 h4 hw
  | sextSel _ hc hp hw ih => exact sound_sextSel (ih hs) hc hp hw
  | reduce _ ih => exact sound_reduce (ih hs)
  | inv _ ih => exact sound_inv (ih hs)
  | arith _ _ hw hop iha ihb =>
    exact sound_arith (iha (andL (andL hs))) (ihb (andR (andL hs))) hw hop fun hm =>
      signSafe_guard (andR hs) (by rw [hm]; rfl)
  | shl _ _ iha ihb => exact sound_shift (.inl rfl) (iha (andL (andL hs))) (ihb (andR (andL hs)))
  | shr _ _ iha ihb => exact sound_shift (.inr rfl) (iha (andL (andL hs))) (ihb (andR (andL hs)))
  | cmp _ _ hw iha ihb =>
    exact sound_cmp (iha (andL (andL hs))) (ihb (andR (andL hs))) hw fun hm => signSafe_guard (andR hs) hm
  | ifexp _ _ _ hw ihc iht ihf => exact sound_ifexp (ihc (andL (andL hs))) (iht (andR (andL hs))) (ihf (andR hs)) hw

/-- **Semantic preservation, value position.**  If the PyMTL simulation of a well-typed expression
    yields `v` (raises no exception), the emitted expression, evaluated in a context of the node's
    width under either reading `cb` of the size cast, yields `v`; its self-determined width is the
    node's width; and `v` fits that width.  `hs`: no ordering comparison / remainder of two SIGNED
    operands (always true for the SystemVerilog backend, `signSafe_verilog`; for the Yosys backend it
    excludes operators whose operands are all loop variables, `Props/C12.lean`). -/
theorem expr_correct (be : Backend) (cb : Bool) (Γ : Env) (C : List (String × Nat)) (σ : Store)
    (hC : HoldsC σ C) {e : RExpr} (hwt : WT be Γ C e) (hs : signSafe be e = true) {v : Nat}
    (hv : evalPy be Γ σ e = some v) :
    eval cb Γ σ e.width (tr be e) = v ∧ selfWidth Γ (tr be e) = e.width ∧ v < 2 ^ e.width := by
  have h : SoundV be cb Γ σ e := sound hC hwt hs
  exact ⟨h.self hv, h.1, h.lt hv⟩

/-- … and in a context of whatever type the enclosing expression propagates to the node -/
theorem expr_correct_ctx (be : Backend) (cb : Bool) (Γ : Env) (C : List (String × Nat)) (σ : Store)
    (hC : HoldsC σ C) {e : RExpr} (hwt : WT be Γ C e) (hs : signSafe be e = true) {v : Nat}
    (hv : evalPy be Γ σ e = some v) (S : Bool) (hS : S = true → signedOf (tr be e) = true) :
    evalC cb Γ σ e.width S (tr be e) = v :=
  (sound (cb := cb) hC hwt hs : SoundV be cb Γ σ e).ctx hv S hS

/-- **Semantic preservation, reference position**, with the type made explicit. -/
theorem ref_correctT (be : Backend) (cb : Bool) (Γ : Env) (C : List (String × Nat)) (σ : Store)
    (hC : HoldsC σ C) {e : RExpr} {d : Decl} (hwt : WTm be Γ C (some d) e) (hs : signSafe be e = true) {l : Loc}
    (hr : refPy be Γ σ e = some l) :
    loc cb Γ σ (tr be e) = some l ∧ l.ok = true ∧ l.ty = d.ty ∧ l.dims = d.dims ∧
      typeOf Γ (tr be e) = some d := by
  have h : SoundR be cb Γ σ d e := sound hC hwt hs
  obtain ⟨h1, h2, h3, h4⟩ := h.2 l hr
  exact ⟨h1, h2, h3, h4, h.1⟩

/-- **Semantic preservation, reference position.**  The emitted select chain resolves to the storage
    the PyMTL expression denotes, in range, and has its type. -/
theorem ref_correct (be : Backend) (cb : Bool) (Γ : Env) (C : List (String × Nat)) (σ : Store)
    (hC : HoldsC σ C) {e : RExpr} (hwt : WTref be Γ C e) (hs : signSafe be e = true) {l : Loc}
    (hr : refPy be Γ σ e = some l) :
    loc cb Γ σ (tr be e) = some l ∧ l.ok = true ∧ typeOf Γ (tr be e) = some ⟨l.ty, l.dims⟩ := by
  obtain ⟨d, hd⟩ := hwt
  obtain ⟨h1, h2, h3, h4, h5⟩ := ref_correctT be cb Γ C σ hC hd hs hr
  refine ⟨h1, h2, ?_⟩
  rw [h5, h3, h4]

theorem evalRhs_correct (be : Backend) (cb : Bool) (Γ : Env) (C : List (String × Nat)) (σ : Store)
    (hC : HoldsC σ C) {e : RExpr} (hwt : WT be Γ C e) (hs : signSafe be e = true) {v : Nat}
    (hv : evalPy be Γ σ e = some v) :
    evalRhs cb Γ σ e.width (tr be e) = v := by
  obtain ⟨h1, h2, h3⟩ := expr_correct be cb Γ C σ hC hwt hs hv
  simp [evalRhs, h2, h1, Nat.mod_eq_of_lt h3]

end PV.SVProofs
