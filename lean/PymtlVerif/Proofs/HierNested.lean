/-!
# Nested Python lists, for any kind of value

`Model/Hier.lean` (`SVal`) and `Model/HierHook.lean` (`HVal`) each have their own values, indexing and `enumerate`.
`Nested β` is what the two have in common, as an interface: which values are lists (`kids`), and the equations
their own indexing and `enumerate` satisfy; what the two breadth-first walks visit is stated through `Below`.
-/
namespace PV.Hier

/-- a type of values some of which are Python lists (`kids`), with the model's own indexing `v[i0][i1]…` (`path`) and
`(v, indices+(i,)) for i, v in enumerate(u)` (`enum`), known through their equations only -/
structure Nested (β : Type) where
  kids : β → Option (List β)
  path : β → List Nat → Option β
  enum : List Nat → Nat → List β → List (β × List Nat)
  path_nil : ∀ v, path v [] = some v
  path_cons : ∀ v i r, path v (i :: r) = (kids v).bind fun xs => xs[i]?.bind (path · r)
  enum_nil : ∀ ix k, enum ix k [] = []
  enum_cons : ∀ ix k v r, enum ix k (v :: r) = (v, ix ++ [k]) :: enum ix (k + 1) r

section nested
variable {β : Type} (N : Nested β)

theorem Nested.path_cons_eq_some {v w : β} {i : Nat} {r : List Nat} :
    N.path v (i :: r) = some w ↔ ∃ xs, N.kids v = some xs ∧ ∃ x, xs[i]? = some x ∧ N.path x r = some w := by
  simp only [N.path_cons, Option.bind_eq_some_iff]

theorem Nested.path_append (v : β) (a b : List Nat) :
    N.path v (a ++ b) = (N.path v a).bind (N.path · b) := by
  induction a generalizing v with
  | nil => rw [N.path_nil]; rfl
  | cons i r ih =>
    rw [List.cons_append, N.path_cons, N.path_cons]
    cases N.kids v with
    | none => rfl
    | some xs =>
      simp only [Option.bind_some]
      cases xs[i]? with
      | none => rfl
      | some w => exact ih w

theorem Nested.mem_enum {ix : List Nat} {k : Nat} {xs : List β} {p : β × List Nat} :
    p ∈ N.enum ix k xs ↔ ∃ i, xs[i]? = some p.1 ∧ p.2 = ix ++ [k + i] := by
  induction xs generalizing k with
  | nil => simp [N.enum_nil]
  | cons w r ih =>
    rw [N.enum_cons, List.mem_cons, ih]
    constructor
    · rintro (rfl | ⟨i, hi, hp⟩)
      · exact ⟨0, rfl, rfl⟩
      · exact ⟨i + 1, hi, by rw [hp, Nat.add_assoc, Nat.add_comm 1]⟩
    · rintro ⟨i | i, hi, hp⟩
      · exact Or.inl (Prod.ext (Option.some.inj hi).symm hp)
      · exact Or.inr ⟨i, hi, by rw [hp, Nat.add_assoc, Nat.add_comm 1]⟩

/-- `w` lies below the queue entry `p = (v, pre)`, and `ix` is `pre` followed by its path in `v` -/
def Below (w : β) (ix : List Nat) (p : β × List Nat) : Prop :=
  ∃ suf, ix = p.2 ++ suf ∧ N.path p.1 suf = some w

variable {N}

theorem below_nil {v w : β} {ix : List Nat} : Below N w ix (v, []) ↔ N.path v ix = some w :=
  ⟨fun ⟨_, e, h⟩ => e ▸ h, fun h => ⟨ix, rfl, h⟩⟩

theorem below_leaf {v w : β} {ix jx : List Nat} (hv : N.kids v = none) : Below N w ix (v, jx) ↔ (w, ix) = (v, jx) := by
  constructor
  · rintro ⟨suf, rfl, h⟩
    cases suf with
    | nil => cases (N.path_nil v).symm.trans h; rw [List.append_nil]
    | cons i r =>
      obtain ⟨xs, hk, -⟩ := N.path_cons_eq_some.1 h
      exact nomatch hv.symm.trans hk
  · rintro ⟨⟩
    exact ⟨[], (List.append_nil _).symm, N.path_nil _⟩

theorem below_list {v w : β} {xs : List β} {ix jx : List Nat} (hv : N.kids v = some xs) (hw : N.kids w = none) :
    Below N w ix (v, jx) ↔ ∃ p ∈ N.enum jx 0 xs, Below N w ix p := by
  constructor
  · rintro ⟨suf, rfl, h⟩
    cases suf with
    | nil => cases (N.path_nil v).symm.trans h; exact nomatch hw.symm.trans hv
    | cons i r =>
      obtain ⟨xs', hk, x, hi, h⟩ := N.path_cons_eq_some.1 h
      cases hv.symm.trans hk
      exact ⟨(x, jx ++ [i]), N.mem_enum.2 ⟨i, hi, by rw [Nat.zero_add]⟩, r, by simp, h⟩
  · rintro ⟨⟨x, pre⟩, hm, suf, rfl, h⟩
    obtain ⟨i, hi, rfl⟩ := N.mem_enum.1 hm
    exact ⟨i :: suf, by simp, N.path_cons_eq_some.2 ⟨xs, hv, x, hi, h⟩⟩

/-- a list's elements join the queue at the back: lying below one of them is lying below the list -/
theorem below_queue {v w : β} {xs : List β} {ix jx : List Nat} {q : List (β × List Nat)}
    (hv : N.kids v = some xs) (hw : N.kids w = none) :
    (∃ p ∈ q ++ N.enum jx 0 xs, Below N w ix p) ↔ Below N w ix (v, jx) ∨ ∃ p ∈ q, Below N w ix p := by
  rw [below_list hv hw, Or.comm]
  simp only [List.mem_append, or_and_right, exists_or]

end nested

end PV.Hier
