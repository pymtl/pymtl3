import PymtlVerif.Proofs.SVStmt
/-
C12: the signedness of the Yosys backend's loop variables (`integer __loopvar__<blk>_<i>`, every use rendered
`N'(__loopvar__<blk>_<i>)`).  Concrete witnesses for `Props/C12.lean`: `i < j` and `i % j` for two loop variables
of three bits are well typed, PyMTL evaluates them as unsigned numbers, the emitted text compares / divides
two's-complement numbers (IEEE 1800-2017 §6.24.1, §11.8.1).
-/
namespace PV.SVProofs
open PV.SV PV.VTr

/-- the two loop variables of block `up` as the two backends declare them -/
def sgΓ : Env := fun x =>
  if x = "__loopvar__up_i" ∨ x = "__loopvar__up_j" ∨ x = "i" ∨ x = "j" then some ⟨.vec 32, []⟩
  else if x = "o" then some ⟨.vec 3, []⟩ else none

/-- `i`, `j` hold the given values (under both spellings of their names) -/
def sgσ (i j : Nat) : Store :=
  (((Store.empty.set ("__loopvar__up_i", 0) i).set ("__loopvar__up_j", 0) j).set ("i", 0) i).set ("j", 0) j

def lvI : RExpr := .loopvar "up" "i" 3
def lvJ : RExpr := .loopvar "up" "j" 3

/-- `i < j` for `i, j in range(8)` -/
def exLt : RExpr := .cmp .lt lvI lvJ
/-- `i % j` -/
def exMod : RExpr := .bin .mod lvI lvJ
-- `i + j`, `i == j`, `i < 3'd5`: signed operands too, but translated correctly (`signSafe`)
def exAdd : RExpr := .bin .add lvI lvJ
def exEq : RExpr := .cmp .eq lvI lvJ
def exLtLit : RExpr := .cmp .lt lvI (.num 3 5)

theorem lv_wt (be : Backend) (x : String) (hx : x = "i" ∨ x = "j") : WT be sgΓ [] (.loopvar "up" x 3) := by
  refine .loopvar ?_ (by decide) (by decide)
  rcases hx with rfl | rfl <;> cases be <;> simp [loopVarName, sgΓ]

theorem exLt_wt (be : Backend) : WT be sgΓ [] exLt := .cmp (lv_wt be _ (.inl rfl)) (lv_wt be _ (.inr rfl)) rfl
theorem exMod_wt (be : Backend) : WT be sgΓ [] exMod :=
  .arith (lv_wt be _ (.inl rfl)) (lv_wt be _ (.inr rfl)) rfl (by decide)
theorem exAdd_wt (be : Backend) : WT be sgΓ [] exAdd :=
  .arith (lv_wt be _ (.inl rfl)) (lv_wt be _ (.inr rfl)) rfl (by decide)
theorem exEq_wt (be : Backend) : WT be sgΓ [] exEq := .cmp (lv_wt be _ (.inl rfl)) (lv_wt be _ (.inr rfl)) rfl
theorem exLtLit_wt (be : Backend) : WT be sgΓ [] exLtLit :=
  .cmp (lv_wt be _ (.inl rfl)) (.num (by decide) (by decide)) rfl

theorem exLt_notSafe : signSafe .yosys exLt = false := rfl
theorem exMod_notSafe : signSafe .yosys exMod = false := rfl
theorem exAdd_safe : signSafe .yosys exAdd = true := rfl
theorem exEq_safe : signSafe .yosys exEq = true := rfl
theorem exLtLit_safe : signSafe .yosys exLtLit = true := rfl

theorem sg_holdsC (i j : Nat) : HoldsC (sgσ i j) [] := by intro x v h; simp at h

/-- PyMTL: `1 < 5` -/
theorem exLt_py (be : Backend) : evalPy be sgΓ (sgσ 1 5) exLt = some 1 := by
  cases be <;> simp [exLt, lvI, lvJ, evalPy_cmp, evalPy_loopvar, loopVarName, sgσ, Store.get, Store.set, Store.getL,
    Store.setL, Store.empty, pyCmp, b2n]

/-- the text of the Yosys backend: `3'(i) < 3'(j)` is the signed comparison `1 < -3` -/
theorem exLt_yosys (cb : Bool) : eval cb sgΓ (sgσ 1 5) exLt.width (tr .yosys exLt) = 0 := by
  cases cb <;> simp [exLt, lvI, lvJ, RExpr.width, tr_cmp, tr_loopvar_yosys, trCmp, eval, evalC_bin, evalC_cast,
    evalC_sgn, evalC_ident, loc_ident, signedOf, selfWidth, loopVarName, sgΓ, sgσ, readLoc, Store.get, Store.set,
    Store.getL, Store.setL, Store.empty, binVal, toInt, isNeg, ext, PTy.width, b2n]

/-- the text of the SystemVerilog backend (`int unsigned i`): unsigned, as PyMTL -/
theorem exLt_verilog (cb : Bool) : eval cb sgΓ (sgσ 1 5) exLt.width (tr .verilog exLt) = 1 :=
  (expr_correct .verilog cb _ [] _ (sg_holdsC 1 5) (exLt_wt .verilog) (signSafe_verilog _) (exLt_py .verilog)).1

/-- PyMTL: `5 % 3 = 2` -/
theorem exMod_py (be : Backend) : evalPy be sgΓ (sgσ 5 3) exMod = some 2 := by
  cases be <;> simp [exMod, lvI, lvJ, evalPy_bin, evalPy_loopvar, loopVarName, sgσ, Store.get, Store.set, Store.getL,
    Store.setL, Store.empty, pyBin]

/-- the text of the Yosys backend: `3'(i) % 3'(j)` is the signed remainder `-3 % 3 = 0` -/
theorem exMod_yosys (cb : Bool) : eval cb sgΓ (sgσ 5 3) exMod.width (tr .yosys exMod) = 0 := by
  cases cb <;> simp [exMod, lvI, lvJ, RExpr.width, tr_bin, tr_loopvar_yosys, trBin, eval, evalC_bin, evalC_cast,
    evalC_sgn, evalC_ident, loc_ident, signedOf, selfWidth, loopVarName, sgΓ, sgσ, readLoc, Store.get, Store.set,
    Store.getL, Store.setL, Store.empty, binVal, toInt, ofInt, isNeg, ext, PTy.width]

/-- `s.o @= i + j` -/
def exAsg : RStmt := .assign true (.sig "o" 3) exAdd

theorem exAsg_wt (be : Backend) : WTs be sgΓ [] exAsg :=
  .assign (ty := .vec 3) (.rsig (by simp [sgΓ])) (exAdd_wt be) rfl (by simp)

theorem exAsg_safe : signSafeS .yosys exAsg = true := by
  simp [exAsg, signSafeS, signSafe, exAdd_safe]

end PV.SVProofs
