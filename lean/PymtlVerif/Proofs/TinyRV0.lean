import PymtlVerif.Model.TinyRV0
import PymtlVerif.Proofs.MemBytes
import PymtlVerif.Proofs.Pack
/-!
Lemmas about `Model/TinyRV0.lean`: words and instructions as six slots, what `decode` accepts (`decode_eq_some`, `decode_iff`),
byte memory (`storeWord` / `loadWord` as the four-byte access of `Proofs/MemBytes.lean`), register file
(`rget` / `rset`), the state invariant `State.Ok` preserved by `exec`, and what one step is and changes (`fetch_inv`, `stepX_inv`, `exec_frame`).
-/
namespace PV.TinyRV0

/-! ### encodings

A 32-bit word is its six R-type slots `f7 rs2 rs1 f3 rd opc` (`encR_fields`, `fields_encR`: the round trip of the layout
`layoutR`, `Proofs/Pack.lean`); the three immediates are made of the
slots `f7`, `rs2`, `rd` (`Fields.ofSlots`; a 12-bit immediate is two of them joined, `imm_cut`).  An instruction is six slots too (`Inst.slots`: `encode` is `encR` of them), and
`decodeF` accepts `i` on given slots exactly when `i` is well-formed and they are its slots (`enc_ofSlots`): `decode_iff`. -/

def Fields.ofSlots (f7 rs2 rs1 f3 rd opc : Nat) : Fields :=
  { opc := opc, rd := rd, f3 := f3, rs1 := rs1, rs2 := rs2, f7 := f7, immI := f7 * 32 + rs2, immS := f7 * 32 + rd,
    immB := f7 / 64 * 4096 + rd % 2 * 2048 + f7 % 64 * 32 + rd / 2 * 2 }

/-- the immediates are bit fields of `w` that overlap the slots `f7`, `rs2`, `rd`: cut them at the slot borders -/
theorem fields_ofSlots (w : Nat) :
    fields w = .ofSlots (fields w).f7 (fields w).rs2 (fields w).rs1 (fields w).f3 (fields w).rd (fields w).opc := by
  simp only [fields, Fields.ofSlots, Fields.mk.injEq, true_and]
  rw [← Pack.field_div w 25 6 1, ← Pack.field_div w 7 1 4, ← Pack.field_mod w 25 6 1, ← Pack.field_mod w 7 1 4]
  exact ⟨(Pack.field_split w 20 5 7).trans ((Nat.add_comm ..).trans (congrArg (· + _) (Nat.mul_comm ..))), rfl⟩

def layoutR (f7 rs2 rs1 f3 rd opc : Nat) : List (Nat × Nat) := [(7, opc), (5, rd), (3, f3), (5, rs1), (5, rs2), (7, f7)]

theorem encR_eq_pack (f7 rs2 rs1 f3 rd opc : Nat) : encR f7 rs2 rs1 f3 rd opc = Pack.pack (layoutR f7 rs2 rs1 f3 rd opc) := by
  simp only [encR, layoutR, Pack.pack]; omega

theorem split_fields (w : Nat) :
    Pack.split w [7, 5, 3, 5, 5, 7] = layoutR (fields w).f7 (fields w).rs2 (fields w).rs1 (fields w).f3 (fields w).rd (fields w).opc := by
  simp only [Pack.split, layoutR, fields, Nat.div_div_eq_div_mul]

theorem fields_encR (f7 rs2 rs1 f3 rd opc : Nat)
    (h7 : f7 < 128) (h2 : rs2 < 32) (h1 : rs1 < 32) (h3 : f3 < 8) (hd : rd < 32) (ho : opc < 128) :
    fields (encR f7 rs2 rs1 f3 rd opc) = .ofSlots f7 rs2 rs1 f3 rd opc ∧ encR f7 rs2 rs1 f3 rd opc < 2^32 := by
  have hf : Pack.Fits (layoutR f7 rs2 rs1 f3 rd opc) := ⟨ho, hd, h3, h1, h2, h7, trivial⟩
  have e := (split_fields _).symm.trans ((encR_eq_pack ..).symm ▸ Pack.split_pack _ hf)
  simp only [layoutR, List.cons.injEq, Prod.mk.injEq, true_and, and_true] at e
  obtain ⟨o, d, t, r1, r2, s⟩ := e
  exact ⟨by rw [fields_ofSlots, o, d, t, r1, r2, s], encR_eq_pack .. ▸ Pack.pack_lt _ hf⟩

theorem encR_fields (w : Nat) (h : w < 2^32) :
    encR (fields w).f7 (fields w).rs2 (fields w).rs1 (fields w).f3 (fields w).rd (fields w).opc = w := by
  rw [encR_eq_pack, ← split_fields, Pack.pack_split]; exact Nat.mod_eq_of_lt h

theorem fields_lt (w : Nat) : (fields w).rd < 32 ∧ (fields w).rs1 < 32 ∧ (fields w).rs2 < 32 ∧ (fields w).f7 < 128 :=
  ⟨Nat.mod_lt _ (by decide), Nat.mod_lt _ (by decide), Nat.mod_lt _ (by decide), Nat.mod_lt _ (by decide)⟩

theorem encI_eq (imm rs1 f3 rd opc : Nat) :
    encI imm rs1 f3 rd opc = encR (imm / 32) (imm % 32) rs1 f3 rd opc := by
  simp only [encI, encR]; omega

theorem encS_eq (imm rs2 rs1 f3 opc : Nat) :
    encS imm rs2 rs1 f3 opc = encR (imm / 32) rs2 rs1 f3 (imm % 32) opc := rfl

theorem encB_eq (imm rs2 rs1 f3 opc : Nat) :
    encB imm rs2 rs1 f3 opc =
      encR (imm / 4096 * 64 + imm / 32 % 64) rs2 rs1 f3 (imm / 2 % 16 * 2 + imm / 2048 % 2) opc := by
  simp only [encB, encR]; omega

theorem imm_cut {lo : Nat} (h : lo < 32) (hi : Nat) : (hi * 32 + lo) / 32 = hi ∧ (hi * 32 + lo) % 32 = lo := by
  rw [Nat.add_comm, Nat.mul_comm]; exact ⟨Pack.cat_div h hi, Pack.cat_mod h hi⟩

theorem imm_lt {hi lo : Nat} (h7 : hi < 128) (h : lo < 32) : hi * 32 + lo < 4096 := by
  rw [Nat.add_comm, Nat.mul_comm]; exact Pack.cat_lt h h7

/-- an instruction as the six slots of its word, `(f7, rs2, rs1, f3, rd, opc)` -/
def Inst.slots : Inst → Nat × Nat × Nat × Nat × Nat × Nat
  | .add rd rs1 rs2 => (0, rs2, rs1, 0, rd, 0x33)
  | .and rd rs1 rs2 => (0, rs2, rs1, 7, rd, 0x33)
  | .sll rd rs1 rs2 => (0, rs2, rs1, 1, rd, 0x33)
  | .srl rd rs1 rs2 => (0, rs2, rs1, 5, rd, 0x33)
  | .addi rd rs1 imm => (imm / 32, imm % 32, rs1, 0, rd, 0x13)
  | .lw rd rs1 imm => (imm / 32, imm % 32, rs1, 2, rd, 0x03)
  | .sw rs2 rs1 imm => (imm / 32, rs2, rs1, 2, imm % 32, 0x23)
  | .bne rs1 rs2 imm => (imm / 4096 * 64 + imm / 32 % 64, rs2, rs1, 1, imm / 2 % 16 * 2 + imm / 2048 % 2, 0x63)
  | .csrr rd csr => (csr / 32, csr % 32, 0, 2, rd, 0x73)
  | .csrw csr rs1 => (csr / 32, csr % 32, rs1, 1, 0, 0x73)

theorem encode_slots (i : Inst) :
    encode i = encR i.slots.1 i.slots.2.1 i.slots.2.2.1 i.slots.2.2.2.1 i.slots.2.2.2.2.1 i.slots.2.2.2.2.2 := by
  cases i <;> simp only [encode, Inst.slots, encI_eq, encS_eq, encB_eq]

theorem slots_lt (i : Inst) (h : i.Wf) : i.slots.1 < 128 ∧ i.slots.2.1 < 32 ∧ i.slots.2.2.1 < 32 ∧ i.slots.2.2.2.1 < 8 ∧
    i.slots.2.2.2.2.1 < 32 ∧ i.slots.2.2.2.2.2 < 128 := by
  cases i <;> simp only [Inst.Wf] at h <;> simp only [Inst.slots]
  case bne => exact ⟨by omega, h.2.1, h.1, by decide, by omega, by decide⟩
  -- a slot is a constant, a register (`h`) or half of a 12-bit immediate
  all_goals simp only [h, Nat.div_lt_of_lt_mul, Nat.mod_lt, Nat.reduceMul, Nat.reduceLT, and_self]

theorem immB_parts (a b c d : Nat) (hb : b < 2) (hc : c < 64) (hd : d < 16) :
    let imm := a * 4096 + b * 2048 + c * 32 + d * 2
    imm / 4096 = a ∧ imm / 32 % 64 = c ∧ imm / 2 % 16 = d ∧ imm / 2048 % 2 = b := by
  refine ⟨?_, ?_, ?_, ?_⟩ <;> omega

/-- the B immediate read from the slots `f7 = a * 64 + c` and `rd = d * 2 + b` -/
theorem immB_slots (a b c d : Nat) (hb : b < 2) (hc : c < 64) :
    (a * 64 + c) / 64 * 4096 + (d * 2 + b) % 2 * 2048 + (a * 64 + c) % 64 * 32 + (d * 2 + b) / 2 * 2 =
      a * 4096 + b * 2048 + c * 32 + d * 2 := by
  omega

/-- the fields `decodeF` looks at to return `i`, and the fields it takes the operands of `i` from -/
def Inst.Enc : Inst → Fields → Prop
  | .add rd rs1 rs2, f => f.opc = 0x33 ∧ f.f7 = 0 ∧ f.f3 = 0 ∧ f.rd = rd ∧ f.rs1 = rs1 ∧ f.rs2 = rs2
  | .sll rd rs1 rs2, f => f.opc = 0x33 ∧ f.f7 = 0 ∧ f.f3 = 1 ∧ f.rd = rd ∧ f.rs1 = rs1 ∧ f.rs2 = rs2
  | .srl rd rs1 rs2, f => f.opc = 0x33 ∧ f.f7 = 0 ∧ f.f3 = 5 ∧ f.rd = rd ∧ f.rs1 = rs1 ∧ f.rs2 = rs2
  | .and rd rs1 rs2, f => f.opc = 0x33 ∧ f.f7 = 0 ∧ f.f3 = 7 ∧ f.rd = rd ∧ f.rs1 = rs1 ∧ f.rs2 = rs2
  | .addi rd rs1 imm, f => f.opc = 0x13 ∧ f.f3 = 0 ∧ f.rd = rd ∧ f.rs1 = rs1 ∧ f.immI = imm
  | .lw rd rs1 imm, f => f.opc = 0x03 ∧ f.f3 = 2 ∧ f.rd = rd ∧ f.rs1 = rs1 ∧ f.immI = imm
  | .sw rs2 rs1 imm, f => f.opc = 0x23 ∧ f.f3 = 2 ∧ f.rs2 = rs2 ∧ f.rs1 = rs1 ∧ f.immS = imm
  | .bne rs1 rs2 imm, f => f.opc = 0x63 ∧ f.f3 = 1 ∧ f.rs1 = rs1 ∧ f.rs2 = rs2 ∧ f.immB = imm
  | .csrr rd csr, f => f.opc = 0x73 ∧ f.f3 = 2 ∧ f.rs1 = 0 ∧ f.rd = rd ∧ f.immI = csr
  | .csrw csr rs1, f => f.opc = 0x73 ∧ f.f3 = 1 ∧ f.rd = 0 ∧ f.immI = csr ∧ f.rs1 = rs1

theorem ite_eq_some {α} {c : Prop} [Decidable c] {a b : Option α} {x : α} :
    (if c then a else b) = some x ↔ c ∧ a = some x ∨ ¬c ∧ b = some x := by split <;> simp [*]

/-- the if-chain opened into a disjunction; only one branch returns a given constructor, the guards before it are arithmetic -/
theorem decodeF_eq_some (f : Fields) (i : Inst) : decodeF f = some i ↔ i.Enc f := by
  simp only [decodeF, ite_eq_some, Option.some.injEq, reduceCtorEq, and_false, or_false]
  cases i <;> simp [Inst.Enc] <;> omega

theorem decode_eq_some (w : Nat) (i : Inst) : decode w = some i ↔ w < 2^32 ∧ i.Enc (fields w) := by
  simp only [decode, ite_eq_some, reduceCtorEq, and_false, or_false, decodeF_eq_some]

theorem enc_ofSlots (i : Inst) (f7 rs2 rs1 f3 rd opc : Nat) (h7 : f7 < 128) (h2 : rs2 < 32) (h1 : rs1 < 32) (hd : rd < 32) :
    i.Enc (.ofSlots f7 rs2 rs1 f3 rd opc) ↔ i.Wf ∧ i.slots = (f7, rs2, rs1, f3, rd, opc) := by
  constructor
  · intro h
    cases i <;> simp only [Inst.Enc, Fields.ofSlots] at h <;> simp only [Inst.Wf, Inst.slots, Prod.mk.injEq]
    case add | and | sll | srl =>
      obtain ⟨rfl, rfl, rfl, rfl, rfl, rfl⟩ := h
      exact ⟨⟨hd, h1, h2⟩, rfl, rfl, rfl, rfl, rfl, rfl⟩
    case bne =>
      -- the B immediate is scattered over `f7` and `rd`: `immB_parts` reads the slots off it
      obtain ⟨rfl, rfl, rfl, rfl, rfl⟩ := h
      obtain ⟨p1, p2, p3, p4⟩ := immB_parts (f7 / 64) (rd % 2) (f7 % 64) (rd / 2) (by omega) (by omega) (by omega)
      simp only [p1, p2, p3, p4, and_true, true_and]; clear p1 p2 p3 p4; omega
    -- I and S format: the immediate is `f7` joined to `rs2` (to `rd`): in range, and cut into the two again
    all_goals
      obtain ⟨rfl, rfl, rfl, rfl, rfl⟩ := h
      simp only [imm_cut h2 f7, imm_cut hd f7, imm_lt h7 h2, imm_lt h7 hd, hd, h1, h2, and_self]
  · rintro ⟨hwf, e⟩
    cases i <;> simp only [Inst.slots, Prod.mk.injEq] at e <;> obtain ⟨rfl, rfl, rfl, rfl, rfl, rfl⟩ := e <;>
      simp only [Inst.Enc, Fields.ofSlots, true_and, and_true]
    -- what is left is the immediate put together again: `immB_slots` in the B format, two halves joined in the I and S formats
    case bne => exact (immB_slots _ _ _ _ (by omega) (by omega)).trans (by have := hwf.2.2; omega)
    all_goals exact Nat.div_add_mod' _ 32

theorem decode_iff (w : Nat) (i : Inst) : decode w = some i ↔ i.Wf ∧ encode i = w := by
  obtain ⟨hd, h1, h2, h7⟩ := fields_lt w
  rw [decode_eq_some, encode_slots]
  constructor
  · rintro ⟨hw, h⟩
    rw [fields_ofSlots, enc_ofSlots i _ _ _ _ _ _ h7 h2 h1 hd] at h
    rw [h.2]; exact ⟨h.1, encR_fields w hw⟩
  · rintro ⟨hwf, rfl⟩
    -- the slots of a well-formed instruction are in range, so they are the fields of its word
    have hb := slots_lt i hwf
    obtain ⟨e, lt⟩ := fields_encR _ _ _ _ _ _ hb.1 hb.2.1 hb.2.2.1 hb.2.2.2.1 hb.2.2.2.2.1 hb.2.2.2.2.2
    exact ⟨lt, e ▸ (enc_ofSlots i _ _ _ _ _ _ hb.1 hb.2.1 hb.2.2.1 hb.2.2.2.2.1).2 ⟨hwf, rfl⟩⟩

theorem xcel_range (c : Nat) : isXcelCsr c = true ↔ 2016 ≤ c ∧ c ≤ 2047 := by simp [isXcelCsr]

/-- an accelerator CSR is neither of the manager's two: the facts by which the generated `if` chains on the CSR number pick the accelerator arm -/
theorem xcel_csr {c : Nat} (h : isXcelCsr c = true) : c ≠ 0x7C0 ∧ c ≠ 0xFC0 ∧ 2016 ≤ c ∧ c ≤ 2047 := by
  have := (xcel_range c).1 h; omega

/-- the generated code spells the test out; folded (as a `↓` rule where `simp` would take the `&&` apart first), a hypothesis
`isXcelCsr c = false` decides it -/
theorem xcel_test (c : Nat) : (decide (2016 ≤ c) && decide (c ≤ 2047)) = isXcelCsr c := rfl

/-! ### memory

The ISA's memory is the byte store of `Model/Mem.lean` read through `Mem.get`, and a word access is the little-endian access of
four bytes there: what is needed of `loadWord` / `storeWord` is read off `Proofs/MemBytes.lean`.  Two things are called `Mem` here:
`Mem.get_set` … are about the hash map `TinyRV0.Mem`; the lemmas of the byte store are those written `PV.Mem.…` in full. -/

section
open PV.Mem (readLE writeLE upd)

theorem Mem.get_set (m : Mem) (a b c : Nat) : (m.set a b).get c = if a = c then b else m.get c := by
  simp [Mem.get, Mem.set, Std.HashMap.getD_insert]

theorem Mem.get_empty (a : Nat) : Mem.empty.get a = 0 := by
  simp [Mem.get, Mem.empty]

theorem Mem.get_set_upd (m : Mem) (a b : Nat) : (m.set a b).get = upd m.get a b :=
  funext fun c => by rw [Mem.get_set, upd]; exact ite_congr (propext eq_comm) (fun _ => rfl) (fun _ => rfl)

theorem loadWord_eq (m : Mem) (a : Nat) : loadWord m a = readLE m.get a 4 := by
  have e2 : a + 1 + 1 = a + 2 := rfl
  have e3 : a + 2 + 1 = a + 3 := rfl
  simp only [loadWord, readLE, e2, e3]; omega

theorem storeWord_eq (m : Mem) (a v : Nat) : (storeWord m a v).get = writeLE m.get a 4 v := by
  simp only [storeWord, writeLE, Mem.get_set_upd, Nat.div_div_eq_div_mul, Nat.add_assoc]

theorem loadWord_storeWord_same (m : Mem) (a v : Nat) : loadWord (storeWord m a v) a = v % W32 := by
  rw [loadWord_eq, storeWord_eq, PV.Mem.read_write 4 m.get a v]; rfl

theorem loadWord_storeWord_disjoint (m : Mem) (a v a' : Nat) (h : a' + 4 ≤ a ∨ a + 4 ≤ a') :
    loadWord (storeWord m a v) a' = loadWord m a' := by
  rw [loadWord_eq, loadWord_eq, storeWord_eq]
  exact PV.Mem.read_congr 4 _ m.get a' fun b h1 h2 => PV.Mem.write_frame 4 m.get a v b (by omega)

/-- a rewrite rule for concrete addresses: one of the two tests decides; otherwise the term is left as it is -/
theorem lw_sw (m : Mem) (a v a' : Nat) : loadWord (storeWord m a v) a' =
    if a' = a then v % W32 else if a' + 4 ≤ a ∨ a + 4 ≤ a' then loadWord m a' else loadWord (storeWord m a v) a' := by
  split
  · next h => subst h; exact loadWord_storeWord_same m _ v
  · split
    · next h => exact loadWord_storeWord_disjoint m a v a' h
    · rfl

theorem loadWord_lt (m : Mem) (a : Nat) (h : ∀ c, m.get c < 256) : loadWord m a < W32 :=
  loadWord_eq m a ▸ PV.Mem.readLE_lt 4 m.get a h

theorem storeWord_get_lt (m : Mem) (a v : Nat) (h : ∀ c, m.get c < 256) : ∀ c, (storeWord m a v).get c < 256 :=
  storeWord_eq m a v ▸ PV.Mem.write_bytes 4 m.get a v h
end

theorem rset_length (rs : List Nat) (r v : Nat) : (rset rs r v).length = rs.length := by
  unfold rset; split <;> simp

theorem rget_rset (rs : List Nat) (r v r' : Nat) :
    rget (rset rs r v) r' = if r = r' ∧ r ≠ 0 ∧ r < rs.length then v else rget rs r' := by
  unfold rset rget
  by_cases h0 : r = 0
  · simp [h0]
  · simp only [h0, if_false, List.getD_eq_getElem?_getD, List.getElem?_set]
    by_cases h1 : r = r'
    · subst h1
      by_cases h2 : r < rs.length
      · simp [h2, h0]
      · simp [h2, h0]
    · simp [h1]

theorem rget_rset_same (rs : List Nat) (r v : Nat) (h0 : r ≠ 0) (hl : r < rs.length) : rget (rset rs r v) r = v := by
  rw [rget_rset, if_pos ⟨rfl, h0, hl⟩]

theorem rget_rset_zero (rs : List Nat) (r v : Nat) : rget (rset rs r v) 0 = rget rs 0 := by
  rw [rget_rset]; split
  · next h => exact absurd h.1 h.2.1
  · rfl

theorem rset_lt (rs : List Nat) (r v : Nat) (h : ∀ r', rget rs r' < W32) (hv : v < W32) :
    ∀ r', rget (rset rs r v) r' < W32 := by
  intro r'; rw [rget_rset]; split
  · exact hv
  · exact h r'

theorem mod_W32_lt (x : Nat) : x % W32 < W32 := Nat.mod_lt _ (by decide)

/-- well-formed architectural state: 32 registers with x0 hard-wired to 0, 32-bit register, FIFO and PC values, a memory of bytes -/
structure State.Ok (s : State) : Prop where
  len : s.regs.length = 32
  x0 : rget s.regs 0 = 0
  regs : ∀ r, rget s.regs r < W32
  mem : ∀ a, s.mem.get a < 256
  inp : ∀ v ∈ s.inp, v < W32
  out : ∀ v ∈ s.out, v < W32
  pc : s.pc < W32

theorem State.Ok.write {s : State} (h : s.Ok) (rd v : Nat) (hv : v < W32) :
    State.Ok { s with pc := (s.pc + 4) % W32, regs := rset s.regs rd v } :=
  ⟨by simp [rset_length, h.len], by simp [rget_rset_zero, h.x0], rset_lt _ _ _ h.regs hv, h.mem, h.inp, h.out,
    mod_W32_lt _⟩

theorem State.Ok.jump {s : State} (h : s.Ok) (pc : Nat) : State.Ok { s with pc := pc % W32 } :=
  ⟨h.len, h.x0, h.regs, h.mem, h.inp, h.out, mod_W32_lt _⟩

theorem exec_ok (s s' : State) (i : Inst) (h : s.Ok) (he : exec s i = .ok s') : s'.Ok := by
  cases i <;> simp only [exec] at he
  case add | sll | addi => cases he; exact h.write _ _ (mod_W32_lt _)
  case and rd rs1 rs2 => cases he; exact h.write _ _ (Nat.lt_of_le_of_lt Nat.and_le_left (h.regs rs1))
  case srl rd rs1 rs2 => cases he; exact h.write _ _ (Nat.lt_of_le_of_lt (Nat.shiftRight_le _ _) (h.regs rs1))
  case lw =>
    split at he <;> cases he
    exact h.write _ _ (loadWord_lt _ _ h.mem)
  case sw =>
    split at he <;> cases he
    exact ⟨h.len, h.x0, h.regs, storeWord_get_lt _ _ _ h.mem, h.inp, h.out, mod_W32_lt _⟩
  case bne => split at he <;> cases he <;> exact h.jump _
  case csrr =>
    split at he
    · split at he <;> cases he
      next v rest hin =>
      have hi := h.inp
      rw [hin] at hi
      exact State.Ok.write (s := { s with inp := rest })
        ⟨h.len, h.x0, h.regs, h.mem, fun x hx => hi x (List.mem_cons_of_mem _ hx), h.out, h.pc⟩ _ v
        (hi v List.mem_cons_self)
    · cases he
  case csrw csr rs1 =>
    split at he <;> cases he
    refine ⟨h.len, h.x0, h.regs, h.mem, h.inp, fun v hv => ?_, mod_W32_lt _⟩
    rcases List.mem_append.1 hv with hv | hv
    · exact h.out v hv
    · rw [List.mem_singleton.1 hv]; exact h.regs rs1

theorem fetch_inv {s : State} {i : Inst} (h : fetch s = .ok i) :
    addrOk s.pc = true ∧ decode (loadWord s.mem s.pc) = some i := by
  unfold fetch at h
  split at h
  · split at h
    · cases h; exact ⟨‹_›, ‹_›⟩
    · cases h
  · cases h

theorem fetch_eq {s : State} {i : Inst} (ha : addrOk s.pc = true) (hd : decode (loadWord s.mem s.pc) = some i) :
    fetch s = .ok i := by
  rw [fetch, if_pos ha, hd]

theorem step_inv {s s' : State} (hs : step s = .ok s') : ∃ i, fetch s = .ok i ∧ exec s i = .ok s' := by
  unfold step at hs
  split at hs
  · exact ⟨_, ‹_›, hs⟩
  · cases hs

theorem stepX_inv {s : StateX} {r : Except Stop StateX} (h : stepX s = r) (hu : r ≠ .error .undefined)
    (hi : r ≠ .error .illegal) : ∃ i, decode (loadWord s.core.mem s.core.pc) = some i ∧ execX s i = r := by
  unfold stepX fetch at h
  by_cases ha : addrOk s.core.pc = true
  · rw [if_pos ha] at h
    cases hd : decode (loadWord s.core.mem s.core.pc) with
    | none => rw [hd] at h; exact absurd h.symm hi
    | some i => rw [hd] at h; exact ⟨i, rfl, h⟩
  · rw [if_neg ha] at h; exact absurd h.symm hu

/-- "no register written" is a write to x0 -/
theorem exec_frame (s s' : State) (i : Inst) (he : exec s i = .ok s') :
    (∃ rd v, s'.regs = rset s.regs rd v) ∧ (s'.out = s.out ∨ ∃ x, s'.out = s.out ++ [x]) ∧
    s'.pc = match (generalizing := false) i with
      | .bne rs1 rs2 imm =>
        if rget s.regs rs1 ≠ rget s.regs rs2 then (s.pc + sext13 imm) % W32 else (s.pc + 4) % W32
      | _ => (s.pc + 4) % W32 := by
  have nw : ∃ rd v, s.regs = rset s.regs rd v := ⟨0, 0, rfl⟩
  cases i <;> simp only [exec] at he
  case add | and | sll | srl | addi => cases he; exact ⟨⟨_, _, rfl⟩, .inl rfl, rfl⟩
  case lw => split at he <;> cases he; exact ⟨⟨_, _, rfl⟩, .inl rfl, rfl⟩
  case sw => split at he <;> cases he; exact ⟨nw, .inl rfl, rfl⟩
  case bne =>
    split at he <;> cases he
    · next hc => exact ⟨nw, .inl rfl, (if_pos hc).symm⟩
    · next hc => exact ⟨nw, .inl rfl, (if_neg hc).symm⟩
  case csrr =>
    split at he
    · split at he <;> cases he; exact ⟨⟨_, _, rfl⟩, .inl rfl, rfl⟩
    · cases he
  case csrw => split at he <;> cases he; exact ⟨nw, .inr ⟨_, rfl⟩, rfl⟩

end PV.TinyRV0
