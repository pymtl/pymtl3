import PymtlVerif.Proofs.Nets
/-!
# `@s.func` helper functions: the set of functions an update block reaches

`HDesign.reached` (frontier expansion over "calls", fuel = number of functions, proved sufficient)
is exactly the reflexive-transitive closure of the call relation from the block's direct calls, and
the flattened design gives a block exactly its own writes plus the writes of the functions it
reaches.
-/
namespace PV.Nets

/-- `b` is reached from `a` by following calls -/
inductive DReach (succ : Nat → List Nat) : Nat → Nat → Prop
  | refl (a : Nat) : DReach succ a a
  | step {a b c : Nat} : DReach succ a b → c ∈ succ b → DReach succ a c

/-- the calls of a well-formed design stay inside the function table -/
def HDesign.CallsOk (H : HDesign) : Prop := ∀ x, ∀ y ∈ H.callees x, y < H.funcs.length

theorem HDesign.callsOk_of_wf {H : HDesign} (h : H.wf = true) : H.CallsOk := by
  unfold HDesign.wf at h
  simp only [Bool.and_eq_true, decide_eq_true_eq, List.all_eq_true] at h
  intro x y hy
  unfold HDesign.callees at hy
  rw [List.getD_eq_getElem?_getD] at hy
  by_cases hx : x < H.funcs.length
  · rw [List.getElem?_eq_getElem hx] at hy
    exact h.2 _ (List.getElem_mem hx) y hy
  · rw [List.getElem?_eq_none (Nat.le_of_not_lt hx)] at hy
    cases hy

theorem HDesign.mem_reached (H : HDesign) (hc : H.CallsOk) (roots : List Nat) (f : Nat) :
    f ∈ H.reached roots ↔ ∃ r ∈ roots, DReach H.callees r f := by
  unfold HDesign.reached
  constructor
  · exact dclosure_induction (P := fun f => ∃ r ∈ roots, DReach H.callees r f)
      (fun a b ⟨r, hr, hra⟩ hb => ⟨r, hr, DReach.step hra hb⟩) _ _
      (fun a ha => ⟨a, (mem_dedup roots a).mp ha, DReach.refl a⟩) f
  · rintro ⟨r, hr, hreach⟩
    have hcl := dclosure_closed (List.range H.funcs.length) (fun x y hy => List.mem_range.mpr (hc x y hy))
      H.funcs.length (dedup roots) (Nat.le_trans (List.length_filter_le _ _) (Nat.le_of_eq List.length_range))
    induction hreach with
    | refl => exact subset_dclosure _ _ r ((mem_dedup roots r).mpr hr)
    | step _ hs ih => exact (dclosed_iff _).mp hcl _ ih _ hs

theorem HDesign.flatten_writes (H : HDesign) (hc : H.CallsOk) (b o : Nat) :
    (b, o) ∈ H.flatten.writes ↔
      ((b, o) ∈ H.base.writes ∨
        (b < H.base.blks.length ∧ ∃ r ∈ H.bcalls.getD b [], ∃ f, DReach H.callees r f ∧ o ∈ (H.funcs.getD f default).writes)) := by
  rw [Design.mem_writes, Design.mem_writes]
  unfold HDesign.flatten
  simp only [List.getElem?_mapIdx]
  constructor
  · rintro ⟨blk, hblk, op, hw⟩
    cases hb : H.base.blks[b]? with
    | none => rw [hb] at hblk; cases hblk
    | some b0 =>
      rw [hb] at hblk
      cases hblk
      simp only [List.mem_append, List.mem_flatMap, List.mem_map, Prod.mk.injEq] at hw
      rcases hw with hw | ⟨f, hf, o', ho', rfl, _⟩
      · exact Or.inl ⟨b0, rfl, op, hw⟩
      · obtain ⟨r, hr, hreach⟩ := (H.mem_reached hc _ f).mp hf
        exact Or.inr ⟨(List.getElem?_eq_some_iff.mp hb).1, r, hr, f, hreach, ho'⟩
  · rintro (⟨blk, hblk, op, hw⟩ | ⟨hlt, r, hr, f, hreach, ho⟩)
    · exact ⟨_, by rw [hblk]; rfl, op, List.mem_append_left _ hw⟩
    · refine ⟨_, by rw [List.getElem?_eq_getElem hlt]; rfl, (if H.base.blks[b].ff then Op.ff else Op.at), ?_⟩
      simp only [List.mem_append, List.mem_flatMap, List.mem_map, Prod.mk.injEq]
      exact Or.inr ⟨f, (H.mem_reached hc _ f).mpr ⟨r, hr, hreach⟩, o, ho, rfl, trivial⟩

end PV.Nets
