import PymtlVerif.Model.Cksum
import PymtlVerif.Proofs.ListFacts
import PymtlVerif.Proofs.Pack
/-!
Helper lemmas about `Model/Cksum.lean`: each step of the FL and RTL algorithms
equals the specification step, the running sums stay below 2^16, and pack/unpack round trip.
-/
namespace PV.Cksum

theorem and_ffff (x : Nat) : x &&& 0xffff = x % 65536 := by
  have := Nat.and_two_pow_sub_one_eq_mod x 16
  simpa using this

theorem flStep_eq (s : Nat × Nat) (w : Nat) : flStep s w = specStep s w := by
  simp only [flStep, specStep, and_ffff]
  have h : (2:Nat)^16 = 65536 := by decide
  rw [h]; simp

theorem rtlStep_eq (s : Nat × Nat) (w : Nat) (hs1 : s.1 < 65536) (hs2 : s.2 < 65536) (hw : w < 65536) :
    rtlStep s w = specStep s w := by
  simp only [rtlStep, specStep, and_ffff]
  have h32 : (2:Nat)^32 = 4294967296 := by decide
  rw [h32]
  have e1 : (w + s.1) % 4294967296 = w + s.1 := Nat.mod_eq_of_lt (by omega)
  rw [e1]
  have e2 : ((w + s.1) % 65536 + s.2) % 4294967296 = (w + s.1) % 65536 + s.2 :=
    Nat.mod_eq_of_lt (by omega)
  rw [e2, Nat.add_comm w s.1, Nat.add_comm ((s.1 + w) % 65536) s.2]

theorem specStep_lt (s : Nat × Nat) (w : Nat) : (specStep s w).1 < 65536 ∧ (specStep s w).2 < 65536 := by
  simp only [specStep]; omega

theorem spec_inv (ws : List Nat) (s : Nat × Nat) (h1 : s.1 < 65536) (h2 : s.2 < 65536) :
    (ws.foldl specStep s).1 < 65536 ∧ (ws.foldl specStep s).2 < 65536 :=
  foldl_inv specStep (fun s => s.1 < 65536 ∧ s.2 < 65536) (fun s w _ => specStep_lt s w) ws s ⟨h1, h2⟩

theorem fl_fold (ws : List Nat) (s : Nat × Nat) : ws.foldl flStep s = ws.foldl specStep s := by
  induction ws generalizing s with
  | nil => rfl
  | cons w ws ih => simp only [List.foldl_cons, flStep_eq, ih]

theorem rtl_fold (ws : List Nat) (s : Nat × Nat) (h1 : s.1 < 65536) (h2 : s.2 < 65536)
    (hws : ∀ w ∈ ws, w < 65536) : ws.foldl rtlStep s = ws.foldl specStep s := by
  induction ws generalizing s with
  | nil => rfl
  | cons w ws ih =>
    simp only [List.foldl_cons]
    rw [rtlStep_eq s w h1 h2 (hws w (by simp))]
    exact ih _ (specStep_lt s w).1 (specStep_lt s w).2 fun x hx => hws x (by simp [hx])

theorem fl_eq_spec (ws : List Nat) : cksumFL ws = cksumSpec ws := by
  simp only [cksumFL, cksumSpec, fl_fold]

theorem rtl_eq_spec (ws : List Nat) (hws : ∀ w ∈ ws, w < 65536) : cksumRTL ws = cksumSpec ws := by
  simp only [cksumRTL, cksumSpec]
  rw [rtl_fold ws (0,0) (by decide) (by decide) hws]
  obtain ⟨h1, h2⟩ := spec_inv ws (0,0) (by decide) (by decide)
  generalize ws.foldl specStep (0,0) = s at h1 h2
  have h32 : (2:Nat)^32 = 4294967296 := by decide
  rw [Nat.shiftLeft_eq, h32]
  have h16 : (2:Nat)^16 = 65536 := by decide
  rw [h16, Nat.mod_eq_of_lt (by omega)]
  -- disjoint bits: s.2 * 2^16 ||| s.1 = s.2 * 2^16 + s.1
  have := Nat.shiftLeft_add_eq_or_of_lt (i := 16) (b := s.1) (by omega : s.1 < 2^16) s.2
  rw [Nat.shiftLeft_eq, h16] at this
  rw [← this]

theorem unpack_pack (ws : List Nat) (hws : ∀ w ∈ ws, w < 65536) :
    unpackWords ws.length (packWords ws) = ws := by
  induction ws with
  | nil => rfl
  | cons w ws ih =>
    have hw : w < 65536 := hws w (by simp)
    simp only [List.length_cons, unpackWords, packWords]
    rw [Pack.cat_mod hw, Pack.cat_div hw, ih (fun x hx => hws x (by simp [hx]))]

theorem unpack_lt (n b : Nat) : ∀ w ∈ unpackWords n b, w < 65536 := by
  induction n generalizing b with
  | zero => intro w hw; simp [unpackWords] at hw
  | succ n ih =>
    intro w hw
    simp only [unpackWords, List.mem_cons] at hw
    rcases hw with hw | hw
    · omega
    · exact ih _ w hw

theorem unpack_length (n b : Nat) : (unpackWords n b).length = n := by
  induction n generalizing b with
  | zero => rfl
  | succ n ih => simp [unpackWords, ih]

end PV.Cksum
