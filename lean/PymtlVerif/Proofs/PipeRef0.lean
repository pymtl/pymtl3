import PymtlVerif.Proofs.PipeSpec
/-!
Refinement proof, part 0: consequences of `Runs` (each of the first `N` ISA steps is the uniform step `U.next`),
and how the program-order indices of the stages move with the hand-overs between stages.
-/
namespace PV.Pipe
open PV.TinyRV0 (W32 Mem loadWord storeWord rget rset)

theorem runs_step {p : Prog} {N : Nat} (h : Runs p N) {j : Nat} (hj : j < N) :
    isaAt p (j + 1) = U.next (isaAt p j) (wordAt p j) ∧ RowOk (isaAt p j) (wordAt p j) := by
  obtain ⟨⟨s', hs⟩, hw⟩ := h j hj
  have h1 : isaAt p (j + 1) = s' := by simp [isaAt, hs]
  obtain ⟨ins, hf, he⟩ := TinyRV0.step_inv hs
  obtain ⟨a, b⟩ := exec_uniform _ _ _ _ (hw ▸ (TinyRV0.fetch_inv hf).2) he
  exact ⟨h1.trans a, b⟩

theorem regs_len {p : Prog} {N : Nat} (h : Runs p N) (j : Nat) (hj : j ≤ N) : (isaAt p j).regs.length = 32 := by
  induction j with
  | zero => rfl
  | succ j ih =>
    rw [(runs_step h hj).1]
    simp only [U.next]
    split
    · rw [TinyRV0.rset_length]; exact ih (Nat.le_of_lt hj)
    · exact ih (Nat.le_of_lt hj)

theorem regs_next {p : Prog} {N : Nat} (h : Runs p N) {j : Nat} (hj : j < N) (r : Nat) :
    rget (isaAt p (j + 1)).regs r =
      if (U.cs (wordAt p j)).rf_wen_pending = true ∧ rd (wordAt p j) = r ∧ r ≠ 0
      then U.wb (isaAt p j) (wordAt p j) else rget (isaAt p j).regs r := by
  rw [(runs_step h hj).1]
  simp only [U.next]
  have hl := regs_len h j (by omega)
  have hr : rd (wordAt p j) < 32 := by unfold rd; omega
  by_cases hw : (U.cs (wordAt p j)).rf_wen_pending = true
  · rw [if_pos hw, TinyRV0.rget_rset]
    by_cases he : rd (wordAt p j) = r
    · subst he
      by_cases h0 : rd (wordAt p j) = 0
      · simp [h0]
      · simp [h0, hw, hl, hr]
    · simp [he]
  · simp [hw]

theorem regs_x0 {p : Prog} {N : Nat} (h : Runs p N) : ∀ j, j ≤ N → rget (isaAt p j).regs 0 = 0
  | 0, _ => rfl
  | j + 1, hj => by
    rw [regs_next h hj, if_neg (fun h => h.2.2 rfl)]
    exact regs_x0 h j (Nat.le_of_lt hj)

/-- a pipeline register as a one-place buffer: `v` its valid bit, `en` its enable, `nin` the valid bit the
stage before offers.  Nothing is offered to a disabled register, so what it holds after the edge plus what
left it is what it held plus what came in (the lengths of `stage_step`'s logs in `Proofs/Pipe.lean`, under
the same premise). -/
theorem stage_count {v en nin : Bool} (h : nin = true → en = true) :
    (if en then nin else v).toNat + (v && en).toNat = v.toNat + nin.toNat := by
  revert h
  cases v <;> cases en <;> cases nin <;> decide

/-- number of commits after the cycle -/
abbrev c' (s : State) (i : EnvIn) (c : Nat) : Nat := c + (commit_inst s i).toNat

section idx
variable (s : State) (i : EnvIn) (c : Nat) (hr : i.reset = false)
include hr

theorem iM_next : iM (next s i) (c' s i c) = iM s c + (next_val_M s i).toNat := by
  have h : (if reg_en_W s i then next_val_M s i else s.val_W).toNat + (commit_inst s i).toNat = _ :=
    stage_count (reg_en_W_of_next_val_M s i)
  rw [iM, c', (next_vals s i hr).val_W, iM]
  omega

theorem iX_next : iX (next s i) (c' s i c) = iX s c + (next_val_X s i).toNat := by
  have h : (if reg_en_M s i then next_val_X s i else s.val_M).toNat + (next_val_M s i).toNat = _ :=
    stage_count (reg_en_M_of_next_val_X s i)
  rw [iX, iM_next s i c hr, (next_vals s i hr).val_M, iX]
  omega

theorem iD_next : iD (next s i) (c' s i c) = iD s c + (next_val_D s i).toNat := by
  have h : (if reg_en_X s i then next_val_D s i else s.val_X).toNat + (next_val_X s i).toNat = _ :=
    stage_count (reg_en_X_of_next_val_D s i)
  rw [iD, iX_next s i c hr, (next_vals s i hr).val_X, iD]
  omega

theorem iF_next : iF (next s i) (c' s i c) + (squash_D s i).toNat = iF s c + (next_val_F s i).toNat := by
  have h : (if reg_en_D s i then next_val_F s i else s.val_D).toNat + (s.val_D && reg_en_D s i).toNat = _ :=
    stage_count (reg_en_D_of_next_val_F s i)
  have hq : squash_D s i = true → s.val_D = true := fun h => (squash_D_origin s i h).1
  have e : (s.val_D && reg_en_D s i).toNat = (next_val_D s i).toNat + (squash_D s i).toNat := by
    unfold reg_en_D next_val_D
    revert hq
    cases s.val_D <;> cases stall_D s i <;> cases squash_D s i <;> decide
  rw [iF, iD_next s i c hr, (next_vals s i hr).val_D, iF]
  omega

theorem iM_hold (h : stall_M s i = true) : iM (next s i) (c' s i c) = iM s c := by
  rw [iM_next s i c hr, next_val_M, h, Bool.not_true, Bool.and_false]; rfl
theorem iM_load (h : stall_M s i = false) : iM (next s i) (c' s i c) = iX s c := by
  rw [iM_next s i c hr, next_val_M, h, Bool.not_false, Bool.and_true]; rfl
theorem iX_hold (h : stall_X s i = true) : iX (next s i) (c' s i c) = iX s c := by
  rw [iX_next s i c hr, next_val_X, h, Bool.not_true, Bool.and_false]; rfl
theorem iX_load (h : stall_X s i = false) : iX (next s i) (c' s i c) = iD s c := by
  rw [iX_next s i c hr, next_val_X, h, Bool.not_false, Bool.and_true]; rfl

end idx

end PV.Pipe
