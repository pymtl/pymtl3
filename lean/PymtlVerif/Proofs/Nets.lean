import PymtlVerif.Model.Nets
import PymtlVerif.Proofs.Loop
import PymtlVerif.Proofs.ListFacts
/-!
# Lemmas about `Model/Nets.lean`

Nets are the classes of undirected reachability, and they and the loop verdict depend
on the connect statements only through the undirected edge set; `related` is "shares a bit"; the
rounds of writer resolution end in the least fixed point `Mark`, whatever the order of the visits.
-/
namespace PV.Nets

def Step (E : List Edge) (a b : Nat) : Prop := (a, b) ∈ E ∨ (b, a) ∈ E

theorem Step.symm {E : List Edge} {a b : Nat} (h : Step E a b) : Step E b a := Or.symm h

theorem Step.mono {E E' : List Edge} (h : ∀ e ∈ E, e ∈ E') {a b : Nat} (hs : Step E a b) : Step E' a b :=
  hs.imp (h _) (h _)

theorem mem_adj (E : List Edge) (a b : Nat) : b ∈ adj E a ↔ Step E a b := by
  unfold adj Step
  simp only [List.mem_filterMap]
  constructor
  · rintro ⟨⟨x, y⟩, he, h⟩
    simp only at h
    split at h
    · next h1 => subst h1; simp at h; subst h; exact Or.inl he
    · split at h
      · next _ h2 => subst h2; simp at h; subst h; exact Or.inr he
      · cases h
  · rintro (h | h)
    · exact ⟨(a, b), h, by simp⟩
    · refine ⟨(b, a), h, ?_⟩
      simp only
      split
      · next h1 => subst h1; rfl
      · simp

theorem mem_dedup {α : Type} [DecidableEq α] (l : List α) (a : α) : a ∈ dedup l ↔ a ∈ l := by
  induction l with
  | nil => simp [dedup]
  | cons b l ih =>
    simp only [dedup]
    split
    · next h =>
      rw [ih, List.mem_cons]
      exact ⟨Or.inr, fun h' => h'.elim (fun e => ih.mp (e ▸ h)) id⟩
    · simp [ih]

theorem nodup_dedup {α : Type} [DecidableEq α] (l : List α) : (dedup l).Nodup := by
  induction l with
  | nil => simp [dedup]
  | cons b l ih =>
    simp only [dedup]
    split
    · exact ih
    · next h => exact List.nodup_cons.mpr ⟨h, ih⟩

-- the measure of the searches, under this namespace for NetsDfs, NetsWalk and SConn
export PV.Loop (unseen unseen_cons_lt unseen_singleton_lt)

/-! ### frontier expansion to a fixed point

`dstep`/`dclosed`/`dclosure` of the model are the expansion over an arbitrary successor function;
`expand E`/`closed E`/`closure E` are their instances at `adj E`. -/

section
variable {succ : Nat → List Nat}
open PV.Loop

theorem mem_dstep (S : List Nat) (b : Nat) : b ∈ dstep succ S ↔ b ∈ S ∨ ∃ a ∈ S, b ∈ succ a := by
  unfold dstep
  simp only [List.mem_append, mem_dedup, List.mem_filter, List.mem_flatMap, decide_eq_true_eq]
  by_cases h : b ∈ S <;> simp [h]

theorem dclosed_iff (S : List Nat) : dclosed succ S = true ↔ ∀ a ∈ S, ∀ b ∈ succ a, b ∈ S := by
  unfold dclosed
  simp only [List.all_eq_true, List.mem_flatMap, decide_eq_true_eq]
  exact ⟨fun h a ha b hb => h b ⟨a, ha, hb⟩, fun h b ⟨a, ha, hb⟩ => h a ha b hb⟩

theorem dclosure_eq_run : ∀ (f : Nat) (S : List Nat), dclosure succ f S = run (whileStep (dclosed succ) (dstep succ)) f S :=
  run_of_eqns (fun _ => rfl) fun _ _ => rfl

theorem dclosure_induction {P : Nat → Prop} (hstep : ∀ a b, P a → b ∈ succ a → P b) (f : Nat) (S : List Nat)
    (hS : ∀ a ∈ S, P a) : ∀ b ∈ dclosure succ f S, P b := by
  rw [dclosure_eq_run]
  refine run_inv (P := fun S => ∀ a ∈ S, P a) (fun S S' hS e m hm => ?_) f S hS
  rw [← (whileStep_some.mp e).2, mem_dstep] at hm
  exact hm.elim (hS m) fun ⟨a, ha, hs⟩ => hstep a m (hS a ha) hs

theorem subset_dclosure (f : Nat) (S : List Nat) : ∀ a ∈ S, a ∈ dclosure succ f S := by
  rw [dclosure_eq_run]
  exact run_inv (P := fun S' => ∀ a ∈ S, a ∈ S') (fun S' S'' h e a ha =>
    (whileStep_some.mp e).2 ▸ (mem_dstep S' a).mpr (.inl (h a ha))) f S fun _ h => h

/-- when all successors lie in the finite set `U`, as many rounds as `U` has members outside the
start set reach the fixed point: a round that is not the last adds a member of `U` -/
theorem dclosure_closed (U : List Nat) (hU : ∀ x, ∀ y ∈ succ x, y ∈ U) (f : Nat) (S : List Nat) (h : unseen U S ≤ f) :
    dclosed succ (dclosure succ f S) = true := by
  rw [dclosure_eq_run]
  refine whileStep_none.mp (run_ends (P := fun _ => True) (fun _ _ _ _ => trivial) (unseen U) (fun S S' _ e => ?_) f S trivial h)
  obtain ⟨hc, rfl⟩ := whileStep_some.mp e
  obtain ⟨b, hb, hbS⟩ := List.all_eq_false.mp hc
  obtain ⟨a, ha, hab⟩ := List.mem_flatMap.mp hb
  have hbS : b ∉ S := by simpa using hbS
  refine Nat.lt_of_le_of_lt (unseen_mono U fun x hx => ?_) (unseen_cons_lt U S b (hU a b hab) hbS)
  exact (mem_dstep S x).mpr ((List.mem_cons.mp hx).elim (fun e => .inr ⟨a, ha, e ▸ hab⟩) .inl)

end

theorem closure_eq_dclosure (E : List Edge) (f : Nat) (S : List Nat) : closure E f S = dclosure (adj E) f S := by
  rw [dclosure_eq_run]
  exact Loop.run_of_eqns (fun _ => rfl) (fun _ _ => rfl) f S

theorem closed_iff (E : List Edge) (S : List Nat) :
    closed E S = true ↔ ∀ a ∈ S, ∀ b, Step E a b → b ∈ S := by
  simp only [← mem_adj]
  exact dclosed_iff S

/-- undirected reachability in the connection graph -/
inductive Reach (E : List Edge) : Nat → Nat → Prop
  | refl (a : Nat) : Reach E a a
  | step {a b c : Nat} : Reach E a b → Step E b c → Reach E a c

theorem reach_trans {E : List Edge} {a b c : Nat} (h1 : Reach E a b) (h2 : Reach E b c) : Reach E a c := by
  induction h2 with
  | refl => exact h1
  | step _ hs ih => exact Reach.step ih hs

theorem Reach.single {E : List Edge} {a b : Nat} (h : Step E a b) : Reach E a b :=
  Reach.step (Reach.refl a) h

theorem reach_symm {E : List Edge} {a b : Nat} (h : Reach E a b) : Reach E b a := by
  induction h with
  | refl => exact Reach.refl _
  | step _ hs ih => exact reach_trans (Reach.single hs.symm) ih

theorem mem_insertU (a : Nat) (l : List Nat) (x : Nat) : x ∈ insertU a l ↔ x = a ∨ x ∈ l := by
  induction l with
  | nil => simp [insertU]
  | cons b l ih =>
    simp only [insertU]
    split
    · simp
    · split
      · next h => subst h; simp
      · simp only [List.mem_cons, ih]
        exact or_left_comm

abbrev Sorted (l : List Nat) : Prop := l.Pairwise (· < ·)

theorem sorted_insertU (a : Nat) (l : List Nat) (h : Sorted l) : Sorted (insertU a l) := by
  induction l with
  | nil => simp [insertU, Sorted]
  | cons b l ih =>
    simp only [insertU]
    have hb := (List.pairwise_cons.mp h)
    split
    · next hab =>
      refine List.pairwise_cons.mpr ⟨?_, h⟩
      intro x hx
      rcases List.mem_cons.mp hx with rfl | hx
      · exact hab
      · exact Nat.lt_trans hab (hb.1 x hx)
    · split
      · exact h
      · next h1 h2 =>
        refine List.pairwise_cons.mpr ⟨?_, ih hb.2⟩
        intro x hx
        rcases (mem_insertU a l x).mp hx with rfl | hx
        · omega
        · exact hb.1 x hx

theorem mem_sortDedup (l : List Nat) (x : Nat) : x ∈ sortDedup l ↔ x ∈ l := by
  induction l with
  | nil => simp [sortDedup]
  | cons a l ih =>
    simp only [sortDedup, List.foldr_cons] at ih ⊢
    rw [mem_insertU, ih, List.mem_cons]

theorem sorted_sortDedup (l : List Nat) : Sorted (sortDedup l) := by
  induction l with
  | nil => exact List.Pairwise.nil
  | cons a l ih => exact sorted_insertU a _ ih

theorem sorted_nodup {l : List Nat} (h : Sorted l) : l.Nodup :=
  h.imp (fun hab => Nat.ne_of_lt hab)

theorem sorted_ext (l₁ l₂ : List Nat) (h1 : Sorted l₁) (h2 : Sorted l₂) (h : ∀ x, x ∈ l₁ ↔ x ∈ l₂) : l₁ = l₂ :=
  List.Perm.eq_of_pairwise (fun _ _ _ _ hab hba => absurd hab (Nat.lt_asymm hba)) h1 h2
    ((List.perm_ext_iff_of_nodup (sorted_nodup h1) (sorted_nodup h2)).mpr h)

theorem sortDedup_congr {l₁ l₂ : List Nat} (h : ∀ x, x ∈ l₁ ↔ x ∈ l₂) : sortDedup l₁ = sortDedup l₂ :=
  sorted_ext _ _ (sorted_sortDedup _) (sorted_sortDedup _) (fun x => by rw [mem_sortDedup, mem_sortDedup, h])

theorem mem_nodesOf (E : List Edge) (a : Nat) : a ∈ nodesOf E ↔ ∃ b, Step E a b := by
  unfold nodesOf
  rw [mem_sortDedup]
  simp only [List.mem_flatMap, List.mem_cons, List.not_mem_nil, or_false]
  constructor
  · rintro ⟨⟨x, y⟩, he, rfl | rfl⟩
    · exact ⟨y, Or.inl he⟩
    · exact ⟨x, Or.inr he⟩
  · rintro ⟨b, h | h⟩
    · exact ⟨(a, b), h, Or.inl rfl⟩
    · exact ⟨(b, a), h, Or.inr rfl⟩

/-- `|nodes|` rounds of expansion always reach the fixed point -/
theorem component_closed (E : List Edge) (a : Nat) : closed E (component E a) = true := by
  unfold component
  rw [closure_eq_dclosure]
  exact dclosure_closed (nodesOf E) (fun x y hy => (mem_nodesOf E y).mpr ⟨x, ((mem_adj E x y).mp hy).symm⟩) _ _
    (List.length_filter_le _ _)

theorem mem_component (E : List Edge) (a b : Nat) : b ∈ component E a ↔ Reach E a b := by
  constructor
  · unfold component
    rw [closure_eq_dclosure]
    exact dclosure_induction (P := Reach E a) (fun x y hx hy => Reach.step hx ((mem_adj E x y).mp hy)) _ _
      (fun x hx => List.mem_singleton.mp hx ▸ Reach.refl a) b
  · -- a closed set that contains `a` contains everything reachable from `a`
    intro hr
    induction hr with
    | refl =>
      unfold component
      rw [closure_eq_dclosure]
      exact subset_dclosure _ _ a (List.mem_singleton.mpr rfl)
    | step _ hs ih => exact (closed_iff E _).mp (component_closed E a) _ ih _ hs

theorem mem_netOf (E : List Edge) (a b : Nat) : b ∈ netOf E a ↔ Reach E a b := by
  unfold netOf
  rw [mem_sortDedup, mem_component]

theorem reach_mono {E E' : List Edge} (h : ∀ a b, Step E a b → Step E' a b) {a b : Nat}
    (hr : Reach E a b) : Reach E' a b := by
  induction hr with
  | refl => exact Reach.refl _
  | step _ hs ih => exact Reach.step ih (h _ _ hs)

theorem reach_congr {E E' : List Edge} (h : ∀ a b, Step E a b ↔ Step E' a b) (a b : Nat) :
    Reach E a b ↔ Reach E' a b :=
  ⟨reach_mono (fun a b => (h a b).mp), reach_mono (fun a b => (h a b).mpr)⟩

theorem step_perm {E E' : List Edge} (hp : E.Perm E') (a b : Nat) : Step E a b ↔ Step E' a b := by
  unfold Step
  rw [hp.mem_iff, hp.mem_iff]

/-- swap the two sides of the statements selected by `p` (by position) -/
def flipWhere (p : Nat → Bool) (E : List Edge) : List Edge :=
  E.mapIdx (fun i e => if p i then (e.2, e.1) else e)

theorem step_flipWhere (p : Nat → Bool) (E : List Edge) (a b : Nat) :
    Step (flipWhere p E) a b ↔ Step E a b :=
  mem_mapIdx_swap (fun e => (e.2, e.1)) (fun _ => rfl) p E (a, b)

theorem nodesOf_congr {E E' : List Edge} (h : ∀ a b, Step E a b ↔ Step E' a b) : nodesOf E = nodesOf E' :=
  sorted_ext _ _ (sorted_sortDedup _) (sorted_sortDedup _) (fun x => by
    rw [mem_nodesOf, mem_nodesOf]; exact exists_congr (h x))

theorem netOf_ext {E E' : List Edge} {a b : Nat} (h : ∀ x, Reach E a x ↔ Reach E' b x) : netOf E a = netOf E' b :=
  sortDedup_congr fun x => by rw [mem_component, mem_component]; exact h x

theorem nets_congr {E E' : List Edge} (h : ∀ a b, Step E a b ↔ Step E' a b) : nets E = nets E' := by
  unfold nets
  rw [nodesOf_congr h, (funext fun a => netOf_ext (reach_congr h a) : netOf E = netOf E')]

theorem netOf_eq_of_reach {E : List Edge} {a b : Nat} (h : Reach E a b) : netOf E a = netOf E b :=
  netOf_ext (fun _ => ⟨reach_trans (reach_symm h), reach_trans h⟩)

theorem mem_nets {E : List Edge} {N : List Nat} :
    N ∈ nets E ↔ ∃ a, a ∈ nodesOf E ∧ (netOf E a).head? = some a ∧ N = netOf E a ∧ 2 ≤ N.length := by
  unfold nets
  simp only [List.mem_filter, List.mem_map, decide_eq_true_eq, beq_iff_eq]
  constructor
  · rintro ⟨⟨a, ⟨ha, hh⟩, rfl⟩, hl⟩
    exact ⟨a, ha, hh, rfl, hl⟩
  · rintro ⟨a, ha, hh, rfl, hl⟩
    exact ⟨⟨a, ⟨ha, hh⟩, rfl⟩, hl⟩

theorem rep_netOf {E : List Edge} {a : Nat} (h : (netOf E a).head? = some a) : rep (netOf E a) = a := by
  unfold rep
  rw [List.headD_eq_head?_getD, h]
  rfl

theorem nets_spec {E : List Edge} {N : List Nat} (h : N ∈ nets E) :
    Sorted N ∧ 2 ≤ N.length ∧ rep N ∈ N ∧ ∀ b, b ∈ N ↔ Reach E (rep N) b := by
  obtain ⟨a, _, hh, rfl, hl⟩ := mem_nets.mp h
  rw [rep_netOf hh]
  exact ⟨sorted_sortDedup _, hl, (mem_netOf E a a).mpr (Reach.refl a), fun b => mem_netOf E a b⟩

theorem reach_ne_step {E : List Edge} {a b : Nat} (h : Reach E a b) (hne : a ≠ b) : ∃ c, Step E a c := by
  induction h with
  | refl => exact absurd rfl hne
  | @step b c hab hs ih =>
    by_cases e : a = b
    · subst e; exact ⟨c, hs⟩
    · exact ih e

theorem nets_cover {E : List Edge} {a b : Nat} (hr : Reach E a b) (hne : a ≠ b) :
    ∃ N ∈ nets E, a ∈ N ∧ b ∈ N := by
  have haa : a ∈ netOf E a := (mem_netOf E a a).mpr (Reach.refl a)
  have hba : b ∈ netOf E a := (mem_netOf E a b).mpr hr
  have hlen := length_ge_two_of_mem haa hba hne
  cases hN : netOf E a with
  | nil => rw [hN] at haa; cases haa
  | cons m l =>
    have ham : Reach E a m := (mem_netOf E a m).mp (hN ▸ List.mem_cons_self ..)
    have heq : netOf E m = netOf E a := (netOf_eq_of_reach ham).symm
    have hhead : (netOf E m).head? = some m := by rw [heq, hN]; rfl
    refine ⟨netOf E a, mem_nets.mpr ⟨m, ?_, hhead, heq.symm, hlen⟩, haa, hba⟩
    -- m has a neighbour: it reaches a different member of the class
    have : ∃ x, Reach E m x ∧ m ≠ x := by
      by_cases e : m = a
      · exact ⟨b, e ▸ hr, e ▸ hne⟩
      · exact ⟨a, reach_symm ham, e⟩
    obtain ⟨x, hmx, hne'⟩ := this
    exact (mem_nodesOf E m).mpr (reach_ne_step hmx hne')

theorem nets_disjoint {E : List Edge} {N M : List Nat} (hN : N ∈ nets E) (hM : M ∈ nets E) {x : Nat}
    (hxN : x ∈ N) (hxM : x ∈ M) : N = M := by
  obtain ⟨sN, _, _, hrN⟩ := nets_spec hN
  obtain ⟨sM, _, _, hrM⟩ := nets_spec hM
  apply sorted_ext _ _ sN sM
  intro y
  rw [hrN, hrM]
  have h1 := (hrN x).mp hxN
  have h2 := (hrM x).mp hxM
  exact ⟨fun h => reach_trans h2 (reach_trans (reach_symm h1) h), fun h => reach_trans h1 (reach_trans (reach_symm h2) h)⟩

theorem rep_inj {E : List Edge} {N M : List Nat} (hN : N ∈ nets E) (hM : M ∈ nets E) (h : rep N = rep M) : N = M :=
  nets_disjoint hN hM (nets_spec hN).2.2.1 (h ▸ (nets_spec hM).2.2.1)

theorem nets_nodup (E : List Edge) : (nets E).Nodup := by
  unfold nets
  apply List.Pairwise.filter
  rw [List.pairwise_map]
  refine List.Pairwise.imp_of_mem ?_ ((sorted_sortDedup _).filter (fun a => (netOf E a).head? == some a))
  intro a b ha hb hab heq
  simp only [List.mem_filter, beq_iff_eq] at ha hb
  exact Nat.ne_of_lt hab ((rep_netOf ha.2).symm.trans ((congrArg rep heq).trans (rep_netOf hb.2)))

/-- the connection multigraph has a cycle: some connection joins two nodes that remain connected
when that one connection is removed (a self connection does so trivially) -/
def HasCycle (E : List Edge) : Prop := ∃ e ∈ E, Reach (E.erase e) e.1 e.2

theorem step_cons {e : Edge} {F : List Edge} {a b : Nat} (h : Step (e :: F) a b) :
    Step F a b ∨ (a = e.1 ∧ b = e.2) ∨ (a = e.2 ∧ b = e.1) := by
  unfold Step at h
  rcases h with h | h
  · rcases List.mem_cons.mp h with h | h
    · exact Or.inr (Or.inl ⟨by rw [← h], by rw [← h]⟩)
    · exact Or.inl (Or.inl h)
  · rcases List.mem_cons.mp h with h | h
    · exact Or.inr (Or.inr ⟨by rw [← h], by rw [← h]⟩)
    · exact Or.inl (Or.inr h)

theorem reach_cons {e : Edge} {F : List Edge} {a b : Nat} (h : Reach (e :: F) a b) :
    Reach F a b ∨ (Reach F a e.1 ∧ Reach F e.2 b) ∨ (Reach F a e.2 ∧ Reach F e.1 b) := by
  induction h with
  | refl => exact Or.inl (Reach.refl _)
  | @step b c _ hs ih =>
    rcases step_cons hs with hs | ⟨hb, hc⟩ | ⟨hb, hc⟩
    · rcases ih with h | ⟨h1, h2⟩ | ⟨h1, h2⟩
      · exact Or.inl (Reach.step h hs)
      · exact Or.inr (Or.inl ⟨h1, Reach.step h2 hs⟩)
      · exact Or.inr (Or.inr ⟨h1, Reach.step h2 hs⟩)
    · subst hb hc
      rcases ih with h | ⟨h1, _⟩ | ⟨h1, _⟩
      · exact Or.inr (Or.inl ⟨h, Reach.refl _⟩)
      · exact Or.inr (Or.inl ⟨h1, Reach.refl _⟩)
      · exact Or.inl h1
    · subst hb hc
      rcases ih with h | ⟨h1, _⟩ | ⟨h1, _⟩
      · exact Or.inr (Or.inr ⟨h, Reach.refl _⟩)
      · exact Or.inl h1
      · exact Or.inr (Or.inr ⟨h1, Reach.refl _⟩)

theorem step_erase_of_ne {E : List Edge} {e : Edge} {x y : Nat} (hs : Step E x y) (h1 : (x, y) ≠ e) (h2 : (y, x) ≠ e) :
    Step (E.erase e) x y :=
  hs.imp (List.mem_erase_of_ne h1).mpr (List.mem_erase_of_ne h2).mpr

theorem step_erase_of_not_end {E : List Edge} {e : Edge} {x y z : Nat} (hs : Step E x y) (he : e.1 = z ∨ e.2 = z)
    (hx : x ≠ z) (hy : y ≠ z) : Step (E.erase e) x y :=
  step_erase_of_ne hs (by rintro rfl; exact he.elim hx hy) (by rintro rfl; exact he.elim hy hx)

theorem cyc_iff (E : List Edge) : cyc E = true ↔ HasCycle E := by
  induction E with
  | nil => simp [cyc, HasCycle]
  | cons e E ih =>
    simp only [cyc, Bool.or_eq_true, decide_eq_true_eq, mem_component]
    have up : ∀ {x : Edge} {a b : Nat}, Reach (E.erase x) a b → Reach E a b :=
      fun h => reach_mono (fun _ _ => Step.mono fun _ => List.mem_of_mem_erase) h
    constructor
    · rintro (h | h)
      · obtain ⟨x, hx, hr⟩ := ih.mp h
        by_cases hex : e = x
        · subst hex
          exact ⟨e, List.mem_cons_self .., by rw [List.erase_cons_head]; exact up hr⟩
        · refine ⟨x, List.mem_cons_of_mem _ hx, ?_⟩
          rw [List.erase_cons_tail (by simpa using hex)]
          exact reach_mono (fun _ _ => Step.mono fun _ => List.mem_cons_of_mem _) hr
      · exact ⟨e, List.mem_cons_self .., by rw [List.erase_cons_head]; exact h⟩
    · rintro ⟨x, hx, hr⟩
      by_cases hex : e = x
      · subst hex
        rw [List.erase_cons_head] at hr
        exact Or.inr hr
      · have hxE : x ∈ E := (List.mem_cons.mp hx).resolve_left (Ne.symm hex)
        rw [List.erase_cons_tail (by simpa using hex)] at hr
        have sx : Step E x.1 x.2 := Or.inl hxE
        -- a path between the ends of `x` that avoids `e` is a cycle of `E`; one that crosses `e`
        -- joins the ends of `e` inside `E`, through `x`
        rcases reach_cons hr with h | ⟨h1, h2⟩ | ⟨h1, h2⟩
        · exact Or.inl (ih.mpr ⟨x, hxE, h⟩)
        · exact Or.inr (reach_trans (reach_symm (up h1)) (reach_trans (Reach.single sx) (reach_symm (up h2))))
        · exact Or.inr (reach_trans (up h2) (reach_trans (Reach.single sx.symm) (up h1)))

theorem hasCycle_perm {E E' : List Edge} (hp : E.Perm E') : HasCycle E ↔ HasCycle E' := by
  have key : ∀ {E E' : List Edge}, E.Perm E' → HasCycle E → HasCycle E' := by
    rintro E E' hp ⟨e, he, hr⟩
    exact ⟨e, hp.mem_iff.mp he, (reach_congr (step_perm (hp.erase e)) _ _).mp hr⟩
  exact ⟨key hp, key hp.symm⟩

theorem normEdge_swap (e : Edge) : normEdge (e.2, e.1) = normEdge e := by
  obtain ⟨a, b⟩ := e
  unfold normEdge
  rcases Nat.lt_trichotomy a b with h | h | h
  · rw [if_neg (Nat.not_le.mpr h), if_pos (Nat.le_of_lt h)]
  · rw [h]
  · rw [if_pos (Nat.le_of_lt h), if_neg (Nat.not_le.mpr h)]

theorem step_map_normEdge (L : List Edge) (a b : Nat) : Step (L.map normEdge) a b ↔ Step L a b := by
  have out : ∀ x y, (x, y) ∈ L.map normEdge → Step L x y := by
    intro x y h
    obtain ⟨⟨c, d⟩, he, h⟩ := List.mem_map.mp h
    unfold normEdge at h
    split at h <;> cases h
    · exact Or.inl he
    · exact Or.inr he
  have into : ∀ x y, (x, y) ∈ L → Step (L.map normEdge) x y := by
    intro x y h
    have hm := List.mem_map_of_mem (f := normEdge) h
    unfold normEdge at hm
    split at hm
    · exact Or.inl hm
    · exact Or.inr hm
  exact ⟨fun h => h.elim (out a b) (fun h => (out b a h).symm), fun h => h.elim (into a b) (fun h => (into b a h).symm)⟩

theorem step_simple (E : List Edge) (a b : Nat) : Step (simple E) a b ↔ Step E a b := by
  rw [← step_map_normEdge E a b]
  unfold simple Step
  rw [mem_dedup, mem_dedup]

theorem reach_simple (E : List Edge) (a b : Nat) : Reach (simple E) a b ↔ Reach E a b :=
  reach_congr (step_simple E) a b

/-- the adjacency function of the loop test and of the port walk lists the neighbours in the merged graph -/
theorem adjf_simple (E : List Edge) (u v : Nat) : v ∈ sortDedup (adj (simple E) u) ↔ Step (simple E) u v := by
  rw [mem_sortDedup, mem_adj]

theorem adj_simple_congr {E E' : List Edge} (h : ∀ a b, Step E a b ↔ Step E' a b) (u : Nat) :
    sortDedup (adj (simple E) u) = sortDedup (adj (simple E') u) :=
  sortDedup_congr (fun x => by rw [mem_adj, mem_adj, step_simple, step_simple]; exact h u x)

theorem mem_simple (E : List Edge) (x : Edge) : x ∈ simple E ↔ ∃ e ∈ E, normEdge e = x := by
  unfold simple
  rw [mem_dedup, List.mem_map]

theorem simple_perm {E E' : List Edge} (h : ∀ a b, Step E a b ↔ Step E' a b) : (simple E).Perm (simple E') := by
  have key : ∀ {E E' : List Edge}, (∀ a b, Step E a b → Step E' a b) → ∀ x, x ∈ simple E → x ∈ simple E' := by
    intro E E' h x hx
    obtain ⟨⟨a, b⟩, he, rfl⟩ := (mem_simple E x).mp hx
    rcases h a b (Or.inl he) with h' | h'
    · exact (mem_simple E' _).mpr ⟨(a, b), h', rfl⟩
    · exact (mem_simple E' _).mpr ⟨(b, a), h', normEdge_swap (a, b)⟩
  exact (List.perm_ext_iff_of_nodup (nodup_dedup _) (nodup_dedup _)).mpr
    (fun x => ⟨key (fun a b => (h a b).mp) x, key (fun a b => (h a b).mpr) x⟩)

theorem hasLoop_congr {E E' : List Edge} (h : ∀ a b, Step E a b ↔ Step E' a b) : hasLoop E = hasLoop E' := by
  unfold hasLoop
  rw [Bool.eq_iff_iff, cyc_iff, cyc_iff]
  exact hasCycle_perm (simple_perm h)

theorem hasLoop_perm {E E' : List Edge} (hp : E.Perm E') : hasLoop E = hasLoop E' :=
  hasLoop_congr (step_perm hp)

theorem hasLoop_flip (p : Nat → Bool) (E : List Edge) : hasLoop (flipWhere p E) = hasLoop E :=
  hasLoop_congr (step_flipWhere p E)

theorem normEdge_iff_of_symm {P : Nat → Nat → Prop} (hP : ∀ x y, P x y → P y x) (e : Edge) :
    P (normEdge e).1 (normEdge e).2 ↔ P e.1 e.2 := by
  unfold normEdge
  split
  · exact Iff.rfl
  · exact ⟨hP _ _, hP _ _⟩

theorem simple_cons (e : Edge) (E : List Edge) :
    simple (e :: E) = if normEdge e ∈ simple E then simple E else normEdge e :: simple E := by
  unfold simple; rw [List.map_cons, dedup]; congr

theorem hasLoop_cons (E : List Edge) (a b : Nat) :
    hasLoop ((a, b) :: E) = true ↔ hasLoop E = true ∨ (¬ Step E a b ∧ Reach E a b) := by
  have hmem : normEdge (a, b) ∈ simple E ↔ Step E a b :=
    ⟨fun h => (normEdge_iff_of_symm (P := Step E) (fun _ _ => Step.symm) (a, b)).mp ((step_simple E _ _).mp (Or.inl h)),
     fun h => (mem_simple E _).mpr (h.elim (fun h => ⟨_, h, rfl⟩) (fun h => ⟨_, h, normEdge_swap (a, b)⟩))⟩
  unfold hasLoop
  -- `simple` merges a repeated connection; a new one becomes the head, which `cyc` tests against the rest
  by_cases h : normEdge (a, b) ∈ simple E
  · rw [simple_cons, if_pos h]
    exact ⟨Or.inl, fun h' => h'.elim id (fun h' => absurd (hmem.mp h) h'.1)⟩
  · rw [simple_cons, if_neg h]
    simp only [cyc, Bool.or_eq_true, decide_eq_true_eq, mem_component, reach_simple,
      normEdge_iff_of_symm (P := Reach E) (fun _ _ => reach_symm) (a, b)]
    exact or_congr_right (iff_and_self.mpr fun _ => fun hs => h (hmem.mpr hs))

theorem isPrefix_iff (p q : List Nat) : isPrefix p q = true ↔ p <+: q := by
  induction p generalizing q with
  | nil => simp [isPrefix]
  | cons a p ih =>
    cases q with
    | nil => simp [isPrefix]
    | cons b q =>
      simp only [isPrefix, Bool.and_eq_true, beq_iff_eq, ih, List.cons_prefix_cons]

theorem overlap_spec (x y : Nat × Nat) (hx : x.1 < x.2) (hy : y.1 < y.2) :
    overlap x y = true ↔ ∃ i, (x.1 ≤ i ∧ i < x.2) ∧ (y.1 ≤ i ∧ i < y.2) := by
  unfold overlap
  split
  · next h =>
    rw [decide_eq_true_eq]
    exact ⟨fun h' => ⟨y.1, ⟨h, h'⟩, ⟨Nat.le_refl _, hy⟩⟩, fun ⟨i, ⟨_, h2⟩, ⟨h3, _⟩⟩ => Nat.lt_of_le_of_lt h3 h2⟩
  · next h =>
    rw [decide_eq_true_eq]
    exact ⟨fun h' => ⟨x.1, ⟨Nat.le_refl _, hx⟩, ⟨Nat.le_of_not_le h, h'⟩⟩, fun ⟨i, ⟨h1, _⟩, ⟨_, h4⟩⟩ => Nat.lt_of_le_of_lt h1 h4⟩

theorem overlap_symm (x y : Nat × Nat) (hx : x.1 < x.2) (hy : y.1 < y.2) : overlap x y = overlap y x := by
  rw [Bool.eq_iff_iff, overlap_spec x y hx hy, overlap_spec y x hy hx]
  exact ⟨fun ⟨i, a, b⟩ => ⟨i, b, a⟩, fun ⟨i, a, b⟩ => ⟨i, b, a⟩⟩

/-- `related` as a proposition: the case analysis on the two slices that all its properties follow -/
theorem related_iff (a b : Obj) : related a b = true ↔
    a.kind ≠ .const ∧ b.kind ≠ .const ∧ a.sid = b.sid ∧
    match a.slice, b.slice with
    | none, none => a.fields <+: b.fields ∨ b.fields <+: a.fields
    | none, some _ => a.fields <+: b.fields
    | some _, none => b.fields <+: a.fields
    | some x, some y => a.fields = b.fields ∧ overlap x y = true := by
  unfold related
  simp only [Bool.and_eq_true, bne_iff_ne, ne_eq, beq_iff_eq, and_assoc]
  cases a.slice <;> cases b.slice <;> simp only [Bool.or_eq_true, Bool.and_eq_true, beq_iff_eq, isPrefix_iff]

/-- a bit of a top-level signal: the Bits-typed leaf it lies in (field positions from the top) and
its index inside the leaf -/
structure Bit where
  sid : Nat
  leaf : List Nat
  idx : Nat

/-- object `o` contains bit `b` -/
def covers (o : Obj) (b : Bit) : Prop :=
  o.kind ≠ .const ∧ o.sid = b.sid ∧ o.fields <+: b.leaf ∧
  ∀ s, o.slice = some s → o.fields = b.leaf ∧ s.1 ≤ b.idx ∧ b.idx < s.2

/-- the Bits-typed leaves of each top-level signal: (field path, width) -/
abbrev Leaves := Nat → List (List Nat × Nat)

def ValidBit (L : Leaves) (b : Bit) : Prop := ∃ n, (b.leaf, n) ∈ L b.sid ∧ b.idx < n

/-- the object exists in a signal with leaf table `L`: its field path leads towards a leaf of
positive width, a slice sits on a leaf and is a non-empty range inside it -/
def WfObj (L : Leaves) (o : Obj) : Prop :=
  o.kind ≠ .const → ∃ leaf n, (leaf, n) ∈ L o.sid ∧ 1 ≤ n ∧ o.fields <+: leaf ∧
    ∀ s, o.slice = some s → o.fields = leaf ∧ s.1 < s.2 ∧ s.2 ≤ n

theorem covers_whole {o : Obj} (hk : o.kind ≠ .const) (hs : o.slice = none) {leaf : List Nat}
    (hp : o.fields <+: leaf) (i : Nat) : covers o ⟨o.sid, leaf, i⟩ :=
  ⟨hk, rfl, hp, fun s h => by rw [hs] at h; cases h⟩

theorem covers_slice {o : Obj} (hk : o.kind ≠ .const) {x : Nat × Nat} (hs : o.slice = some x) {i : Nat}
    (h1 : x.1 ≤ i) (h2 : i < x.2) : covers o ⟨o.sid, o.fields, i⟩ :=
  ⟨hk, rfl, List.prefix_refl _, fun s h => by rw [hs] at h; cases h; exact ⟨rfl, h1, h2⟩⟩

/-- the code's relation between two objects is exactly "they share a bit" -/
theorem related_iff_overlap (L : Leaves) (a b : Obj) (ha : WfObj L a) (hb : WfObj L b) :
    related a b = true ↔ ∃ bit, ValidBit L bit ∧ covers a bit ∧ covers b bit := by
  rw [related_iff]
  constructor
  · -- the shared bit is taken in the leaf of the deeper object, at the lowest index both allow
    rintro ⟨hka, hkb, hsid, hm⟩
    obtain ⟨la, na, hla, hna, hpa, hsa⟩ := ha hka
    obtain ⟨lb, nb, hlb, hnb, hpb, hsb⟩ := hb hkb
    cases hA : a.slice with
    | none =>
      cases hB : b.slice with
      | none =>
        rw [hA, hB] at hm
        rcases hm with hm | hm
        · exact ⟨⟨b.sid, lb, 0⟩, ⟨nb, hlb, hnb⟩, hsid ▸ covers_whole hka hA (hm.trans hpb) 0, covers_whole hkb hB hpb 0⟩
        · exact ⟨⟨a.sid, la, 0⟩, ⟨na, hla, hna⟩, covers_whole hka hA hpa 0, hsid ▸ covers_whole hkb hB (hm.trans hpa) 0⟩
      | some y =>
        rw [hA, hB] at hm
        obtain ⟨hfb, hy1, hy2⟩ := hsb y hB
        exact ⟨⟨b.sid, b.fields, y.1⟩, ⟨nb, hfb ▸ hlb, Nat.lt_of_lt_of_le hy1 hy2⟩,
          hsid ▸ covers_whole hka hA hm y.1, covers_slice hkb hB (Nat.le_refl _) hy1⟩
    | some x =>
      obtain ⟨hfa, hx1, hx2⟩ := hsa x hA
      cases hB : b.slice with
      | none =>
        rw [hA, hB] at hm
        exact ⟨⟨a.sid, a.fields, x.1⟩, ⟨na, hfa ▸ hla, Nat.lt_of_lt_of_le hx1 hx2⟩,
          covers_slice hka hA (Nat.le_refl _) hx1, hsid ▸ covers_whole hkb hB hm x.1⟩
      | some y =>
        rw [hA, hB] at hm
        obtain ⟨i, ⟨hi1, hi2⟩, ⟨hi3, hi4⟩⟩ := (overlap_spec x y hx1 (hsb y hB).2.1).mp hm.2
        exact ⟨⟨a.sid, a.fields, i⟩, ⟨na, hfa ▸ hla, Nat.lt_of_lt_of_le hi2 hx2⟩,
          covers_slice hka hA hi1 hi2, hsid ▸ hm.1 ▸ covers_slice hkb hB hi3 hi4⟩
  · rintro ⟨bit, _, ⟨hka, hsa, hpa, hca⟩, ⟨hkb, hsb, hpb, hcb⟩⟩
    refine ⟨hka, hkb, hsa.trans hsb.symm, ?_⟩
    cases hA : a.slice with
    | none =>
      cases hB : b.slice with
      | none => exact List.prefix_or_prefix_of_prefix hpa hpb
      | some y => exact (hcb y hB).1 ▸ hpa
    | some x =>
      obtain ⟨h1, h2, h3⟩ := hca x hA
      cases hB : b.slice with
      | none => exact h1 ▸ hpb
      | some y =>
        obtain ⟨h4, h5, h6⟩ := hcb y hB
        exact ⟨h1.trans h4.symm, (overlap_spec x y (Nat.lt_of_le_of_lt h2 h3) (Nat.lt_of_le_of_lt h5 h6)).mpr
          ⟨bit.idx, ⟨h2, h3⟩, ⟨h5, h6⟩⟩⟩

/-- slices are non-empty ranges (`Signal.__getitem__` asserts `start < stop`) -/
def SliceOk (o : Obj) : Prop := ∀ s, o.slice = some s → s.1 < s.2

theorem related_symm (a b : Obj) (ha : SliceOk a) (hb : SliceOk b) : related a b = related b a := by
  have key : ∀ {a b : Obj}, SliceOk a → SliceOk b → related a b = true → related b a = true := by
    intro a b ha hb h
    rw [related_iff] at h ⊢
    obtain ⟨h1, h2, h3, h4⟩ := h
    refine ⟨h2, h1, h3.symm, ?_⟩
    cases hA : a.slice <;> cases hB : b.slice <;> rw [hA, hB] at h4
    · exact h4.symm
    · exact h4
    · exact h4
    · exact ⟨h4.1.symm, overlap_symm _ _ (ha _ hA) (hb _ hB) ▸ h4.2⟩
  rw [Bool.eq_iff_iff]
  exact ⟨key ha hb, key hb ha⟩

theorem related_self (a : Obj) (hk : a.kind ≠ .const) (hs : SliceOk a) : related a a = true := by
  rw [related_iff]
  refine ⟨hk, hk, rfl, ?_⟩
  cases hA : a.slice with
  | none => exact Or.inl (List.prefix_refl _)
  | some x => exact ⟨rfl, (overlap_spec x x (hs x hA) (hs x hA)).mpr ⟨x.1, ⟨Nat.le_refl _, hs x hA⟩, ⟨Nat.le_refl _, hs x hA⟩⟩⟩

theorem Design.mem_writes (D : Design) (b o : Nat) :
    (b, o) ∈ D.writes ↔ ∃ blk, D.blks[b]? = some blk ∧ ∃ op, (o, op) ∈ blk.writes := by
  unfold Design.writes
  simp only [List.mem_flatMap, List.mem_range, List.mem_map, Prod.mk.injEq, List.getD_eq_getElem?_getD]
  constructor
  · rintro ⟨b', hb', ⟨o', op⟩, hw, rfl, rfl⟩
    rw [List.getElem?_eq_getElem hb'] at hw
    exact ⟨D.blks[b'], List.getElem?_eq_getElem hb', op, hw⟩
  · rintro ⟨blk, hblk, op, hw⟩
    exact ⟨b, (List.getElem?_eq_some_iff.mp hblk).1, (o, op), by rw [hblk]; exact hw, rfl, rfl⟩

section

/-- specification of the propagatable writer marks, as a least fixed point that does not mention
any processing order: written by a block; top-level input port in a net; member of a net, other
than a member `w` of that net which is a constant or is related to an object marked from elsewhere -/
inductive Mark (D : Design) : Nat → Origin → Prop
  | blk {b t : Nat} : (b, t) ∈ D.writes → Mark D t (.blk b)
  | ext {t : Nat} {N : List Nat} : N ∈ D.nets → t ∈ N → D.topIn t = true → Mark D t .ext
  | rdConst {N : List Nat} {w v : Nat} : N ∈ D.nets → w ∈ N → D.isConst w = true → v ∈ N → v ≠ w →
      Mark D v (.net (rep N))
  | rdRel {N : List Nat} {w v t : Nat} {o : Origin} : N ∈ D.nets → w ∈ N → Mark D t o → o ≠ .net (rep N) →
      D.rel w t = true → v ∈ N → v ≠ w → Mark D v (.net (rep N))

/-- `x` is driven by something other than the net whose least member is `r`: it is a constant, or
it is related to (shares a bit with) an object that carries a mark of another origin -/
def Src (D : Design) (r x : Nat) : Prop :=
  D.isConst x = true ∨ ∃ t o, Mark D t o ∧ o ≠ Origin.net r ∧ D.rel x t = true

/-- the same with respect to the marks collected so far -/
def SrcT (D : Design) (T : Marks) (r x : Nat) : Prop :=
  D.isConst x = true ∨ ∃ m ∈ T, m.2 ≠ Origin.net r ∧ D.rel x m.1 = true

/-- a net with two independently driven members -/
def Bad (D : Design) : Prop :=
  ∃ N ∈ D.nets, ∃ x ∈ N, ∃ y ∈ N, x ≠ y ∧ Src D (rep N) x ∧ Src D (rep N) y

theorem drivenBy_iff (D : Design) (T : Marks) (v : Nat) :
    drivenBy D T v = true ↔ D.isConst v = true ∨ ∃ m ∈ T, D.rel v m.1 = true := by
  unfold drivenBy
  rw [Bool.or_eq_true, List.any_eq_true]

theorem SrcT.mono {D : Design} {T T' : Marks} {r x : Nat} (h : ∀ m ∈ T, m ∈ T') (hs : SrcT D T r x) : SrcT D T' r x :=
  hs.imp id (fun ⟨m, hm, h1, h2⟩ => ⟨m, h m hm, h1, h2⟩)

theorem SrcT.driven {D : Design} {T : Marks} {r x : Nat} (hs : SrcT D T r x) : drivenBy D T x = true :=
  (drivenBy_iff D T x).mpr (hs.imp id (fun ⟨m, hm, _, h2⟩ => ⟨m, hm, h2⟩))

/-- what the rounds maintain about the marks `T` collected and the nets `H` resolved so far -/
structure Inv (D : Design) (T : Marks) (H : List (Nat × List Nat)) : Prop where
  sound : ∀ m ∈ T, Mark D m.1 m.2
  base : ∀ m ∈ initMarks D, m ∈ T
  hnets : ∀ wn ∈ H, wn.2 ∈ D.nets ∧ wn.1 ∈ wn.2 ∧
    ∀ v ∈ wn.2, v ≠ wn.1 → (v, Origin.net (rep wn.2)) ∈ T
  /-- reader marks come from resolved nets only -/
  orig : ∀ m ∈ T, ∀ r, m.2 = Origin.net r → ∃ wn ∈ H, rep wn.2 = r
  /-- the writer of a resolved net is its only member that the marks drive from outside the net … -/
  key : ∀ wn ∈ H, ∀ x ∈ wn.2, SrcT D T (rep wn.2) x → x = wn.1
  /-- … and it is so driven -/
  wsrc : ∀ wn ∈ H, SrcT D T (rep wn.2) wn.1

variable {D : Design} {T : Marks} {H : List (Nat × List Nat)}

theorem Inv.fresh (hI : Inv D T H) {N : List Nat} (hN : N ∈ D.nets)
    (hf : ∀ wn ∈ H, wn.2 ≠ N) : ∀ m ∈ T, m.2 ≠ Origin.net (rep N) := by
  intro m hm heq
  obtain ⟨wn, hwn, hr⟩ := hI.orig m hm _ heq
  exact hf wn hwn (rep_inj (hI.hnets wn hwn).1 hN hr)

theorem Inv.srcT_sound (hI : Inv D T H) {r x : Nat} (h : SrcT D T r x) : Src D r x :=
  h.imp id (fun ⟨m, hm, h1, h2⟩ => ⟨m.1, m.2, hI.sound m hm, h1, h2⟩)

theorem Inv.srcT_of_driven (hI : Inv D T H) {N : List Nat} (hN : N ∈ D.nets) (hf : ∀ wn ∈ H, wn.2 ≠ N)
    {z : Nat} (hz : drivenBy D T z = true) : SrcT D T (rep N) z :=
  ((drivenBy_iff D T z).mp hz).imp id (fun ⟨m, hm, hr⟩ => ⟨m, hm, hI.fresh hN hf m hm, hr⟩)

theorem Inv.bad_of_two (hI : Inv D T H) {N : List Nat} (hN : N ∈ D.nets) (hf : ∀ wn ∈ H, wn.2 ≠ N)
    {x y : Nat} {r : List Nat} (hl : N.filter (drivenBy D T) = x :: y :: r) : Bad D := by
  have hnd : (N.filter (drivenBy D T)).Nodup := (sorted_nodup (nets_spec hN).1).filter _
  rw [hl] at hnd
  have hx : x ∈ N.filter (drivenBy D T) := by rw [hl]; simp
  have hy : y ∈ N.filter (drivenBy D T) := by rw [hl]; simp
  rw [List.mem_filter] at hx hy
  exact ⟨N, hN, x, hx.1, y, hy.1, fun e => (List.nodup_cons.mp hnd).1 (e ▸ List.mem_cons_self ..),
    hI.srcT_sound (hI.srcT_of_driven hN hf hx.2), hI.srcT_sound (hI.srcT_of_driven hN hf hy.2)⟩

/-- resolving a net keeps the invariant (this is where the symmetry of `related` is used: a reader
that becomes a mark cannot make an already resolved net acquire a second source, because the
member of that net it is related to is itself a mark and would have made it a second source of its
own net) -/
theorem Inv.headed (hsym : ∀ i j, D.rel i j = D.rel j i) (hI : Inv D T H) {N : List Nat} (hN : N ∈ D.nets)
    (hf : ∀ wn ∈ H, wn.2 ≠ N) {w : Nat} (hc : N.filter (drivenBy D T) = [w]) :
    Inv D (T ++ (N.filter (fun v => decide (v ≠ w))).map (fun v => (v, Origin.net (rep N)))) (H ++ [(w, N)]) := by
  have hw : w ∈ N ∧ drivenBy D T w = true := List.mem_filter.mp (hc ▸ List.mem_singleton.mpr rfl)
  have huniq : ∀ x ∈ N, drivenBy D T x = true → x = w := fun x hx hd =>
    List.mem_singleton.mp (hc ▸ List.mem_filter.mpr ⟨hx, hd⟩)
  have memT : ∀ m, m ∈ T ++ (N.filter (fun v => decide (v ≠ w))).map (fun v => (v, Origin.net (rep N))) ↔
      m ∈ T ∨ ∃ v ∈ N, v ≠ w ∧ m = (v, Origin.net (rep N)) := by
    intro m
    simp only [List.mem_append, List.mem_map, List.mem_filter, decide_eq_true_eq]
    exact or_congr_right ⟨fun ⟨v, ⟨hv, hne⟩, e⟩ => ⟨v, hv, hne, e.symm⟩, fun ⟨v, hv, hne, e⟩ => ⟨v, ⟨hv, hne⟩, e.symm⟩⟩
  have wSrc := hI.srcT_of_driven hN hf hw.2
  have inl := fun m (hm : m ∈ T) => (memT m).mpr (.inl hm)
  refine ⟨?_, fun m hm => inl m (hI.base m hm), ?_, ?_, ?_, ?_⟩
  · intro m hm
    rcases (memT m).mp hm with hm | ⟨v, hv, hne, rfl⟩
    · exact hI.sound m hm
    · rcases wSrc with hc' | ⟨t, ht, ho, hr⟩
      · exact Mark.rdConst hN hw.1 hc' hv hne
      · exact Mark.rdRel hN hw.1 (hI.sound t ht) ho hr hv hne
  · exact forall_mem_concat (fun wn hwn => (hI.hnets wn hwn).imp id (And.imp id fun c v hv hne => inl _ (c v hv hne)))
      ⟨hN, hw.1, fun v hv hne => (memT _).mpr (.inr ⟨v, hv, hne, rfl⟩)⟩
  · intro m hm r hr
    rcases (memT m).mp hm with hm | ⟨v, _, _, rfl⟩
    · obtain ⟨wn, hwn, h'⟩ := hI.orig m hm r hr
      exact ⟨wn, List.mem_append_left _ hwn, h'⟩
    · exact ⟨(w, N), List.mem_append_right _ (List.mem_singleton.mpr rfl), Origin.net.inj hr⟩
  · refine forall_mem_concat (fun wn hwn x hx hs => ?_) fun x hx hs => huniq x hx ?_
    · rcases hs with hs | ⟨m, hm, hne, hr⟩
      · exact hI.key wn hwn x hx (Or.inl hs)
      · rcases (memT m).mp hm with hm | ⟨v, hv, hvw, rfl⟩
        · exact hI.key wn hwn x hx (Or.inr ⟨m, hm, hne, hr⟩)
        · -- `x` is related to a new reader `v` of `N`: were `x` not the writer of its net, it would be
          -- marked, and `v` would have been a second driven member of `N`
          refine Decidable.by_contra (fun hxw => hvw (huniq v hv ?_))
          exact (drivenBy_iff D T v).mpr (Or.inr ⟨_, (hI.hnets wn hwn).2.2 x hx hxw, by rw [hsym]; exact hr⟩)
    · rcases hs with hs | ⟨m, hm, hne, hr⟩
      · exact (drivenBy_iff D T x).mpr (Or.inl hs)
      · rcases (memT m).mp hm with hm | ⟨v, _, _, rfl⟩
        · exact (drivenBy_iff D T x).mpr (Or.inr ⟨m, hm, hr⟩)
        · exact absurd rfl hne
  · exact forall_mem_concat (fun wn hwn => (hI.wsrc wn hwn).mono inl) (wSrc.mono inl)

theorem stepNet_cases (D : Design) (st : RState) (N : List Nat) :
    (N.filter (drivenBy D st.marks) = [] ∧ stepNet D st N = .ok { st with headless := st.headless ++ [N] }) ∨
    (∃ w, N.filter (drivenBy D st.marks) = [w] ∧ stepNet D st N = .ok
      { marks := st.marks ++ (N.filter (fun v => decide (v ≠ w))).map (fun v => (v, Origin.net (rep N))),
        headed := st.headed ++ [(w, N)], headless := st.headless }) ∨
    (∃ x y r, N.filter (drivenBy D st.marks) = x :: y :: r ∧ stepNet D st N = .error .multiWriter) := by
  unfold stepNet
  match N.filter (drivenBy D st.marks) with
  | [] => exact Or.inl ⟨rfl, rfl⟩
  | [w] => exact Or.inr (Or.inl ⟨w, rfl, rfl⟩)
  | x :: y :: r => exact Or.inr (Or.inr ⟨x, y, r, rfl, rfl⟩)

/-- resolved nets, headless nets and the nets still to be visited in this round are the nets of the
design, each exactly once -/
def Part (D : Design) (st : RState) (pending : List (List Nat)) : Prop :=
  (st.headed.map (·.2) ++ st.headless ++ pending).Perm D.nets

theorem Part.head_mem {st : RState} {N : List Nat} {rest : List (List Nat)}
    (hP : Part D st (N :: rest)) : N ∈ D.nets ∧ ∀ wn ∈ st.headed, wn.2 ≠ N := by
  refine ⟨hP.mem_iff.mp (List.mem_append_right _ (List.mem_cons_self ..)), fun wn hwn heq => ?_⟩
  have hnd : (st.headed.map (·.2) ++ (st.headless ++ N :: rest)).Nodup :=
    List.append_assoc .. ▸ hP.nodup_iff.mpr (nets_nodup _)
  exact (List.nodup_append.mp hnd).2.2 wn.2 (List.mem_map.mpr ⟨wn, hwn, rfl⟩) N
    (List.mem_append_right _ (List.mem_cons_self ..)) heq

theorem Part.headless {st : RState} {N : List Nat} {rest : List (List Nat)} (hP : Part D st (N :: rest)) :
    Part D { st with headless := st.headless ++ [N] } rest := by
  unfold Part at hP ⊢
  simpa [List.append_assoc] using hP

theorem Part.headed {st : RState} {N : List Nat} {rest : List (List Nat)} (hP : Part D st (N :: rest))
    (T' : Marks) (w : Nat) : Part D { marks := T', headed := st.headed ++ [(w, N)], headless := st.headless } rest := by
  unfold Part at hP ⊢
  simp only [List.map_append, List.map_cons, List.map_nil, List.append_assoc, List.singleton_append]
  exact (List.perm_middle.symm.append_left _).trans (by simpa [List.append_assoc] using hP)

theorem Part.round {st : RState} (hP : Part D st []) : Part D { st with headless := [] } st.headless := by
  unfold Part at hP ⊢
  simpa using hP

/-- what a run of the rounds guarantees: an error is `MultiWriterError` and the design has a net
with two sources; a result satisfies `Q` -/
def Sound (D : Design) (Q : RState → Prop) : Except Err RState → Prop
  | .ok st => Q st
  | .error e => e = .multiWriter ∧ Bad D

theorem Sound.ok {Q : RState → Prop} {r : Except Err RState} (h : Sound D Q r) {st : RState} (hr : r = .ok st) : Q st := by
  subst hr; exact h

theorem Sound.error {Q : RState → Prop} {r : Except Err RState} (h : Sound D Q r) {e : Err} (hr : r = .error e) :
    e = .multiWriter ∧ Bad D := by
  subst hr; exact h

/-- at least `n` nets are resolved, and while there are exactly `n` (none was resolved since, so no mark was
added) the nets put aside have no driven member: the `wcount == len(writer_prop)` exit of the `while` loop -/
structure Stalled (D : Design) (n : Nat) (st : RState) : Prop where
  le : n ≤ st.headed.length
  idle : st.headed.length = n → ∀ N ∈ st.headless, N.filter (drivenBy D st.marks) = []

theorem pass_inv (hsym : ∀ i j, D.rel i j = D.rel j i) (n : Nat) :
    ∀ (pending : List (List Nat)) (st : RState), Inv D st.marks st.headed → Part D st pending → Stalled D n st →
    Sound D (fun st' => Inv D st'.marks st'.headed ∧ Part D st' [] ∧ Stalled D n st') (pass D pending st)
  | [], _, hI, hP, hS => ⟨hI, hP, hS⟩
  | N :: rest, st, hI, hP, hS => by
    obtain ⟨hN, hf⟩ := hP.head_mem
    rcases stepNet_cases D st N with ⟨hc, he⟩ | ⟨w, hc, he⟩ | ⟨x, y, r, hc, he⟩
    · simp only [pass, he]
      exact pass_inv hsym n rest _ hI hP.headless ⟨hS.le, fun hl => forall_mem_concat (hS.idle hl) hc⟩
    · simp only [pass, he]
      have hl : n < (st.headed ++ [(w, N)]).length := by rw [List.length_append]; exact Nat.lt_succ_of_le hS.le
      exact pass_inv hsym n rest _ (hI.headed hsym hN hf hc) (hP.headed _ w) ⟨Nat.le_of_lt hl, fun e => absurd e (Nat.ne_of_gt hl)⟩
    · simp only [pass, he]
      exact ⟨rfl, hI.bad_of_two hN hf hc⟩

/-- a state in which the rounds have stopped -/
structure Final (D : Design) (st : RState) : Prop where
  inv : Inv D st.marks st.headed
  part : Part D st []
  fin : ∀ N ∈ st.headless, N.filter (drivenBy D st.marks) = []

theorem Part.perm {st : RState} (hP : Part D st []) : (st.headed.map (·.2) ++ st.headless).Perm D.nets := by
  simpa [Part] using hP

theorem Part.length {st : RState} (hP : Part D st []) : st.headed.length + st.headless.length = D.nets.length := by
  simpa using hP.perm.length_eq

theorem rounds_sound (hsym : ∀ i j, D.rel i j = D.rel j i) :
    ∀ (f : Nat) (st : RState), Inv D st.marks st.headed → Part D st [] → st.headless.length < f →
    Sound D (Final D) (rounds D f st)
  | 0, _, _, _, h => absurd h (Nat.not_lt_zero _)
  | f+1, st, hI, hP, hlt => by
    unfold rounds
    split
    · next hemp => exact ⟨hI, hP, fun N hN => by rw [List.isEmpty_iff.mp hemp] at hN; cases hN⟩
    · have hp := pass_inv hsym st.headed.length st.headless { st with headless := [] } hI hP.round
        ⟨Nat.le_refl _, fun _ _ h => nomatch h⟩
      cases hpass : pass D st.headless { st with headless := [] } with
      | error e => rw [hpass] at hp; exact hp
      | ok st1 =>
        rw [hpass] at hp
        obtain ⟨hI1, hP1, hle, hfin⟩ := hp
        -- a round that does not stop has resolved a net (`hle` is strict then), so one net fewer is headless
        have h0 := hP.length
        have h1 := hP1.length
        dsimp only
        split
        · next hl => exact ⟨hI1, hP1, hfin (by omega)⟩
        · next hl => exact rounds_sound hsym f st1 hI1 hP1 (by omega)

theorem mem_initMarks (D : Design) (m : Nat × Origin) :
    m ∈ initMarks D ↔ (∃ b, (b, m.1) ∈ D.writes ∧ m.2 = Origin.blk b) ∨
      (m.2 = Origin.ext ∧ D.topIn m.1 = true ∧ ∃ N ∈ D.nets, m.1 ∈ N) := by
  unfold initMarks
  simp only [List.mem_append, List.mem_map, List.mem_filter, List.mem_flatMap, id]
  constructor
  · rintro (⟨w, hw, rfl⟩ | ⟨t, ⟨⟨N, hN, ht⟩, htop⟩, rfl⟩)
    · exact Or.inl ⟨w.1, hw, rfl⟩
    · exact Or.inr ⟨rfl, htop, N, hN, ht⟩
  · rintro (⟨b, hw, hm⟩ | ⟨hm, htop, N, hN, ht⟩)
    · exact Or.inl ⟨(b, m.1), hw, by rw [← hm]⟩
    · exact Or.inr ⟨m.1, ⟨⟨N, hN, ht⟩, htop⟩, by rw [← hm]⟩

theorem inv_init {T0 : Marks} (hT : ∀ m, m ∈ T0 ↔ m ∈ initMarks D) : Inv D T0 [] := by
  refine ⟨fun m hm => ?_, fun m hm => (hT m).mpr hm, fun _ h => (nomatch h), fun m hm r hr => ?_,
    fun _ h => (nomatch h), fun _ h => (nomatch h)⟩
  · rcases (mem_initMarks D m).mp ((hT m).mp hm) with ⟨b, hw, h2⟩ | ⟨h2, htop, N, hN, ht⟩
    · rw [h2]; exact Mark.blk hw
    · rw [h2]; exact Mark.ext hN ht htop
  · rcases (mem_initMarks D m).mp ((hT m).mp hm) with ⟨b, _, h2⟩ | ⟨h2, _⟩ <;> rw [h2] at hr <;> cases hr

theorem resolveFrom_sound (hsym : ∀ i j, D.rel i j = D.rel j i) {T0 : Marks} {ns : List (List Nat)}
    (hT : ∀ m, m ∈ T0 ↔ m ∈ initMarks D) (hns : ns.Perm D.nets) : Sound D (Final D) (resolveFrom D T0 ns) :=
  rounds_sound hsym _ _ (inv_init hT) (by unfold Part; simpa using hns) (Nat.lt_succ_self _)

theorem resolve_sound (hsym : ∀ i j, D.rel i j = D.rel j i) : Sound D (Final D) (resolve D) :=
  resolveFrom_sound hsym (fun _ => Iff.rfl) (List.Perm.refl _)

variable {st : RState}

theorem Final.split (hF : Final D st) {N : List Nat} (hN : N ∈ D.nets) :
    (∃ w, (w, N) ∈ st.headed) ∨ N ∈ st.headless := by
  have := hF.part.perm.mem_iff.mpr hN
  simp only [List.mem_append, List.mem_map] at this
  rcases this with ⟨wn, hwn, rfl⟩ | h
  · exact Or.inl ⟨wn.1, hwn⟩
  · exact Or.inr h

theorem Final.not_driven (hF : Final D st) {N : List Nat} (hN : N ∈ st.headless) {x : Nat} (hx : x ∈ N) :
    drivenBy D st.marks x ≠ true := fun hd =>
  nomatch hF.fin N hN ▸ List.mem_filter.mpr ⟨hx, hd⟩

/-- a member that the collected marks drive from outside its net is the writer the rounds gave the net -/
theorem Final.headed_of_srcT (hF : Final D st) {N : List Nat} (hN : N ∈ D.nets) {w : Nat} (hw : w ∈ N)
    (hs : SrcT D st.marks (rep N) w) : (w, N) ∈ st.headed := by
  rcases hF.split hN with ⟨w', hh⟩ | hl
  · cases hF.inv.key _ hh w hw hs
    exact hh
  · exact absurd hs.driven (hF.not_driven hl hw)

theorem Final.mark_complete (hF : Final D st) {t : Nat} {o : Origin} (h : Mark D t o) : (t, o) ∈ st.marks := by
  induction h with
  | blk hw => exact hF.inv.base _ ((mem_initMarks D _).mpr (Or.inl ⟨_, hw, rfl⟩))
  | ext hN ht htop => exact hF.inv.base _ ((mem_initMarks D _).mpr (Or.inr ⟨rfl, htop, _, hN, ht⟩))
  | rdConst hN hw hc hv hne => exact (hF.inv.hnets _ (hF.headed_of_srcT hN hw (Or.inl hc))).2.2 _ hv hne
  | rdRel hN hw _ ho hr hv hne ih => exact (hF.inv.hnets _ (hF.headed_of_srcT hN hw (Or.inr ⟨_, ih, ho, hr⟩))).2.2 _ hv hne

theorem Final.src_iff_srcT (hF : Final D st) (r x : Nat) : Src D r x ↔ SrcT D st.marks r x :=
  ⟨fun h => h.imp id (fun ⟨t, o, hm, ho, hr⟩ => ⟨(t, o), hF.mark_complete hm, ho, hr⟩), hF.inv.srcT_sound⟩

theorem Final.writer_unique (hF : Final D st) {w : Nat} {N : List Nat} (h : (w, N) ∈ st.headed) {x : Nat}
    (hx : x ∈ N) (hs : Src D (rep N) x) : x = w :=
  hF.inv.key _ h x hx ((hF.src_iff_srcT _ _).mp hs)

theorem Final.headed_iff (hF : Final D st) (w : Nat) (N : List Nat) :
    (w, N) ∈ st.headed ↔ N ∈ D.nets ∧ w ∈ N ∧ Src D (rep N) w := by
  constructor
  · intro h
    have h3 := hF.inv.hnets (w, N) h
    exact ⟨h3.1, h3.2.1, hF.inv.srcT_sound (hF.inv.wsrc (w, N) h)⟩
  · exact fun ⟨hN, hw, hs⟩ => hF.headed_of_srcT hN hw ((hF.src_iff_srcT _ _).mp hs)

theorem Final.headless_iff (hF : Final D st) (N : List Nat) :
    N ∈ st.headless ↔ N ∈ D.nets ∧ ∀ x ∈ N, ¬ Src D (rep N) x := by
  constructor
  · intro h
    exact ⟨hF.part.perm.mem_iff.mp (List.mem_append_right _ h), fun x hx hs => hF.not_driven h hx ((hF.src_iff_srcT _ _).mp hs).driven⟩
  · rintro ⟨hN, hno⟩
    rcases hF.split hN with ⟨w, hh⟩ | hl
    · exact absurd (hF.inv.srcT_sound (hF.inv.wsrc _ hh)) (hno w (hF.inv.hnets _ hh).2.1)
    · exact hl

theorem Final.not_bad (hF : Final D st) : ¬ Bad D := by
  rintro ⟨N, hN, x, hx, y, hy, hne, sx, sy⟩
  exact hne (hF.writer_unique ((hF.headed_iff x N).mpr ⟨hN, hx, sx⟩) hy sy).symm

theorem error_iff_bad {r : Except Err RState} (h : Sound D (Final D) r) : (∃ e, r = .error e) ↔ Bad D := by
  cases r with
  | error e => exact ⟨fun _ => h.2, fun _ => ⟨e, rfl⟩⟩
  | ok st => exact ⟨fun ⟨_, he⟩ => (nomatch he), fun hb => absurd hb (Final.not_bad h)⟩

end

end PV.Nets
