import PymtlVerif.Model.Mamba
import PymtlVerif.Proofs.KahnCount
import PymtlVerif.Proofs.Loop
import PymtlVerif.Proofs.ListFacts
/-!
Lemmas about `Model/Mamba.lean`; the property theorems are in `Props/C01m.lean`. The packing invariant `BInv` gives the
group bounds (and with them that no group is empty); the two Kahn-style loops are `Loop.run` (`Proofs/Loop.lean`) under the
invariant `KInv` of `Proofs/KahnCount.lean`, `expand_node` being a counter update plus a fold of the push over `hits`.
-/
namespace PV.Mamba
open PV.Loop

section SortSec
variable {β : Type} (br : β → Nat)

theorem insertBr_perm (x : β) (l : List β) : (insertBr br x l).Perm (x :: l) := by
  fun_induction insertBr br x l with
  | case1 => exact .refl _
  | case2 => exact .refl _
  | case3 y ys _ ih => exact (ih.cons y).trans (.swap x y ys)

theorem sortBr_perm : ∀ l : List β, (sortBr br l).Perm l
  | [] => .refl _
  | x :: xs => (insertBr_perm br x _).trans ((sortBr_perm xs).cons x)

theorem insertBr_sorted (x : β) (l : List β) (h : l.Pairwise (fun a b => br a ≤ br b)) :
    (insertBr br x l).Pairwise (fun a b => br a ≤ br b) := by
  fun_induction insertBr br x l with
  | case1 => exact List.pairwise_singleton _ _
  | case2 y ys hxy =>
    refine List.pairwise_cons.mpr ⟨List.forall_mem_cons.mpr ⟨hxy, fun z hz => ?_⟩, h⟩
    exact Nat.le_trans hxy ((List.pairwise_cons.mp h).1 z hz)
  | case3 y ys hxy ih =>
    obtain ⟨hy, hys⟩ := List.pairwise_cons.mp h
    refine List.pairwise_cons.mpr ⟨fun z hz => ?_, ih hys⟩
    rcases List.mem_cons.mp ((insertBr_perm br x ys).mem_iff.mp hz) with rfl | hz
    · exact Nat.le_of_lt (Nat.not_le.mp hxy)
    · exact hy z hz

theorem sortBr_sorted : ∀ l : List β, (sortBr br l).Pairwise (fun a b => br a ≤ br b)
  | [] => List.Pairwise.nil
  | x :: xs => insertBr_sorted br x _ (sortBr_sorted xs)

theorem insertBr_filter (x : β) (k : Nat) (l : List β) :
    (insertBr br x l).filter (fun a => br a == k) = (x :: l).filter (fun a => br a == k) := by
  fun_induction insertBr br x l with
  | case1 => rfl
  | case2 => rfl
  | case3 y ys hxy ih =>
    -- `x` passes `y` only if `br y < br x`: they are not both in the block of branchiness `k`
    rw [List.filter_cons, ih]
    by_cases hy : br y = k
    · have hx : (br x == k) = false := beq_false_of_ne fun e => hxy (Nat.le_of_eq (e.trans hy.symm))
      simp only [List.filter_cons, hx]; rfl
    · simp only [List.filter_cons, beq_false_of_ne hy]; rfl

theorem sortBr_stable (k : Nat) : ∀ l : List β, (sortBr br l).filter (fun a => br a == k) = l.filter (fun a => br a == k)
  | [] => rfl
  | x :: xs => by
    show (insertBr br x (sortBr br xs)).filter _ = _
    rw [insertBr_filter, List.filter_cons, List.filter_cons, sortBr_stable k xs]

end SortSec

/-! ## schedule_ff's packing loop -/
section FF
variable {β : Type} (br : β → Nat)

theorem packFFGo_flatten (l cur : List β) (cb cc : Nat) : (packFFGo br l cur cb cc).flatten = cur ++ l := by
  fun_induction packFFGo br l cur cb cc with
  | case1 cur _ _ h => rw [List.isEmpty_iff.mp h]; rfl
  | case2 => simp
  | case3 b rest cur cb cc hb ih => rw [ih, List.append_assoc]; rfl
  | case4 b rest cur cb cc hb cur' cb' cc' hc ih => rw [List.flatten_cons, ih, List.append_assoc]; rfl
  | case5 b rest cur cb cc hb cur' cb' cc' hc ih => rw [ih, List.append_assoc]; rfl

def total (l : List β) : Nat := (l.map br).sum
def branchy (l : List β) : Nat := l.countP (fun x => decide (0 < br x))

theorem total_append (a b : List β) : total br (a ++ b) = total br a + total br b := by simp [total]
theorem total_nil : total br ([] : List β) = 0 := rfl
theorem total_single (x : β) : total br [x] = br x := by simp [total]
theorem branchy_append (a b : List β) : branchy br (a ++ b) = branchy br a + branchy br b := by simp [branchy]
theorem branchy_nil : branchy br ([] : List β) = 0 := rfl
theorem branchy_single (x : β) : branchy br [x] = if 0 < br x then 1 else 0 := by
  simp [branchy, List.countP_cons]

/-- what the packing guarantees for a meta block: at most `k` branchy members, and the branchiness accumulated before
its last member is below the bound (the last member may overshoot it by any amount) -/
def GroupOK (k : Nat) (m : List β) : Prop :=
  branchy br m ≤ k ∧ ∃ pre b, m = pre ++ [b] ∧ total br pre < brFactor

theorem GroupOK.ne_nil {br : β → Nat} {k : Nat} {m : List β} (h : GroupOK br k m) : m ≠ [] := by
  obtain ⟨_, pre, b, rfl, _⟩ := h
  exact List.append_ne_nil_of_right_ne_nil _ (List.cons_ne_nil _ _)

theorem groupOK_of_small {k : Nat} {m : List β} (hne : m ≠ []) (hc : branchy br m ≤ k) (ht : total br m < brFactor) :
    GroupOK br k m := by
  refine ⟨hc, m.dropLast, m.getLast hne, (List.dropLast_concat_getLast hne).symm, Nat.lt_of_le_of_lt ?_ ht⟩
  conv => rhs; rw [← List.dropLast_concat_getLast hne, total_append]
  exact Nat.le_add_right ..

theorem groupOK_snoc {k : Nat} (cur : List β) (b : β) (hc : branchy br cur ≤ k) (ht : total br cur < brFactor) :
    GroupOK br (k + 1) (cur ++ [b]) := by
  refine ⟨?_, cur, b, rfl, ht⟩
  rw [branchy_append, branchy_single]
  exact Nat.add_le_add hc (by split; exact Nat.le_refl 1; exact Nat.zero_le 1)

end FF

/-! ## the packing state: the step shared by compile_scc and the main loop, and the bounds of all three packers -/
section PackSec
variable {β : Type}

theorem brFactor_pos : 0 < brFactor := by decide

def flat (p : Pack β) : List β := p.out.flatten ++ p.cur

theorem stepWith_flat (first : Nat → Nat → Bool) (p : Pack β) (r : Nat) (b : β) :
    flat (stepWith first p r b) = flat p ++ [b] := by
  fun_cases stepWith first p r b <;>
    simp only [flat, List.flatten_append, List.flatten_cons, List.flatten_nil, List.append_nil, List.append_assoc] <;> rfl

theorem finish_flatten (p : Pack β) : (finish p).flatten = flat p := by
  unfold finish flat; split
  · next h => rw [List.isEmpty_iff.mp h, List.append_nil]
  · rw [List.flatten_append, List.flatten_singleton]

theorem foldl_sccStep (br : β → Nat) : ∀ (l : List β) (p : Pack β), flat (l.foldl (sccStep br) p) = flat p ++ l
  | [], p => (List.append_nil _).symm
  | b :: rest, p => by rw [List.foldl_cons, foldl_sccStep br rest, sccStep, stepWith_flat, List.append_assoc]; rfl

theorem packSCCOn_flatten (br : β → Nat) (l : List β) : (packSCCOn br l).flatten = l := by
  unfold packSCCOn; split
  · exact List.flatten_singleton ..
  · rw [finish_flatten, foldl_sccStep]; rfl

variable (rf : β → Nat)

theorem total_zero_branchy : ∀ l : List β, total rf l = 0 → branchy rf l = 0
  | [], _ => rfl
  | x :: xs, h => by
    have h' : rf x + total rf xs = 0 := h
    obtain ⟨hx, hxs⟩ := Nat.add_eq_zero_iff.mp h'
    rw [show x :: xs = [x] ++ xs from rfl, branchy_append, total_zero_branchy xs hxs, branchy_single, hx]; rfl

variable (k : Nat)
/-- invariant of a packing state: `cur_br` / `cur_count` are the sum / the number of branchy members of `cur_meta`,
`cur_br < 20`, `cur_count ≤ k`, and every emitted meta block is within `GroupOK … (k + 1)`.
`schedule_ff` flushes when `cur_count >= 6` after counting the block: `k = blkFactor - 1 = 5`. `stepWith` flushes when
`cur_count + 1 >= 6`, so its open group holds at most `k = blkFactor - 2 = 4` branchy members and a closed one at most 5. -/
structure BInv (p : Pack β) : Prop where
  cb_eq : p.cb = total rf p.cur
  cc_eq : p.cc = branchy rf p.cur
  cb_lt : p.cb < brFactor
  cc_le : p.cc ≤ k
  out_ok : ∀ m ∈ p.out, GroupOK rf (k + 1) m

theorem binv_empty : BInv rf k (Pack.empty : Pack β) :=
  ⟨rfl, rfl, brFactor_pos, Nat.zero_le _, fun _ h => nomatch h⟩

variable {rf k} {p : Pack β}

theorem BInv.cur_ok (h : BInv rf k p) (hne : p.cur ≠ []) : GroupOK rf (k + 1) p.cur :=
  groupOK_of_small rf hne (h.cc_eq ▸ Nat.le_succ_of_le h.cc_le) (h.cb_eq ▸ h.cb_lt)

/-- A packing step does one of three things (`closeWith`, `closeBefore`, `stay`). Here the open group is closed with `b` as its
last member. -/
theorem BInv.closeWith (h : BInv rf k p) (b : β) : BInv rf k ⟨[], 0, 0, p.out ++ [p.cur ++ [b]]⟩ :=
  ⟨rfl, rfl, brFactor_pos, Nat.zero_le _,
    forall_mem_concat h.out_ok (groupOK_snoc rf p.cur b (h.cc_eq ▸ h.cc_le) (h.cb_eq ▸ h.cb_lt))⟩

/-- the open group is closed before `b`, which opens the next one -/
theorem BInv.closeBefore (h : BInv rf k p) (hcb : p.cb ≠ 0) {b : β} (hb : rf b = 0) :
    BInv rf k ⟨[b], 0, 0, p.out ++ [p.cur]⟩ := by
  refine ⟨by rw [total_single, hb], by rw [branchy_single, hb]; rfl, brFactor_pos, Nat.zero_le _,
    forall_mem_concat h.out_ok (h.cur_ok fun e => hcb ?_)⟩
  rw [h.cb_eq, e]; rfl

/-- `b` joins the open group, which stays open, the counters within their bounds -/
theorem BInv.stay (h : BInv rf k p) (b : β) {c : Nat} (hc : c = if rf b > 0 then 1 else 0)
    (h1 : p.cb + rf b < brFactor) (h2 : p.cc + c ≤ k) :
    BInv rf k ⟨p.cur ++ [b], p.cb + rf b, p.cc + c, p.out⟩ :=
  ⟨by rw [total_append, total_single, ← h.cb_eq], by rw [branchy_append, branchy_single, ← h.cc_eq, hc], h1, h2, h.out_ok⟩

theorem finish_bounds (h : BInv rf k p) : ∀ m ∈ finish p, GroupOK rf (k + 1) m := by
  unfold finish; split
  · exact h.out_ok
  · next hc => exact forall_mem_concat h.out_ok (h.cur_ok fun e => hc (e ▸ rfl))

theorem stepWith_binv (first : Nat → Nat → Bool) (hfirst : ∀ cb cc, first cb cc = false → cb < brFactor)
    (r : Nat) (b : β) (hr : r = rf b) (h : BInv rf 4 p) : BInv rf 4 (stepWith first p r b) := by
  subst hr
  fun_cases stepWith first p (rf b) b with
  | case1 => exact h.closeWith b
  | case2 h0 cur cb cc hf =>
    refine h.stay b rfl (hfirst _ _ (Bool.eq_false_iff.mpr hf)) ?_
    -- an open group of branchiness 0 has no branchy member
    rw [h.cc_eq, total_zero_branchy rf _ (h.cb_eq ▸ h0)]; split <;> decide
  | case3 h0 hr => exact h.closeBefore h0 hr
  | case4 => exact h.closeWith b
  | case5 h0 hr cur cb cc hc =>
    exact h.stay b rfl (Nat.lt_of_le_of_lt (Nat.le_add_right ..) (Nat.not_le.mp fun h => hc (.inl h)))
      (Nat.le_of_lt_succ (Nat.lt_of_succ_lt_succ (Nat.not_le.mp fun h => hc (.inr h))))

/-- the loop of `schedule_ff` makes the same three moves -/
theorem packFFGo_bounds (l cur : List β) (cb cc : Nat) (h : BInv rf 5 ⟨cur, cb, cc, []⟩) :
    ∀ m ∈ packFFGo rf l cur cb cc, GroupOK rf blkFactor m := by
  fun_induction packFFGo rf l cur cb cc with
  | case1 => exact fun _ h => nomatch h
  | case2 cur _ _ hne => exact fun m hm => List.mem_singleton.mp hm ▸ h.cur_ok fun (e : cur = []) => hne (e ▸ rfl)
  | case3 b rest cur cb cc hb ih =>
    have := h.stay b (c := 0) (by rw [hb]; rfl) (by rw [hb]; exact h.cb_lt) h.cc_le
    rw [hb] at this
    exact ih this
  | case4 b rest cur cb cc hb cur' cb' cc' hc ih =>
    exact List.forall_mem_cons.mpr ⟨(h.closeWith b).out_ok _ (List.mem_singleton_self _), ih (binv_empty rf 5)⟩
  | case5 b rest cur cb cc hb cur' cb' cc' hc ih =>
    exact ih (h.stay b (if_pos (Nat.pos_of_ne_zero hb)).symm (Nat.not_le.mp fun h => hc (.inl h))
      (Nat.le_of_lt_succ (Nat.not_le.mp fun h => hc (.inr h))))

variable (rf)
theorem sccFirst_lt (cb cc : Nat) (h : sccFirst cb cc = false) : cb < brFactor :=
  Nat.not_le.mp fun hge => of_decide_eq_false h (.inl hge)
theorem mainFirst_lt (cb cc : Nat) (h : mainFirst cb cc = false) : cb < brFactor :=
  Nat.not_le.mp fun hge => of_decide_eq_false h hge

theorem foldl_sccStep_binv : ∀ (l : List β) (p : Pack β), BInv rf 4 p → BInv rf 4 (l.foldl (sccStep rf) p)
  | [], _, h => h
  | b :: rest, _, h => foldl_sccStep_binv rest _ (stepWith_binv _ sccFirst_lt _ b rfl h)

theorem packSCCOn_bounds (l : List β) (hl : 10 ≤ l.length) : ∀ m ∈ packSCCOn rf l, GroupOK rf 5 m := by
  unfold packSCCOn; split
  · next h => exact absurd hl (Nat.not_le.mpr h)
  · exact finish_bounds (foldl_sccStep_binv rf l _ (binv_empty rf 4))

theorem packSCCOn_nonempty (l : List β) (hl : l ≠ []) : ∀ m ∈ packSCCOn rf l, m ≠ [] := by
  intro m hm
  by_cases h : l.length < 10
  · rw [packSCCOn, if_pos h] at hm
    exact List.mem_singleton.mp hm ▸ hl
  · exact (packSCCOn_bounds rf l (Nat.not_lt.mp h) m hm).ne_nil

end PackSec

/-! ## insert_sortedlist -/
section InsertSec

theorem mid_bounds {lo right : Nat} (h : lo < right) : lo ≤ (lo + right - 1) / 2 ∧ (lo + right - 1) / 2 < right := by
  -- with `right = r + 1` the probe is `(lo + r) / 2`, and `lo ≤ r`
  obtain ⟨r, rfl⟩ := Nat.exists_eq_succ_of_ne_zero (Nat.ne_of_gt (Nat.zero_lt_of_lt h))
  have hle : lo ≤ r := Nat.le_of_lt_succ h
  rw [Nat.add_succ_sub_one]
  exact ⟨(Nat.le_div_iff_mul_le Nat.two_pos).mpr (Nat.mul_two lo ▸ Nat.add_le_add_left hle lo),
    Nat.lt_succ_of_le (Nat.div_le_of_le_mul (Nat.two_mul r ▸ Nat.add_le_add_right hle r))⟩

theorem bsearch_le (arr : List QE) (key : Key) (fuel lo right : Nat) (h : right ≤ arr.length) :
    bsearch arr key fuel lo right ≤ arr.length := by
  fun_induction bsearch arr key fuel lo right with
  | case1 => exact h
  | case2 => exact h
  | case3 _ _ _ _ _ _ _ _ ih => exact ih h
  | case4 _ _ _ hlt _ _ _ _ ih => exact ih (Nat.le_trans (Nat.le_of_lt (mid_bounds hlt).2) h)
  | case5 => exact h

theorem insertSorted_perm (arr : List QE) (key : Key) (item : Nat) :
    (insertSorted arr key item).Perm ((key, item) :: arr) :=
  List.perm_insertIdx _ _ (bsearch_le arr key _ _ _ (Nat.le_refl _))

/-- a lexicographic order: first component a number, ties broken by a proposition -/
theorem lex_trans {x1 x2 x3 : Nat} {P12 P23 P13 : Prop} (h1 : x1 < x2 ∨ x1 = x2 ∧ P12) (h2 : x2 < x3 ∨ x2 = x3 ∧ P23)
    (hP : P12 → P23 → P13) : x1 < x3 ∨ x1 = x3 ∧ P13 := by
  rcases h1 with h1 | ⟨rfl, p12⟩
  · exact .inl (h2.elim (Nat.lt_trans h1) fun h => h.1 ▸ h1)
  · exact h2.elim .inl fun h => .inr ⟨h.1, hP p12 h.2⟩

theorem lex_total {x1 x2 : Nat} {P Q : Prop} (h : ¬(x1 < x2 ∨ x1 = x2 ∧ P)) (hPQ : ¬P → Q) : x2 < x1 ∨ x2 = x1 ∧ Q := by
  rcases Nat.lt_trichotomy x1 x2 with hlt | rfl | hgt
  · exact absurd (.inl hlt) h
  · exact .inr ⟨rfl, hPQ fun p => h (.inr ⟨rfl, p⟩)⟩
  · exact .inl hgt

theorem keyLe_iff {a b : Key} : keyLe a b = true ↔ a.1 < b.1 ∨ a.1 = b.1 ∧ b.2 ≤ a.2 := by
  simp only [keyLe, Bool.or_eq_true, decide_eq_true_eq, Bool.and_eq_true, beq_iff_eq]

theorem keyLe_trans {a b c : Key} (h1 : keyLe a b = true) (h2 : keyLe b c = true) : keyLe a c = true :=
  keyLe_iff.mpr (lex_trans (keyLe_iff.mp h1) (keyLe_iff.mp h2) fun h12 h23 => Nat.le_trans h23 h12)

theorem keyLe_total {a b : Key} (h : keyLe a b = false) : keyLe b a = true :=
  keyLe_iff.mpr (lex_total (mt keyLe_iff.mpr (Bool.eq_false_iff.mp h)) fun hn => Nat.le_of_not_le hn)
/-- the queue is ordered by Python's `<=` on the keys `(br, -cnt)` -/
def QSorted (q : List QE) : Prop := q.Pairwise (fun a b => keyLe a.1 b.1 = true)

theorem sorted_take {arr : List QE} {key : Key} (hs : QSorted arr) {m : Nat} {e : QE} (hm : arr[m]? = some e)
    (hk : keyLe e.1 key = true) : ∀ x ∈ arr.take (m + 1), keyLe x.1 key = true := by
  intro x hx
  obtain ⟨hml, rfl⟩ := List.getElem?_eq_some_iff.mp hm
  rw [List.take_succ_eq_append_getElem hml, List.mem_append, List.mem_singleton] at hx
  rcases hx with hx | rfl
  · rw [← List.take_append_drop m arr, List.drop_eq_getElem_cons hml] at hs
    exact keyLe_trans ((List.pairwise_append.mp hs).2.2 x hx _ (List.mem_cons_self ..)) hk
  · exact hk

theorem sorted_drop {arr : List QE} {key : Key} (hs : QSorted arr) {m : Nat} {e : QE} (hm : arr[m]? = some e)
    (hk : keyLe e.1 key = false) : ∀ x ∈ arr.drop m, keyLe x.1 key = false := by
  intro x hx
  obtain ⟨hml, rfl⟩ := List.getElem?_eq_some_iff.mp hm
  rw [List.drop_eq_getElem_cons hml, List.mem_cons] at hx
  rcases hx with rfl | hx
  · exact hk
  · rw [← List.take_append_drop m arr, List.drop_eq_getElem_cons hml] at hs
    have := (List.pairwise_cons.mp (List.pairwise_append.mp hs).2.1).1 x hx
    cases hxk : keyLe x.1 key
    · rfl
    · rw [keyLe_trans this hxk] at hk; exact hk

/-- The search keeps: every entry left of `lo` has a key `<=` the new one, every entry from `right` on a greater one, and the fuel
covers the interval (`right ≤ lo + fuel`, so the `0` case of `bsearch` is met with `lo = right` only). The probe is inside the
interval (`mid_bounds`) and, the array being sorted, settles its whole side (`sorted_take`, `sorted_drop`). -/
theorem bsearch_spec (arr : List QE) (key : Key) (hs : QSorted arr) (fuel lo right : Nat)
    (h1 : lo ≤ right) (h2 : right ≤ arr.length) (h3 : right ≤ lo + fuel)
    (h4 : ∀ x ∈ arr.take lo, keyLe x.1 key = true) (h5 : ∀ x ∈ arr.drop right, keyLe x.1 key = false) :
    (∀ x ∈ arr.take (bsearch arr key fuel lo right), keyLe x.1 key = true) ∧
    (∀ x ∈ arr.drop (bsearch arr key fuel lo right), keyLe x.1 key = false) := by
  fun_induction bsearch arr key fuel lo right with
  | case1 lo right =>
    obtain rfl : lo = right := Nat.le_antisymm h1 h3
    exact ⟨h4, h5⟩
  | case2 _ lo right hlt mid hm =>
    exact absurd (Nat.lt_of_lt_of_le (mid_bounds hlt).2 h2) (Nat.not_lt.mpr (List.getElem?_eq_none_iff.mp hm))
  | case3 _ lo right hlt mid e he hk ih =>
    have hmid : lo ≤ mid ∧ mid < right := mid_bounds hlt
    exact ih hmid.2 h2 (by rw [Nat.add_right_comm]; exact Nat.le_trans h3 (Nat.add_le_add_right hmid.1 _)) (sorted_take hs he hk) h5
  | case4 _ lo right hlt mid e he hk ih =>
    have hmid : lo ≤ mid ∧ mid < right := mid_bounds hlt
    exact ih hmid.1 (Nat.le_trans (Nat.le_of_lt hmid.2) h2) (Nat.le_of_lt_succ (Nat.lt_of_lt_of_le hmid.2 h3)) h4 (sorted_drop hs he (by simpa using hk))
  | case5 _ lo right hlt =>
    obtain rfl : lo = right := Nat.le_antisymm h1 (Nat.not_lt.mp hlt)
    exact ⟨h4, h5⟩

theorem insertSorted_sorted (arr : List QE) (key : Key) (item : Nat) (hs : QSorted arr) :
    QSorted (insertSorted arr key item) := by
  obtain ⟨hlo, hhi⟩ := bsearch_spec arr key hs arr.length 0 arr.length (Nat.zero_le _) (Nat.le_refl _)
    (Nat.le_add_left ..) (fun _ h => nomatch h) (fun x h => by simp at h)
  unfold insertSorted QSorted
  rw [insertIdx_take_drop _ _ _ (bsearch_le arr key _ _ _ (Nat.le_refl _))]
  generalize bsearch arr key arr.length 0 arr.length = idx at *
  rw [← List.take_append_drop idx arr] at hs
  obtain ⟨p1, p2, p3⟩ := List.pairwise_append.mp hs
  refine List.pairwise_append.mpr ⟨p1, List.pairwise_cons.mpr ⟨fun e he => keyLe_total (hhi e he), p2⟩, ?_⟩
  intro a ha b hb
  rcases List.mem_cons.mp hb with rfl | hb
  · exact hlo a ha
  · exact p3 a ha b hb

end InsertSec

/-! ## expand_node -/
section ExpandSec
variable {σ : Type} (push : σ → Nat → σ)

theorem dec_sub_count (ind : Nat → Int) (w v : Nat) (vs : List Nat) :
    (if w = v then ind v - 1 else ind w) - (vs.count w : Nat) = ind w - ((v :: vs).count w : Nat) := by
  by_cases hw : w = v
  · subst hw; rw [if_pos rfl, List.count_cons_self]; omega
  · rw [if_neg hw, List.count_cons_of_ne (Ne.symm hw)]

theorem expand_eq (vs : List Nat) (ind : Nat → Int) (s : σ) :
    expand push vs ind s = (fun w => ind w - (vs.count w : Nat), (hits vs ind).foldl push s) := by
  fun_induction expand push vs ind s with
  | case1 ind s => exact Prod.ext (funext fun w => (Int.sub_zero _).symm) rfl
  | case2 v vs ind s d ind' hd ih =>
    rw [ih, hits_cons, if_pos hd]
    exact Prod.ext (funext fun w => dec_sub_count ind w v vs) rfl
  | case3 v vs ind s d ind' hd ih =>
    rw [ih, hits_cons, if_neg hd]
    exact Prod.ext (funext fun w => dec_sub_count ind w v vs) rfl

theorem foldl_push_items (items : σ → List Nat) (hpush : ∀ s v, (items (push s v)).Perm (v :: items s)) :
    ∀ (l : List Nat) (s : σ), (items (l.foldl push s)).Perm (l ++ items s)
  | [], _ => .refl _
  | v :: vs, s => (foldl_push_items items hpush vs (push s v)).trans
      ((List.Perm.append_left vs (hpush s v)).trans List.perm_middle)

end ExpandSec

theorem initInD_eq (G : Nat → List Nat) (n v : Nat) : initInD G n v = pend G n [] v := by
  simp [initInD, pend, psum]

/-! ## Mamba2020Pass.schedule_intra_cycle -/
section MambaLoopSec
variable (G : Nat → List Nat) (kb : Nat → Nat) (n : Nat)

/-- the SCC ids waiting in the queue: the `items` of `foldl_push_items` for Mamba's queue with its counter -/
def qitems (s : List QE × Nat) : List Nat := s.1.map Prod.snd

theorem push_items (s : List QE × Nat) (v : Nat) : (qitems (push kb s v)).Perm (v :: qitems s) :=
  (insertSorted_perm _ _ _).map Prod.snd

theorem popQ_nil (cb : Nat) : popQ cb [] = none := by
  unfold popQ; split <;> rfl

theorem popQ_none {cb : Nat} {q : List QE} (h : popQ cb q = none) : q = [] := by
  unfold popQ at h
  split at h
  · split at h
    · rfl
    · nomatch h
  · split at h
    · next he => exact List.getLast?_eq_none_iff.mp he
    · nomatch h

theorem popQ_some {cb : Nat} {q q' : List QE} {e : QE} (h : popQ cb q = some (e, q')) :
    (cb = 0 ∧ q = e :: q') ∨ (cb ≠ 0 ∧ q = q' ++ [e]) := by
  unfold popQ at h
  split at h
  · next hcb =>
    split at h
    · nomatch h
    · obtain ⟨rfl, rfl⟩ := Prod.mk.inj (Option.some.inj h); exact Or.inl ⟨hcb, rfl⟩
  · next hcb =>
    split at h
    · nomatch h
    · next e' he =>
      obtain ⟨rfl, rfl⟩ := Prod.mk.inj (Option.some.inj h)
      obtain ⟨ys, rfl⟩ := List.getLast?_eq_some_iff.mp he
      exact Or.inr ⟨hcb, by rw [List.dropLast_concat]⟩

theorem popQ_perm {cb : Nat} {q q' : List QE} {e : QE} (h : popQ cb q = some (e, q')) : q.Perm (e :: q') := by
  obtain ⟨_, rfl⟩ | ⟨_, rfl⟩ := popQ_some h
  · exact .refl _
  · exact List.perm_append_singleton _ _

theorem popQ_sublist {cb : Nat} {q q' : List QE} {e : QE} (h : popQ cb q = some (e, q')) : q'.Sublist q := by
  obtain ⟨_, rfl⟩ | ⟨_, rfl⟩ := popQ_some h
  · exact List.sublist_cons_self _ _
  · exact List.sublist_append_left _ _

/-- `Q.pop(0)` hands out a smallest key of a sorted queue, `Q.pop()` a largest one -/
theorem popQ_extreme {cb : Nat} {q q' : List QE} {e : QE} (hs : QSorted q) (h : popQ cb q = some (e, q')) :
    ∀ x ∈ q', if cb = 0 then keyLe e.1 x.1 = true else keyLe x.1 e.1 = true := by
  intro x hx
  obtain ⟨hcb, rfl⟩ | ⟨hcb, rfl⟩ := popQ_some h
  · rw [if_pos hcb]; exact (List.pairwise_cons.mp hs).1 x hx
  · rw [if_neg hcb]; exact (List.pairwise_append.mp hs).2.2 x hx e (List.mem_singleton_self _)

/-- every queue entry carries the key branchiness of its item -/
def QKey (q : List QE) : Prop := ∀ e ∈ q, e.1.1 = kb e.2

/-- pushes keep the keys and the order of the queue -/
theorem foldl_push_q (l : List Nat) (s : List QE × Nat) (h : QKey kb s.1 ∧ QSorted s.1) :
    QKey kb (l.foldl (push kb) s).1 ∧ QSorted (l.foldl (push kb) s).1 := by
  refine foldl_inv (push kb) (fun s => QKey kb s.1 ∧ QSorted s.1)
    (fun s v h => ⟨fun e he => ?_, insertSorted_sorted _ _ _ h.2⟩) l s h
  rcases List.mem_cons.mp ((insertSorted_perm _ _ _).mem_iff.mp he) with rfl | he
  · rfl
  · exact h.1 e he

/-- one turn of the `while Q` loop with `expand_node` in its closed form (`expand_eq`): the counters lose the edges of the
popped SCC, the SCCs whose counter reaches zero are pushed; `none`: the queue is empty -/
def mambaNext (s : MSt) : Option MSt :=
  (popQ s.pk.cb s.q).map fun e =>
    let qc := (hits (G e.1.2) s.ind).foldl (push kb) (e.2, s.cnt)
    ⟨qc.1, fun w => s.ind w - ((G e.1.2).count w : Nat), qc.2, stepWith mainFirst s.pk e.1.1.1 e.1.2⟩

theorem mambaLoop_eq (k : Nat) (s : MSt) : mambaLoop G kb k s = run (mambaNext G kb) k s := by
  fun_induction mambaLoop G kb k s with
  | case1 => rfl
  | case2 k s hp => exact (run_none (by rw [mambaNext, hp]; rfl) _).symm
  | case3 k s r c u q' hp pk res ih =>
    rw [ih]
    exact (run_some (by rw [mambaNext, hp]; simp only [res, expand_eq]; rfl) k).symm

/-- the part of the loop invariant that needs nothing of the graph: packing bounds, queue keys, queue order -/
structure QInv (s : MSt) : Prop where
  binv : BInv kb 4 s.pk
  qkey : QKey kb s.q
  qsorted : QSorted s.q

theorem mambaNext_qinv {s s' : MSt} (h : QInv kb s) (hs : mambaNext G kb s = some s') : QInv kb s' := by
  obtain ⟨⟨⟨⟨r, c⟩, u⟩, q'⟩, hp, rfl⟩ := Option.map_eq_some_iff.mp hs
  have hperm := popQ_perm hp
  have hr : r = kb u := h.qkey ((r, c), u) (hperm.mem_iff.mpr (List.mem_cons_self ..))
  have hq' : QKey kb q' := fun e he => h.qkey e (hperm.mem_iff.mpr (List.mem_cons_of_mem _ he))
  exact And.elim (QInv.mk (stepWith_binv _ mainFirst_lt _ _ hr h.binv))
    (foldl_push_q kb _ _ ⟨hq', h.qsorted.sublist (popQ_sublist hp)⟩)

theorem mambaInit_qinv : QInv kb (mambaInit G kb n) :=
  And.elim (QInv.mk (binv_empty kb 4)) (foldl_push_q kb _ _ ⟨fun _ h => (nomatch h), List.Pairwise.nil⟩)

theorem mambaLoop_qinv (fuel : Nat) : QInv kb (mambaLoop G kb fuel (mambaInit G kb n)) := by
  rw [mambaLoop_eq]
  exact run_inv (fun _ _ => mambaNext_qinv G kb) fuel _ (mambaInit_qinv G kb n)

/-- the Kahn invariant on (queue items, InD, reversed flattened schedule) -/
def MInv (s : MSt) : Prop := KInv G n (s.q.map Prod.snd) s.ind (flat s.pk).reverse

theorem mambaNext_inv (hwf : WF G n) (s s' : MSt) (h : MInv G n s) (hs : mambaNext G kb s = some s') :
    MInv G n s' ∧ (flat s'.pk).length = (flat s.pk).length + 1 := by
  obtain ⟨⟨⟨⟨r, c⟩, u⟩, q'⟩, hp, rfl⟩ := Option.map_eq_some_iff.mp hs
  show KInv G n _ _ (flat (stepWith mainFirst s.pk r u)).reverse ∧ (flat (stepWith mainFirst s.pk r u)).length = _
  rw [stepWith_flat, List.reverse_append]
  exact ⟨kinv_step G n hwf h ((popQ_perm hp).map Prod.snd) (foldl_push_items (push kb) qitems (push_items kb) _ (q', s.cnt)),
    List.length_append⟩

theorem mambaInit_inv : MInv G n (mambaInit G kb n) :=
  kinv_init G n (fun v _ => initInD_eq G n v) ((foldl_push_items (push kb) qitems (push_items kb) _ ([], 0)).trans (.of_eq (List.append_nil _)))

theorem mamba_run (hwf : WF G n) : MInv G n (mambaFinal G kb n) ∧ (mambaFinal G kb n).q.map Prod.snd = [] ∧
    ∀ k, mambaLoop G kb (n + k) (mambaInit G kb n) = mambaFinal G kb n := by
  simp only [mambaFinal, mambaLoop_eq]
  exact kinv_run G n (fun _ h => h) (mambaNext_inv G kb n hwf)
    (fun _ h => List.map_eq_nil_iff.mpr (popQ_none (Option.map_eq_none_iff.mp h))) (mambaInit_inv G kb n)

theorem mambaOrder_eq : mambaOrder G kb n = flat (mambaFinal G kb n).pk := finish_flatten _

end MambaLoopSec


/-! ## HeuristicTopoPass.schedule_intra_cycle -/
section HeuSec
variable (G : Nat → List Nat) (le : Nat → Nat → Bool) (n : Nat)

theorem popMin_none : ∀ {q : List Nat}, popMin le q = none → q = []
  | [], _ => rfl
  | x :: xs, h => by
    unfold popMin at h
    split at h
    · nomatch h
    · split at h <;> nomatch h

/-- `popMin` takes one element out of the queue; under a total and transitive `le` it is a least one -/
theorem popMin_spec {q q' : List Nat} {u : Nat} (h : popMin le q = some (u, q')) :
    q.Perm (u :: q') ∧ ((∀ a b, le a b = false → le b a = true) →
      (∀ a b c, le a b = true → le b c = true → le a c = true) → ∀ x ∈ q, le u x = true) := by
  have hrefl : (∀ a b, le a b = false → le b a = true) → ∀ a, le a a = true := fun htot a => by
    cases hh : le a a
    · exact (hh ▸ htot a a hh :)
    · rfl
  fun_induction popMin le q generalizing u q' with
  | case1 => nomatch h
  | case2 x xs hn ih =>
    obtain ⟨rfl, rfl⟩ := Prod.mk.inj (Option.some.inj h)
    rw [popMin_none le hn]
    exact ⟨.refl _, fun htot _ y hy => List.mem_singleton.mp hy ▸ hrefl htot _⟩
  | case3 x xs m rest hs hle ih =>
    obtain ⟨rfl, rfl⟩ := Prod.mk.inj (Option.some.inj h)
    exact ⟨.refl _, fun htot htr =>
      List.forall_mem_cons.mpr ⟨hrefl htot _, fun y hy => htr _ _ _ hle ((ih hs).2 htot htr y hy)⟩⟩
  | case4 x xs m rest hs hle ih =>
    obtain ⟨rfl, rfl⟩ := Prod.mk.inj (Option.some.inj h)
    exact ⟨((ih hs).1.cons x).trans (.swap _ _ _), fun htot htr =>
      List.forall_mem_cons.mpr ⟨htot _ _ (Bool.eq_false_iff.mpr hle), (ih hs).2 htot htr⟩⟩

theorem heuLe_iff (br ident : Nat → Nat) (u v : Nat) :
    heuLe br ident u v = true ↔ br u < br v ∨ (br u = br v ∧ ident u ≤ ident v) := by
  simp only [heuLe, Bool.or_eq_true, decide_eq_true_eq, Bool.and_eq_true, beq_iff_eq]

theorem heuLe_trans {br ident : Nat → Nat} {a b c : Nat} (h1 : heuLe br ident a b = true) (h2 : heuLe br ident b c = true) :
    heuLe br ident a c = true :=
  (heuLe_iff ..).mpr (lex_trans ((heuLe_iff ..).mp h1) ((heuLe_iff ..).mp h2) fun h12 h23 => Nat.le_trans h12 h23)

theorem heuLe_total {br ident : Nat → Nat} {a b : Nat} (h : heuLe br ident a b = false) : heuLe br ident b a = true :=
  (heuLe_iff ..).mpr (lex_total (mt (heuLe_iff br ident a b).mpr (Bool.eq_false_iff.mp h)) fun hn => Nat.le_of_not_le hn)

/-- the queue is its own list of items: `id` is the `items` of `foldl_push_items` -/
theorem heuPush_items (q : List Nat) (v : Nat) : (id (heuPush q v)).Perm (v :: id q) := .refl _

/-- one turn of the loop, the inner `for` in its closed form (`expand_eq`) -/
def heuNext (s : HSt) : Option HSt :=
  (popMin le s.q).map fun e =>
    ⟨(hits (G e.1) s.ind).foldl heuPush e.2, fun w => s.ind w - ((G e.1).count w : Nat), s.out ++ [e.1]⟩

theorem heuLoop_eq (k : Nat) (s : HSt) : heuLoop G le k s = run (heuNext G le) k s := by
  fun_induction heuLoop G le k s with
  | case1 => rfl
  | case2 k s hp => exact (run_none (by rw [heuNext, hp]; rfl) _).symm
  | case3 k s u q' hp res ih =>
    rw [ih]
    exact (run_some (by rw [heuNext, hp]; simp only [res, expand_eq]; rfl) k).symm

def HInv (s : HSt) : Prop := KInv G n s.q s.ind s.out.reverse

theorem heuNext_inv (hwf : WF G n) (s s' : HSt) (h : HInv G n s) (hs : heuNext G le s = some s') :
    HInv G n s' ∧ s'.out.length = s.out.length + 1 := by
  obtain ⟨⟨u, q'⟩, hp, rfl⟩ := Option.map_eq_some_iff.mp hs
  show KInv G n _ _ (s.out ++ [u]).reverse ∧ _
  rw [List.reverse_append]
  exact ⟨kinv_step G n hwf h (popMin_spec le hp).1 (foldl_push_items heuPush id heuPush_items _ q'), List.length_append⟩

theorem heuInit_inv : HInv G n (heuInit G n) :=
  kinv_init G n (fun v _ => initInD_eq G n v) ((foldl_push_items heuPush id heuPush_items _ []).trans (.of_eq (List.append_nil _)))

theorem heu_run (hwf : WF G n) : HInv G n (heuFinal G le n) ∧ (heuFinal G le n).q = [] ∧
    ∀ k, heuLoop G le (n + k) (heuInit G n) = heuFinal G le n := by
  simp only [heuFinal, heuLoop_eq]
  exact kinv_run G n (fun _ h => h) (heuNext_inv G le n hwf) (fun _ h => popMin_none le (Option.map_eq_none_iff.mp h))
    (heuInit_inv G n)

end HeuSec

end PV.Mamba
