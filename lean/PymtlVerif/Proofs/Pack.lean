/-!
Positional packing (core Lean only, no imports): a number made of a low part `lo < B` and a high part, `lo + B * hi`;
the bit field `x / 2 ^ off % 2 ^ w` of a number; a layout of several fields side by side. What the development says
about struct layouts, instruction words, little-endian bytes and part selects is one of these facts with its own
`B`, `off`, `w`.
-/
namespace PV.Pack

theorem cat_div {B lo : Nat} (h : lo < B) (hi : Nat) : (lo + B * hi) / B = hi := by
  rw [Nat.add_mul_div_left _ _ (Nat.zero_lt_of_lt h), Nat.div_eq_of_lt h, Nat.zero_add]

theorem cat_mod {B lo : Nat} (h : lo < B) (hi : Nat) : (lo + B * hi) % B = lo := by
  rw [Nat.add_mul_mod_self_left, Nat.mod_eq_of_lt h]

theorem cat_lt {B M lo hi : Nat} (h : lo < B) (hh : hi < M) : lo + B * hi < B * M :=
  calc lo + B * hi < B + B * hi := Nat.add_lt_add_right h _
    _ = B * (hi + 1) := by rw [Nat.mul_succ, Nat.add_comm]
    _ ≤ B * M := Nat.mul_le_mul_left _ hh

/-- a number below `2 * n` has high part 0 or 1: reducing it modulo `n` takes off nothing or `n` -/
theorem mod_cases {x n : Nat} (hx : x < 2 * n) : x < n ∧ x % n = x ∨ n ≤ x ∧ x % n + n = x := by
  rcases Nat.lt_or_ge x n with h | h
  · exact .inl ⟨h, Nat.mod_eq_of_lt h⟩
  · exact .inr ⟨h, by rw [Nat.mod_eq_sub_mod h, Nat.mod_eq_of_lt (Nat.sub_lt_left_of_lt_add h (Nat.two_mul n ▸ hx)),
      Nat.sub_add_cancel h]⟩

/-! ### bit fields: `x / 2 ^ off % 2 ^ w` is bits `[off, off + w)` of `x` -/

theorem field_div (x off o k : Nat) : x / 2 ^ off % 2 ^ (o + k) / 2 ^ o = x / 2 ^ (off + o) % 2 ^ k := by
  rw [Nat.pow_add, Nat.mod_mul_right_div_self, Nat.div_div_eq_div_mul, ← Nat.pow_add]

theorem field_mod (x off o k : Nat) : x / 2 ^ off % 2 ^ (o + k) % 2 ^ o = x / 2 ^ off % 2 ^ o := by
  rw [Nat.pow_add, Nat.mod_mul_right_mod]

theorem field_field (x off w o k : Nat) (h : o + k ≤ w) :
    x / 2 ^ off % 2 ^ w / 2 ^ o % 2 ^ k = x / 2 ^ (off + o) % 2 ^ k := by
  obtain ⟨d, rfl⟩ := Nat.exists_eq_add_of_le h
  rw [Nat.add_assoc, field_div, field_mod]

theorem field_split (x off w u : Nat) :
    x / 2 ^ off % 2 ^ (w + u) = x / 2 ^ off % 2 ^ w + 2 ^ w * (x / 2 ^ (off + w) % 2 ^ u) := by
  rw [Nat.pow_add, Nat.mod_mul, Nat.div_div_eq_div_mul, ← Nat.pow_add]

theorem field_mid {a lo : Nat} (h : lo < 2 ^ a) (f hi k : Nat) :
    (lo + f * 2 ^ a + hi * 2 ^ (a + k)) / 2 ^ a % 2 ^ k = f % 2 ^ k := by
  rw [Nat.pow_add, Nat.mul_comm (2 ^ a), ← Nat.mul_assoc, Nat.add_assoc, ← Nat.add_mul, Nat.mul_comm _ (2 ^ a), cat_div h,
    Nat.add_mul_mod_self_right]

/-- `(width, value)` pairs, least significant first -/
def pack : List (Nat × Nat) → Nat
  | [] => 0
  | (w, d) :: r => d + 2 ^ w * pack r

def Fits : List (Nat × Nat) → Prop
  | [] => True
  | (w, d) :: r => d < 2 ^ w ∧ Fits r

/-- the fields of `x` of widths `ws`, from bit 0 upward -/
def split : Nat → List Nat → List (Nat × Nat)
  | _, [] => []
  | x, w :: ws => (w, x % 2 ^ w) :: split (x / 2 ^ w) ws

theorem pack_split : ∀ x ws, pack (split x ws) = x % 2 ^ ws.sum
  | x, [] => (Nat.mod_one x).symm
  | x, w :: ws => by rw [split, pack, pack_split, List.sum_cons, Nat.pow_add, Nat.mod_mul]

theorem split_pack : ∀ ds, Fits ds → split (pack ds) (ds.map (·.1)) = ds
  | [], _ => rfl
  | (w, d) :: r, ⟨hd, hr⟩ => by rw [List.map_cons, pack, split, cat_mod hd, cat_div hd, split_pack r hr]

theorem pack_lt : ∀ ds, Fits ds → pack ds < 2 ^ (ds.map (·.1)).sum
  | [], _ => Nat.one_pos
  | (_, _) :: r, ⟨hd, hr⟩ => Nat.pow_add .. ▸ cat_lt hd (pack_lt r hr)

end PV.Pack
