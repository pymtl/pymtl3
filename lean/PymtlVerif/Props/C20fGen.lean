import PymtlVerif.Model.ProcEnv
import PymtlVerif.Model.Mem
import PymtlVerif.Props.C20
/-!
# C20fGen — `ProcFL` (and the `TinyRV0Inst` field accessors / name decoder it uses) IS the ISA interpreter (generated = model)

`Gen/ProcFLGen.lean` is regenerated by `tools/py2lean_procfl.py` from `examples/ex03_proc/tinyrv0_encoding.py` (class
`TinyRV0Inst`: one definition per property; class `RegisterFile`: inlined) and `examples/ex03_proc/ProcFL.py` (the
`@update_once` block `up_ProcFL`, executed symbolically: a function of the component's attributes `St`, the reset input and
"the world" `W` behind its five FL interfaces, which it reaches only through the fields of `FL.Env W`) on every run of C20.

Proved here, for ALL 32-bit words, ALL states, ALL register / memory contents:

* `gen_<accessor>_eq`    every accessor of `TinyRV0Inst` is the corresponding field of `TinyRV0.fields`;
* `gen_name_eq`          `TinyRV0Inst.name` = `nameSpec`: the name of `TinyRV0.decode w` wherever that is defined (and "nop" for
                         the one word 0x00000013); where `decode w = none`: "????" for the zero word, "csrr" / "csrw" for
                         csrrs / csrrw words whose unused register field is not zero (the Python does not look at it),
                         `AssertionError` for every other word — the behaviour of the Python on illegal words, as it is;
* `pyView`               a word the ISA decodes as `TinyRV0Inst` shows it: its name, and the instruction with the accessors as operands;
* `gen_procfl_exec_eq`   on a word the ISA decodes, `up_ProcFL` against `execX` of the decoded instruction, case by case
                         (`pyView` says which name and operands the word has, `fl_<name>` what the block does); the next two are read off it;
* `gen_procfl_step_eq`   HEADLINE: whenever the ISA interpreter with the accelerator CSRs (`TinyRV0.stepX`) is defined on a state,
                         one execution of `up_ProcFL` on the same state ends normally in exactly the ISA's next state (PC,
                         registers, memory, both manager queues, accelerator register), with `commit_inst = 1`;
* `gen_procfl_blocked_eq`, `gen_procfl_illegal_eq`, `gen_procfl_unknown_csr_eq`, `gen_procfl_zero_word`  what `up_ProcFL` does where
                         the ISA stops (`inputEmpty`: blocks in `mngr2proc()`; `illegal`: by `gen_name_eq`; CSR numbers outside
                         mngr2proc / proc2mngr / xcelreg: raises; the zero word: commits without moving);
* `gen_procfl_reset_eq`  the reset branch: PC := 0x200, nothing else (the registers are NOT cleared: they are zero only after `construct`);
* `gen_procfl_run_eq`    by induction: from any state, n executions of the block = n steps of the ISA (so every theorem of
                         `Props/C20.lean` about `stepX` / `runX` — x0, shift amounts, PC, load/store, output prefix — holds of
                         ProcFL as written);  `gen_procfl_init_eq`: the attributes after `construct` are the ISA's reset state.

What is ASSUMED (the instantiation `flEnv` of the interface structure; everything else is derived):
* `s.imem.read( a, n )` / `s.dmem.read( a, n )` return `readN mem a n` — the n bytes at `a`, little endian — and
  `s.dmem.write( a, n, d )` stores them (`writeN`), both on ONE byte memory.  `readN_c18` / `writeN_c18` identify these with
  `PV.Mem.readLE` / `writeLE`, which `Props/C18Gen.lean` proves equal to the regenerated `read_bytearray_bits` /
  `write_bytearray_bits` that `MagicMemoryFL.read / write` call; the interface adapters in between (FL→CL→RTL, blocking) are
  tied by the differential runs of C18 / C20 only;
* `s.mngr2proc()` pops the head of the input stream and does not return while it is empty; `s.proc2mngr( v )` appends to the
  output stream (the test source / sink; their timing does not exist at this level);
* `s.xcel.write( a, d )` / `s.xcel.read( a )` are the tutorial's NullXcel as in `TinyRV0.StateX` (one register behind all numbers);
* values delivered by `mngr2proc()` / `xcel.read` / `dmem.read` are Bits32 (the translator gives them that static type).
Addresses the ISA leaves undefined (unaligned / beyond 1MB) and exceptions raised INSIDE interface calls are outside the statement.
-/
namespace PV.C20fGen
open PV.TinyRV0 PV.ProcFLGen PV.ProcEnv

theorem setSlice_low (x a b v : Nat) (h : x < 2^a) : setSlice x a b v = x + v * 2^a := by
  unfold setSlice
  rw [Nat.div_eq_of_lt h]; simp

theorem gen_opcode_eq (w : Nat) : Inst.opcode w = (fields w).opc := by simp [Inst.opcode, fields]
theorem gen_rd_eq (w : Nat) : Inst.rd w = (fields w).rd := rfl
theorem gen_rs1_eq (w : Nat) : Inst.rs1 w = (fields w).rs1 := rfl
theorem gen_rs2_eq (w : Nat) : Inst.rs2 w = (fields w).rs2 := rfl
theorem gen_shamt_eq (w : Nat) : Inst.shamt w = (fields w).rs2 := rfl
theorem gen_funct3_eq (w : Nat) : Inst.funct3 w = (fields w).f3 := rfl
theorem gen_funct7_eq (w : Nat) : Inst.funct7 w = (fields w).f7 := rfl
theorem gen_i_imm_eq (w : Nat) : Inst.i_imm w = (fields w).immI := rfl
theorem gen_csrnum_eq (w : Nat) : Inst.csrnum w = (fields w).immI := rfl

theorem gen_s_imm_eq (w : Nat) : Inst.s_imm w = (fields w).immS := by
  simp only [Inst.s_imm, fields, setSlice]
  omega

theorem gen_b_imm_eq (w : Nat) : Inst.b_imm w = (fields w).immB := by
  simp only [Inst.b_imm, fields]
  have h1 : w / 2^8 % 2^4 < 16 := Nat.mod_lt _ (by decide)
  have h2 : w / 2^25 % 2^6 < 64 := Nat.mod_lt _ (by decide)
  have h3 : w / 2^7 % 2^1 < 2 := Nat.mod_lt _ (by decide)
  rw [setSlice_low 0 1 5 _ (by decide)]
  rw [setSlice_low _ 5 11 _ (by omega)]
  rw [setSlice_low _ 11 12 _ (by omega)]
  rw [setSlice_low _ 12 13 _ (by omega)]
  omega

/-- the accessors the translator found are exactly the ones proved above (plus `name`) -/
theorem gen_properties : Inst.properties =
    ["name", "opcode", "rd", "rs1", "rs2", "shamt", "i_imm", "s_imm", "b_imm", "csrnum", "funct7", "funct3"] := rfl

/-- the string the Python uses for each instruction of the ISA model -/
def pyName : PV.TinyRV0.Inst → String
  | .csrr .. => "csrr" | .csrw .. => "csrw" | .add .. => "add" | .and .. => "and" | .sll .. => "sll"
  | .srl .. => "srl" | .addi .. => "addi" | .lw .. => "lw" | .sw .. => "sw" | .bne .. => "bne"

/-- what `TinyRV0Inst( w ).name` does, for every 32-bit word `w`, in terms of the ISA model's `decode` -/
def nameSpec (w : Nat) : Res String :=
  if w = 0x13 then .ok "nop"
  else match decode w with
    | some i => .ok (pyName i)
    | none =>
      if w = 0 then .ok "????"
      else if (fields w).opc = 0x73 ∧ (fields w).f3 = 2 then .ok "csrr"     -- csrrs with rs1 ≠ 0
      else if (fields w).opc = 0x73 ∧ (fields w).f3 = 1 then .ok "csrw"     -- csrrw with rd ≠ 0
      else .raised "AssertionError"

theorem gen_name_eq (w : Nat) (h : w < 2^32) : Inst.name w = nameSpec w := by
  -- the statement covers the words `decode` rejects too (there `nameSpec` tests the fields again), so `decodeF_eq_some` does not
  -- apply; the cases are the leaves of the Python's if-chain, and in each `simp` evaluates `decodeF` and those tests
  unfold Inst.name nameSpec decode
  rw [gen_opcode_eq, gen_funct3_eq, gen_funct7_eq, if_pos h]
  by_cases h19 : w = 19
  · subst h19; simp
  by_cases h0 : w = 0
  · subst h0; decide
  simp only [beq_iff_eq, h19, h0, if_false, decodeF]
  generalize fields w = f
  by_cases o1 : f.opc = 51
  · by_cases a : f.f7 = 0
    · by_cases b0 : f.f3 = 0
      · simp [o1, a, b0, pyName]
      by_cases b1 : f.f3 = 1
      · simp [o1, a, b1, pyName]
      by_cases b5 : f.f3 = 5
      · simp [o1, a, b5, pyName]
      by_cases b7 : f.f3 = 7 <;> simp [o1, a, b0, b1, b5, b7, pyName]
    · simp [o1, a]
  by_cases o2 : f.opc = 19
  · by_cases b0 : f.f3 = 0 <;> simp [o2, b0, pyName]
  by_cases o3 : f.opc = 35
  · by_cases b0 : f.f3 = 2 <;> simp [o3, b0, pyName]
  by_cases o4 : f.opc = 3
  · by_cases b0 : f.f3 = 2 <;> simp [o4, b0, pyName]
  by_cases o5 : f.opc = 99
  · by_cases b0 : f.f3 = 1 <;> simp [o5, b0, pyName]
  by_cases o6 : f.opc = 115
  · by_cases b1 : f.f3 = 1
    · by_cases c : f.rd = 0 <;> simp [o6, b1, c, pyName]
    by_cases b2 : f.f3 = 2
    · by_cases c : f.rs1 = 0 <;> simp [o6, b2, c, pyName]
    simp [o6, b1, b2]
  simp [o1, o2, o3, o4, o5, o6]

/-- on the ISA's instruction words the name is the instruction's (the canonical NOP is `addi x0, x0, 0`) -/
theorem gen_name_of_decode (w : Nat) (i : PV.TinyRV0.Inst) (h : decode w = some i) :
    Inst.name w = .ok (if w = 0x13 then "nop" else pyName i) := by
  rw [gen_name_eq w ((decode_eq_some w i).1 h).1]; unfold nameSpec; rw [h]
  by_cases e : w = 0x13 <;> simp [e]

theorem rd_lt (w : Nat) : Inst.rd w < 32 := (fields_lt w).1

theorem fld (w : Nat) : Inst.rd w = (fields w).rd ∧ Inst.rs1 w = (fields w).rs1 ∧ Inst.rs2 w = (fields w).rs2 ∧
    Inst.i_imm w = (fields w).immI ∧ Inst.s_imm w = (fields w).immS ∧ Inst.b_imm w = (fields w).immB ∧
    Inst.csrnum w = (fields w).immI :=
  ⟨rfl, rfl, rfl, rfl, gen_s_imm_eq w, gen_b_imm_eq w, rfl⟩

theorem decodeF_cases (f : Fields) (i : PV.TinyRV0.Inst) (h : decodeF f = some i) :
    i = .add f.rd f.rs1 f.rs2 ∨ i = .sll f.rd f.rs1 f.rs2 ∨ i = .srl f.rd f.rs1 f.rs2 ∨ i = .and f.rd f.rs1 f.rs2 ∨
    i = .addi f.rd f.rs1 f.immI ∨ i = .lw f.rd f.rs1 f.immI ∨ i = .sw f.rs2 f.rs1 f.immS ∨ i = .bne f.rs1 f.rs2 f.immB ∨
    i = .csrr f.rd f.immI ∨ i = .csrw f.immI f.rs1 := by
  have h := (decodeF_eq_some f i).1 h
  cases i <;> simp only [Inst.Enc] at h
  case add | sll | srl | and => obtain ⟨-, -, -, rfl, rfl, rfl⟩ := h; simp
  case addi | lw | sw | bne => obtain ⟨-, -, rfl, rfl, rfl⟩ := h; simp
  case csrr | csrw => obtain ⟨-, -, -, rfl, rfl⟩ := h; simp

/-- a word the ISA decodes as `TinyRV0Inst` shows it to the blocks of ProcFL / ProcCL: its name, and the instruction with its
operands read through the accessors (the canonical NOP `addi x0, x0, 0` has a name of its own) -/
inductive PyView (v : Nat) : PV.TinyRV0.Inst → String → Prop
  | nop (h : v = 0x13) : PyView v (.addi 0 0 0) "nop"
  | add : PyView v (.add (Inst.rd v) (Inst.rs1 v) (Inst.rs2 v)) "add"
  | sll : PyView v (.sll (Inst.rd v) (Inst.rs1 v) (Inst.rs2 v)) "sll"
  | srl : PyView v (.srl (Inst.rd v) (Inst.rs1 v) (Inst.rs2 v)) "srl"
  | and : PyView v (.and (Inst.rd v) (Inst.rs1 v) (Inst.rs2 v)) "and"
  | addi : PyView v (.addi (Inst.rd v) (Inst.rs1 v) (Inst.i_imm v)) "addi"
  | lw : PyView v (.lw (Inst.rd v) (Inst.rs1 v) (Inst.i_imm v)) "lw"
  | sw : PyView v (.sw (Inst.rs2 v) (Inst.rs1 v) (Inst.s_imm v)) "sw"
  | bne : PyView v (.bne (Inst.rs1 v) (Inst.rs2 v) (Inst.b_imm v)) "bne"
  | csrr : PyView v (.csrr (Inst.rd v) (Inst.csrnum v)) "csrr"
  | csrw : PyView v (.csrw (Inst.csrnum v) (Inst.rs1 v)) "csrw"

theorem pyView (v : Nat) (i : PV.TinyRV0.Inst) (h : decode v = some i) : ∃ n, Inst.name v = .ok n ∧ PyView v i n := by
  have hn := gen_name_of_decode v i h
  by_cases e : v = 0x13
  · subst e
    cases Option.some.inj (h.symm.trans (by decide : decode 0x13 = some (.addi 0 0 0)))
    exact ⟨_, hn, .nop rfl⟩
  · rw [if_neg e] at hn
    obtain ⟨-, -, -, -, hs, hb, -⟩ := fld v
    unfold decode at h
    split at h
    · rcases decodeF_cases _ i h with rfl | rfl | rfl | rfl | rfl | rfl | rfl | rfl | rfl | rfl
      · exact ⟨_, hn, .add⟩
      · exact ⟨_, hn, .sll⟩
      · exact ⟨_, hn, .srl⟩
      · exact ⟨_, hn, .and⟩
      · exact ⟨_, hn, .addi⟩
      · exact ⟨_, hn, .lw⟩
      · exact ⟨_, hn, hs ▸ .sw⟩
      · exact ⟨_, hn, hb ▸ .bne⟩
      · exact ⟨_, hn, .csrr⟩
      · exact ⟨_, hn, .csrw⟩
    · cases h

/-- `readN` is C18's `readLE` (= the regenerated `read_bytearray_bits`, `Props/C18Gen.gen_read_bytearray_bits_eq`) -/
theorem readN_c18 (m : Mem) (a n : Nat) : readN m a n = PV.Mem.readLE (fun b => m.get b) a n := by
  induction n generalizing a with
  | zero => rfl
  | succ k ih => simp only [readN, PV.Mem.readLE, ih]

/-- `writeN` is C18's `writeLE` (= the regenerated `write_bytearray_bits`) -/
theorem writeN_c18 (m : Mem) (a n d b : Nat) :
    (writeN m a n d).get b = PV.Mem.writeLE (fun c => m.get c) a n d b := by
  induction n generalizing m a d with
  | zero => rfl
  | succ k ih => simp only [writeN, PV.Mem.writeLE, ih, Mem.get_set_upd]

theorem readN_four (m : Mem) (a : Nat) : readN m a 4 = loadWord m a :=
  (readN_c18 m a 4).trans (loadWord_eq m a).symm

-- an equality of hash maps, which `writeN_c18` (about `get`) does not give
theorem writeN_four (m : Mem) (a v : Nat) : writeN m a 4 v = storeWord m a v := by
  simp only [writeN, storeWord, Nat.div_div_eq_div_mul, Nat.add_assoc]

/-- the attributes after an instruction committed -/
def mkSt (pc : Nat) (R : List Nat) (v : Nat) : FL.St := { commit_inst := 1, PC := pc, R := R, raw_inst := some v }

theorem sext12_eq (x : Nat) : sext 12 32 x = sext12 x := by unfold sext sext12 W32; rfl
theorem sext13_eq (x : Nat) : sext 13 32 x = sext13 x := by unfold sext sext13 W32; rfl
theorem and31 (b : Nat) : b &&& 31 = b % 32 := Nat.and_two_pow_sub_one_eq_mod b 5

/-- `x << (y & 0x1F)` on Bits32 values: PythonBits returns 0 for a shift amount of 32 or more, which `& 0x1F` rules out -/
theorem shl_guard (a b : Nat) :
    (if (b &&& 31) ≥ 32 then 0 else (a <<< (b &&& 31)) % 2^32) = (a <<< (b % 32)) % W32 := by
  rw [and31, if_neg (by omega)]; rfl

/-! ## `up_ProcFL`, branch by branch: what the block does for each name, on ANY word with that name
(also the csrr / csrw words the ISA calls illegal) -/

section branches
variable (s : FL.St) (w : World) (v : Nat) (hv : loadWord w.mem s.PC = v)
include hv

attribute [local simp] flEnv readN_four writeN_four rset rget W32 mkSt

theorem fl_raised (e : String) (hn : Inst.name v = .raised e) : FL.up_ProcFL flEnv false s w = .raised e := by
  simp [FL.up_ProcFL, hv, hn]

theorem fl_nop (hn : Inst.name v = .ok "nop") :
    FL.up_ProcFL flEnv false s w = .ok (mkSt ((s.PC + 4) % W32) s.R v, w) := by
  simp [FL.up_ProcFL, hv, hn]

theorem fl_add (hn : Inst.name v = .ok "add") :
    FL.up_ProcFL flEnv false s w = .ok (mkSt ((s.PC + 4) % W32)
      (rset s.R (Inst.rd v) ((rget s.R (Inst.rs1 v) + rget s.R (Inst.rs2 v)) % W32)) v, w) := by
  simp [FL.up_ProcFL, hv, hn]

theorem fl_sll (hn : Inst.name v = .ok "sll") :
    FL.up_ProcFL flEnv false s w = .ok (mkSt ((s.PC + 4) % W32)
      (rset s.R (Inst.rd v) ((rget s.R (Inst.rs1 v) <<< (rget s.R (Inst.rs2 v) % 32)) % W32)) v, w) := by
  simp only [FL.up_ProcFL, shl_guard]
  simp [hv, hn]

theorem fl_srl (hn : Inst.name v = .ok "srl") :
    FL.up_ProcFL flEnv false s w = .ok (mkSt ((s.PC + 4) % W32)
      (rset s.R (Inst.rd v) (rget s.R (Inst.rs1 v) >>> (rget s.R (Inst.rs2 v) % 32))) v, w) := by
  simp [FL.up_ProcFL, and31, hv, hn]

theorem fl_and (hn : Inst.name v = .ok "and") :
    FL.up_ProcFL flEnv false s w = .ok (mkSt ((s.PC + 4) % W32)
      (rset s.R (Inst.rd v) (rget s.R (Inst.rs1 v) &&& rget s.R (Inst.rs2 v))) v, w) := by
  simp [FL.up_ProcFL, hv, hn]

theorem fl_addi (hn : Inst.name v = .ok "addi") :
    FL.up_ProcFL flEnv false s w = .ok (mkSt ((s.PC + 4) % W32)
      (rset s.R (Inst.rd v) ((rget s.R (Inst.rs1 v) + sext12 (Inst.i_imm v)) % W32)) v, w) := by
  simp [FL.up_ProcFL, sext12_eq, hv, hn]

theorem fl_sw (hn : Inst.name v = .ok "sw") :
    FL.up_ProcFL flEnv false s w = .ok (mkSt ((s.PC + 4) % W32) s.R v,
      { w with mem := storeWord w.mem ((rget s.R (Inst.rs1 v) + sext12 (Inst.s_imm v)) % W32) (rget s.R (Inst.rs2 v)) }) := by
  simp [FL.up_ProcFL, sext12_eq, hv, hn]

theorem fl_lw (hn : Inst.name v = .ok "lw") :
    FL.up_ProcFL flEnv false s w = .ok (mkSt ((s.PC + 4) % W32)
      (rset s.R (Inst.rd v) (loadWord w.mem ((rget s.R (Inst.rs1 v) + sext12 (Inst.i_imm v)) % W32))) v, w) := by
  simp [FL.up_ProcFL, sext12_eq, hv, hn]

theorem fl_bne (hn : Inst.name v = .ok "bne") :
    FL.up_ProcFL flEnv false s w = .ok (mkSt
      (if rget s.R (Inst.rs1 v) ≠ rget s.R (Inst.rs2 v) then (s.PC + sext13 (Inst.b_imm v)) % W32 else (s.PC + 4) % W32)
      s.R v, w) := by
  simp [FL.up_ProcFL, sext13_eq, hv, hn]

theorem fl_csrw_mngr (hn : Inst.name v = .ok "csrw") (hc : Inst.csrnum v = 0x7C0) :
    FL.up_ProcFL flEnv false s w = .ok (mkSt ((s.PC + 4) % W32) s.R v, { w with out := w.out ++ [rget s.R (Inst.rs1 v)] }) := by
  simp [FL.up_ProcFL, hv, hn, hc]

theorem fl_csrw_xcel (hn : Inst.name v = .ok "csrw") (hc : isXcelCsr (Inst.csrnum v) = true) :
    FL.up_ProcFL flEnv false s w = .ok (mkSt ((s.PC + 4) % W32) s.R v, { w with xr0 := rget s.R (Inst.rs1 v) }) := by
  simp [FL.up_ProcFL, hv, hn, xcel_csr hc]

theorem fl_csrw_other (hn : Inst.name v = .ok "csrw") (h1 : Inst.csrnum v ≠ 0x7C0) (hc : isXcelCsr (Inst.csrnum v) = false) :
    FL.up_ProcFL flEnv false s w = .raised "TinyRV2Semantics.IllegalInstruction" := by
  simp [FL.up_ProcFL, hv, hn, h1, xcel_test, hc]

theorem fl_csrr_mngr (hn : Inst.name v = .ok "csrr") (hc : Inst.csrnum v = 0xFC0) :
    FL.up_ProcFL flEnv false s w = match w.inp with
      | [] => .blocked
      | x :: r => .ok (mkSt ((s.PC + 4) % W32) (rset s.R (Inst.rd v) x) v, { w with inp := r }) := by
  simp [FL.up_ProcFL, hv, hn, hc]
  cases w.inp <;> simp

theorem fl_csrr_xcel (hn : Inst.name v = .ok "csrr") (hc : isXcelCsr (Inst.csrnum v) = true) :
    FL.up_ProcFL flEnv false s w = .ok (mkSt ((s.PC + 4) % W32) (rset s.R (Inst.rd v) w.xr0) v, w) := by
  simp [FL.up_ProcFL, hv, hn, xcel_csr hc]

theorem fl_csrr_other (hn : Inst.name v = .ok "csrr") (h1 : Inst.csrnum v ≠ 0xFC0) (hc : isXcelCsr (Inst.csrnum v) = false) :
    FL.up_ProcFL flEnv false s w = .raised "TinyRV2Semantics.IllegalInstruction" := by
  simp [FL.up_ProcFL, hv, hn, h1, xcel_test, hc]

/-- the all-zero word (name "????") falls through the whole if / elif chain: the block "commits" without moving -/
theorem fl_unnamed (hn : Inst.name v = .ok "????") :
    FL.up_ProcFL flEnv false s w = .ok (mkSt s.PC s.R v, w) := by
  simp [FL.up_ProcFL, hv, hn]

end branches

/-! ## the headline: one execution of `up_ProcFL` = one step of the ISA -/

/-- the attributes and the world that denote the ISA state `sx`, after the word `v` committed -/
def ofX (v : Nat) (sx : StateX) : FL.St × World :=
  (mkSt sx.core.pc sx.core.regs v, { mem := sx.core.mem, xr0 := sx.xr0, inp := sx.core.inp, out := sx.core.out })

/-- `up_ProcFL` on a word the ISA decodes, against `execX` of the decoded instruction: the same next state, or both wait
for the manager.  Where `execX` says `undefined` the two differ (`gen_procfl_unknown_csr_eq`) or nothing is claimed. -/
theorem gen_procfl_exec_eq (s : FL.St) (w : World) (i : PV.TinyRV0.Inst) (hd : decode (loadWord w.mem s.PC) = some i)
    (r : Except Stop StateX) (hr : execX (toX s w) i = r) :
    match (generalizing := false) r with
    | .ok sx => FL.up_ProcFL flEnv false s w = .ok (ofX (loadWord w.mem s.PC) sx)
    | .error .inputEmpty => FL.up_ProcFL flEnv false s w = .blocked
    | .error _ => True := by
  generalize hv : loadWord w.mem s.PC = v at hd
  obtain ⟨n, hn, hp⟩ := pyView v i hd
  cases hp <;> simp only [execX, exec] at hr
  case nop => subst hr; exact fl_nop s w _ hv hn
  case add => subst hr; exact fl_add s w v hv hn
  case sll => subst hr; exact fl_sll s w v hv hn
  case srl => subst hr; exact fl_srl s w v hv hn
  case and => subst hr; exact fl_and s w v hv hn
  case addi => subst hr; exact fl_addi s w v hv hn
  case lw =>
    split at hr <;> subst hr
    · exact fl_lw s w v hv hn
    · trivial
  case sw =>
    split at hr <;> subst hr
    · exact fl_sw s w v hv hn
    · trivial
  case bne =>
    split at hr <;> subst hr <;> rw [fl_bne s w v hv hn]
    · next hc => exact congrArg (fun pc => Res.ok (mkSt pc s.R v, w)) (if_pos hc)
    · next hc => exact congrArg (fun pc => Res.ok (mkSt pc s.R v, w)) (if_neg hc)
  case csrr =>
    split at hr
    · next hx => subst hr; exact fl_csrr_xcel s w v hv hn hx
    · split at hr
      · next hc =>
        have hb := fl_csrr_mngr s w v hv hn hc
        cases hi : w.inp <;> simp only [toX, hi] at hr hb <;> subst hr <;> exact hb
      · subst hr; trivial
  case csrw =>
    split at hr
    · next hx => subst hr; exact fl_csrw_xcel s w v hv hn hx
    · split at hr <;> subst hr
      · next hc => exact fl_csrw_mngr s w v hv hn hc
      · trivial

theorem gen_procfl_step_eq (s : FL.St) (w : World) (sx : StateX) (h : stepX (toX s w) = .ok sx) :
    ∃ s' w', FL.up_ProcFL flEnv false s w = .ok (s', w') ∧ toX s' w' = sx ∧ s'.commit_inst = 1 ∧
      s'.raw_inst = some (loadWord w.mem s.PC) := by
  obtain ⟨i, hd, hx⟩ := stepX_inv h nofun nofun
  exact ⟨_, _, gen_procfl_exec_eq s w i hd _ hx, rfl, rfl, rfl⟩

/-- `csrr rd, mngr2proc` on an empty input stream: the ISA stops with `inputEmpty`, `up_ProcFL` does not return from
`s.mngr2proc()` (in the Python `commit_inst = 0` and `raw_inst` have been assigned by then; `Res.blocked` carries no state) -/
theorem gen_procfl_blocked_eq (s : FL.St) (w : World) (h : stepX (toX s w) = .error .inputEmpty) :
    FL.up_ProcFL flEnv false s w = .blocked := by
  obtain ⟨i, hd, hx⟩ := stepX_inv h nofun nofun
  exact gen_procfl_exec_eq s w i hd _ hx

/-- a word the ISA does not decode: what `up_ProcFL` does is read off `nameSpec` (`gen_name_eq`): the zero word commits
without moving (`fl_unnamed`), csrrs / csrrw words with a non-zero unused register field run as csrr / csrw (`fl_csrr_*`,
`fl_csrw_*`), every other word raises AssertionError out of `TinyRV0Inst.name` -/
theorem gen_procfl_illegal_eq (s : FL.St) (w : World) (hw : loadWord w.mem s.PC < 2^32)
    (hd : decode (loadWord w.mem s.PC) = none) (h0 : loadWord w.mem s.PC ≠ 0)
    (hc : ¬ ((fields (loadWord w.mem s.PC)).opc = 0x73 ∧
      ((fields (loadWord w.mem s.PC)).f3 = 2 ∨ (fields (loadWord w.mem s.PC)).f3 = 1))) :
    FL.up_ProcFL flEnv false s w = .raised "AssertionError" := by
  apply fl_raised s w _ rfl
  rw [gen_name_eq _ hw]; unfold nameSpec; rw [hd]
  generalize loadWord w.mem s.PC = v at *
  have h19 : ¬ v = 0x13 := by rintro rfl; revert hd; decide
  simp only [h19, h0, if_false]
  rw [if_neg fun h => hc ⟨h.1, .inl h.2⟩, if_neg fun h => hc ⟨h.1, .inr h.2⟩]

/-- the all-zero word (what the test programs end in): `up_ProcFL` "commits" it forever without moving the PC -/
theorem gen_procfl_zero_word (s : FL.St) (w : World) (h0 : loadWord w.mem s.PC = 0) :
    FL.up_ProcFL flEnv false s w = .ok (mkSt s.PC s.R 0, w) := by
  apply fl_unnamed s w 0 h0
  rw [gen_name_eq 0 (by decide)]; decide

/-- a csrr / csrw of a CSR that is neither the manager's nor an accelerator register: the ISA says `undefined`, `up_ProcFL` raises
(the expression in its `raise` statement) -/
theorem gen_procfl_unknown_csr_eq (s : FL.St) (w : World) (i : PV.TinyRV0.Inst)
    (hd : decode (loadWord w.mem s.PC) = some i)
    (hi : (∃ rd csr, i = .csrr rd csr ∧ csr ≠ CSR_MNGR2PROC ∧ isXcelCsr csr = false) ∨
          (∃ csr rs1, i = .csrw csr rs1 ∧ csr ≠ CSR_PROC2MNGR ∧ isXcelCsr csr = false)) :
    FL.up_ProcFL flEnv false s w = .raised "TinyRV2Semantics.IllegalInstruction" := by
  generalize hv : loadWord w.mem s.PC = v at hd
  obtain ⟨n, hn, hp⟩ := pyView v i hd
  rcases hi with ⟨rd, csr, rfl, h1, hx⟩ | ⟨csr, rs1, rfl, h1, hx⟩ <;> cases hp
  · exact fl_csrr_other s w v hv hn h1 hx
  · exact fl_csrw_other s w v hv hn h1 hx

/-- the reset branch, for ANY interfaces: PC := 0x200 and nothing else (the registers keep their values) -/
theorem gen_procfl_reset_eq {Wd : Type} (env : FL.Env Wd) (s : FL.St) (w : Wd) :
    FL.up_ProcFL env true s w = .ok ({ s with PC := 0x200 }, w) := rfl

/-- after `construct` the attributes are the ISA's reset state -/
theorem gen_procfl_init_eq (m : Mem) (inp : List Nat) :
    toX FL.init { mem := m, xr0 := 0, inp := inp, out := [] } = StateX.init m inp := rfl

/-- `n` steps of the ISA interpreter, `none` if it stops earlier -/
def stepsX : Nat → StateX → Option StateX
  | 0, sx => some sx
  | n + 1, sx =>
    match stepX sx with
    | .ok sx' => stepsX n sx'
    | .error _ => none

theorem stepsX_succ_inv {n : Nat} {sx sx' : StateX} (h : stepsX (n + 1) sx = some sx') :
    ∃ sx1, stepX sx = .ok sx1 ∧ stepsX n sx1 = some sx' := by
  unfold stepsX at h
  split at h
  · exact ⟨_, ‹_›, h⟩
  · cases h

/-- every run: as long as the ISA is defined, ProcFL's attributes and world ARE the ISA state -/
theorem gen_procfl_run_eq (n : Nat) (s : FL.St) (w : World) (sx : StateX) (h : stepsX n (toX s w) = some sx) :
    ∃ s' w', flRun n s w = some (s', w') ∧ toX s' w' = sx := by
  induction n generalizing s w with
  | zero => exact ⟨s, w, rfl, by simpa [stepsX] using h⟩
  | succ k ih =>
    obtain ⟨sx1, hs, h⟩ := stepsX_succ_inv h
    obtain ⟨s1, w1, h1, rfl, _, _⟩ := gen_procfl_step_eq s w sx1 hs
    obtain ⟨s2, w2, h2, e2⟩ := ih s1 w1 h
    exact ⟨s2, w2, by unfold flRun; rw [h1]; exact h2, e2⟩

/-- `stepsX` is `runX` cut at `n` instructions -/
theorem stepsX_runX (n : Nat) (sx sx' : StateX) (c : Nat) (h : stepsX n sx = some sx') :
    runX n sx c = (sx', c + n, .fuel) := by
  induction n generalizing sx c with
  | zero => simp only [stepsX] at h; cases h; rfl
  | succ k ih =>
    obtain ⟨sx1, hs, h⟩ := stepsX_succ_inv h
    unfold runX; rw [hs]; simp only
    rw [ih sx1 (c + 1) h]; congr 2; omega

/-- so a theorem about `runX` is a theorem about ProcFL, e.g. `PV.C20.x0_runX`: x0 reads 0 after any number of blocks -/
theorem procfl_x0 (n : Nat) (s s' : FL.St) (w w' : World) (sx : StateX) (h0 : rget s.R 0 = 0)
    (h : stepsX n (toX s w) = some sx) (hr : flRun n s w = some (s', w')) : rget s'.R 0 = 0 := by
  obtain ⟨s2, w2, h2, rfl⟩ := gen_procfl_run_eq n s w sx h
  cases hr.symm.trans h2
  have := PV.C20.x0_runX n (toX s w) 0 h0
  rwa [stepsX_runX n _ _ 0 h] at this

/-- `addi x1, x0, 5` at the reset vector -/
def w0 : World := { mem := storeWord Mem.empty 0x200 0x00500093, xr0 := 0, inp := [7], out := [] }
/-- `csrr x1, mngr2proc` at the reset vector, nothing to read -/
def w1 : World := { mem := storeWord Mem.empty 0x200 0xfc0020f3, xr0 := 0, inp := [], out := [] }

theorem w0_word : loadWord w0.mem FL.init.PC = 0x00500093 := by
  show loadWord (storeWord Mem.empty 0x200 0x00500093) 0x200 = _
  rw [loadWord_storeWord_same]; decide
theorem w1_word : loadWord w1.mem FL.init.PC = 0xfc0020f3 := by
  show loadWord (storeWord Mem.empty 0x200 0xfc0020f3) 0x200 = _
  rw [loadWord_storeWord_same]; decide

theorem w0_step : stepX (toX FL.init w0) = .ok { core := { pc := 0x204, regs := rset FL.init.R 1 5, mem := w0.mem, inp := [7], out := [] }, xr0 := 0 } := by
  rw [stepX, fetch_eq (i := .addi 1 0 5) (by decide) (w0_word ▸ by decide)]; rfl

-- the hypothesis of `gen_procfl_step_eq` / `gen_procfl_run_eq` is satisfiable, and the conclusion is what one expects
example : ∃ sx, stepX (toX FL.init w0) = .ok sx ∧ sx.core.regs.take 2 = [0, 5] ∧ sx.core.pc = 0x204 :=
  ⟨_, w0_step, by decide, rfl⟩
example : stepsX 1 (toX FL.init w0) ≠ none := by
  unfold stepsX; rw [w0_step]; simp [stepsX]
example : ∃ s' w', FL.up_ProcFL flEnv false FL.init w0 = .ok (s', w') ∧ s'.R.take 2 = [0, 5] ∧ s'.PC = 0x204 := by
  obtain ⟨s', w', h, e, _, _⟩ := gen_procfl_step_eq FL.init w0 _ w0_step
  exact ⟨s', w', h, congrArg (·.core.regs.take 2) e, congrArg (·.core.pc) e⟩
example : Inst.name 0x00500093 = .ok "addi" ∧ Inst.name 0 = .ok "????" ∧ Inst.name 0xfc00a173 = .ok "csrr" ∧
    Inst.name 0x40208033 = .raised "AssertionError" ∧ Inst.name 0x13 = .ok "nop" := by decide
example : Inst.b_imm 0xfe209ce3 = 0x1ff8 ∧ Inst.s_imm 0xfe20ae23 = 0xffc ∧ Inst.rd 0x00500093 = 1 := by decide
-- blocked: csrr x1, mngr2proc with an empty input stream
example : stepX (toX FL.init w1) = .error .inputEmpty := by
  rw [stepX, fetch_eq (i := .csrr 1 0xfc0) (by decide) (w1_word ▸ by decide)]; rfl
example : FL.up_ProcFL flEnv false FL.init w1 = .blocked := by
  rw [fl_csrr_mngr FL.init w1 0xfc0020f3 w1_word (by decide) (by decide)]; rfl
-- the two deviations of `TinyRV0Inst.name` from the ISA's table are real words
example : decode 0 = none ∧ nameSpec 0 = .ok "????" := by decide
example : decode 0xfc00a173 = none ∧ nameSpec 0xfc00a173 = .ok "csrr" := by decide

end PV.C20fGen
