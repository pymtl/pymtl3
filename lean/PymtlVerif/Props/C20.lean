import PymtlVerif.Proofs.TinyRV0
import PymtlVerif.Proofs.Cksum
/-!
# C20 — FL, CL and RTL example processors agree with the ISA on every program: the ISA side

What is PROVED here (for all instructions / states / inputs, no sampling):

* the encoding of `Model/TinyRV0.lean` (written from `tinyrv0-isa.md`): `decode ∘ encode = id` on
  instructions with in-range fields, `encode` injective, `decode` only accepts words of the table
  (`decode w = some i ↔ i.Wf ∧ encode i = w`);
* properties of the ISA interpreter: immediates are sign-extended, x0 stays 0, the state stays
  well-formed (32 registers, 32-bit values, bytes), shifts use the low five bits of `R[rs2]`,
  `PC' = PC + 4` except for a taken `bne`, `lw` after `sw` to the same address returns the stored
  word, memory is little endian, a store leaves every non-overlapping word alone, the `proc2mngr`
  stream only grows;
* the accelerator CSRs 0x7E0..0x7FF as the tutorial's NullXcel implements them (one register behind all 32
  numbers): `execX` / `stepX` / `runX` extend the interpreter conservatively, read-after-write through any pair of
  numbers, frame conditions, and the invariants above carried over;
* the checksum unit: `cksumRTL ws = cksumFL ws = cksumSpec ws` for every list of 16-bit words of every length (the
  hardware has 8), and `cksumRTLmsg b = cksumCLmsg b` for every 128-bit message (`ChecksumCL` calls the FL function).

The processors themselves are related to this interpreter in other files:
* `Props/C20fGen.lean`: `ProcFL.up_ProcFL`, regenerated from the Python, IS one step of `stepX` on every state where the ISA is
  defined, and n executions are n steps (assuming what `ProcEnv.flEnv` says of its five FL interfaces);
* `Props/C20cGen.lean`: every branch of ProcCL's blocks `F` / `DXM` / `W` for any environment, and DXM then W = `stepX` when
  every request is answered at once (`ProcEnv.idealEnv`); ProcCL under real timing (queue latencies, stalls, the order of the
  blocks in a cycle) is NOT proved;
* `Props/C20p.lean` (`Model/Pipe.lean`, `Proofs/Pipe*.lean`): a cycle-level model of the five-stage `ProcRTL` refines the
  interpreter for every program and every environment timing.
What ties the Python / generated Verilog of the three processors, the FL / CL / RTL interface adapters and ProcCL's timing to
these models is the differential execution of `harness/checks/c20*.py` only (random terminating programs under random timing:
each processor's `proc2mngr` sequence and final memory image against `runX` of this model; for ProcRTL also every cycle's
outputs against `Model/Pipe.lean`).
-/
namespace PV.C20
open PV.TinyRV0 PV.Cksum

/-- every instruction with in-range fields decodes back to itself (all ten instructions) -/
theorem decode_encode (i : Inst) (h : i.Wf) : decode (encode i) = some i :=
  (PV.TinyRV0.decode_iff _ i).2 ⟨h, rfl⟩

/-- distinct instructions have distinct encodings -/
theorem encode_injective (i j : Inst) (hi : i.Wf) (hj : j.Wf) (h : encode i = encode j) : i = j := by
  have h1 := decode_encode i hi
  have h2 := decode_encode j hj
  rw [h] at h1
  rw [h1] at h2
  exact Option.some.inj h2

/-- `decode` accepts exactly the 32-bit words of the table: whatever it returns is in range and
re-encodes to the same word (so no two words decode to the same instruction, and every word outside
the image of `encode` is rejected) -/
theorem decode_iff (w : Nat) (i : Inst) : decode w = some i ↔ (i.Wf ∧ encode i = w) :=
  PV.TinyRV0.decode_iff w i

/-- every encoding is a 32-bit word -/
theorem encode_lt (i : Inst) (h : i.Wf) : encode i < 2 ^ 32 :=
  ((decode_eq_some _ i).1 (decode_encode i h)).1

/-- the all-zero word (what follows a program in the test memory) is not an instruction -/
theorem decode_zero : decode 0 = none := by decide

/-- two's complement reading of a 12-bit / 13-bit field -/
def signed12 (imm : Nat) : Int := if imm < 2048 then (imm : Int) else (imm : Int) - 4096
def signed13 (imm : Nat) : Int := if imm < 4096 then (imm : Int) else (imm : Int) - 8192

/-- I/S immediates are sign-extended: adding `sext12 imm` modulo 2^32 is adding the signed value -/
theorem imm12_sign_extended (a imm : Nat) (hi : imm < 4096) :
    sext12 imm < W32 ∧
    (((a + sext12 imm) % W32 : Nat) : Int) = ((a : Int) + signed12 imm) % 4294967296 := by
  unfold sext12 signed12 W32
  split <;> constructor <;> omega

/-- B immediates are sign-extended -/
theorem imm13_sign_extended (a imm : Nat) (hi : imm < 8192) :
    sext13 imm < W32 ∧
    (((a + sext13 imm) % W32 : Nat) : Int) = ((a : Int) + signed13 imm) % 4294967296 := by
  unfold sext13 signed13 W32
  split <;> constructor <;> omega

theorem run_preserves (P : State → Prop) (hP : ∀ s s', P s → step s = .ok s' → P s') (fuel : Nat) (s : State) (n : Nat)
    (h : P s) : P (run fuel s n).1 := by
  induction fuel generalizing s n with
  | zero => exact h
  | succ f ih =>
    unfold run
    split
    · exact h
    · next s' hs => exact ih s' (n + 1) (hP s s' h hs)

/-- a step keeps the state well-formed: 32 registers, x0 = 0, 32-bit register / FIFO values, byte
memory, 32-bit PC -/
theorem step_ok (s s' : State) (h : s.Ok) (hs : step s = .ok s') : s'.Ok :=
  have ⟨i, _, he⟩ := step_inv hs
  exec_ok s s' i h he

/-- the reset state is well-formed when the image holds bytes and the inputs are 32-bit values -/
theorem init_ok (m : Mem) (inp : List Nat) (hm : ∀ a, m.get a < 256) (hi : ∀ v ∈ inp, v < W32) :
    (State.init m inp).Ok := by
  refine ⟨by simp [State.init], by simp [State.init, rget], ?_, hm, hi, by simp [State.init],
    by simp [State.init, W32]⟩
  intro r
  simp only [State.init, rget, List.getD_eq_getElem?_getD, List.getElem?_replicate]
  split <;> simp [W32]

/-- x0 stays 0 after every step (whatever the instruction writes to) -/
theorem x0_step (s s' : State) (h : rget s.regs 0 = 0) (hs : step s = .ok s') : rget s'.regs 0 = 0 := by
  obtain ⟨i, _, he⟩ := step_inv hs
  obtain ⟨⟨rd, v, hr⟩, -⟩ := exec_frame s s' i he
  rw [hr, rget_rset_zero]; exact h

/-- ... hence after every run from any state with x0 = 0, in particular from reset -/
theorem x0_run (fuel : Nat) (s : State) (n : Nat) (h : rget s.regs 0 = 0) :
    rget (run fuel s n).1.regs 0 = 0 :=
  run_preserves (fun s => rget s.regs 0 = 0) x0_step fuel s n h

/-- a run keeps the state well-formed -/
theorem run_ok (fuel : Nat) (s : State) (n : Nat) (h : s.Ok) : (run fuel s n).1.Ok :=
  run_preserves State.Ok step_ok fuel s n h

/-- SLL / SRL use only the low five bits of `R[rs2]`: the result is `R[rs1] * 2^(R[rs2] % 32)`
modulo 2^32, resp. `R[rs1] / 2^(R[rs2] % 32)` (zeros shifted in) -/
theorem shift_low5 (s s' : State) (rd rs1 rs2 : Nat) (hlen : s.regs.length = 32) (hrd : rd ≠ 0) (hrd' : rd < 32) :
    (exec s (.sll rd rs1 rs2) = .ok s' →
      rget s'.regs rd = (rget s.regs rs1 * 2 ^ (rget s.regs rs2 % 32)) % W32) ∧
    (exec s (.srl rd rs1 rs2) = .ok s' →
      rget s'.regs rd = rget s.regs rs1 / 2 ^ (rget s.regs rs2 % 32)) := by
  have hl : rd < s.regs.length := by omega
  constructor
  · intro h; simp only [exec] at h; cases h
    rw [rget_rset_same _ _ _ hrd hl, Nat.shiftLeft_eq]
  · intro h; simp only [exec] at h; cases h
    rw [rget_rset_same _ _ _ hrd hl, Nat.shiftRight_eq_div_pow]

/-- `PC' = PC + 4` except for a taken `bne`, whose target is `PC + sext(imm)` -/
theorem pc_next (s s' : State) (i : Inst) (hf : fetch s = .ok i) (hs : step s = .ok s') :
    s'.pc = match i with
      | .bne rs1 rs2 imm =>
        if rget s.regs rs1 ≠ rget s.regs rs2 then (s.pc + sext13 imm) % W32 else (s.pc + 4) % W32
      | _ => (s.pc + 4) % W32 := by
  unfold step at hs
  rw [hf] at hs
  have := (exec_frame s s' i hs).2.2
  cases i <;> exact this

/-- little endian: `storeWord` (what `sw` does to memory) puts the least significant byte at the lowest address, and
`loadWord` reads the four bytes back with the same weights -/
theorem mem_little_endian (m : Mem) (a v : Nat) :
    (storeWord m a v).get a = v % 256 ∧ (storeWord m a v).get (a + 1) = v / 256 % 256 ∧
    (storeWord m a v).get (a + 2) = v / 65536 % 256 ∧ (storeWord m a v).get (a + 3) = v / 16777216 % 256 ∧
    loadWord m a = m.get a + 256 * m.get (a + 1) + 65536 * m.get (a + 2) + 16777216 * m.get (a + 3) := by
  have b (i : Nat) (h : i < 4) : (storeWord m a v).get (a + i) = v / 256 ^ i % 256 := by
    rw [storeWord_eq, PV.Mem.writeLE_add 4 m.get a v i, if_pos h]
  exact ⟨by simpa using b 0 (by decide), b 1 (by decide), b 2 (by decide), b 3 (by decide), rfl⟩

/-- a stored word reads back, and every word that does not overlap it is unchanged -/
theorem load_store (m : Mem) (a v a' : Nat) (hv : v < W32) :
    loadWord (storeWord m a v) a = v ∧
    ((a' + 4 ≤ a ∨ a + 4 ≤ a') → loadWord (storeWord m a v) a' = loadWord m a') := by
  refine ⟨?_, loadWord_storeWord_disjoint m a v a'⟩
  rw [loadWord_storeWord_same, Nat.mod_eq_of_lt hv]

/-- `lw` right after `sw` to the same effective address returns the stored register value -/
theorem lw_after_sw (s s1 s2 : State) (rs2 rs1 imm rd rs1' imm' : Nat) (hok : s.Ok)
    (hf : fetch s = .ok (.sw rs2 rs1 imm)) (h1 : step s = .ok s1)
    (hf1 : fetch s1 = .ok (.lw rd rs1' imm')) (h2 : step s1 = .ok s2)
    (ha : (rget s1.regs rs1' + sext12 imm') % W32 = (rget s.regs rs1 + sext12 imm) % W32)
    (hrd : rd ≠ 0) (hrd' : rd < 32) :
    rget s2.regs rd = rget s.regs rs2 := by
  unfold step at h1 h2
  rw [hf] at h1; rw [hf1] at h2
  simp only [exec] at h1 h2
  split at h1
  · next hA =>
    cases h1
    simp only at h2 ha
    rw [ha, if_pos hA] at h2
    cases h2
    rw [rget_rset_same _ _ _ hrd (by rw [hok.len]; exact hrd'), loadWord_storeWord_same, Nat.mod_eq_of_lt (hok.regs rs2)]
  · cases h1

/-- what `exec_frame` / `execX_frame` say of the output of one instruction: nothing or one message more -/
theorem out_grows {a b : List Nat} (h : b = a ∨ ∃ x, b = a ++ [x]) : a <+: b :=
  h.elim (· ▸ List.prefix_refl _) fun ⟨_, e⟩ => e ▸ List.prefix_append _ _

/-- the `proc2mngr` sequence only grows: what was delivered stays delivered, in order -/
theorem run_out_prefix (fuel : Nat) (s : State) (n : Nat) : s.out <+: (run fuel s n).1.out := by
  refine run_preserves (fun t => s.out <+: t.out) (fun t t' h hs => h.trans ?_) fuel s n (List.prefix_refl _)
  obtain ⟨i, _, he⟩ := step_inv hs
  exact out_grows (exec_frame t t' i he).2.1

/-- the instruction count reported by `run` is the number of successful steps: at most `fuel` -/
theorem run_count (fuel : Nat) (s : State) (n : Nat) :
    n ≤ (run fuel s n).2.1 ∧ (run fuel s n).2.1 ≤ n + fuel := by
  induction fuel generalizing s n with
  | zero => simp [run]
  | succ f ih =>
    unfold run
    split
    · simp
    · next s' _ => have := ih s' (n + 1); omega

/-! ## accelerator CSRs: the NullXcel register behind xcelreg00..31 (`execX` / `stepX` / `runX`)

The encoding theorems above cover every 12-bit CSR number, and `exec` / `step` / `run` stop with `undefined` on an
accelerator CSR.  The theorems below show that the extension is conservative and carry the invariants over to
`stepX` / `runX` (what the driver executes). -/

/-- the accelerator-free ISA leaves accelerator accesses undefined ... -/
theorem exec_xcel_undefined (s : State) (i : Inst) (h : i.isXcel = true) : exec s i = .error .undefined := by
  cases i <;> simp only [Inst.isXcel] at h <;> try cases h
  all_goals
    simp only [isXcelCsr, Bool.and_eq_true, decide_eq_true_eq] at h
    simp only [exec]
    split
    · next hc => simp only [CSR_MNGR2PROC, CSR_PROC2MNGR] at hc; omega
    · rfl

/-- ... and the extension changes nothing else: on every other instruction `execX` is `exec` on the core state with
`xr0` untouched -/
theorem execX_conservative (s : StateX) (i : Inst) (h : i.isXcel = false) :
    execX s i = liftX s (exec s.core i) := by
  cases i <;> simp only [Inst.isXcel] at h <;> simp [execX, h]

theorem stepX_conservative (s : StateX) (i : Inst) (hf : fetch s.core = .ok i) (h : i.isXcel = false) :
    stepX s = liftX s (step s.core) := by
  unfold stepX step; rw [hf]; exact execX_conservative s i h

/-- the three ways `execX` succeeds -/
theorem execX_cases (s s' : StateX) (i : Inst) (h : execX s i = .ok s') :
    (exec s.core i = .ok s'.core ∧ s'.xr0 = s.xr0) ∨
    (∃ rd csr, i = .csrr rd csr ∧ isXcelCsr csr = true ∧ s'.xr0 = s.xr0 ∧
      s'.core = { s.core with pc := (s.core.pc + 4) % W32, regs := rset s.core.regs rd s.xr0 }) ∨
    (∃ csr rs1, i = .csrw csr rs1 ∧ isXcelCsr csr = true ∧ s'.xr0 = rget s.core.regs rs1 ∧
      s'.core = { s.core with pc := (s.core.pc + 4) % W32 }) := by
  have lift : ∀ r, liftX s r = .ok s' → r = .ok s'.core ∧ s'.xr0 = s.xr0 := by
    intro r hr; unfold liftX at hr
    split at hr
    · cases hr; exact ⟨rfl, rfl⟩
    · cases hr
  cases i with
  | csrr rd csr =>
    simp only [execX] at h
    split at h
    · next hx => cases h; exact .inr (.inl ⟨rd, csr, rfl, hx, rfl, rfl⟩)
    · exact .inl (lift _ h)
  | csrw csr rs1 =>
    simp only [execX] at h
    split at h
    · next hx => cases h; exact .inr (.inr ⟨csr, rs1, rfl, hx, rfl, rfl⟩)
    · exact .inl (lift _ h)
  | _ => exact .inl (lift _ (by simpa [execX] using h))

/-- one register behind all 32 numbers: a read of ANY accelerator CSR returns what the last write to ANY accelerator
CSR stored (NullXcel ignores the address) -/
theorem xcel_read_after_write (s s1 s2 : StateX) (c1 rs1 rd c2 : Nat)
    (h1 : execX s (.csrw c1 rs1) = .ok s1) (h2 : execX s1 (.csrr rd c2) = .ok s2)
    (hc1 : isXcelCsr c1 = true) (hc2 : isXcelCsr c2 = true)
    (hlen : s.core.regs.length = 32) (hrd : rd ≠ 0) (hrd' : rd < 32) :
    rget s2.core.regs rd = rget s.core.regs rs1 ∧ s2.xr0 = rget s.core.regs rs1 := by
  simp only [execX, hc1, if_true] at h1; cases h1
  simp only [execX, hc2, if_true] at h2; cases h2
  exact ⟨rget_rset_same _ _ _ hrd (by omega), rfl⟩

/-- only an accelerator write changes the accelerator register -/
theorem xcel_reg_stable (s s' : StateX) (i : Inst) (h : execX s i = .ok s')
    (hw : ∀ csr rs1, i = .csrw csr rs1 → isXcelCsr csr = false) : s'.xr0 = s.xr0 := by
  rcases execX_cases s s' i h with ⟨_, h⟩ | ⟨_, _, _, _, h, _⟩ | ⟨csr, rs1, hi, hx, _, _⟩
  · exact h
  · exact h
  · rw [hw csr rs1 hi] at hx; cases hx

/-- its power-on value is 0 -/
theorem xcel_reg_init (m : Mem) (inp : List Nat) : (StateX.init m inp).xr0 = 0 := rfl

/-- well-formed state with the accelerator register -/
def OkX (s : StateX) : Prop := s.core.Ok ∧ s.xr0 < W32

theorem execX_ok (s s' : StateX) (i : Inst) (h : OkX s) (he : execX s i = .ok s') : OkX s' := by
  rcases execX_cases s s' i he with ⟨hc, hx⟩ | ⟨rd, csr, _, _, hx, hc⟩ | ⟨csr, rs1, _, _, hx, hc⟩
  · exact ⟨exec_ok s.core s'.core i h.1 hc, by rw [hx]; exact h.2⟩
  · exact ⟨by rw [hc]; exact h.1.write rd _ h.2, by rw [hx]; exact h.2⟩
  · exact ⟨by rw [hc]; exact h.1.jump _, by rw [hx]; exact h.1.regs rs1⟩

/-- `run_preserves` for `runX` (a recursion of its own in the model, hence the second induction) -/
theorem runX_preserves (P : StateX → Prop) (hP : ∀ s s', P s → stepX s = .ok s' → P s') (fuel : Nat) (s : StateX) (n : Nat)
    (h : P s) : P (runX fuel s n).1 := by
  induction fuel generalizing s n with
  | zero => exact h
  | succ f ih =>
    unfold runX
    split
    · exact h
    · next s' hs => exact ih s' (n + 1) (hP s s' h hs)

theorem stepX_ok (s s' : StateX) (h : OkX s) (hs : stepX s = .ok s') : OkX s' :=
  have ⟨i, _, he⟩ := stepX_inv hs nofun nofun
  execX_ok s s' i h he

theorem initX_ok (m : Mem) (inp : List Nat) (hm : ∀ a, m.get a < 256) (hi : ∀ v ∈ inp, v < W32) :
    OkX (StateX.init m inp) := ⟨init_ok m inp hm hi, by simp [StateX.init, W32]⟩

theorem runX_ok (fuel : Nat) (s : StateX) (n : Nat) (h : OkX s) : OkX (runX fuel s n).1 :=
  runX_preserves OkX stepX_ok fuel s n h

theorem execX_frame (s s' : StateX) (i : Inst) (h : execX s i = .ok s') :
    (∃ rd v, s'.core.regs = rset s.core.regs rd v) ∧ (s'.core.out = s.core.out ∨ ∃ x, s'.core.out = s.core.out ++ [x]) := by
  rcases execX_cases s s' i h with ⟨hc, _⟩ | ⟨rd, _, _, _, _, hc⟩ | ⟨_, _, _, _, _, hc⟩
  · exact ⟨(exec_frame _ _ i hc).1, (exec_frame _ _ i hc).2.1⟩
  · rw [hc]; exact ⟨⟨rd, _, rfl⟩, .inl rfl⟩
  · rw [hc]; exact ⟨⟨0, 0, rfl⟩, .inl rfl⟩

/-- x0 stays 0 with the accelerator attached (a `csrr x0, xcelreg` is dropped like any other write to x0) -/
theorem x0_stepX (s s' : StateX) (h : rget s.core.regs 0 = 0) (hs : stepX s = .ok s') :
    rget s'.core.regs 0 = 0 := by
  obtain ⟨i, _, he⟩ := stepX_inv hs nofun nofun
  obtain ⟨⟨rd, v, hr⟩, -⟩ := execX_frame s s' i he
  rw [hr, rget_rset_zero]; exact h

theorem x0_runX (fuel : Nat) (s : StateX) (n : Nat) (h : rget s.core.regs 0 = 0) :
    rget (runX fuel s n).1.core.regs 0 = 0 :=
  runX_preserves (fun s => rget s.core.regs 0 = 0) x0_stepX fuel s n h

/-- accelerator accesses never touch memory or the manager FIFOs, and the PC moves on by 4 -/
theorem xcel_access_frame (s s' : StateX) (i : Inst) (hx : i.isXcel = true) (h : execX s i = .ok s') :
    s'.core.mem.m = s.core.mem.m ∧ s'.core.inp = s.core.inp ∧ s'.core.out = s.core.out ∧
    s'.core.pc = (s.core.pc + 4) % W32 := by
  rcases execX_cases s s' i h with ⟨hc, _⟩ | ⟨_, _, _, _, _, hc⟩ | ⟨_, _, _, _, _, hc⟩
  · rw [exec_xcel_undefined s.core i hx] at hc; cases hc
  · rw [hc]; exact ⟨rfl, rfl, rfl, rfl⟩
  · rw [hc]; exact ⟨rfl, rfl, rfl, rfl⟩

/-- the `proc2mngr` sequence only grows, with the accelerator attached -/
theorem runX_out_prefix (fuel : Nat) (s : StateX) (n : Nat) : s.core.out <+: (runX fuel s n).1.core.out := by
  refine runX_preserves (fun t => s.core.out <+: t.core.out) (fun t t' h hs => h.trans ?_) fuel s n (List.prefix_refl _)
  obtain ⟨i, _, he⟩ := stepX_inv hs nofun nofun
  exact out_grows (execX_frame t t' i he).2

theorem runX_count (fuel : Nat) (s : StateX) (n : Nat) :
    n ≤ (runX fuel s n).2.1 ∧ (runX fuel s n).2.1 ≤ n + fuel := by
  induction fuel generalizing s n with
  | zero => simp [runX]
  | succ f ih =>
    unfold runX
    split
    · simp
    · next s' _ => have := ih s' (n + 1); omega

/-- ChecksumFL equals the specification for every word list -/
theorem cksum_fl_eq_spec (ws : List Nat) : cksumFL ws = cksumSpec ws := fl_eq_spec ws

/-- ChecksumRTL (32-bit step units, shift/or) equals the specification for every list of 16-bit words -/
theorem cksum_rtl_eq_spec (ws : List Nat) (h : ∀ w ∈ ws, w < 65536) : cksumRTL ws = cksumSpec ws :=
  rtl_eq_spec ws h

/-- the property's clause on word lists: RTL = FL = specification (stated for every length; the unit has 8
words; `ChecksumCL` calls the FL function) -/
theorem cksum_agree (ws : List Nat) (h : ∀ w ∈ ws, w < 65536) :
    cksumRTL ws = cksumFL ws ∧ cksumFL ws = cksumSpec ws :=
  ⟨by rw [rtl_eq_spec ws h, fl_eq_spec], fl_eq_spec ws⟩

/-- the property's clause on the units' message interface: for every 8 × 16-bit input, the CL unit and the
RTL unit applied to the packed 128-bit message both return the specification's checksum of the words -/
theorem cksum_units_agree (ws : List Nat) (h : ∀ w ∈ ws, w < 65536) (h8 : ws.length = 8) :
    cksumCLmsg (packWords ws) = cksumSpec ws ∧ cksumRTLmsg (packWords ws) = cksumSpec ws ∧
    cksumFL ws = cksumSpec ws := by
  unfold cksumCLmsg cksumRTLmsg
  rw [← h8, unpack_pack ws h]
  exact ⟨fl_eq_spec ws, rtl_eq_spec ws h, fl_eq_spec ws⟩

/-- on the 128-bit message interface: CL and RTL units return the same value for every message, the
specification applied to the eight 16-bit slices -/
theorem cksum_msg_agree (b : Nat) :
    cksumRTLmsg b = cksumCLmsg b ∧ cksumCLmsg b = cksumSpec (unpackWords 8 b) := by
  unfold cksumRTLmsg cksumCLmsg
  rw [rtl_eq_spec _ (unpack_lt 8 b), fl_eq_spec]
  exact ⟨rfl, rfl⟩

/-- `b128_to_words ∘ words_to_b128 = id` on 16-bit words -/
theorem unpack_pack_words (ws : List Nat) (h : ∀ w ∈ ws, w < 65536) :
    unpackWords ws.length (packWords ws) = ws := unpack_pack ws h

/-- the checksum is a 32-bit value: both halves are below 2^16 -/
theorem cksum_lt (ws : List Nat) : cksumSpec ws < 2 ^ 32 := by
  obtain ⟨h1, h2⟩ := spec_inv ws (0, 0) (by decide) (by decide)
  simp only [cksumSpec]
  omega

-- the encodings of the document's tables
example : encode (.add 3 1 2) = 0x002081b3 := by decide
example : encode (.addi 1 0 0xfff) = 0xfff00093 := by decide           -- addi x1, x0, -1
example : encode (.sw 2 1 0xffc) = 0xfe20ae23 := by decide             -- sw x2, -4(x1)
example : encode (.bne 1 2 0x1ff8) = 0xfe209ce3 := by decide           -- bne x1, x2, -8
example : encode (.csrr 2 0xfc0) = 0xfc002173 := by decide
example : encode (.csrw 0x7c0 2) = 0x7c011073 := by decide
example : decode 0x00000013 = some (.addi 0 0 0) := by decide          -- nop
example : decode 0x40208033 = none := by decide                         -- sub: funct7 ≠ 0
example : decode 0xfc00a173 = none := by decide                         -- csrrs with rs1 ≠ x0
-- single instructions on the reset state (registers all 0, input FIFO [7])
def s0 : State := State.init Mem.empty [7]
example : (exec s0 (.csrr 1 0xfc0)).toOption.map (fun s => (s.regs.take 3, s.inp, s.pc)) = some ([0, 7, 0], [], 0x204) := by
  decide
example : (exec s0 (.csrr 0 0xfc0)).toOption.map (fun s => (s.regs.take 3, s.inp)) = some ([0, 0, 0], []) := by
  decide                                                                  -- write to x0 dropped, FIFO still dequeued
example : (exec { s0 with regs := [0, 3, 33] } (.sll 1 1 2)).toOption.map (fun s => s.regs) = some [0, 6, 33] := by
  decide                                                                  -- shift by 33 is a shift by 1
example : (exec { s0 with regs := [0, 3, 4] } (.bne 1 2 0x1ff8)).toOption.map (fun s => s.pc) = some 0x1f8 := by
  decide                                                                  -- taken, target PC - 8
example : (exec { s0 with regs := [0, 3, 3] } (.bne 1 2 0x1ff8)).toOption.map (fun s => s.pc) = some 0x204 := by
  decide
example : (exec { s0 with regs := [0, 5] } (.csrw 0x7c0 1)).toOption.map (fun s => s.out) = some [5] := by decide
example : (exec { s0 with regs := [0, 2] } (.lw 2 1 0)).toOption.map (fun s => s.pc) = none := by decide   -- unaligned: undefined
-- accelerator: write through xcelreg05, read back through xcelreg31
example : ((execX ⟨{ s0 with regs := [0, 0xabc] }, 0⟩ (.csrw 0x7E5 1)).toOption.bind
    (fun s => (execX s (.csrr 2 0x7FF)).toOption)).map (fun s => (s.core.regs, s.xr0)) = some ([0, 0xabc], 0xabc) := by
  decide                                      -- (register list has 2 entries here, so the write to x2 is out of range)
example : (execX ⟨{ s0 with regs := [0, 5, 0] }, 9⟩ (.csrr 2 0x7E0)).toOption.map (fun s => s.core.regs) = some [0, 5, 9] := by
  decide
example : (exec s0 (.csrw 0x7E0 1)).toOption.map (fun s => s.pc) = none := by decide
example : cksumSpec [1, 2, 3, 4, 5, 6, 7, 8] = 0x00780024 := by decide
example : cksumRTL [0xffff, 0xffff, 0xffff, 0xffff, 0xffff, 0xffff, 0xffff, 0xffff] = 0xffdcfff8 := by decide

end PV.C20
