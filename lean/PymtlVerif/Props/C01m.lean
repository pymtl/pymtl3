import PymtlVerif.Proofs.Mamba
/-!
# C01 / C07, scheduler part — the packing and ordering algorithms of `pymtl3/passes/mamba` lose, duplicate and
# illegally reorder nothing, for every input

Model: `Model/Mamba.lean` (written from `Mamba2020Pass.py` and `HeuristicTopoPass.py`); lemmas: `Proofs/Mamba.lean`;
the order and completeness theorems are `kinv_order` and `kinv_complete` of `Proofs/KahnCount.lean` at the loops' invariants.

* `schedule_ff`: `sortBr_perm`, `sortBr_sorted`, `sortBr_stable`, `packFF_flatten`, `packFF_bounds`
* `compile_scc` (SCC of >= 10 blocks cut into meta blocks, < 10 inlined): `packSCC_flatten`, `packSCC_bounds`, `packSCC_small`
* `insert_sortedlist`: `insertSorted_perm`, `insertSorted_sorted`
* `Mamba2020Pass.schedule_intra_cycle`: `mamba_fuel`, `mamba_topo`, `mamba_complete`, `mamba_queue_sorted`,
  `mamba_segmentation`, `mamba_bounds`
* `HeuristicTopoPass.schedule_intra_cycle`: `heu_fuel`, `heu_topo`, `heu_complete`, `heu_pops_min`

Every theorem is universally quantified over its inputs (block lists, branchiness values, graphs, sizes). The packing
and scheduling theorems are followed by `example`s on concrete inputs in which every flush site is taken.
-/
namespace PV.C01m
open PV.Mamba

/-! ## schedule_ff -/

/-- `sorted(ffs, key=branchiness)` is a permutation of its input -/
theorem sortBr_perm {β : Type} (br : β → Nat) (l : List β) : (sortBr br l).Perm l := PV.Mamba.sortBr_perm br l

/-- `sorted(ffs, key=branchiness)` is ordered by branchiness -/
theorem sortBr_sorted {β : Type} (br : β → Nat) (l : List β) : (sortBr br l).Pairwise (fun a b => br a ≤ br b) :=
  PV.Mamba.sortBr_sorted br l

/-- `sorted(ffs, key=branchiness)` is stable: blocks of equal branchiness keep their input order -/
theorem sortBr_stable {β : Type} (br : β → Nat) (k : Nat) (l : List β) :
    (sortBr br l).filter (fun a => br a == k) = l.filter (fun a => br a == k) := PV.Mamba.sortBr_stable br k l

/-- The meta blocks of `schedule_ff`, concatenated, are exactly the sorted list (so: a permutation of the update_ff
blocks, each block exactly once — C07's `ff_perm` makes their order irrelevant), and no meta block is empty. -/
theorem packFF_flatten {β : Type} (l : List (Nat × β)) :
    (packFF l).flatten = (sortBr Prod.fst l).map Prod.snd ∧
    (packFF l).flatten.Perm (l.map Prod.snd) ∧
    ∀ m ∈ packFF l, m ≠ [] := by
  have hfl : (packFF l).flatten = (sortBr Prod.fst l).map Prod.snd := by
    unfold packFF packFFOn
    rw [← List.map_flatten, packFFGo_flatten]; simp
  refine ⟨hfl, ?_, ?_⟩
  · rw [hfl]; exact (PV.Mamba.sortBr_perm Prod.fst l).map Prod.snd
  · intro m hm
    unfold packFF packFFOn at hm
    obtain ⟨m', hm', rfl⟩ := List.mem_map.mp hm
    exact fun h => (packFFGo_bounds _ [] 0 0 (binv_empty _ 5) m' hm').ne_nil (List.map_eq_nil_iff.mp h)

/-- What the code guarantees about the size of an update_ff meta block: at most `branchy_block_factor = 6` branchy
blocks, and the branchiness accumulated *before its last member* is below `branchiness_factor = 20` (the member that
reaches the bound closes the meta block, so the total may exceed 20 by that member's branchiness). Stated of `packFFOn`:
`packFF l` is these groups with `br = Prod.fst`, each entry cut down to its block. -/
theorem packFF_bounds {β : Type} (br : β → Nat) (l : List β) : ∀ m ∈ packFFOn br l, GroupOK br blkFactor m :=
  packFFGo_bounds _ [] 0 0 (binv_empty br 5)

-- seven blocks of branchiness 1: the seventh opens a second meta block (blocks named 10..17; 13 comes first: br 0)
example : packFF [(1, 10), (1, 11), (1, 12), (0, 13), (1, 14), (1, 15), (1, 16), (1, 17)] = [[13, 10, 11, 12, 14, 15, 16], [17]] := by decide +kernel
-- branchiness 19 + 5 >= 20 closes the first meta block with both members (24 >= 20: the bound is on the prefix)
example : packFF [(5, 0), (19, 1), (25, 2), (3, 3)] = [[3, 0, 1], [2]] := by decide +kernel

/-! ## compile_scc -/

/-- The meta blocks of an SCC, concatenated, are EXACTLY the BFS order they were cut from (nothing lost, nothing
duplicated, order preserved), and none is empty. -/
theorem packSCC_flatten {β : Type} (l : List (Nat × Bool × β)) :
    (packSCC l).flatten = l.map (fun x => x.2.2) ∧ (l ≠ [] → ∀ m ∈ packSCC l, m ≠ []) := by
  constructor
  · unfold packSCC; rw [← List.map_flatten, packSCCOn_flatten]
  · intro hl m hm
    unfold packSCC at hm
    obtain ⟨m', hm', rfl⟩ := List.mem_map.mp hm
    have := packSCCOn_nonempty effBr l hl m' hm'
    intro h; exact this (List.map_eq_nil_iff.mp h)

/-- Size of the meta blocks of an SCC with >= 10 blocks: at most 5 branchy blocks (the code tests
`cur_count + 1 >= 6` after counting the block), accumulated branchiness before the last member < 20. With < 10 blocks
the SCC is one group, whatever its branchiness (`packSCC_small`). Stated of `packSCCOn effBr`: `packSCC l` is these groups,
each entry cut down to its block. -/
theorem packSCC_bounds {β : Type} (l : List (Nat × Bool × β)) (hl : 10 ≤ l.length) :
    ∀ m ∈ packSCCOn effBr l, GroupOK effBr 5 m := packSCCOn_bounds effBr l hl

/-- an SCC of fewer than 10 blocks is inlined as one group -/
theorem packSCC_small {β : Type} (l : List (Nat × Bool × β)) (hl : l.length < 10) : packSCC l = [l.map (fun x => x.2.2)] := by
  unfold packSCC packSCCOn; simp [hl]

-- 10 blocks; flushes at: a block of branchiness 25 alone (first site), a zero-branch block after branchy ones
-- (second site), 9 + 9 + 9 >= 20 (third site); block 3 is loop-only, its branchiness 7 counts as 0
example : packSCC [(0, false, 0), (25, false, 1), (1, false, 2), (7, true, 3), (9, false, 4), (9, false, 5), (0, false, 6),
                   (0, false, 7), (2, false, 8), (2, false, 9)] = [[0, 1], [2], [3, 4, 5], [6, 7, 8, 9]] := by decide +kernel
example : packSCC [(25, false, 0), (25, false, 1), (9, false, 2)] = [[0, 1, 2]] := by decide +kernel

/-! ## insert_sortedlist -/

/-- the insert adds exactly the new entry (wherever the binary search lands) -/
theorem insertSorted_perm (arr : List QE) (key : Key) (item : Nat) :
    (insertSorted arr key item).Perm ((key, item) :: arr) := PV.Mamba.insertSorted_perm arr key item

/-- on a queue ordered by Python's `<=` on `(br, -cnt)` the result is ordered again: the binary search (with fuel
`len(arr)`) finds the position after the last key `<=` the new one (`bsearch_spec`) -/
theorem insertSorted_sorted (arr : List QE) (key : Key) (item : Nat) (hs : QSorted arr) :
    QSorted (insertSorted arr key item) := PV.Mamba.insertSorted_sorted arr key item hs

example : insertSorted [((0, 5), 50), ((0, 2), 20), ((1, 4), 40), ((3, 1), 10)] (1, 6) 60
    = [((0, 5), 50), ((0, 2), 20), ((1, 6), 60), ((1, 4), 40), ((3, 1), 10)] := by decide +kernel

/-! ## Mamba2020Pass.schedule_intra_cycle -/
section
variable (G : Nat → List Nat) (kb : Nat → Nat) (n : Nat)

/-- Fuel: after `n` iterations the queue is empty (the `while Q` loop has ended), and more fuel changes nothing. -/
theorem mamba_fuel (hwf : WF G n) :
    (mambaFinal G kb n).q = [] ∧ ∀ k, mambaLoop G kb (n + k) (mambaInit G kb n) = mambaFinal G kb n := by
  obtain ⟨_, hq, hmore⟩ := mamba_run G kb n hwf
  exact ⟨List.map_eq_nil_iff.mp hq, hmore⟩

/-- The flattened SCC schedule has no duplicates, contains only SCC ids, and every edge `u → v` of `G_new` whose
target is scheduled has its source scheduled strictly earlier — whatever the branchiness keys, i.e. whatever
`pop(0)` / `pop()` picks. -/
theorem mamba_topo (hwf : WF G n) :
    (mambaOrder G kb n).Nodup ∧ (∀ x ∈ mambaOrder G kb n, x < n) ∧
    ∀ u v, u < n → v ∈ G u → v ∈ mambaOrder G kb n →
      ∃ pre post, mambaOrder G kb n = pre ++ u :: post ∧ v ∈ post := by
  rw [mambaOrder_eq]
  exact kinv_order G n (mamba_run G kb n hwf).1

/-- Completeness: an SCC that is not scheduled has a predecessor that is not scheduled (the leftovers contain a
cycle); hence when the condensation is acyclic — which it is by construction of `kosaraju_scc` — every SCC appears,
exactly once: the order is a permutation of `0..n-1`. -/
theorem mamba_complete (hwf : WF G n) :
    (∀ v, v < n → v ∉ mambaOrder G kb n → ∃ u, u < n ∧ u ∉ mambaOrder G kb n ∧ v ∈ G u) ∧
    (Acyclic G n → (mambaOrder G kb n).Perm (List.range n)) := by
  obtain ⟨h, hq, _⟩ := mamba_run G kb n hwf
  rw [MInv, hq] at h
  rw [mambaOrder_eq]
  exact kinv_complete G n h

set_option linter.unusedVariables false in
/-- The queue stays ordered by Python's `<=` on `(br, -cnt)` throughout the loop, so `Q.pop(0)` is a smallest and
`Q.pop()` a largest key (`popQ_extreme`): the binary-search insert is used on sorted input only. (Holds for any graph:
`hwf` is not needed.) -/
theorem mamba_queue_sorted (hwf : WF G n) (fuel : Nat) : QSorted (mambaLoop G kb fuel (mambaInit G kb n)).q ∧
    ∀ e q', popQ (mambaLoop G kb fuel (mambaInit G kb n)).pk.cb (mambaLoop G kb fuel (mambaInit G kb n)).q = some (e, q') →
      ∀ x ∈ q', if (mambaLoop G kb fuel (mambaInit G kb n)).pk.cb = 0 then keyLe e.1 x.1 = true else keyLe x.1 e.1 = true := by
  have hs := (mambaLoop_qinv G kb n fuel).qsorted
  exact ⟨hs, fun e q' h => popQ_extreme hs h⟩

/-- The meta blocks are a segmentation of that order: concatenated they give it back (`mambaOrder` is defined as that
concatenation, so this half is `rfl`), and none is empty. -/
theorem mamba_segmentation :
    (mambaSched G kb n).flatten = mambaOrder G kb n ∧ ∀ m ∈ mambaSched G kb n, m ≠ [] :=
  ⟨rfl, fun m hm => (finish_bounds (mambaLoop_qinv G kb n n).binv m hm).ne_nil⟩

set_option linter.unusedVariables false in
/-- Size of a comb meta block: at most 5 branchy members (`cur_count + 1 >= 6`), branchiness accumulated before the
last member < 20; `kb` is the queue key (0 for nontrivial and loop-only SCCs, the block's branchiness otherwise).
(Holds for any graph: `hwf` is not needed.) -/
theorem mamba_bounds (hwf : WF G n) : ∀ m ∈ mambaSched G kb n, GroupOK kb 5 m :=
  finish_bounds (mambaLoop_qinv G kb n n).binv

end

def exG : Nat → List Nat
  | 0 => [1, 2, 3]
  | 1 => [4]
  | 2 => [4]
  | 3 => [5]
  | _ => []
def exKb : Nat → Nat
  | 0 => 25 | 1 => 1 | 3 => 7 | 4 => 9 | 5 => 9 | _ => 0

-- 0 alone exceeds 20 (first flush site); then 2 (key 0) and 1 (key 1) from the front, 4 (key 9) from the back
-- (1 + 9 + 9 < 20), 3 (key 7) from the back: 17 + 7 >= 20 (third site); 5 is left for the last meta block
example : mambaSched exG exKb 6 = [[0], [2, 1, 4, 3], [5]] := by decide +kernel
-- a zero-key SCC popped from the back while `cur_br != 0` starts a new meta block (second flush site)
example : mambaSched (fun u => if u = 0 then [1] else []) (fun u => if u = 0 then 3 else 0) 2 = [[0], [1]] := by decide +kernel
-- with a cycle 1 ⇄ 2 the leftovers are exactly the cycle and what hangs below it
example : mambaOrder (fun u => match u with | 0 => [1] | 1 => [2] | 2 => [1, 3] | _ => []) (fun _ => 0) 4 = [0] := by decide +kernel
example : WF exG 6 := by
  unfold WF; decide +kernel
example : Acyclic exG 6 := ⟨fun u => if u = 0 then 0 else if u ≤ 3 then 1 else 2, by
  decide +kernel⟩

/-! ## HeuristicTopoPass.schedule_intra_cycle -/
section
variable (G : Nat → List Nat) (br ident : Nat → Nat) (n : Nat)

/-- Fuel: after `n` iterations the priority queue is empty. -/
theorem heu_fuel (hwf : WF G n) :
    (heuFinal G (heuLe br ident) n).q = [] ∧
    ∀ k, heuLoop G (heuLe br ident) (n + k) (heuInit G n) = heuFinal G (heuLe br ident) n :=
  (heu_run G (heuLe br ident) n hwf).2

/-- `update_schedule` has no duplicates and respects every constraint whose target is scheduled, whatever the
priorities. -/
theorem heu_topo (hwf : WF G n) :
    (heuSched G br ident n).Nodup ∧ (∀ x ∈ heuSched G br ident n, x < n) ∧
    ∀ u v, u < n → v ∈ G u → v ∈ heuSched G br ident n →
      ∃ pre post, heuSched G br ident n = pre ++ u :: post ∧ v ∈ post :=
  kinv_order G n (heu_run G (heuLe br ident) n hwf).1

/-- A block that is not scheduled has an unscheduled predecessor (then `check_schedule` raises UpblkCyclicError);
on an acyclic constraint graph the schedule is a permutation of all blocks. -/
theorem heu_complete (hwf : WF G n) :
    (∀ v, v < n → v ∉ heuSched G br ident n → ∃ u, u < n ∧ u ∉ heuSched G br ident n ∧ v ∈ G u) ∧
    (Acyclic G n → (heuSched G br ident n).Perm (List.range n)) := by
  obtain ⟨h, hq, _⟩ := heu_run G (heuLe br ident) n hwf
  rw [HInv, hq] at h
  exact kinv_complete G n h

/-- the priority queue model hands out a minimum of `(branchiness, id)` -/
theorem heu_pops_min {q q' : List Nat} {u : Nat} (h : popMin (heuLe br ident) q = some (u, q')) :
    q.Perm (u :: q') ∧ ∀ x ∈ q, heuLe br ident u x = true :=
  (popMin_spec _ h).imp_right fun hmin => hmin (fun _ _ => heuLe_total) (fun _ _ _ => heuLe_trans)

end

-- 0 is the only root; then by (branchiness, id): 2 (0), 1 (1), 3 (7) before 4 (9), and 5 before 4 (both 9, id 5 < 6)
example : heuSched exG exKb (fun u => 10 - u) 6 = [0, 2, 1, 3, 5, 4] := by decide +kernel
example : heuSched (fun u => match u with | 0 => [1] | 1 => [2] | 2 => [1, 3] | _ => []) (fun _ => 0) id 4 = [0] := by decide +kernel

end PV.C01m
