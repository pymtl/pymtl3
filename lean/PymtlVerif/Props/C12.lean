import PymtlVerif.Proofs.Flat
import PymtlVerif.Proofs.SVMod
import PymtlVerif.Proofs.SVSigned
/-!
# C12 — the Yosys-compatible translation is equivalent, with a faithful flat port map

Models: `Model/Flat.lean` (`flatPorts`, `mangle`, `portLeaves`: the flattened ports of
`YosysStructuralTranslatorL1/L2` with the slice `[msb:lsb]` each leaf occupies in the packed vector; `toBits`: the
packed value of a port as `bitstruct.to_bits()` lays it out — first field most significant, element 0 of a list
field least significant) and the SystemVerilog / RTLIR models of C03 (the plain-Verilog subset is a sub-language).

Side conditions of the port-map theorems: `Pos T` (every vector width positive), `Distinct T` (field names of a
struct pairwise distinct — Python guarantees it), `WFNames T` / `GoodName` (a field name contains no `__`, does not
end with `_`, does not start with a digit; C13's `okName` of Model/Names.lean is another condition and no theorem
relates the two; the examples at the end of Proofs/Flat.lean give a name collision for each of the three clauses dropped).

The expression / statement theorems are those of C03 instantiated at the Yosys backend: constants are inlined as
literals, `BitsN(e)` is emitted as the operand itself / a zero-extension; struct member access by flattened name
(`a.b` → `a__b`) is outside `WT` for this backend (covered by the correspondence).

**Signedness.**  Loop variables are `integer __loopvar__<blk>_<i>` — a SIGNED type — and every use is rendered
`N'(__loopvar__<blk>_<i>)`; a size cast keeps the signedness of its operand (IEEE 1800-2017 §6.24.1), so an operator
whose operands are all loop variables (or casts / sums / … of loop variables) is evaluated signed (§11.8.1).  PyMTL
computes with unsigned `Bits`.  `+ - * & | ^ ~ << >> == !=` and `?:` give the same bits either way at the node's own
width; `< <= > >=` and `%` do not.  `signSafe .yosys e` (decidable, `Model/VTr.lean`) says that no `< <= > >=` / `%`
node of `e` has two signed operands; under it the translation is correct (`expr_correct_yosys`,
`stmt_correct_yosys`), without it it is not (`signed_loopvar_counterexample`: `i < j`, i = 1, j = 5, three bits;
`signed_loopvar_mod_counterexample`: `i % j`, i = 5, j = 3) — a genuine defect of the backend, recorded as the
known finding `C12-yosys-signed-loopvar`.  As soon as ONE operand is unsigned (a signal, a sized literal, a
temporary) the operator is unsigned: the common case.
-/
namespace PV.C12
open PV.SV PV.VTr PV.SVProofs PV.Flat PV.Sched

/-- **Each flattened leaf is the slice `[msb:lsb]` of the packed value of the port**, as wide as the leaf's
    vector type. -/
theorem flat_is_slice {T : PTy} {v : Val} (h : HasTy v T) (hp : Pos T) (hd : Distinct T)
    {l : Leaf} (hl : l ∈ flatPorts T) :
    ∃ T' v', leafAt T v l.path = some (T', v') ∧
      toBits T v / 2 ^ l.lsb % 2 ^ (l.msb + 1 - l.lsb) = toBits T' v' ∧
      l.msb + 1 - l.lsb = T'.width ∧ HasTy v' T' ∧ ∃ w, T' = .vec w :=
  Flat.flat_is_slice h hp hd hl

/-- **The leaves partition the packed vector**: every range lies inside `[0, width)`, the ranges are pairwise
    disjoint, and every bit position belongs to exactly one leaf. -/
theorem flat_partition (T : PTy) (hp : Pos T) :
    (∀ l ∈ flatPorts T, l.lsb ≤ l.msb ∧ l.msb < T.width) ∧
    (flatPorts T).Pairwise (fun a c => a.msb < c.lsb ∨ c.msb < a.lsb) ∧
    (∀ b, b < T.width → ∃ i, ∃ hi : i < (flatPorts T).length,
      ((flatPorts T)[i].lsb ≤ b ∧ b ≤ (flatPorts T)[i].msb) ∧
      ∀ j (hj : j < (flatPorts T).length),
        ((flatPorts T)[j].lsb ≤ b ∧ b ≤ (flatPorts T)[j].msb) → j = i) :=
  Flat.flat_partition T hp

/-- **Distinct leaves get distinct mangled names** (`base__field__3…`), at the level of the emitted strings. -/
theorem flat_names_injective (T : PTy) (hw : WFNames T) (base : String) {l₁ l₂ : Leaf}
    (h₁ : l₁ ∈ flatPorts T) (h₂ : l₂ ∈ flatPorts T)
    (e : mangle base l₁.path = mangle base l₂.path) : l₁ = l₂ :=
  Flat.flat_names_injective T hw base h₁ h₂ e

/-- the same for the port names the check drives / observes (a port, an element of a list of ports, a member of
    an interface …) -/
theorem port_names_injective (T : PTy) (hw : WFNames T) (t : Tok) (rest : List Tok) (hr : GoodPath rest)
    (dims : List Nat) {q₁ q₂ : PortLeaf}
    (h₁ : q₁ ∈ portLeaves true (t :: rest) dims T) (h₂ : q₂ ∈ portLeaves true (t :: rest) dims T)
    (e : q₁.svName = q₂.svName) : q₁ = q₂ :=
  Flat.portLeaves_names_injective T hw t rest hr dims h₁ h₂ e

/-- the packed value fits the width of the type -/
theorem to_bits_lt {T : PTy} {v : Val} (h : HasTy v T) : toBits T v < 2 ^ T.width :=
  Flat.toBits_lt _ _ h

/-- **Expressions, Yosys backend** (C03's theorem restricted to the plain-Verilog forms), for every expression in
    which no ordering comparison / remainder has two signed operands -/
theorem expr_correct_yosys (cb : Bool) (Γ : Env) (C : List (String × Nat)) (σ : Store)
    (hC : HoldsC σ C) {e : RExpr} (hwt : WT .yosys Γ C e) (hs : signSafe .yosys e = true) {v : Nat}
    (hv : evalPy .yosys Γ σ e = some v) :
    eval cb Γ σ e.width (tr .yosys e) = v ∧ selfWidth Γ (tr .yosys e) = e.width ∧ v < 2 ^ e.width :=
  SVProofs.expr_correct .yosys cb Γ C σ hC hwt hs hv

/-- … also as an operand: in a context of the node's width and of whatever type `S` (signed only if the node is) the
    enclosing expression propagates to it -/
theorem expr_correct_yosys_ctx (cb : Bool) (Γ : Env) (C : List (String × Nat)) (σ : Store)
    (hC : HoldsC σ C) {e : RExpr} (hwt : WT .yosys Γ C e) (hs : signSafe .yosys e = true) {v : Nat}
    (hv : evalPy .yosys Γ σ e = some v) (S : Bool) (hS : S = true → signedOf (tr .yosys e) = true) :
    evalC cb Γ σ e.width S (tr .yosys e) = v :=
  SVProofs.expr_correct_ctx .yosys cb Γ C σ hC hwt hs hv S hS

/-- **Loop-free statements, Yosys backend** -/
theorem stmt_correct_yosys (cb : Bool) (Γ : Env) (C : List (String × Nat)) {s : RStmt}
    (hwt : WTs .yosys Γ C s) (hs : signSafeS .yosys s = true) {xs xs' : XS}
    (h : execPy .yosys Γ s xs = some xs') (hC : HoldsC xs.σ C) :
    exec cb Γ (trStmt .yosys s) xs = xs' ∧ HoldsC xs'.σ C :=
  SVProofs.stmt_correct .yosys cb Γ C hwt hs h hC

/-- **The side condition cannot be dropped** (`i < j`): a well-typed expression that PyMTL evaluates to `v` while
    the text the Yosys backend emits for it evaluates to something else, under both readings of the size cast:
    `3'(__loopvar__up_i) < 3'(__loopvar__up_j)` at i = 1, j = 5 is the signed comparison `1 < -3`. -/
theorem signed_loopvar_counterexample :
    ∃ (Γ : Env) (σ : Store) (e : RExpr) (v : Nat), WT .yosys Γ [] e ∧ HoldsC σ [] ∧
      evalPy .yosys Γ σ e = some v ∧ ∀ cb, eval cb Γ σ e.width (tr .yosys e) ≠ v :=
  ⟨SVProofs.sgΓ, SVProofs.sgσ 1 5, SVProofs.exLt, 1, SVProofs.exLt_wt .yosys, SVProofs.sg_holdsC 1 5,
    SVProofs.exLt_py .yosys, fun cb => by rw [SVProofs.exLt_yosys cb]; decide⟩

/-- The statement is that of `signed_loopvar_counterexample`; the witness of this proof is `%`: `3'(i) % 3'(j)` at
i = 5, j = 3 is the signed remainder `-3 % 3 = 0`; PyMTL: `5 % 3 = 2`. -/
theorem signed_loopvar_mod_counterexample :
    ∃ (Γ : Env) (σ : Store) (e : RExpr) (v : Nat), WT .yosys Γ [] e ∧ HoldsC σ [] ∧
      evalPy .yosys Γ σ e = some v ∧ ∀ cb, eval cb Γ σ e.width (tr .yosys e) ≠ v :=
  ⟨SVProofs.sgΓ, SVProofs.sgσ 5 3, SVProofs.exMod, 2, SVProofs.exMod_wt .yosys, SVProofs.sg_holdsC 5 3,
    SVProofs.exMod_py .yosys, fun cb => by rw [SVProofs.exMod_yosys cb]; decide⟩

/-- … and `signSafe` is what excludes them (so the two theorems above do not contradict `expr_correct_yosys`);
    the SystemVerilog backend (`int unsigned`) translates the same expression correctly -/
theorem counterexamples_not_signSafe :
    signSafe .yosys SVProofs.exLt = false ∧ signSafe .yosys SVProofs.exMod = false ∧
    (∀ cb, eval cb SVProofs.sgΓ (SVProofs.sgσ 1 5) SVProofs.exLt.width (tr .verilog SVProofs.exLt) = 1) :=
  ⟨SVProofs.exLt_notSafe, SVProofs.exMod_notSafe, SVProofs.exLt_verilog⟩

/-- **Single driver** (as C03) -/
theorem singleDriver_sound (ws : List (List WR)) (h : singleDriver ws = true) (x : String) (e b : Nat) :
    (drivers ws x e b).length ≤ 1 :=
  SV.singleDriver_sound ws h x e b

/-- **Design level** (as C03): unique fixed point of single-writer, acyclic combinational processes -/
theorem design_fixpoint_unique {Var Val : Type} {vw : XS → St Var Val} {castB : Bool} {Γ : Env}
    {ps : List Proc} {bs : List (Blk Var Val)} (hrep : Represents vw castB Γ ps bs) (hwf : ∀ b ∈ bs, b.Wf)
    (hsw : SingleWriter bs) (htopo : Topo bs) (s t : XS)
    (hin : ∀ k, (∀ b ∈ bs, ¬ b.W k) → vw t k = vw s k)
    (ht : ∀ p ∈ ps, vw (exec castB Γ p.body t) = vw t) :
    vw t = vw (runProcs castB Γ ps s) :=
  SV.design_fixpoint_unique hrep hwf htopo s t hin ht

/-! ### non-vacuity of the signed fragment: operators on two loop variables that stay correct -/

/-- `i + j`, `i == j`, `i < 3'd5` are well typed and `signSafe` although (some of) their operands are signed -/
example : WT .yosys SVProofs.sgΓ [] SVProofs.exAdd ∧ signSafe .yosys SVProofs.exAdd = true ∧
    signedOf (tr .yosys SVProofs.exAdd) = true :=
  ⟨SVProofs.exAdd_wt .yosys, SVProofs.exAdd_safe, rfl⟩
example : WT .yosys SVProofs.sgΓ [] SVProofs.exEq ∧ signSafe .yosys SVProofs.exEq = true :=
  ⟨SVProofs.exEq_wt .yosys, SVProofs.exEq_safe⟩
example : WT .yosys SVProofs.sgΓ [] SVProofs.exLtLit ∧ signSafe .yosys SVProofs.exLtLit = true :=
  ⟨SVProofs.exLtLit_wt .yosys, SVProofs.exLtLit_safe⟩

/-- `expr_correct_yosys` at `i + j`, i = 1, j = 5: the signed 3-bit sum has PyMTL's value 6 -/
example (cb : Bool) : eval cb SVProofs.sgΓ (SVProofs.sgσ 1 5) 3 (tr .yosys SVProofs.exAdd) = 6 :=
  (expr_correct_yosys cb _ [] _ (SVProofs.sg_holdsC 1 5) (SVProofs.exAdd_wt .yosys) SVProofs.exAdd_safe
    (v := 6) (by simp [SVProofs.exAdd, SVProofs.lvI, SVProofs.lvJ, SVProofs.evalPy_bin, SVProofs.evalPy_loopvar, loopVarName,
      SVProofs.sgσ, Store.get, Store.set, Store.getL, Store.setL, Store.empty, pyBin, RExpr.width])).1

/-- `s.o @= i + j` is in the fragment of `stmt_correct_yosys` -/
example : WTs .yosys SVProofs.sgΓ [] SVProofs.exAsg ∧ signSafeS .yosys SVProofs.exAsg = true :=
  ⟨SVProofs.exAsg_wt .yosys, SVProofs.exAsg_safe⟩

/-! ### non-vacuity: the port `p : Pt { a: Bits4; b: [Bits2]*3; c: Inner { x: Bits3; y: Bits5 } }` -/

/-- what the real Yosys pass emits for it -/
example : (flatPorts Flat.exPt).map (fun l => (mangle "p" l.path, l.msb, l.lsb)) =
    [("p__a", 17, 14), ("p__b__0", 9, 8), ("p__b__1", 11, 10), ("p__b__2", 13, 12),
     ("p__c__x", 7, 5), ("p__c__y", 4, 0)] := Flat.exPt_flatPorts

/-- `to_bits()` of `AB(a=0xA, b=[1,2,3])` is `0x2b9`: element 0 of the list field is least significant -/
example : toBits Flat.exAB (.struct [.bits 0xA, .arr [.bits 1, .bits 2, .bits 3]]) = 0x2b9 := rfl

example : (portLeaves true [.fld "ifc", .idx 1, .fld "msg"] [2] Flat.exPt).map (·.svName) =
    ["ifc__1__msg__a", "ifc__1__msg__b__0", "ifc__1__msg__b__1", "ifc__1__msg__b__2",
     "ifc__1__msg__c__x", "ifc__1__msg__c__y"] := Flat.exPt_portLeaves

end PV.C12
