import PymtlVerif.Proofs.Rtl
import PymtlVerif.Proofs.Kahn
/-!
# C02 — within a cycle every reader runs after its writer, in every scheduler

* the overlap test used for pairing writers with readers is exact at the bit level
  (`Connectable._overlap` / parent-chain walk ⇔ sharing a bit: `overlap_spec`, `rngsOverlap_spec`);
* the schedule check the driver applies to every real schedule (`topoB`) holds exactly when, of two blocks at different
  positions, one that writes a bit the other reads stands earlier (`topo_iff_writer_before_reader`);
* Kahn's algorithm, with an *arbitrary* tie-break (random shuffle in SimpleSchedulePass, priority queue in
  HeuristicTopoPass), never emits a block twice, puts every edge's source before its target (`kahn_sound`), and when it
  stops early every block left over has an edge into it from a block that was not emitted either (`kahn_leftover`) — the
  UpblkCyclicError case; that the leftovers then contain a cycle needs all edges to run between blocks of `V` and is not proved.

The method-constraint search of `GenDAGPass._process_methods` is modelled in `Model/Methods.lean` and its
theorems are in `Props/C02m.lean` (namespace `PV.C02m`).
-/
namespace PV.C02
open PV.Rtl

/-- two non-empty ranges overlap (the code's `_overlap` on slices of one signal) iff they share a bit -/
theorem overlap_spec (a b : Rng) (ha : 0 < a.w) (hb : 0 < b.w) :
    a.overlap b = true ↔ ∃ v, a.has v ∧ b.has v :=
  ⟨fun h => ⟨_, common_of_overlap a b ha hb h⟩, fun ⟨v, h1, h2⟩ => overlap_of_common a b v h1 h2⟩

/-- footprint lists overlap iff some bit is in both (whole signals, fields, nested fields and slices are
all bit ranges of the top-level signal) -/
theorem rngsOverlap_spec (xs ys : List Rng) (hx : ∀ r ∈ xs, 0 < r.w) (hy : ∀ r ∈ ys, 0 < r.w) :
    rngsOverlap xs ys = true ↔ ∃ v, inRngs xs v ∧ inRngs ys v := by
  constructor
  · exact rngsOverlap_true xs ys hx hy
  · intro ⟨v, h1, h2⟩
    cases h : rngsOverlap xs ys with
    | true => rfl
    | false => exact absurd h2 (not_overlap (congrArg (!·) h) v h1)

theorem rngsOverlap_comm (xs ys : List Rng) : rngsOverlap xs ys = rngsOverlap ys xs := PV.Rtl.rngsOverlap_comm xs ys

/-- a schedule passes the check iff, for every two different positions, a block that writes a bit the
other reads stands earlier — "every reader runs after its writer", each block being a list position
(exactly once) -/
theorem topo_iff_writer_before_reader (bs : List Blk) :
    topoB bs = true ↔
      ∀ (i j : Nat) (hi : i < bs.length) (hj : j < bs.length), i ≠ j →
        rngsOverlap bs[i].writes bs[j].reads = true → i < j := by
  unfold topoB
  rw [pairwiseB_iff, List.pairwise_iff_getElem]
  constructor
  · intro h i j hi hj hne hov
    rcases Nat.lt_or_gt_of_ne hne with hlt | hgt
    · exact hlt
    · exfalso
      have := h j i hj hi hgt
      rw [rngsOverlap_comm] at this
      simp [hov] at this
  · intro h i j hi hj hlt
    cases hov : rngsOverlap bs[i].reads bs[j].writes with
    | false => rfl
    | true =>
      exfalso
      rw [rngsOverlap_comm] at hov
      exact Nat.lt_asymm hlt (h j i hj hi (Nat.ne_of_gt hlt) hov)

/-- Kahn's algorithm with any tie-break: no duplicates, every scheduled edge in order -/
theorem kahn_sound {α : Type} [DecidableEq α] (pick : List α → Nat) (V : List α) (E : List (α × α)) (fuel : Nat) :
    (PV.Kahn.kahn pick V E fuel []).Nodup ∧
    ∀ e ∈ E, e.2 ∈ PV.Kahn.kahn pick V E fuel [] →
      ∃ pre post, PV.Kahn.kahn pick V E fuel [] = pre ++ e.1 :: post ∧ e.2 ∈ post :=
  PV.Kahn.kahn_sound pick V E fuel

/-- with fuel |V|: a vertex of `V` that is not emitted has an edge into it whose source was not emitted either (no hypothesis
puts that source in `V`, and no cycle is derived) -/
theorem kahn_leftover {α : Type} [DecidableEq α] (pick : List α → Nat) (V : List α) (E : List (α × α)) :
    ∀ v ∈ V, v ∉ PV.Kahn.kahn pick V E V.length [] →
      ∃ e ∈ E, e.2 = v ∧ e.1 ∉ PV.Kahn.kahn pick V E V.length [] :=
  PV.Kahn.kahn_leftover pick V E V.length [] trivial (by simp) (by simp)

/-! ## non-vacuity -/
example : Rng.overlap ⟨0, 0, 6⟩ ⟨0, 4, 4⟩ = true ∧ Rng.overlap ⟨0, 0, 4⟩ ⟨0, 4, 4⟩ = false := by decide
example : PV.Kahn.kahn (fun _ => 0) [1, 2, 3] [(1, 2), (2, 3)] 3 [] = [1, 2, 3] := by decide +kernel
example : PV.Kahn.kahn (fun _ => 0) [1, 2, 3] [(1, 2), (2, 3), (3, 2)] 3 [] = [1] := by decide +kernel

end PV.C02
