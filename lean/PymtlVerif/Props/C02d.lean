import PymtlVerif.Proofs.GenDag
/-!
# C02 (first clause) — the value constraints GenDAGPass computes, for every design

Model: `Model/GenDag.lean`, `valueConstraints` = `GenDAGPass._process_value_constraints` (explicit
`RD/WR(x) <> U` entries expanded into block pairs, the reader-side walk over parent chain and overlapping
written sibling slices, the writer-side walk over the parent chain, `update_ff` writers excluded, implicit
pairs dropped when the reverse pair is explicit).

* `implicit_iff_related`: the two asymmetric walks together are exactly the symmetric relation
  `related` of `Model/Nets.lean` between a written and a read object;
* `implicit_iff_bits`: … which is "some bit written by A is read by B" (`PV.Nets.related_iff_overlap`);
* `final_constraints`, `explicit_pairs`, `explicit_honoured`: the final set;
* `schedule_respects_bits`: every order that is topological for the final set runs a non-ff writer of
  a bit before every reader of that bit, unless the pair is explicitly inverted (then the reader runs
  first);
* `constraint_objs_cover`: the objects recorded in `constraint_objs` for a pair cover every bit the
  writer writes and the reader reads (what the SCC watch list of C11 is built from).

Well-formedness assumed of the input (`Input.WF`, checked by the driver on every request, `wf_checked`):
kind and host are attributes of the top-level signal, slices of signals are non-empty.
-/
namespace PV.C02d
open PV.Nets PV.GenDag

/-- what the two walks find separately: reader side = the written object is the read one or above it, or
an overlapping sibling slice; writer side = the read object is the written one or above it -/
theorem implicit_by_walks (I : Input) (A B : Nat) :
    (A, B) ∈ implicitPairs I ↔
      ∃ a ∈ I.blks, ∃ b ∈ I.blks, a.id = A ∧ b.id = B ∧ A ≠ B ∧ a.ff = false ∧
        ∃ w ∈ a.writes, ∃ r ∈ b.reads,
          (w ∈ ancestors r ∨ (isSig r = true ∧ sibling r w = true ∧ sliceOverlap w r = true) ∨ r ∈ ancestors w) := by
  show _ ↔ Pairing I A B Found
  unfold implicitPairs
  simp only [List.mem_map, Prod.exists, Prod.mk.injEq]
  constructor
  · rintro ⟨_, _, o, h, rfl, rfl⟩
    rcases List.mem_append.mp h with h | h
    · exact ((mem_readerSide I _ _ o).mp h).imp fun _ _ h => h.2.elim Or.inl fun h => Or.inr (Or.inl h)
    · exact ((mem_writerSide I _ _ o).mp h).imp fun _ _ h => Or.inr (Or.inr h.2)
  · rintro ⟨a, ha, b, hb, rfl, rfl, hne, hff, w, hw, r, hr, hf⟩
    obtain ⟨x, hx, _⟩ := found_tagged ha hb hne hff hw hr hf
    exact ⟨_, _, x, hx, rfl, rfl⟩

/-- (A,B) is an implicit pair iff A is not an update_ff block, differs from B, writes an object and B
reads an object such that one is the other or above it, or both are overlapping slices of one signal -/
theorem implicit_iff_related (I : Input) (hwf : I.WF) (A B : Nat) :
    (A, B) ∈ implicitPairs I ↔
      ∃ a ∈ I.blks, ∃ b ∈ I.blks, a.id = A ∧ b.id = B ∧ A ≠ B ∧ a.ff = false ∧
        ∃ w ∈ a.writes, ∃ r ∈ b.reads, related w r = true :=
  (implicit_by_walks I A B).trans (pairing_congr fun w r hw hr =>
    found_iff_related w r (hwf.coh w hw r hr) (hwf.slices w hw) (hwf.slices r hr))

/-- with the objects well-formed w.r.t. a table of Bits-typed leaves: (A,B) implicit ⇔ A ≠ B, A not
ff, some bit written by A is read by B -/
theorem implicit_iff_bits (I : Input) (hwf : I.WF) (L : Leaves) (hL : ∀ o ∈ I.objs, WfObj L o) (A B : Nat) :
    (A, B) ∈ implicitPairs I ↔
      ∃ a ∈ I.blks, ∃ b ∈ I.blks, a.id = A ∧ b.id = B ∧ A ≠ B ∧ a.ff = false ∧
        ∃ bit, ValidBit L bit ∧ (∃ w ∈ a.writes, covers w bit) ∧ (∃ r ∈ b.reads, covers r bit) := by
  rw [implicit_iff_related I hwf]
  refine blkPair_congr fun a ha b hb => ?_
  have hrel := fun w hw r hr => related_iff_overlap L w r (hL w (mem_objs_of_write ha hw)) (hL r (mem_objs_of_read hb hr))
  constructor
  · rintro ⟨w, hw, r, hr, hwr⟩
    obtain ⟨bit, hv, hcw, hcr⟩ := (hrel w hw r hr).mp hwr
    exact ⟨bit, hv, ⟨w, hw, hcw⟩, ⟨r, hr, hcr⟩⟩
  · rintro ⟨bit, hv, ⟨w, hw, hcw⟩, ⟨r, hr, hcr⟩⟩
    exact ⟨w, hw, r, hr, (hrel w hw r hr).mpr ⟨bit, hv, hcw, hcr⟩⟩

/-- `all_constraints` = the explicit pairs, and the implicit pairs whose reverse is not explicit -/
theorem final_constraints (I : Input) (p : Nat × Nat) :
    p ∈ valueConstraints I ↔ p ∈ explicitPairs I ∨ (p ∈ implicitPairs I ∧ (p.2, p.1) ∉ explicitPairs I) := by
  unfold valueConstraints
  simp only [List.mem_append, List.mem_filter, Bool.not_eq_true', List.contains_eq_mem, decide_eq_false_iff_not]

/-- the explicit pairs: `U(a) < U(b)`, and for every `RD(x) < U` (`>`) every other block that reads
exactly `x`, before (after) `U`; likewise `WR(x)` with the blocks that write exactly `x` -/
theorem explicit_pairs (I : Input) (p : Nat × Nat) :
    p ∈ explicitPairs I ↔ p ∈ I.uu ∨
      (∃ c ∈ I.rdU, ∃ b ∈ I.blks, c.obj ∈ b.reads ∧ c.blk ≠ b.id ∧ p = c.pair b.id) ∨
      (∃ c ∈ I.wrU, ∃ b ∈ I.blks, c.obj ∈ b.writes ∧ c.blk ≠ b.id ∧ p = c.pair b.id) := by
  rw [explicitPairs, explicitTagged, List.map_append, List.mem_append, List.mem_append, mem_expand_pairs, mem_expand_pairs]
  simp only [mem_readBlks, mem_writeBlks, and_assoc]

theorem explicit_kept (I : Input) {p : Nat × Nat} (h : p ∈ explicitPairs I) : p ∈ valueConstraints I :=
  (final_constraints I p).mpr (Or.inl h)

/-- every explicit `U < U` pair and every pair an `RD/WR(x) <> U` entry expands to is in the final set -/
theorem explicit_honoured (I : Input) :
    (∀ p ∈ I.uu, p ∈ valueConstraints I) ∧
    (∀ c ∈ I.rdU, ∀ b ∈ I.blks, c.obj ∈ b.reads → c.blk ≠ b.id → c.pair b.id ∈ valueConstraints I) ∧
    (∀ c ∈ I.wrU, ∀ b ∈ I.blks, c.obj ∈ b.writes → c.blk ≠ b.id → c.pair b.id ∈ valueConstraints I) :=
  ⟨fun p hp => explicit_kept I ((explicit_pairs I p).mpr (Or.inl hp)),
    fun c hc b hb ho hne => explicit_kept I ((explicit_pairs I _).mpr (Or.inr (Or.inl ⟨c, hc, b, hb, ho, hne, rfl⟩))),
    fun c hc b hb ho hne => explicit_kept I ((explicit_pairs I _).mpr (Or.inr (Or.inr ⟨c, hc, b, hb, ho, hne, rfl⟩)))⟩

/-- an implicit pair survives unless the reverse pair is explicit -/
theorem implicit_kept (I : Input) (p : Nat × Nat) (h : p ∈ implicitPairs I) (hn : (p.2, p.1) ∉ explicitPairs I) :
    p ∈ valueConstraints I := (final_constraints I p).mpr (Or.inr ⟨h, hn⟩)

/-- which way an implicit pair is constrained in the final set: as found, or explicitly inverted -/
theorem implicit_or_inverted (I : Input) {A B : Nat} (h : (A, B) ∈ implicitPairs I) :
    (A, B) ∈ valueConstraints I ∨ ((B, A) ∈ explicitPairs I ∧ (B, A) ∈ valueConstraints I) :=
  (Classical.em _).symm.imp (implicit_kept I (A, B) h) fun hx => ⟨hx, explicit_kept I hx⟩

/-- C02, first clause, for every design: in any order `o` of block ids that is topological for the
final constraint set, a block that is not an update_ff block and writes a bit runs before every other
block that reads that bit — unless the pair is explicitly inverted, and then the reader runs first -/
theorem schedule_respects_bits (I : Input) (hwf : I.WF) (L : Leaves) (hL : ∀ o ∈ I.objs, WfObj L o)
    (o : List Nat) (ht : topoFor (valueConstraints I) o = true)
    (a : GenDag.Blk) (ha : a ∈ I.blks) (b : GenDag.Blk) (hb : b ∈ I.blks) (hne : a.id ≠ b.id) (hff : a.ff = false)
    (bit : Bit) (hv : ValidBit L bit) (hw : ∃ w ∈ a.writes, covers w bit) (hr : ∃ r ∈ b.reads, covers r bit) :
    posOf o a.id < posOf o b.id ∨ ((b.id, a.id) ∈ explicitPairs I ∧ posOf o b.id < posOf o a.id) := by
  rw [topoFor_iff] at ht
  exact (implicit_or_inverted I ((implicit_iff_bits I hwf L hL a.id b.id).mpr
    ⟨a, ha, b, hb, rfl, rfl, hne, hff, bit, hv, hw, hr⟩)).imp (ht (a.id, b.id)) fun h => ⟨h.1, ht (b.id, a.id) h.2⟩

/-- … and every explicit pair is respected by such an order -/
theorem schedule_respects_explicit (I : Input) (o : List Nat) (ht : topoFor (valueConstraints I) o = true)
    (p : Nat × Nat) (hp : p ∈ explicitPairs I) : posOf o p.1 < posOf o p.2 := by
  rw [topoFor_iff] at ht
  exact ht p (explicit_kept I hp)

/-- `constraint_objs`: for a non-ff writer `a` of `w` and another block `b` reading `r` with `w`, `r`
related, some object recorded for the pair (a, b) contains every bit that is both in `w` and in `r` -/
theorem constraint_objs_cover (I : Input) (hwf : I.WF) (a : GenDag.Blk) (ha : a ∈ I.blks) (b : GenDag.Blk) (hb : b ∈ I.blks)
    (hne : a.id ≠ b.id) (hff : a.ff = false) (w : Obj) (hw : w ∈ a.writes) (r : Obj) (hr : r ∈ b.reads)
    (hrel : related w r = true) :
    ∃ x, ((a.id, b.id), x) ∈ constraintObjs I ∧ (x = w ∨ x = r) ∧ ∀ bit, covers w bit → covers r bit → covers x bit := by
  have hf := (found_iff_related w r (hwf.coh w (mem_objs_of_write ha hw) r (mem_objs_of_read hb hr))
    (hwf.slices w (mem_objs_of_write ha hw)) (hwf.slices r (mem_objs_of_read hb hr))).mpr hrel
  obtain ⟨x, hx, hxe⟩ := found_tagged ha hb hne hff hw hr hf
  exact ⟨x, List.mem_append_right _ hx, hxe, fun _ cw cr => hxe.elim (fun e => e ▸ cw) (fun e => e ▸ cr)⟩

/-- what the driver checks before it answers implies the well-formedness the theorems assume -/
theorem wf_checked (I : Input) (h : I.wf = true) : I.WF := by
  unfold Input.wf at h
  simp only [Bool.and_eq_true, List.all_eq_true, Bool.or_eq_true, bne_iff_ne, ne_eq, beq_iff_eq] at h
  refine ⟨fun a ha b hb hs => (h.1.2 a ha b hb).resolve_left (not_not_intro hs), fun o ho hs s hsl => ?_⟩
  have := h.2 o ho
  rw [hsl] at this
  simpa only [hs, Bool.not_true, Bool.false_or, decide_eq_true_eq] using this

/-! ## non-vacuity -/

/-- signal 0 is a struct `{a: Bits4 (field 0), b: Bits8 (field 1)}`, signal 1 a `Bits8` wire -/
def exL : Leaves := fun s => if s = 0 then [([0], 4), ([1], 8)] else [([], 8)]
def sWhole : Obj := ⟨0, .wire, 0, [], none⟩
def sA : Obj := ⟨0, .wire, 0, [0], none⟩
def sB : Obj := ⟨0, .wire, 0, [1], none⟩
def x04 : Obj := ⟨1, .wire, 0, [], some (0, 4)⟩
def x26 : Obj := ⟨1, .wire, 0, [], some (2, 6)⟩
def x48 : Obj := ⟨1, .wire, 0, [], some (4, 8)⟩

/-- block 1 writes the field `s.a`, block 2 reads the whole struct `s` (found from the writer side only:
the read object is above the written one); block 6 reads the other field `s.b` (no shared bit);
block 3 writes `x[0:4]`, block 4 writes `x[4:8]`, block 5 reads `x[2:6]`: two written sibling slices
that overlap the read slice (found from the reader side only) -/
def ex1 : Input :=
  { blks := [⟨1, false, [], [sA]⟩, ⟨2, false, [sWhole], []⟩, ⟨3, false, [], [x04]⟩, ⟨4, false, [], [x48]⟩,
             ⟨5, false, [x26], []⟩, ⟨6, false, [sB], []⟩],
    uu := [], rdU := [], wrU := [] }

example : ex1.wf = true := by decide +kernel

/-- what the two walks find in `ex1`; `ex2` and `ex3` have the same blocks -/
theorem ex1_implicitTagged : implicitTagged ex1 = [((3, 5), x26), ((4, 5), x26), ((1, 2), sA)] := by decide +kernel

example : implicitPairs ex1 = [(3, 5), (4, 5), (1, 2)] := by rw [implicitPairs, ex1_implicitTagged]; rfl
/-- field vs parent: the hypothesis side of `implicit_iff_related` holds for (1,2) and the walk finds it -/
example : related sA sWhole = true ∧ (1, 2) ∈ implicitPairs ex1 := by
  rw [implicitPairs, ex1_implicitTagged]; decide +kernel
/-- both overlapping sibling slices get an edge, the disjoint field `s.b` does not -/
example : (3, 5) ∈ valueConstraints ex1 ∧ (4, 5) ∈ valueConstraints ex1 ∧ (1, 6) ∉ valueConstraints ex1 := by
  rw [valueConstraints, implicitPairs, ex1_implicitTagged]; decide +kernel
example : related x04 x26 = true ∧ related x48 x26 = true ∧ related x04 x48 = false ∧ related sA sB = false := by decide +kernel

theorem wfObj_of_leaves {L : Leaves} {os : List Obj}
    (h : ∀ o ∈ os, ∃ x ∈ L o.sid, 1 ≤ x.2 ∧ o.fields <+: x.1 ∧ ∀ s ∈ o.slice, o.fields = x.1 ∧ s.1 < s.2 ∧ s.2 ≤ x.2) :
    ∀ o ∈ os, WfObj L o :=
  fun o ho _ => let ⟨x, hx, h1, h2, h3⟩ := h o ho; ⟨x.1, x.2, hx, h1, h2, h3⟩

theorem ex1_wfObj : ∀ o ∈ ex1.objs, WfObj exL o := wfObj_of_leaves (by decide +kernel)

/-- the objects are well-formed w.r.t. the leaves table, and the shared bit exists -/
example : ∀ o ∈ ex1.objs, WfObj exL o := ex1_wfObj
example : ValidBit exL ⟨1, [], 3⟩ ∧ covers x04 ⟨1, [], 3⟩ ∧ covers x26 ⟨1, [], 3⟩ := by
  refine ⟨⟨8, by decide, by decide⟩, ⟨by decide, rfl, by decide, ?_⟩, ⟨by decide, rfl, by decide, ?_⟩⟩
  · rintro _ ⟨⟩; decide
  · rintro _ ⟨⟩; decide

/-- explicit inversion: `U(5) < U(3)` removes the implicit (3,5), the other edges stay; a schedule
that runs 5 before 3 is topological, the implicit order 3,4,5 is not any more -/
def ex2 : Input := { ex1 with uu := [(5, 3)] }
example : valueConstraints ex2 = [(5, 3), (4, 5), (1, 2)] := by
  rw [valueConstraints, implicitPairs, implicitTagged_congr (I := ex2) (J := ex1) rfl, ex1_implicitTagged]; decide +kernel
example : topoFor (valueConstraints ex2) [1, 2, 4, 5, 3, 6] = true ∧ topoFor (valueConstraints ex2) [1, 2, 3, 4, 5, 6] = false := by
  rw [valueConstraints, implicitPairs, implicitTagged_congr (I := ex2) (J := ex1) rfl, ex1_implicitTagged]; decide +kernel

/-- `RD(x[2:6]) < U(4)`: every block reading exactly `x[2:6]` (block 5) goes before block 4; this
inverts the implicit (4,5); `WR(s.a) > U(6)`: block 6 before the writer of `s.a` (block 1) -/
def ex3 : Input := { ex1 with rdU := [⟨x26, true, 4⟩], wrU := [⟨sA, false, 6⟩] }
example : explicitPairs ex3 = [(5, 4), (6, 1)] := by decide +kernel
example : valueConstraints ex3 = [(5, 4), (6, 1), (3, 5), (1, 2)] := by
  rw [valueConstraints, implicitPairs, implicitTagged_congr (I := ex3) (J := ex1) rfl, ex1_implicitTagged]; decide +kernel

/-- an update_ff writer gets no edge; a block reading what it writes gets no self edge -/
def ex4 : Input :=
  { blks := [⟨1, true, [sWhole], [sWhole]⟩, ⟨2, false, [sA], [sB]⟩, ⟨3, false, [sB], []⟩], uu := [], rdU := [], wrU := [] }
example : valueConstraints ex4 = [(2, 3), (2, 3), (2, 1)] := by decide +kernel   -- (2,3) from either side; the pass keeps a set

/-- `constraint_objs` of ex1: the read object on the reader side, the written object on the writer side -/
example : constraintObjs ex1 = [((3, 5), x26), ((4, 5), x26), ((1, 2), sA)] := by rw [constraintObjs, ex1_implicitTagged]; rfl

end PV.C02d
