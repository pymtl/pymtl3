import PymtlVerif.Proofs.OpenLoopSched
import PymtlVerif.Props.C02d
/-!
# C02o — `OpenLoopCLPass.schedule_with_top_level_callee`: the open-loop schedule and every sequence of top-level calls

Model: `Model/OpenLoop.lean` (the pass as it is; see its header for the quirks). Everything below holds for **every**
input (blocks, callee ports and interfaces, constraint sets, shuffle of the vertices `InputOK`), every iteration order of
the sets `G_new[i]` and every intra-SCC order (`EnvOK`: permutations), and **every sequence of top-level method calls**.

What "legal" means for a call sequence: the wrappers reject nothing and reorder nothing. A call of the port at index `p`
of `schedule` is served in the running cycle iff `p` lies strictly after the port served last (`same_cycle_iff_ascending`);
otherwise the rest of the schedule is executed, `simulated_cycles` is incremented, and the call is served in the new
cycle (`call_plan`). So every finite sequence of calls of wrapped ports is legal (`exec_total`), the cycles are the
maximal strictly ascending runs of the sequence (`cycle_count`), and each cycle executes a **sublist of the one static
schedule** that contains every non-method entry exactly once (`cycle_is_schedule_sublist`,
`every_entry_once_per_cycle`): whatever the order of the calls, what runs inside one cycle is a linear extension of the
constraints (`constraint_order_at_runtime`, `writer_before_reader_at_runtime`).

Termination: all definitions are structurally recursive or fuel-bounded; `static_total` shows that the worklist loop ends
by its own exit condition and that the Kosaraju hypotheses of `PV.C11s` (fuel sufficiency included) hold.

Scope: an entry of the schedule is a block, a CalleePort or an SCC wrapper; "once per cycle" is about entries (what an
SCC wrapper does inside is C11's subject). A CalleePort inside a non-trivial SCC is not wrapped by the pass; calls are
calls of wrapped ports.
-/
namespace PV.C02o
open PV.OpenLoop PV.Scc

/-! ## a concrete design for the non-vacuity examples

blocks `0` (up_amp) and `1` (up_compose_in), plain ports `2` = push (ACTUAL method 10) and `3` = pull (11), one
non-blocking interface: method port `4`, rdy port `5` (ACTUAL 12, 13); `0 -> 1` is a value edge;
`M(push) < U(1)`, `U(1) < M(pull)`, `U(1) < M(ifc)` (which means `U(1) < ifc.rdy`). -/
def exInp : Input :=
  { blocks := [0, 1], ports := [(2, 10), (3, 11)], ifcs := [⟨4, 5, 12, 13⟩],
    cons := [(0, 1)], tlc := [(10, 1), (1, 11), (1, 12)], order := [3, 5, 1, 0, 4, 2],
    ff := ⟨false, [7], false, false, [0], true⟩ }
def exEnv : Env := ⟨id, id⟩
theorem exOK : InputOK exInp := .of_subsets (by decide) (by decide) (by decide)
theorem exEnvOK : EnvOK exEnv := ⟨fun _ _ => Iff.rfl, fun _ h => h, fun _ _ => Iff.rfl, fun _ h => h⟩
def exSched : List Slot :=
  [.port 2, .blk 0, .blk 1, .port 3, .port 5, .port 4, .ff .constFalse, .ff (.ffBlk 7), .ff (.flip 0), .ff .clearCl]
/-- what `static` computes on the example: the schedule, and the two edges and group indices the examples below use -/
theorem exStatic : (match static exInp exEnv with
    | .ok st => decide (st.schedule = exSched ∧ (1, 5) ∈ eEdges exInp st.cmap ∧ (5, 4) ∈ eEdges exInp st.cmap ∧
        vscc st.kos.vmap 1 ≠ vscc st.kos.vmap 5 ∧ vscc st.kos.vmap 5 ≠ vscc st.kos.vmap 4)
    | .error _ => false) = true := by decide +kernel

/-- **the translation of the callee constraints**, when the ACTUAL methods are pairwise different (they are distinct
Python objects) and so are the method ports of the interfaces: no assert fires; an ACTUAL method becomes its CalleePort;
on the right-hand side the method of a non-blocking interface becomes its rdy port; anything else stays -/
theorem map_exact (inp : Input) (h : (rawKeys inp).Nodup) (h2 : (inp.ifcs.map (·.meth)).Nodup) :
    calleeMap inp = some (mapList inp) ∧
    (∀ p ∈ inp.ports, through (mapList inp) p.2 = p.1) ∧
    (∀ x ∈ inp.ifcs, through (mapList inp) x.rawM = x.meth ∧ through (mapList inp) x.rawR = x.rdy) ∧
    (∀ k, k ∉ rawKeys inp → through (mapList inp) k = k) ∧
    (∀ x ∈ inp.ifcs, through (guardMap inp) x.meth = x.rdy) ∧
    (∀ k, k ∉ inp.ifcs.map (·.meth) → through (guardMap inp) k = k) :=
  ⟨calleeMap_of_nodup inp h, (through_mapList inp h).1, (through_mapList inp h).2.1, (through_mapList inp h).2.2,
   (through_guardMap inp h2).1, (through_guardMap inp h2).2⟩

/-- an `assert m not in method_callee_mapping` can only fire when two ACTUAL methods coincide -/
theorem map_assert (inp : Input) (env : Env) (h : static inp env = .error .mapAssert) : ¬ (rawKeys inp).Nodup := by
  intro hnd
  have := static_err_map h
  rw [calleeMap_of_nodup inp hnd] at this
  cases this

example : calleeMap exInp = some [(13, 5), (12, 4), (11, 3), (10, 2)] ∧ mapPair [(13, 5), (12, 4), (11, 3), (10, 2)] (guardMap exInp) (1, 12) = (1, 5) ∧
    calleeMap { exInp with ifcs := [⟨4, 5, 10, 13⟩] } = none := by decide +kernel

/-- **the edge sets**: `G` gets `all_constraints` restricted to `V` and the translated callee constraints with both ends
in `V`; `E` has in addition `rdy -> method` for every interface (which `G` has not) -/
theorem edges_exact (inp : Input) (cm : Map) (e : Nat × Nat) :
    (e ∈ gEdges inp cm ↔ (e.1 ∈ verts inp ∧ e.2 ∈ verts inp) ∧
      (e ∈ inp.cons ∨ ∃ c ∈ inp.tlc, mapPair cm (guardMap inp) c = e)) ∧
    (e ∈ eEdges inp cm ↔ (∃ x ∈ inp.ifcs, e = (x.rdy, x.meth)) ∨ e ∈ gEdges inp cm) :=
  ⟨mem_gEdges inp cm e, mem_eEdges inp cm e⟩

example : gEdges exInp [(13, 5), (12, 4), (11, 3), (10, 2)] = [(0, 1), (2, 1), (1, 3), (1, 5)] ∧
    eEdges exInp [(13, 5), (12, 4), (11, 3), (10, 2)] = [(5, 4), (0, 1), (2, 1), (1, 3), (1, 5)] := by decide +kernel

/-- **totality / termination of the static part**: the result is one of the two asserts or a schedule; in the last two
cases the worklist loop ended by its own exit condition (not by fuel), and the graph handed to Kosaraju satisfies the
hypothesis `WF` of `PV.C11s` (so `PV.C11s.fuel_sufficient`, `groups_partition`, `same_group_iff_mutual` … apply to it) -/
theorem static_total (inp : Input) (env : Env) (ok : InputOK inp) (eok : EnvOK env) :
    (static inp env = .error .mapAssert ∧ calleeMap inp = none) ∨
    ∃ cm, calleeMap inp = some cm ∧ WF (adjOf (gEdges inp cm)) (adjTOf (gEdges inp cm)) inp.order ∧
      (let k := kosaraju (adjOf (gEdges inp cm)) (adjTOf (gEdges inp cm)) inp.order
       (topo pickFirst (gnOf env (gnewE k.vmap (eEdges inp cm))) k.sccs.length).done = true) ∧
      (static inp env = .error .schedAssert ∨ ∃ st, static inp env = .ok st) := by
  cases hc : calleeMap inp with
  | none => left; exact ⟨by simp [static, hc], rfl⟩
  | some cm =>
    right
    refine ⟨cm, rfl, wf_of_ok ok cm, (topo_simple (gnOf_wf_of_ok ok eok cm) pickFirst).2, ?_⟩
    unfold static
    simp only [hc]
    split
    · left; rfl
    · right; exact ⟨_, rfl⟩

/-- **every vertex exactly once**: the entries of `update_schedule` are pairwise different, none is empty, and every
block / CalleePort of `V` is a member of exactly one of them -/
theorem schedule_partition {inp : Input} {env : Env} {st : Static} (ok : InputOK inp) (eok : EnvOK env)
    (h : static inp env = .ok st) :
    (st.update.flatMap Entry.members).Nodup ∧ (∀ x, x ∈ st.update.flatMap Entry.members ↔ x ∈ verts inp) ∧
    (∀ e ∈ st.update, e.members ≠ []) ∧ st.update.Nodup :=
  (static_facts ok eok h).partition ok eok h

/-- **every edge of `E` between two different SCCs goes forward in `update_schedule`** -/
theorem schedule_respects_edges {inp : Input} {env : Env} {st : Static} (ok : InputOK inp) (eok : EnvOK env)
    (h : static inp env = .ok st) (e : Nat × Nat) (he : e ∈ eEdges inp st.cmap)
    (hne : vscc st.kos.vmap e.1 ≠ vscc st.kos.vmap e.2) :
    ∃ q1 q2, q1 < q2 ∧ ∃ (h2 : q2 < st.update.length), ∃ (h1 : q1 < st.update.length),
      e.1 ∈ st.update[q1].members ∧ e.2 ∈ st.update[q2].members :=
  (static_facts ok eok h).order_idx e he hne

/-- **explicit constraints against top-level callees are honoured**: for every pair `(a, b)` of
`top_level_callee_constraints`, translated as the pass does (`mapPair`), if both ends are vertices in different SCCs the
left one is scheduled before the right one -/
theorem callee_constraint_scheduled {inp : Input} {env : Env} {st : Static} (ok : InputOK inp) (eok : EnvOK env)
    (h : static inp env = .ok st) (c : Nat × Nat) (hc : c ∈ inp.tlc)
    (hv : (mapPair st.cmap (guardMap inp) c).1 ∈ verts inp ∧ (mapPair st.cmap (guardMap inp) c).2 ∈ verts inp)
    (hne : vscc st.kos.vmap (mapPair st.cmap (guardMap inp) c).1 ≠ vscc st.kos.vmap (mapPair st.cmap (guardMap inp) c).2) :
    ∃ q1 q2, q1 < q2 ∧ ∃ (h2 : q2 < st.update.length), ∃ (h1 : q1 < st.update.length),
      (mapPair st.cmap (guardMap inp) c).1 ∈ st.update[q1].members ∧
      (mapPair st.cmap (guardMap inp) c).2 ∈ st.update[q2].members :=
  schedule_respects_edges ok eok h _
    ((mem_eEdges inp _ _).mpr (.inr ((mem_gEdges inp _ _).mpr ⟨hv, .inr ⟨c, hc, rfl⟩⟩))) hne

/-- the shape seed C02-6 broke: `U(b) < M(p)` (or `M(q) < M(p)`) with `p` a plain CalleePort or the rdy port of an
interface — anything that is not the method port of an interface: the right end is translated to the port itself -/
theorem guardless_right_end (inp : Input) (h : (rawKeys inp).Nodup) (h2 : (inp.ifcs.map (·.meth)).Nodup)
    (a raw v : Nat) (hp : (v, raw) ∈ inp.ports ∨ ∃ x ∈ inp.ifcs, x.rawR = raw ∧ x.rdy = v)
    (hv : v ∉ inp.ifcs.map (·.meth)) :
    (mapPair (mapList inp) (guardMap inp) (a, raw)).2 = v := by
  obtain ⟨_, m1, m2, _, _, g2⟩ := map_exact inp h h2
  unfold mapPair
  simp only
  rcases hp with hp | ⟨x, hx, rfl, rfl⟩
  · rw [m1 _ hp, g2 _ hv]
  · rw [(m2 x hx).2, g2 _ hv]

/-- … and the method of a non-blocking interface on the right is translated to its rdy port -/
theorem guarded_right_end (inp : Input) (h : (rawKeys inp).Nodup) (h2 : (inp.ifcs.map (·.meth)).Nodup)
    (a : Nat) (x : Ifc) (hx : x ∈ inp.ifcs) : (mapPair (mapList inp) (guardMap inp) (a, x.rawM)).2 = x.rdy := by
  obtain ⟨_, _, m2, _, g1, _⟩ := map_exact inp h h2
  unfold mapPair
  simp only
  rw [(m2 x hx).1, g1 x hx]

/-- **rdy before its method** whenever they are in different SCCs -/
theorem rdy_before_method {inp : Input} {env : Env} {st : Static} (ok : InputOK inp) (eok : EnvOK env)
    (h : static inp env = .ok st) (x : Ifc) (hx : x ∈ inp.ifcs) (hne : vscc st.kos.vmap x.rdy ≠ vscc st.kos.vmap x.meth) :
    ∃ q1 q2, q1 < q2 ∧ ∃ (h2 : q2 < st.update.length), ∃ (h1 : q1 < st.update.length),
      x.rdy ∈ st.update[q1].members ∧ x.meth ∈ st.update[q2].members :=
  schedule_respects_edges ok eok h (x.rdy, x.meth) ((mem_eEdges inp _ _).mpr (.inl ⟨x, hx, rfl⟩)) hne

/-- **the assert**: `assert len(scc_schedule) == len(SCCs)` fails iff some SCC is never scheduled, and then every
unscheduled SCC has an unscheduled predecessor in `G_new` (the leftovers lie on or behind a cycle of the condensation —
which can only come from a `rdy -> method` edge, the edges Kosaraju did not see) -/
theorem assert_iff_leftover (inp : Input) (env : Env) (ok : InputOK inp) (eok : EnvOK env) :
    (static inp env = .error .schedAssert ↔
      ∃ cm, calleeMap inp = some cm ∧
        let k := kosaraju (adjOf (gEdges inp cm)) (adjTOf (gEdges inp cm)) inp.order
        ∃ v, v < k.sccs.length ∧ v ∉ sccSchedule pickFirst (gnOf env (gnewE k.vmap (eEdges inp cm))) k.sccs.length) ∧
    (∀ cm, calleeMap inp = some cm →
      let k := kosaraju (adjOf (gEdges inp cm)) (adjTOf (gEdges inp cm)) inp.order
      let gn := gnOf env (gnewE k.vmap (eEdges inp cm))
      ∀ v, v < k.sccs.length → v ∉ sccSchedule pickFirst gn k.sccs.length →
        ∃ a, a < k.sccs.length ∧ v ∈ gn a ∧ a ∉ sccSchedule pickFirst gn k.sccs.length) := by
  have inv := fun cm => topo_simple (gnOf_wf_of_ok ok eok cm) pickFirst
  refine ⟨static_err_sched.trans (exists_congr fun cm => and_congr_right fun _ => ?_),
    fun cm _ _ hv hvo => (inv cm).1.leftover (inv cm).2 hv hvo⟩
  -- the schedule is too short iff it misses a group
  exact (not_congr (inv cm).1.length_eq_iff).trans (by simp only [Classical.not_forall, exists_prop, sccSchedule])

/-- non-vacuity: `M(ifc) < U(1)` and `U(1) < M(ifc)`, i.e. method -> block -> rdy, and rdy -> method only in `E`: the three
are separate SCCs for Kosaraju, the condensation has the cycle, the assert fires -/
example : (match static { exInp with tlc := [(12, 1), (1, 12)] } exEnv with | .error .schedAssert => true | _ => false) = true := by decide +kernel

/-- **`ffs` and the shape of `schedule`**: `ffs` starts with `lambda: False`, is never empty and lists its functions
once; hence the schedule ends with a non-method (`next_func` always exists) and `schedule_no_method` has no function
twice (`mapping` is injective) -/
theorem schedule_shape {inp : Input} {env : Env} {st : Static} (ok : InputOK inp) (eok : EnvOK env)
    (h : static inp env = .ok st) (h1 : inp.ff.ffBlocks.Nodup) (h2 : inp.ff.flips.Nodup) :
    (ffsLayout inp.ff).head? = some FfFn.constFalse ∧ (ffsLayout inp.ff).Nodup ∧
    st.schedule = st.update.map (slotOf (portVerts inp)) ++ (ffsLayout inp.ff).map Slot.ff ∧
    SchedOK st.schedule :=
  ⟨ffsLayout_head _, ffsLayout_nodup _ h1 h2, (static_ok h).schedule, schedOK_of_static ok eok h h1 h2⟩

example : ffsLayout ⟨true, [7, 8], true, false, [0, 1], true⟩ =
    [.constFalse, .printLineTrace, .ffBlk 7, .ffBlk 8, .vcd, .flip 0, .flip 1, .clearCl] := by decide +kernel

/-- **wrapper indices**: `my_idx_orig` is the port's own index in `schedule`, `my_idx_new` the number of non-method
entries before it (= the index in `schedule_no_method` of the next function); only CalleePorts are wrapped -/
theorem wrap_exact {S : List Slot} (ok : SchedOK S) (p : Nat) :
    (∀ v, S[p]? = some (Slot.port v) → wrapAt S p = some ⟨p, npc S p⟩) ∧
    (∀ w, wrapAt S p = some w → ∃ v, S[p]? = some (Slot.port v)) :=
  ⟨fun _ hp => wrapAt_spec ok hp, fun _ hw => wrapAt_some hw⟩

example : wrapAt exSched 0 = some ⟨0, 0⟩ ∧ wrapAt exSched 3 = some ⟨3, 2⟩ ∧ wrapAt exSched 5 = some ⟨5, 2⟩ ∧
    wrapAt exSched 1 = none := by decide +kernel

/-- **no call is rejected**: a sequence of calls is executed iff every call names a (wrapped) CalleePort of the schedule -/
theorem exec_total {S : List Slot} (ok : SchedOK S) (s : St) (calls : List Nat) :
    (∃ r, exec S s calls = some r) ↔ ∀ p ∈ calls, ∃ v, S[p]? = some (Slot.port v) :=
  ⟨fun ⟨r, hr⟩ => ((exec_iff ok calls s r).mp hr).1, fun h => ⟨_, (exec_iff ok calls s _).mpr ⟨h, rfl⟩⟩⟩

/-- **the plan of one call**: if the port lies at or after `orig_schedule_index` the non-method entries between the
two are executed, then the method; otherwise the rest of the schedule is executed first, the cycle count is
incremented, and the call is served from the start of the schedule -/
theorem call_plan {S : List Slot} (ok : SchedOK S) {s : St} (inv : Inv S s) {p v : Nat} (hp : S[p]? = some (Slot.port v)) :
    callAt S s p = some
      (if s.j ≤ p then
        ⟨npc S p, p + 1, s.cycles, s.done, s.cur ++ runRange (npc S s.j) (npc S p) ++ [Ev.meth p]⟩
      else
        ⟨npc S p, p + 1, s.cycles + 1, s.done ++ [s.cur ++ runRange (npc S s.j) (snm S).length],
          runRange 0 (npc S p) ++ [Ev.meth p]⟩) ∧
    Inv S (callS S s p) :=
  ⟨by rw [callAt_eq ok s hp, callS_eq inv p], inv_call inv hp⟩

/-- the invariant holds at the start and after every sequence of calls -/
theorem invariant {S : List Slot} (ok : SchedOK S) (calls : List Nat) (r : St) (h : exec S St.init calls = some r) : Inv S r :=
  have ⟨hp, hr⟩ := (exec_iff ok calls _ r).mp h
  hr ▸ inv_exec calls St.init (inv_init S) hp

/-- **each cycle is the static schedule with the methods that were not called left out**: the events of every finished
cycle, and of the running one, form a sublist of `fullEvents schedule` (the schedule read as events, ports included) -/
theorem cycle_is_schedule_sublist {S : List Slot} (ok : SchedOK S) (calls : List Nat) (r : St)
    (h : exec S St.init calls = some r) :
    (∀ c ∈ r.done, c.Sublist (fullEvents S 0 0)) ∧ r.cur.Sublist (fullEvents (S.take r.j) 0 0) ∧
    r.cur.Sublist (fullEvents S 0 0) := by
  have inv := invariant ok calls r h
  refine ⟨inv.done_sub, inv.cur_sub, inv.cur_sub.trans ?_⟩
  rw [fullEvents_split S inv.jle]
  exact List.sublist_append_left _ _

/-- **every non-method entry of the schedule runs exactly once per cycle, in schedule order**: the `run` events of a
finished cycle are `schedule_no_method[0], …, [N-1]`; those of the running cycle are the first `new_schedule_index` -/
theorem every_entry_once_per_cycle {S : List Slot} (ok : SchedOK S) (calls : List Nat) (r : St)
    (h : exec S St.init calls = some r) :
    (∀ c ∈ r.done, c.filter Ev.isRun = (List.range (snm S).length).map Ev.run) ∧
    r.cur.filter Ev.isRun = (List.range r.i).map Ev.run ∧
    (∀ c ∈ r.done, ∀ k, k < (snm S).length → c.count (Ev.run k) = 1) ∧
    (∀ k, r.cur.count (Ev.run k) = if k < r.i then 1 else 0) := by
  have inv := invariant ok calls r h
  have hcount : ∀ (c : List Ev) (n k : Nat), c.filter Ev.isRun = (List.range n).map Ev.run →
      c.count (Ev.run k) = if k < n then 1 else 0 := by
    intro c n k hc
    rw [← List.count_filter (p := Ev.isRun) rfl, hc,
      List.Nodup.count (nodup_map_of_inj_on List.nodup_range fun a _ b _ e => Ev.run.inj e)]
    simp only [List.mem_map, List.mem_range, Ev.run.injEq, exists_eq_right]
  refine ⟨fun c hc => by rw [inv.done_run c hc, runRange_zero], by rw [inv.cur_run, runRange_zero], ?_, ?_⟩
  · intro c hc k hk
    rw [hcount c _ k (by rw [inv.done_run c hc, runRange_zero]), if_pos hk]
  · intro k
    exact hcount r.cur _ k (by rw [inv.cur_run, runRange_zero])

/-- **the methods are executed in call order, each call exactly once** -/
theorem methods_in_call_order {S : List Slot} (ok : SchedOK S) (calls : List Nat) (r : St)
    (h : exec S St.init calls = some r) : (r.done.flatten ++ r.cur).filterMap Ev.methIdx = calls := by
  rw [((exec_iff ok calls _ r).mp h).2]
  exact methsOf_exec S calls St.init

/-- **the cycles are the maximal strictly ascending runs of the call sequence**: `simulated_cycles` (= the number of
finished cycles) is the number of calls whose port does not lie after the port of the call before -/
theorem cycle_count {S : List Slot} (ok : SchedOK S) (calls : List Nat) (r : St) (h : exec S St.init calls = some r) :
    r.cycles = descFrom 0 calls ∧ r.done.length = descFrom 0 calls := by
  rw [((exec_iff ok calls _ r).mp h).2]
  simpa [St.init] using execS_cycles S calls St.init

/-- two consecutive calls are served in the same cycle iff the second port lies strictly after the first in `schedule`;
otherwise exactly one cycle boundary lies between them -/
theorem same_cycle_iff_ascending (S : List Slot) (s : St) (p q : Nat) :
    (callS S (callS S s p) q).cycles = (callS S s p).cycles + (if q ≤ p then 1 else 0) := by
  obtain ⟨_, h2, _⟩ := callS_cycles S s p
  obtain ⟨h1, _, _⟩ := callS_cycles S (callS S s p) q
  rw [h1, h2]
  simp only [gt_iff_lt, Nat.lt_succ_iff]

example : descFrom 0 [0, 3, 0, 3, 3] = 2 ∧
    (exec exSched St.init [0, 3, 0, 3, 3]).map (fun r => (r.cycles, r.done, r.cur)) =
      some (2, [[.meth 0, .run 0, .run 1, .meth 3, .run 2, .run 3, .run 4, .run 5],
                [.meth 0, .run 0, .run 1, .meth 3, .run 2, .run 3, .run 4, .run 5]], [.run 0, .run 1, .meth 3]) := by decide +kernel

/-- the event of the schedule entry at index `q` -/
def evAt (S : List Slot) (q : Nat) : Ev := if (S.getD q (Slot.blk 0)).isPort then Ev.meth q else Ev.run (npc S q)

/-- **two entries of the schedule execute in schedule order whenever both execute in a cycle** (finished or running),
for every sequence of calls -/
theorem pair_order_at_runtime {S : List Slot} (ok : SchedOK S) (calls : List Nat) (r : St)
    (h : exec S St.init calls = some r) (q1 q2 : Nat) (hlt : q1 < q2) (hq2 : q2 < S.length)
    (c : List Ev) (hc : c ∈ r.done ∨ c = r.cur) (h1 : evAt S q1 ∈ c) (h2 : evAt S q2 ∈ c) :
    ∃ m1 m2, c = m1 ++ evAt S q1 :: m2 ∧ evAt S q2 ∈ m2 := by
  obtain ⟨hd, _, hcur⟩ := cycle_is_schedule_sublist ok calls r h
  have hsub : c.Sublist (fullEvents S 0 0) := by
    rcases hc with hc | rfl
    · exact hd c hc
    · exact hcur
  have hlen := fullEvents_length S 0 0
  have hev : ∀ q (hq : q < S.length), (fullEvents S 0 0)[q]'(hlen ▸ hq) = evAt S q := by
    intro q hq
    rw [fullEvents_getElem S q hq, evAt, List.getD_eq_getElem?_getD, List.getElem?_eq_getElem hq]; rfl
  obtain ⟨d, rfl⟩ := Nat.exists_eq_add_of_lt hlt
  have hL : fullEvents S 0 0 = (fullEvents S 0 0).take q1 ++ evAt S q1 :: (fullEvents S 0 0).drop (q1 + 1) := by
    rw [← hev q1 (by omega), List.getElem_cons_drop, List.take_append_drop]
  have hb : evAt S (q1 + d + 1) ∈ (fullEvents S 0 0).drop (q1 + 1) :=
    List.mem_drop_iff_getElem.mpr ⟨d, by rw [hlen]; omega, by rw [← hev _ hq2]; congr 1; omega⟩
  exact sublist_order hsub (fullEvents_nodup S 0 0) hL hb h1 h2

/-- **constraints are honoured at run time, for every order of the calls**: for every edge of `E` (a value or explicit
constraint between blocks, a translated callee constraint, `rdy -> method`) between different SCCs there are two
entries `q1 < q2` of the schedule holding its ends, and in every cycle of every call sequence in which both entries
execute, `q1` executes first -/
theorem constraint_order_at_runtime {inp : Input} {env : Env} {st : Static} (ok : InputOK inp) (eok : EnvOK env)
    (h : static inp env = .ok st) (h1 : inp.ff.ffBlocks.Nodup) (h2 : inp.ff.flips.Nodup)
    (e : Nat × Nat) (he : e ∈ eEdges inp st.cmap) (hne : vscc st.kos.vmap e.1 ≠ vscc st.kos.vmap e.2) :
    ∃ q1 q2, q1 < q2 ∧ q2 < st.schedule.length ∧
      e.1 ∈ (st.schedule.getD q1 (Slot.blk 0)).members ∧ e.2 ∈ (st.schedule.getD q2 (Slot.blk 0)).members ∧
      ∀ (calls : List Nat) (r : St), exec st.schedule St.init calls = some r →
        ∀ c, (c ∈ r.done ∨ c = r.cur) → evAt st.schedule q1 ∈ c → evAt st.schedule q2 ∈ c →
          ∃ m1 m2, c = m1 ++ evAt st.schedule q1 :: m2 ∧ evAt st.schedule q2 ∈ m2 := by
  obtain ⟨q1, q2, hlt, hq2, hq1, hm1, hm2⟩ := schedule_respects_edges ok eok h e he hne
  obtain ⟨_, _, hs, sok⟩ := schedule_shape ok eok h h1 h2
  have hget : ∀ q (hq : q < st.update.length), st.schedule.getD q (Slot.blk 0) = slotOf (portVerts inp) st.update[q] := by
    intro q hq
    rw [hs, List.getD_eq_getElem?_getD, List.getElem?_append_left (by rw [List.length_map]; exact hq), List.getElem?_map,
      List.getElem?_eq_getElem hq]; rfl
  have hlen : q2 < st.schedule.length := by rw [hs, List.length_append, List.length_map]; omega
  refine ⟨q1, q2, hlt, hlen, by rw [hget q1 hq1, slotOf_members]; exact hm1, by rw [hget q2 hq2, slotOf_members]; exact hm2, ?_⟩
  intro calls r hr c hc
  exact pair_order_at_runtime sok calls r hr q1 q2 hlt hlen c hc

/-- **writer before reader at run time** (reuse of `PV.C02d`): let `I` be a `GenDAGPass` input whose final value
constraints are among `all_constraints`; if block `a` (not an `update_ff` block) writes a bit that block `b` reads, both
are vertices and lie in different SCCs, then in every cycle of every call sequence the entry of `a` executes before the
entry of `b` — or the pair is explicitly inverted and `b`'s entry executes first -/
theorem writer_before_reader_at_runtime {inp : Input} {env : Env} {st : Static} (ok : InputOK inp) (eok : EnvOK env)
    (h : static inp env = .ok st) (h1 : inp.ff.ffBlocks.Nodup) (h2 : inp.ff.flips.Nodup)
    (I : PV.GenDag.Input) (hwf : I.WF) (L : PV.Nets.Leaves) (hL : ∀ o ∈ I.objs, PV.Nets.WfObj L o)
    (hsub : ∀ p ∈ PV.GenDag.valueConstraints I, p ∈ inp.cons)
    (a : PV.GenDag.Blk) (ha : a ∈ I.blks) (b : PV.GenDag.Blk) (hb : b ∈ I.blks) (hne : a.id ≠ b.id) (hff : a.ff = false)
    (bit : PV.Nets.Bit) (hv : PV.Nets.ValidBit L bit) (hw : ∃ w ∈ a.writes, PV.Nets.covers w bit)
    (hr : ∃ r ∈ b.reads, PV.Nets.covers r bit)
    (hav : a.id ∈ verts inp) (hbv : b.id ∈ verts inp) (hscc : vscc st.kos.vmap a.id ≠ vscc st.kos.vmap b.id) :
    ∃ x y, ((x, y) = (a.id, b.id) ∨ ((x, y) = (b.id, a.id) ∧ (b.id, a.id) ∈ PV.GenDag.explicitPairs I)) ∧
      ∃ q1 q2, q1 < q2 ∧ q2 < st.schedule.length ∧
        x ∈ (st.schedule.getD q1 (Slot.blk 0)).members ∧ y ∈ (st.schedule.getD q2 (Slot.blk 0)).members ∧
        ∀ (calls : List Nat) (r : St), exec st.schedule St.init calls = some r →
          ∀ c, (c ∈ r.done ∨ c = r.cur) → evAt st.schedule q1 ∈ c → evAt st.schedule q2 ∈ c →
            ∃ m1 m2, c = m1 ++ evAt st.schedule q1 :: m2 ∧ evAt st.schedule q2 ∈ m2 := by
  have edge : ∀ x y, (x, y) ∈ PV.GenDag.valueConstraints I → x ∈ verts inp → y ∈ verts inp → (x, y) ∈ eEdges inp st.cmap :=
    fun x y hxy hx hy => (mem_eEdges inp _ _).mpr (.inr ((mem_gEdges inp _ _).mpr ⟨⟨hx, hy⟩, .inl (hsub _ hxy)⟩))
  rcases PV.C02d.implicit_or_inverted I ((PV.C02d.implicit_iff_bits I hwf L hL a.id b.id).mpr
    ⟨a, ha, b, hb, rfl, rfl, hne, hff, bit, hv, hw, hr⟩) with hc | ⟨hx, hc⟩
  · exact ⟨a.id, b.id, .inl rfl, constraint_order_at_runtime ok eok h h1 h2 (a.id, b.id) (edge _ _ hc hav hbv) hscc⟩
  · exact ⟨b.id, a.id, .inr ⟨rfl, hx⟩,
      constraint_order_at_runtime ok eok h h1 h2 (b.id, a.id) (edge _ _ hc hbv hav) fun e => hscc e.symm⟩

/-- non-vacuity of the run-time order: in the example `1` (up_compose_in, entry 2) < `3` (pull, entry 3) < … and the
second cycle of the call sequence `pull, push, pull` runs `push, up_amp, up_compose_in, pull` in this order -/
example : evAt exSched 2 = .run 1 ∧ evAt exSched 3 = .meth 3 ∧
    (exec exSched St.init [3, 0, 3]).map (fun r => (r.done, r.cur)) =
      some ([[.run 0, .run 1, .meth 3, .run 2, .run 3, .run 4, .run 5]], [.meth 0, .run 0, .run 1, .meth 3]) := by decide +kernel

/-- **the log already written does not influence what the calls do**: running calls from a state equals running them
from the same two indices with an empty log, with the old log put in front -/
theorem exec_frame (S : List Slot) (s : St) (calls : List Nat) :
    execS S s calls = prefixLog s.cycles s.done s.cur (execS S ⟨s.i, s.j, 0, [], []⟩ calls) := by
  rw [← execS_prefix, prefixLog_self]

/-- **`sim_reset`** leaves `new_schedule_index` / `orig_schedule_index` alone, counts three cycles (the first `+= 1` closes
what was running), and leaves the update entries already executed once in the cycle that follows: at a cycle start
(`i = j = 0`) the calls after a reset behave exactly as from power-on, with `up()` of the reset in front of the first
cycle — so **the update entries run twice in the cycle in which reset is released** -/
theorem reset_effect (S : List Slot) (s : St) (calls : List Nat) :
    (resetAt S s).i = s.i ∧ (resetAt S s).j = s.j ∧ (resetAt S s).cycles = s.cycles + 3 ∧
    (resetAt S s).done = s.done ++ [s.cur, runRange 0 (nUps S) ++ runRange (nUps S) (snm S).length,
                                     runRange 0 (nUps S) ++ runRange (nUps S) (snm S).length] ∧
    (resetAt S s).cur = runRange 0 (nUps S) ∧
    (s.i = 0 → s.j = 0 →
      execS S (resetAt S s) calls = prefixLog (resetAt S s).cycles (resetAt S s).done (runRange 0 (nUps S)) (execS S St.init calls)) := by
  refine ⟨rfl, rfl, rfl, rfl, rfl, ?_⟩
  intro hi hj
  rw [exec_frame]
  have : (⟨(resetAt S s).i, (resetAt S s).j, 0, [], []⟩ : St) = St.init := by
    simp [resetAt, hi, hj, St.init]
  rw [this]; rfl

example : (resetAt exSched St.init).cycles = 3 ∧ (resetAt exSched St.init).cur = [.run 0, .run 1] ∧
    (execS exSched (resetAt exSched St.init) [3]).cur = [.run 0, .run 1, .run 0, .run 1, .meth 3] := by decide +kernel

/-! ## non-vacuity: the hypotheses of the theorems are jointly satisfiable (the example design, concrete call sequences) -/

theorem exStaticOk : ∃ st, static exInp exEnv = .ok st ∧ st.schedule = exSched := by
  have h0 := exStatic
  cases h : static exInp exEnv with
  | ok st => rw [h] at h0; exact ⟨st, rfl, (of_decide_eq_true h0).1⟩
  | error e => rw [h] at h0; cases h0

theorem exSchedOK : SchedOK exSched := ⟨by decide, ⟨_, rfl, rfl⟩⟩

theorem exCalls : ∀ p ∈ [3, 0, 3, 5, 4, 4], ∃ v, exSched[p]? = some (Slot.port v) := by
  intro p hp
  simp only [List.mem_cons, List.not_mem_nil, or_false] at hp
  rcases hp with rfl | rfl | rfl | rfl | rfl | rfl <;> exact ⟨_, rfl⟩

example : (rawKeys exInp).Nodup ∧ (exInp.ifcs.map (·.meth)).Nodup ∧
    (mapPair (mapList exInp) (guardMap exInp) (1, 11)).2 = 3 ∧ (mapPair (mapList exInp) (guardMap exInp) (1, 12)).2 = 5 :=
  ⟨by decide, by decide, guardless_right_end exInp (by decide) (by decide) 1 11 3 (.inl (by decide)) (by decide),
   guarded_right_end exInp (by decide) (by decide) 1 ⟨4, 5, 12, 13⟩ (by decide)⟩

/-- `static_total`, `schedule_partition`, `schedule_shape` on the example -/
example : ∃ st, static exInp exEnv = .ok st ∧ (st.update.flatMap Entry.members).Nodup ∧ SchedOK st.schedule := by
  obtain ⟨st, h, _⟩ := exStaticOk
  exact ⟨st, h, (schedule_partition exOK exEnvOK h).1, (schedule_shape exOK exEnvOK h (by decide) (by decide)).2.2.2⟩

/-- `schedule_respects_edges` / `callee_constraint_scheduled` / `rdy_before_method` / `constraint_order_at_runtime` on the
example: `U(1) < M(ifc)` became the edge `1 -> 5` (the rdy port), and `5 -> 4` is the interface's own edge; all groups are
singletons, so the hypothesis "different SCCs" holds -/
example : ∃ st, static exInp exEnv = .ok st ∧ (1, 5) ∈ eEdges exInp st.cmap ∧ (5, 4) ∈ eEdges exInp st.cmap ∧
    vscc st.kos.vmap 1 ≠ vscc st.kos.vmap 5 ∧ vscc st.kos.vmap 5 ≠ vscc st.kos.vmap 4 ∧
    ∃ q1 q2, q1 < q2 ∧ q2 < st.schedule.length ∧ 1 ∈ (st.schedule.getD q1 (Slot.blk 0)).members ∧
      5 ∈ (st.schedule.getD q2 (Slot.blk 0)).members := by
  obtain ⟨st, h, _⟩ := exStaticOk
  have key := exStatic
  rw [h] at key
  obtain ⟨_, k1, k2, k3, k4⟩ := of_decide_eq_true key
  obtain ⟨q1, q2, a, b, c, d, _⟩ := constraint_order_at_runtime exOK exEnvOK h (by decide) (by decide) (1, 5) k1 k3
  exact ⟨st, h, k1, k2, k3, k4, q1, q2, a, b, c, d⟩

/-- the run-time theorems on a concrete call sequence (pull, push, pull, ifc.rdy, ifc, ifc: three cycle boundaries) -/
example : ∃ r, exec exSched St.init [3, 0, 3, 5, 4, 4] = some r ∧ Inv exSched r ∧ r.cycles = 3 ∧
    (∀ c ∈ r.done, c.filter Ev.isRun = (List.range 6).map Ev.run) ∧
    (r.done.flatten ++ r.cur).filterMap Ev.methIdx = [3, 0, 3, 5, 4, 4] ∧
    (∀ c ∈ r.done, c.Sublist (fullEvents exSched 0 0)) := by
  obtain ⟨r, hr⟩ := (exec_total exSchedOK St.init _).mpr exCalls
  refine ⟨r, hr, invariant exSchedOK _ r hr, ?_, (every_entry_once_per_cycle exSchedOK _ r hr).1,
    methods_in_call_order exSchedOK _ r hr, (cycle_is_schedule_sublist exSchedOK _ r hr).1⟩
  rw [(cycle_count exSchedOK _ r hr).1]; decide

example : (callS exSched (callS exSched St.init 3) 0).cycles = 1 ∧ (callS exSched (callS exSched St.init 0) 3).cycles = 0 :=
  ⟨by rw [same_cycle_iff_ascending]; decide, by rw [same_cycle_iff_ascending]; decide⟩

example : (callAt exSched St.init 3).map (·.cur) = some [.run 0, .run 1, .meth 3] :=
  by rw [(call_plan exSchedOK (inv_init _) (v := 3) rfl).1]; decide

example : execS exSched ⟨2, 4, 5, [[.run 9]], [.run 8]⟩ [0] =
    prefixLog 5 [[.run 9]] [.run 8] (execS exSched ⟨2, 4, 0, [], []⟩ [0]) := exec_frame _ _ _

/-- `writer_before_reader_at_runtime` on `PV.C02d.ex1` (block 3 writes `x[0:4]`, block 5 reads `x[2:6]`, shared bit 3 of
signal 1) scheduled open-loop together with a plain port `7` constrained by `U(5) < M(port)` -/
def exInp2 : Input :=
  { blocks := [1, 2, 3, 4, 5, 6], ports := [(7, 10)], ifcs := [], cons := [(3, 5), (4, 5), (1, 2)], tlc := [(5, 10)],
    order := [7, 5, 6, 3, 1, 4, 2], ff := ⟨false, [9], false, false, [0], true⟩ }

theorem exWf1 : ∀ o ∈ PV.C02d.ex1.objs, PV.Nets.WfObj PV.C02d.exL o := PV.C02d.ex1_wfObj

example : ∃ st, static exInp2 exEnv = .ok st ∧
    ∃ q1 q2, q1 < q2 ∧ q2 < st.schedule.length ∧ 3 ∈ (st.schedule.getD q1 (Slot.blk 0)).members ∧
      5 ∈ (st.schedule.getD q2 (Slot.blk 0)).members := by
  have key : (match static exInp2 exEnv with
      | .ok st => decide (vscc st.kos.vmap 3 ≠ vscc st.kos.vmap 5)
      | .error _ => false) = true := by decide +kernel
  cases h : static exInp2 exEnv with
  | error e => rw [h] at key; cases key
  | ok st =>
    rw [h] at key
    have ok2 : InputOK exInp2 := .of_subsets (by decide) (by decide) (by decide)
    obtain ⟨x, y, hxy, q1, q2, a, b, c, d, _⟩ := writer_before_reader_at_runtime ok2 exEnvOK h (by decide) (by decide)
      PV.C02d.ex1 (PV.C02d.wf_checked _ (by decide +kernel)) PV.C02d.exL exWf1
      (by rw [PV.GenDag.valueConstraints, PV.GenDag.implicitPairs, PV.C02d.ex1_implicitTagged]; decide)
      ⟨3, false, [], [PV.C02d.x04]⟩ (List.mem_of_getElem? (i := 2) rfl) ⟨5, false, [PV.C02d.x26], []⟩
      (List.mem_of_getElem? (i := 4) rfl) (by decide) rfl ⟨1, [], 3⟩ ⟨8, by decide, by decide⟩
      ⟨PV.C02d.x04, List.mem_cons_self, by decide, rfl, by decide, fun s hs => by cases hs; decide⟩
      ⟨PV.C02d.x26, List.mem_cons_self, by decide, rfl, by decide, fun s hs => by cases hs; decide⟩
      (by decide) (by decide) (of_decide_eq_true key)
    rcases hxy with hxy | ⟨_, hex⟩
    · cases hxy; exact ⟨st, rfl, q1, q2, a, b, c, d⟩
    · exact absurd hex (by decide)

end PV.C02o
