import PymtlVerif.Gen.QueueGen
import PymtlVerif.Proofs.Queue
/-!
# C17 — translator tie: the definitions generated from the Python source of the RTL queues = the hand model, for every capacity

`Gen/QueueGen.lean` is rendered by `tools/py2lean_queue.py` from the `@update` / `@update_ff` blocks, `//= lambda:` connections,
constants and connections of the RTL queue classes (capacity `n` and entry type `α` symbolic).  For every class this file gives the
valuation of the Python signals by the terms of `Model/Queue.lean` (the state `s`, the inputs `i`, the outputs and the next state
of the class's step function) and proves, for all `n`, all states and all inputs:

* `gen_<file>_<class>_<signal>_eq`      — the generated combinational definition, evaluated on that valuation, is the valuation's
                                           value of the signal it drives;
* `gen_<file>_<class>_<signal>_next_eq` — the generated register update is the register's value in the model's next state;
* `gen_<file>_<class>_wires`            — every `connect` / `//=` between named signals holds in the valuation;
* `gen_<file>_<class>_widths`           — the declared widths are the ones the model's truncations use;
* `gen_<file>_<class>_side`             — under the constructor's own guard no constant/int conversion of the class would raise;
* `gen_<file>_<class>_out`              — the fields of the model's `Out` record that the class drives are read off the valuation
                                           (a ring-buffer ctrl: `enqRdy` and `count` only);
* `gen_<file>_<wrapper>_struct`         — the wrapper's port, instance and connection tables, as strings; that they are the wiring
                                           the `…Val` definitions follow is checked by reading, nothing in Lean links the two;
* `gen_<file>_<wrapper>_dispatch`       — the wrapper's `if num_entries == 1` test is the one of `runCls` (`enrdy_queues.BypassQueue2RTL`
                                           and `valrdy_queues.NormalQueueRTL` have no such test; `BypassQueue2RTL` has no valuation of
                                           its own).

Where the model spells a block as the Python source does the obligation holds by `rfl`; elsewhere (`trunc` of a constant that fits
its width, `ptrInc` / `cntInc` / `cntDec` for the inlined arithmetic, two exclusive tests in the other order, `a && b` for `b && a`)
the block is read off the step function's equations in `Proofs/Queue.lean`.
-/
namespace PV.C17Gen
open PV.Queue

/-- the generated `clog2` (from `pymtl3/datatypes/helpers.py`) is the model's -/
theorem clog2_eq (n : Nat) : QueueGen.clog2 n = Queue.clog2 n := rfl

/-- the translator prints a Python comparison used as a condition as `decide (…)` -/
theorem ite_decide {β : Type} (p : Prop) [Decidable p] (a b : β) : (if decide p then a else b) = if p then a else b := by
  simp only [decide_eq_true_eq]

theorem ptrInc_eq_gen (n p : Nat) : ptrInc n p = if decide (p < n - 1) then (p + 1) % 2 ^ Queue.clog2 n else 0 := by
  rw [ptrInc, lastIdx_eq, ite_decide]; rfl

/-- two exclusive tests may be made in either order: `queues.py` and the stream bypass queue test the dequeue-only case of
`count` first, `ringStep` and the other stream queues the enqueue-only case -/
theorem ite_xor_swap {β : Type} (e d : Bool) (a b c : β) :
    (if e && !d then a else if !e && d then b else c) = if !e && d then b else if e && !d then a else c := by
  cases e <;> cases d <;> rfl

/-- the pointer increment of `valrdy_queues.NormalQueueRTLCtrl.comb` as the block spells it -/
theorem vrInc_eq_gen (n p : Nat) :
    (if p = trunc (Queue.clog2 n) (n - 1) then 0 else trunc (Queue.clog2 n) (p + 1)) =
      if decide (p = n - 1) then 0 else (p + 1) % 2 ^ Queue.clog2 n := by
  rw [ite_decide, lastIdx_eq]; rfl

/-- the wrappers test `num_entries == 1`, `runCls` tests `n = 1` -/
theorem if_beq {β : Type} (n m : Nat) (a b : β) : (if n == m then a else b) = if n = m then a else b := by
  simp only [beq_iff_eq]

/-! ## basic_rtl components as instantiated by the queues -/

theorem gen_Basic_RegisterFile_rdata_eq {α : Type} (n : Nat) (v : QueueGen.Basic.RegisterFile_1_1.Sig α) :
    QueueGen.Basic.RegisterFile_1_1.up_rf_read_rdata_0 n v = v.regs v.raddr_0 := rfl

theorem gen_Basic_RegisterFile_regs_next_eq {α : Type} (n : Nat) (v : QueueGen.Basic.RegisterFile_1_1.Sig α) :
    QueueGen.Basic.RegisterFile_1_1.up_rf_write_regs_next n v = if v.wen_0 then (fun a => if a = v.waddr_0 then v.wdata_0 else v.regs a) else v.regs := rfl

theorem gen_Basic_Mux_out_eq {α : Type} (v : QueueGen.Basic.Mux_2.Sig α) :
    QueueGen.Basic.Mux_2.up_mux_out v = if v.sel then v.in__1 else v.in__0 := rfl

theorem gen_Basic_RegEn_out_next_eq {α : Type} (v : QueueGen.Basic.RegEn.Sig α) :
    QueueGen.Basic.RegEn.up_regen_out_next v = if v.en then v.in_ else v.out := rfl

theorem gen_Basic_Reg_out_next_eq (v : QueueGen.Basic.Reg_Bits1.Sig) :
    QueueGen.Basic.Reg_Bits1.up_reg_out_next v = v.in_ := rfl

theorem gen_Basic_RegRst_out_next_eq (v : QueueGen.Basic.RegRst_Bits1_0.Sig) :
    QueueGen.Basic.RegRst_Bits1_0.up_regrst_out_next v = if v.reset then false else v.in_ := rfl

/-! ## Q.NormalQueueCtrlRTL -/

/-- the signals of `NormalQueueCtrlRTL` as terms of the model -/
def QNormalQueueCtrlRTLVal {α : Type} (n : Nat) (s : Ring α) (i : In α) : QueueGen.Q.NormalQueueCtrlRTL.Sig :=
  { reset := i.rst,
    enq_en := i.enq,
    enq_rdy := (ringStep true .normal n s i).2.enqRdy,
    deq_en := i.deq,
    deq_rdy := (ringStep true .normal n s i).2.deqRdy,
    count := s.count,
    wen := (i.enq && (ringStep true .normal n s i).2.enqRdy),
    waddr := s.tail,
    raddr := s.head,
    head := s.head,
    tail := s.tail,
    enq_xfer := (i.enq && (ringStep true .normal n s i).2.enqRdy),
    deq_xfer := (i.deq && (ringStep true .normal n s i).2.deqRdy) }

theorem gen_Q_NormalQueueCtrlRTL_enq_rdy_eq {α : Type} (n : Nat) (s : Ring α) (i : In α) :
    QueueGen.Q.NormalQueueCtrlRTL.lambda_enq_rdy_enq_rdy n (QNormalQueueCtrlRTLVal n s i) = (QNormalQueueCtrlRTLVal n s i).enq_rdy :=
  (ringStep_enqRdy true .normal n s i).symm

theorem gen_Q_NormalQueueCtrlRTL_deq_rdy_eq {α : Type} (n : Nat) (s : Ring α) (i : In α) :
    QueueGen.Q.NormalQueueCtrlRTL.lambda_deq_rdy_deq_rdy n (QNormalQueueCtrlRTLVal n s i) = (QNormalQueueCtrlRTLVal n s i).deq_rdy := rfl

theorem gen_Q_NormalQueueCtrlRTL_enq_xfer_eq {α : Type} (n : Nat) (s : Ring α) (i : In α) :
    QueueGen.Q.NormalQueueCtrlRTL.lambda_enq_xfer_enq_xfer n (QNormalQueueCtrlRTLVal n s i) = (QNormalQueueCtrlRTLVal n s i).enq_xfer := rfl

theorem gen_Q_NormalQueueCtrlRTL_deq_xfer_eq {α : Type} (n : Nat) (s : Ring α) (i : In α) :
    QueueGen.Q.NormalQueueCtrlRTL.lambda_deq_xfer_deq_xfer n (QNormalQueueCtrlRTLVal n s i) = (QNormalQueueCtrlRTLVal n s i).deq_xfer := rfl

theorem gen_Q_NormalQueueCtrlRTL_head_next_eq {α : Type} (n : Nat) (s : Ring α) (i : In α) :
    QueueGen.Q.NormalQueueCtrlRTL.up_reg_head_next n (QNormalQueueCtrlRTLVal n s i) = (ringStep true .normal n s i).1.head := by
  rw [ringStep_fst, ringCore, ptrInc_eq_gen]; rfl

theorem gen_Q_NormalQueueCtrlRTL_tail_next_eq {α : Type} (n : Nat) (s : Ring α) (i : In α) :
    QueueGen.Q.NormalQueueCtrlRTL.up_reg_tail_next n (QNormalQueueCtrlRTLVal n s i) = (ringStep true .normal n s i).1.tail := by
  rw [ringStep_fst, ringCore, ptrInc_eq_gen n s.tail]; rfl

theorem gen_Q_NormalQueueCtrlRTL_count_next_eq {α : Type} (n : Nat) (s : Ring α) (i : In α) :
    QueueGen.Q.NormalQueueCtrlRTL.up_reg_count_next n (QNormalQueueCtrlRTLVal n s i) = (ringStep true .normal n s i).1.count := by
  rw [ringStep_fst, ringCore, ite_xor_swap]; rfl

theorem gen_Q_NormalQueueCtrlRTL_wires {α : Type} (n : Nat) (s : Ring α) (i : In α) : QueueGen.Q.NormalQueueCtrlRTL.wires n (QNormalQueueCtrlRTLVal n s i) :=
  ⟨rfl, rfl, rfl⟩

theorem gen_Q_NormalQueueCtrlRTL_widths (n : Nat) : QueueGen.Q.NormalQueueCtrlRTL.widths n =
    [("enq_en", 1), ("enq_rdy", 1), ("deq_en", 1), ("deq_rdy", 1), ("count", Queue.clog2 (n + 1)), ("wen", 1), ("waddr", Queue.clog2 n), ("raddr", Queue.clog2 n), ("head", Queue.clog2 n), ("tail", Queue.clog2 n), ("enq_xfer", 1), ("deq_xfer", 1)] := rfl

theorem gen_Q_NormalQueueCtrlRTL_side (n : Nat) (hn : 2 ≤ n) : QueueGen.Q.NormalQueueCtrlRTL.side n :=
  have h1 : 1 ≤ n := Nat.le_of_succ_le hn
  ⟨h1, pred_lt_two_pow_clog2 n h1, lt_two_pow_clog2_succ n, Nat.two_pow_pos _, Nat.two_pow_pos _,
   one_lt_two_pow_clog2 n hn, one_lt_two_pow_clog2 (n + 1) (Nat.le_succ_of_le hn)⟩

theorem gen_Q_NormalQueueCtrlRTL_out {α : Type} (n : Nat) (s : Ring α) (i : In α) :
    (ringStep true .normal n s i).2.enqRdy = (QNormalQueueCtrlRTLVal n s i).enq_rdy ∧ (ringStep true .normal n s i).2.count = (QNormalQueueCtrlRTLVal n s i).count :=
  ⟨rfl, rfl⟩

/-! ## Q.PipeQueueCtrlRTL -/

/-- the signals of `PipeQueueCtrlRTL` as terms of the model -/
def QPipeQueueCtrlRTLVal {α : Type} (n : Nat) (s : Ring α) (i : In α) : QueueGen.Q.PipeQueueCtrlRTL.Sig :=
  { reset := i.rst,
    enq_en := i.enq,
    enq_rdy := (ringStep true .pipe n s i).2.enqRdy,
    deq_en := i.deq,
    deq_rdy := (ringStep true .pipe n s i).2.deqRdy,
    count := s.count,
    wen := (i.enq && (ringStep true .pipe n s i).2.enqRdy),
    waddr := s.tail,
    raddr := s.head,
    head := s.head,
    tail := s.tail,
    enq_xfer := (i.enq && (ringStep true .pipe n s i).2.enqRdy),
    deq_xfer := (i.deq && (ringStep true .pipe n s i).2.deqRdy) }

theorem gen_Q_PipeQueueCtrlRTL_deq_rdy_eq {α : Type} (n : Nat) (s : Ring α) (i : In α) :
    QueueGen.Q.PipeQueueCtrlRTL.lambda_deq_rdy_deq_rdy n (QPipeQueueCtrlRTLVal n s i) = (QPipeQueueCtrlRTLVal n s i).deq_rdy := rfl

theorem gen_Q_PipeQueueCtrlRTL_enq_rdy_eq {α : Type} (n : Nat) (s : Ring α) (i : In α) :
    QueueGen.Q.PipeQueueCtrlRTL.lambda_enq_rdy_enq_rdy n (QPipeQueueCtrlRTLVal n s i) = (QPipeQueueCtrlRTLVal n s i).enq_rdy :=
  (ringStep_enqRdy true .pipe n s i).symm

theorem gen_Q_PipeQueueCtrlRTL_enq_xfer_eq {α : Type} (n : Nat) (s : Ring α) (i : In α) :
    QueueGen.Q.PipeQueueCtrlRTL.lambda_enq_xfer_enq_xfer n (QPipeQueueCtrlRTLVal n s i) = (QPipeQueueCtrlRTLVal n s i).enq_xfer := rfl

theorem gen_Q_PipeQueueCtrlRTL_deq_xfer_eq {α : Type} (n : Nat) (s : Ring α) (i : In α) :
    QueueGen.Q.PipeQueueCtrlRTL.lambda_deq_xfer_deq_xfer n (QPipeQueueCtrlRTLVal n s i) = (QPipeQueueCtrlRTLVal n s i).deq_xfer := rfl

theorem gen_Q_PipeQueueCtrlRTL_head_next_eq {α : Type} (n : Nat) (s : Ring α) (i : In α) :
    QueueGen.Q.PipeQueueCtrlRTL.up_reg_head_next n (QPipeQueueCtrlRTLVal n s i) = (ringStep true .pipe n s i).1.head := by
  rw [ringStep_fst, ringCore, ptrInc_eq_gen]; rfl

theorem gen_Q_PipeQueueCtrlRTL_tail_next_eq {α : Type} (n : Nat) (s : Ring α) (i : In α) :
    QueueGen.Q.PipeQueueCtrlRTL.up_reg_tail_next n (QPipeQueueCtrlRTLVal n s i) = (ringStep true .pipe n s i).1.tail := by
  rw [ringStep_fst, ringCore, ptrInc_eq_gen n s.tail]; rfl

theorem gen_Q_PipeQueueCtrlRTL_count_next_eq {α : Type} (n : Nat) (s : Ring α) (i : In α) :
    QueueGen.Q.PipeQueueCtrlRTL.up_reg_count_next n (QPipeQueueCtrlRTLVal n s i) = (ringStep true .pipe n s i).1.count := by
  rw [ringStep_fst, ringCore, ite_xor_swap]; rfl

theorem gen_Q_PipeQueueCtrlRTL_wires {α : Type} (n : Nat) (s : Ring α) (i : In α) : QueueGen.Q.PipeQueueCtrlRTL.wires n (QPipeQueueCtrlRTLVal n s i) :=
  ⟨rfl, rfl, rfl⟩

theorem gen_Q_PipeQueueCtrlRTL_widths (n : Nat) : QueueGen.Q.PipeQueueCtrlRTL.widths n =
    [("enq_en", 1), ("enq_rdy", 1), ("deq_en", 1), ("deq_rdy", 1), ("count", Queue.clog2 (n + 1)), ("wen", 1), ("waddr", Queue.clog2 n), ("raddr", Queue.clog2 n), ("head", Queue.clog2 n), ("tail", Queue.clog2 n), ("enq_xfer", 1), ("deq_xfer", 1)] := rfl

theorem gen_Q_PipeQueueCtrlRTL_side (n : Nat) (hn : 2 ≤ n) : QueueGen.Q.PipeQueueCtrlRTL.side n :=
  gen_Q_NormalQueueCtrlRTL_side n hn

theorem gen_Q_PipeQueueCtrlRTL_out {α : Type} (n : Nat) (s : Ring α) (i : In α) :
    (ringStep true .pipe n s i).2.enqRdy = (QPipeQueueCtrlRTLVal n s i).enq_rdy ∧ (ringStep true .pipe n s i).2.count = (QPipeQueueCtrlRTLVal n s i).count :=
  ⟨rfl, rfl⟩

/-! ## Q.BypassQueueCtrlRTL -/

/-- the signals of `BypassQueueCtrlRTL` as terms of the model -/
def QBypassQueueCtrlRTLVal {α : Type} (n : Nat) (s : Ring α) (i : In α) : QueueGen.Q.BypassQueueCtrlRTL.Sig :=
  { reset := i.rst,
    enq_en := i.enq,
    enq_rdy := (ringStep true .bypass n s i).2.enqRdy,
    deq_en := i.deq,
    deq_rdy := (ringStep true .bypass n s i).2.deqRdy,
    count := s.count,
    wen := (i.enq && (ringStep true .bypass n s i).2.enqRdy),
    waddr := s.tail,
    raddr := s.head,
    mux_sel := decide (s.count = 0),
    head := s.head,
    tail := s.tail,
    enq_xfer := (i.enq && (ringStep true .bypass n s i).2.enqRdy),
    deq_xfer := (i.deq && (ringStep true .bypass n s i).2.deqRdy) }

theorem gen_Q_BypassQueueCtrlRTL_enq_rdy_eq {α : Type} (n : Nat) (s : Ring α) (i : In α) :
    QueueGen.Q.BypassQueueCtrlRTL.lambda_enq_rdy_enq_rdy n (QBypassQueueCtrlRTLVal n s i) = (QBypassQueueCtrlRTLVal n s i).enq_rdy :=
  (ringStep_enqRdy true .bypass n s i).symm

theorem gen_Q_BypassQueueCtrlRTL_deq_rdy_eq {α : Type} (n : Nat) (s : Ring α) (i : In α) :
    QueueGen.Q.BypassQueueCtrlRTL.lambda_deq_rdy_deq_rdy n (QBypassQueueCtrlRTLVal n s i) = (QBypassQueueCtrlRTLVal n s i).deq_rdy := rfl

theorem gen_Q_BypassQueueCtrlRTL_mux_sel_eq {α : Type} (n : Nat) (s : Ring α) (i : In α) :
    QueueGen.Q.BypassQueueCtrlRTL.lambda_mux_sel_mux_sel n (QBypassQueueCtrlRTLVal n s i) = (QBypassQueueCtrlRTLVal n s i).mux_sel := rfl

theorem gen_Q_BypassQueueCtrlRTL_enq_xfer_eq {α : Type} (n : Nat) (s : Ring α) (i : In α) :
    QueueGen.Q.BypassQueueCtrlRTL.lambda_enq_xfer_enq_xfer n (QBypassQueueCtrlRTLVal n s i) = (QBypassQueueCtrlRTLVal n s i).enq_xfer := rfl

theorem gen_Q_BypassQueueCtrlRTL_deq_xfer_eq {α : Type} (n : Nat) (s : Ring α) (i : In α) :
    QueueGen.Q.BypassQueueCtrlRTL.lambda_deq_xfer_deq_xfer n (QBypassQueueCtrlRTLVal n s i) = (QBypassQueueCtrlRTLVal n s i).deq_xfer := rfl

theorem gen_Q_BypassQueueCtrlRTL_head_next_eq {α : Type} (n : Nat) (s : Ring α) (i : In α) :
    QueueGen.Q.BypassQueueCtrlRTL.up_reg_head_next n (QBypassQueueCtrlRTLVal n s i) = (ringStep true .bypass n s i).1.head := by
  rw [ringStep_fst, ringCore, ptrInc_eq_gen]; rfl

theorem gen_Q_BypassQueueCtrlRTL_tail_next_eq {α : Type} (n : Nat) (s : Ring α) (i : In α) :
    QueueGen.Q.BypassQueueCtrlRTL.up_reg_tail_next n (QBypassQueueCtrlRTLVal n s i) = (ringStep true .bypass n s i).1.tail := by
  rw [ringStep_fst, ringCore, ptrInc_eq_gen n s.tail]; rfl

theorem gen_Q_BypassQueueCtrlRTL_count_next_eq {α : Type} (n : Nat) (s : Ring α) (i : In α) :
    QueueGen.Q.BypassQueueCtrlRTL.up_reg_count_next n (QBypassQueueCtrlRTLVal n s i) = (ringStep true .bypass n s i).1.count := by
  rw [ringStep_fst, ringCore, ite_xor_swap]; rfl

theorem gen_Q_BypassQueueCtrlRTL_wires {α : Type} (n : Nat) (s : Ring α) (i : In α) : QueueGen.Q.BypassQueueCtrlRTL.wires n (QBypassQueueCtrlRTLVal n s i) :=
  ⟨rfl, rfl, rfl⟩

theorem gen_Q_BypassQueueCtrlRTL_widths (n : Nat) : QueueGen.Q.BypassQueueCtrlRTL.widths n =
    [("enq_en", 1), ("enq_rdy", 1), ("deq_en", 1), ("deq_rdy", 1), ("count", Queue.clog2 (n + 1)), ("wen", 1), ("waddr", Queue.clog2 n), ("raddr", Queue.clog2 n), ("mux_sel", 1), ("head", Queue.clog2 n), ("tail", Queue.clog2 n), ("enq_xfer", 1), ("deq_xfer", 1)] := rfl

theorem gen_Q_BypassQueueCtrlRTL_side (n : Nat) (hn : 2 ≤ n) : QueueGen.Q.BypassQueueCtrlRTL.side n :=
  gen_Q_NormalQueueCtrlRTL_side n hn

theorem gen_Q_BypassQueueCtrlRTL_out {α : Type} (n : Nat) (s : Ring α) (i : In α) :
    (ringStep true .bypass n s i).2.enqRdy = (QBypassQueueCtrlRTLVal n s i).enq_rdy ∧ (ringStep true .bypass n s i).2.count = (QBypassQueueCtrlRTLVal n s i).count :=
  ⟨rfl, rfl⟩

/-! ## S.NormalQueueCtrlRTL -/

/-- the signals of `NormalQueueCtrlRTL` as terms of the model -/
def SNormalQueueCtrlRTLVal {α : Type} (n : Nat) (s : Ring α) (i : In α) : QueueGen.S.NormalQueueCtrlRTL.Sig :=
  { reset := i.rst,
    recv_val := i.enq,
    recv_rdy := (ringStep false .normal n s i).2.enqRdy,
    send_val := (ringStep false .normal n s i).2.deqRdy,
    send_rdy := i.deq,
    count := s.count,
    wen := (i.enq && (ringStep false .normal n s i).2.enqRdy),
    waddr := s.tail,
    raddr := s.head,
    head := s.head,
    tail := s.tail,
    recv_xfer := (i.enq && (ringStep false .normal n s i).2.enqRdy),
    send_xfer := (i.deq && (ringStep false .normal n s i).2.deqRdy) }

theorem gen_S_NormalQueueCtrlRTL_recv_rdy_eq {α : Type} (n : Nat) (s : Ring α) (i : In α) :
    QueueGen.S.NormalQueueCtrlRTL.lambda_recv_rdy_recv_rdy n (SNormalQueueCtrlRTLVal n s i) = (SNormalQueueCtrlRTLVal n s i).recv_rdy :=
  (ringStep_enqRdy false .normal n s i).symm

theorem gen_S_NormalQueueCtrlRTL_send_val_eq {α : Type} (n : Nat) (s : Ring α) (i : In α) :
    QueueGen.S.NormalQueueCtrlRTL.lambda_send_val_send_val n (SNormalQueueCtrlRTLVal n s i) = (SNormalQueueCtrlRTLVal n s i).send_val := rfl

theorem gen_S_NormalQueueCtrlRTL_recv_xfer_eq {α : Type} (n : Nat) (s : Ring α) (i : In α) :
    QueueGen.S.NormalQueueCtrlRTL.lambda_recv_xfer_recv_xfer n (SNormalQueueCtrlRTLVal n s i) = (SNormalQueueCtrlRTLVal n s i).recv_xfer := rfl

theorem gen_S_NormalQueueCtrlRTL_send_xfer_eq {α : Type} (n : Nat) (s : Ring α) (i : In α) :
    QueueGen.S.NormalQueueCtrlRTL.lambda_send_xfer_send_xfer n (SNormalQueueCtrlRTLVal n s i) = (SNormalQueueCtrlRTLVal n s i).send_xfer :=
  Bool.and_comm _ _

theorem gen_S_NormalQueueCtrlRTL_head_next_eq {α : Type} (n : Nat) (s : Ring α) (i : In α) :
    QueueGen.S.NormalQueueCtrlRTL.up_reg_head_next n (SNormalQueueCtrlRTLVal n s i) = (ringStep false .normal n s i).1.head := by
  rw [ringStep_fst, ringCore, ptrInc_eq_gen]; rfl

theorem gen_S_NormalQueueCtrlRTL_tail_next_eq {α : Type} (n : Nat) (s : Ring α) (i : In α) :
    QueueGen.S.NormalQueueCtrlRTL.up_reg_tail_next n (SNormalQueueCtrlRTLVal n s i) = (ringStep false .normal n s i).1.tail := by
  rw [ringStep_fst, ringCore, ptrInc_eq_gen n s.tail]; rfl

theorem gen_S_NormalQueueCtrlRTL_count_next_eq {α : Type} (n : Nat) (s : Ring α) (i : In α) :
    QueueGen.S.NormalQueueCtrlRTL.up_reg_count_next n (SNormalQueueCtrlRTLVal n s i) = (ringStep false .normal n s i).1.count := by
  rw [ringStep_fst]; rfl

theorem gen_S_NormalQueueCtrlRTL_wires {α : Type} (n : Nat) (s : Ring α) (i : In α) : QueueGen.S.NormalQueueCtrlRTL.wires n (SNormalQueueCtrlRTLVal n s i) :=
  ⟨rfl, rfl, rfl⟩

theorem gen_S_NormalQueueCtrlRTL_widths (n : Nat) : QueueGen.S.NormalQueueCtrlRTL.widths n =
    [("recv_val", 1), ("recv_rdy", 1), ("send_val", 1), ("send_rdy", 1), ("count", Queue.clog2 (n + 1)), ("wen", 1), ("waddr", Queue.clog2 n), ("raddr", Queue.clog2 n), ("head", Queue.clog2 n), ("tail", Queue.clog2 n), ("recv_xfer", 1), ("send_xfer", 1)] := rfl

theorem gen_S_NormalQueueCtrlRTL_side (n : Nat) (hn : 2 ≤ n) : QueueGen.S.NormalQueueCtrlRTL.side n :=
  ⟨lt_two_pow_clog2_succ n, Nat.le_of_succ_le hn, pred_lt_two_pow_clog2 n (Nat.le_of_succ_le hn)⟩

theorem gen_S_NormalQueueCtrlRTL_out {α : Type} (n : Nat) (s : Ring α) (i : In α) :
    (ringStep false .normal n s i).2.enqRdy = (SNormalQueueCtrlRTLVal n s i).recv_rdy ∧ (ringStep false .normal n s i).2.count = (SNormalQueueCtrlRTLVal n s i).count :=
  ⟨rfl, rfl⟩

/-! ## S.PipeQueueCtrlRTL -/

/-- the signals of `PipeQueueCtrlRTL` as terms of the model -/
def SPipeQueueCtrlRTLVal {α : Type} (n : Nat) (s : Ring α) (i : In α) : QueueGen.S.PipeQueueCtrlRTL.Sig :=
  { reset := i.rst,
    recv_val := i.enq,
    recv_rdy := (ringStep false .pipe n s i).2.enqRdy,
    send_val := (ringStep false .pipe n s i).2.deqRdy,
    send_rdy := i.deq,
    count := s.count,
    wen := (i.enq && (ringStep false .pipe n s i).2.enqRdy),
    waddr := s.tail,
    raddr := s.head,
    head := s.head,
    tail := s.tail,
    recv_xfer := (i.enq && (ringStep false .pipe n s i).2.enqRdy),
    send_xfer := (i.deq && (ringStep false .pipe n s i).2.deqRdy) }

theorem gen_S_PipeQueueCtrlRTL_send_val_eq {α : Type} (n : Nat) (s : Ring α) (i : In α) :
    QueueGen.S.PipeQueueCtrlRTL.lambda_send_val_send_val n (SPipeQueueCtrlRTLVal n s i) = (SPipeQueueCtrlRTLVal n s i).send_val := rfl

theorem gen_S_PipeQueueCtrlRTL_recv_rdy_eq {α : Type} (n : Nat) (s : Ring α) (i : In α) :
    QueueGen.S.PipeQueueCtrlRTL.lambda_recv_rdy_recv_rdy n (SPipeQueueCtrlRTLVal n s i) = (SPipeQueueCtrlRTLVal n s i).recv_rdy :=
  (ringStep_enqRdy false .pipe n s i).symm

theorem gen_S_PipeQueueCtrlRTL_recv_xfer_eq {α : Type} (n : Nat) (s : Ring α) (i : In α) :
    QueueGen.S.PipeQueueCtrlRTL.lambda_recv_xfer_recv_xfer n (SPipeQueueCtrlRTLVal n s i) = (SPipeQueueCtrlRTLVal n s i).recv_xfer := rfl

theorem gen_S_PipeQueueCtrlRTL_send_xfer_eq {α : Type} (n : Nat) (s : Ring α) (i : In α) :
    QueueGen.S.PipeQueueCtrlRTL.lambda_send_xfer_send_xfer n (SPipeQueueCtrlRTLVal n s i) = (SPipeQueueCtrlRTLVal n s i).send_xfer :=
  Bool.and_comm _ _

theorem gen_S_PipeQueueCtrlRTL_head_next_eq {α : Type} (n : Nat) (s : Ring α) (i : In α) :
    QueueGen.S.PipeQueueCtrlRTL.up_reg_head_next n (SPipeQueueCtrlRTLVal n s i) = (ringStep false .pipe n s i).1.head := by
  rw [ringStep_fst, ringCore, ptrInc_eq_gen]; rfl

theorem gen_S_PipeQueueCtrlRTL_tail_next_eq {α : Type} (n : Nat) (s : Ring α) (i : In α) :
    QueueGen.S.PipeQueueCtrlRTL.up_reg_tail_next n (SPipeQueueCtrlRTLVal n s i) = (ringStep false .pipe n s i).1.tail := by
  rw [ringStep_fst, ringCore, ptrInc_eq_gen n s.tail]; rfl

theorem gen_S_PipeQueueCtrlRTL_count_next_eq {α : Type} (n : Nat) (s : Ring α) (i : In α) :
    QueueGen.S.PipeQueueCtrlRTL.up_reg_count_next n (SPipeQueueCtrlRTLVal n s i) = (ringStep false .pipe n s i).1.count := by
  rw [ringStep_fst]; rfl

theorem gen_S_PipeQueueCtrlRTL_wires {α : Type} (n : Nat) (s : Ring α) (i : In α) : QueueGen.S.PipeQueueCtrlRTL.wires n (SPipeQueueCtrlRTLVal n s i) :=
  ⟨rfl, rfl, rfl⟩

theorem gen_S_PipeQueueCtrlRTL_widths (n : Nat) : QueueGen.S.PipeQueueCtrlRTL.widths n =
    [("recv_val", 1), ("recv_rdy", 1), ("send_val", 1), ("send_rdy", 1), ("count", Queue.clog2 (n + 1)), ("wen", 1), ("waddr", Queue.clog2 n), ("raddr", Queue.clog2 n), ("head", Queue.clog2 n), ("tail", Queue.clog2 n), ("recv_xfer", 1), ("send_xfer", 1)] := rfl

theorem gen_S_PipeQueueCtrlRTL_side (n : Nat) (hn : 2 ≤ n) : QueueGen.S.PipeQueueCtrlRTL.side n :=
  gen_S_NormalQueueCtrlRTL_side n hn

theorem gen_S_PipeQueueCtrlRTL_out {α : Type} (n : Nat) (s : Ring α) (i : In α) :
    (ringStep false .pipe n s i).2.enqRdy = (SPipeQueueCtrlRTLVal n s i).recv_rdy ∧ (ringStep false .pipe n s i).2.count = (SPipeQueueCtrlRTLVal n s i).count :=
  ⟨rfl, rfl⟩

/-! ## S.BypassQueueCtrlRTL -/

/-- the signals of `BypassQueueCtrlRTL` as terms of the model -/
def SBypassQueueCtrlRTLVal {α : Type} (n : Nat) (s : Ring α) (i : In α) : QueueGen.S.BypassQueueCtrlRTL.Sig :=
  { reset := i.rst,
    recv_val := i.enq,
    recv_rdy := (ringStep false .bypass n s i).2.enqRdy,
    send_val := (ringStep false .bypass n s i).2.deqRdy,
    send_rdy := i.deq,
    count := s.count,
    wen := (i.enq && (ringStep false .bypass n s i).2.enqRdy),
    waddr := s.tail,
    raddr := s.head,
    mux_sel := decide (s.count = 0),
    head := s.head,
    tail := s.tail,
    recv_xfer := (i.enq && (ringStep false .bypass n s i).2.enqRdy),
    send_xfer := (i.deq && (ringStep false .bypass n s i).2.deqRdy) }

theorem gen_S_BypassQueueCtrlRTL_recv_rdy_eq {α : Type} (n : Nat) (s : Ring α) (i : In α) :
    QueueGen.S.BypassQueueCtrlRTL.lambda_recv_rdy_recv_rdy n (SBypassQueueCtrlRTLVal n s i) = (SBypassQueueCtrlRTLVal n s i).recv_rdy :=
  (ringStep_enqRdy false .bypass n s i).symm

theorem gen_S_BypassQueueCtrlRTL_send_val_eq {α : Type} (n : Nat) (s : Ring α) (i : In α) :
    QueueGen.S.BypassQueueCtrlRTL.lambda_send_val_send_val n (SBypassQueueCtrlRTLVal n s i) = (SBypassQueueCtrlRTLVal n s i).send_val := rfl

theorem gen_S_BypassQueueCtrlRTL_mux_sel_eq {α : Type} (n : Nat) (s : Ring α) (i : In α) :
    QueueGen.S.BypassQueueCtrlRTL.lambda_mux_sel_mux_sel n (SBypassQueueCtrlRTLVal n s i) = (SBypassQueueCtrlRTLVal n s i).mux_sel := rfl

theorem gen_S_BypassQueueCtrlRTL_recv_xfer_eq {α : Type} (n : Nat) (s : Ring α) (i : In α) :
    QueueGen.S.BypassQueueCtrlRTL.lambda_recv_xfer_recv_xfer n (SBypassQueueCtrlRTLVal n s i) = (SBypassQueueCtrlRTLVal n s i).recv_xfer := rfl

theorem gen_S_BypassQueueCtrlRTL_send_xfer_eq {α : Type} (n : Nat) (s : Ring α) (i : In α) :
    QueueGen.S.BypassQueueCtrlRTL.lambda_send_xfer_send_xfer n (SBypassQueueCtrlRTLVal n s i) = (SBypassQueueCtrlRTLVal n s i).send_xfer :=
  Bool.and_comm _ _

theorem gen_S_BypassQueueCtrlRTL_head_next_eq {α : Type} (n : Nat) (s : Ring α) (i : In α) :
    QueueGen.S.BypassQueueCtrlRTL.up_reg_head_next n (SBypassQueueCtrlRTLVal n s i) = (ringStep false .bypass n s i).1.head := by
  rw [ringStep_fst, ringCore, ptrInc_eq_gen]; rfl

theorem gen_S_BypassQueueCtrlRTL_tail_next_eq {α : Type} (n : Nat) (s : Ring α) (i : In α) :
    QueueGen.S.BypassQueueCtrlRTL.up_reg_tail_next n (SBypassQueueCtrlRTLVal n s i) = (ringStep false .bypass n s i).1.tail := by
  rw [ringStep_fst, ringCore, ptrInc_eq_gen n s.tail]; rfl

theorem gen_S_BypassQueueCtrlRTL_count_next_eq {α : Type} (n : Nat) (s : Ring α) (i : In α) :
    QueueGen.S.BypassQueueCtrlRTL.up_reg_count_next n (SBypassQueueCtrlRTLVal n s i) = (ringStep false .bypass n s i).1.count := by
  rw [ringStep_fst, ringCore, ite_xor_swap]; rfl

theorem gen_S_BypassQueueCtrlRTL_wires {α : Type} (n : Nat) (s : Ring α) (i : In α) : QueueGen.S.BypassQueueCtrlRTL.wires n (SBypassQueueCtrlRTLVal n s i) :=
  ⟨rfl, rfl, rfl⟩

theorem gen_S_BypassQueueCtrlRTL_widths (n : Nat) : QueueGen.S.BypassQueueCtrlRTL.widths n =
    [("recv_val", 1), ("recv_rdy", 1), ("send_val", 1), ("send_rdy", 1), ("count", Queue.clog2 (n + 1)), ("wen", 1), ("waddr", Queue.clog2 n), ("raddr", Queue.clog2 n), ("mux_sel", 1), ("head", Queue.clog2 n), ("tail", Queue.clog2 n), ("recv_xfer", 1), ("send_xfer", 1)] := rfl

theorem gen_S_BypassQueueCtrlRTL_side (n : Nat) (hn : 2 ≤ n) : QueueGen.S.BypassQueueCtrlRTL.side n :=
  ⟨Nat.le_of_succ_le hn, lt_two_pow_clog2_succ n, pred_lt_two_pow_clog2 n (Nat.le_of_succ_le hn)⟩

theorem gen_S_BypassQueueCtrlRTL_out {α : Type} (n : Nat) (s : Ring α) (i : In α) :
    (ringStep false .bypass n s i).2.enqRdy = (SBypassQueueCtrlRTLVal n s i).recv_rdy ∧ (ringStep false .bypass n s i).2.count = (SBypassQueueCtrlRTLVal n s i).count :=
  ⟨rfl, rfl⟩

/-! ## Q.NormalQueueDpathRTL -/

/-- the signals of `NormalQueueDpathRTL` as terms of the model -/
def QNormalQueueDpathRTLVal {α : Type} (k : Kind) (n : Nat) (s : Ring α) (i : In α) : QueueGen.Q.NormalQueueDpathRTL.Sig α :=
  { reset := i.rst,
    enq_msg := i.msg,
    deq_ret := (s.regs s.head),
    wen := (i.enq && (ringStep true k n s i).2.enqRdy),
    waddr := s.tail,
    raddr := s.head,
    queue__raddr_0 := s.head,
    queue__rdata_0 := (s.regs s.head),
    queue__waddr_0 := s.tail,
    queue__wdata_0 := i.msg,
    queue__wen_0 := (i.enq && (ringStep true k n s i).2.enqRdy),
    queue__regs := s.regs }

theorem gen_Q_NormalQueueDpathRTL_queue__rdata_0_eq {α : Type} (k : Kind) (n : Nat) (s : Ring α) (i : In α) :
    QueueGen.Q.NormalQueueDpathRTL.queue__up_rf_read_rdata_0 n (QNormalQueueDpathRTLVal k n s i) = (QNormalQueueDpathRTLVal k n s i).queue__rdata_0 := rfl

theorem gen_Q_NormalQueueDpathRTL_queue__regs_next_eq {α : Type} (k : Kind) (n : Nat) (s : Ring α) (i : In α) :
    QueueGen.Q.NormalQueueDpathRTL.queue__up_rf_write_regs_next n (QNormalQueueDpathRTLVal k n s i) = (ringStep true k n s i).1.regs := by
  rw [ringStep_fst]; rfl

theorem gen_Q_NormalQueueDpathRTL_wires {α : Type} (k : Kind) (n : Nat) (s : Ring α) (i : In α) : QueueGen.Q.NormalQueueDpathRTL.wires n (QNormalQueueDpathRTLVal k n s i) :=
  ⟨rfl, rfl, rfl, rfl, rfl⟩

theorem gen_Q_NormalQueueDpathRTL_widths (n : Nat) : QueueGen.Q.NormalQueueDpathRTL.widths n =
    [("enq_msg", 0), ("deq_ret", 0), ("wen", 1), ("waddr", Queue.clog2 n), ("raddr", Queue.clog2 n)] := rfl

theorem gen_Q_NormalQueueDpathRTL_side (n : Nat) (hn : 2 ≤ n) : QueueGen.Q.NormalQueueDpathRTL.side n :=
  max_one_clog2 n hn

theorem gen_Q_NormalQueueDpathRTL_out {α : Type} (k : Kind) (n : Nat) (s : Ring α) (i : In α) :
    k ≠ .bypass → (ringStep true k n s i).2.ret = if (ringStep true k n s i).2.deqRdy then some (QNormalQueueDpathRTLVal k n s i).deq_ret else none := by
  cases k <;> intro h
  · rfl
  · rfl
  · exact absurd rfl h

/-! ## Q.BypassQueueDpathRTL -/

/-- the signals of `BypassQueueDpathRTL` as terms of the model -/
def QBypassQueueDpathRTLVal {α : Type} (n : Nat) (s : Ring α) (i : In α) : QueueGen.Q.BypassQueueDpathRTL.Sig α :=
  { reset := i.rst,
    enq_msg := i.msg,
    deq_ret := (if s.count = 0 then i.msg else s.regs s.head),
    wen := (i.enq && (ringStep true .bypass n s i).2.enqRdy),
    waddr := s.tail,
    raddr := s.head,
    mux_sel := decide (s.count = 0),
    queue__raddr_0 := s.head,
    queue__rdata_0 := (s.regs s.head),
    queue__waddr_0 := s.tail,
    queue__wdata_0 := i.msg,
    queue__wen_0 := (i.enq && (ringStep true .bypass n s i).2.enqRdy),
    queue__regs := s.regs,
    mux__in__0 := (s.regs s.head),
    mux__in__1 := i.msg,
    mux__out := (if s.count = 0 then i.msg else s.regs s.head),
    mux__sel := decide (s.count = 0) }

theorem gen_Q_BypassQueueDpathRTL_queue__rdata_0_eq {α : Type} (n : Nat) (s : Ring α) (i : In α) :
    QueueGen.Q.BypassQueueDpathRTL.queue__up_rf_read_rdata_0 n (QBypassQueueDpathRTLVal n s i) = (QBypassQueueDpathRTLVal n s i).queue__rdata_0 := rfl

theorem gen_Q_BypassQueueDpathRTL_queue__regs_next_eq {α : Type} (n : Nat) (s : Ring α) (i : In α) :
    QueueGen.Q.BypassQueueDpathRTL.queue__up_rf_write_regs_next n (QBypassQueueDpathRTLVal n s i) = (ringStep true .bypass n s i).1.regs := by
  rw [ringStep_fst]; rfl

theorem gen_Q_BypassQueueDpathRTL_mux__out_eq {α : Type} (n : Nat) (s : Ring α) (i : In α) :
    QueueGen.Q.BypassQueueDpathRTL.mux__up_mux_out n (QBypassQueueDpathRTLVal n s i) = (QBypassQueueDpathRTLVal n s i).mux__out :=
  ite_decide _ _ _

theorem gen_Q_BypassQueueDpathRTL_wires {α : Type} (n : Nat) (s : Ring α) (i : In α) : QueueGen.Q.BypassQueueDpathRTL.wires n (QBypassQueueDpathRTLVal n s i) :=
  ⟨rfl, rfl, rfl, rfl, rfl, rfl, rfl, rfl⟩

theorem gen_Q_BypassQueueDpathRTL_widths (n : Nat) : QueueGen.Q.BypassQueueDpathRTL.widths n =
    [("enq_msg", 0), ("deq_ret", 0), ("wen", 1), ("waddr", Queue.clog2 n), ("raddr", Queue.clog2 n), ("mux_sel", 1)] := rfl

theorem gen_Q_BypassQueueDpathRTL_side (n : Nat) (hn : 2 ≤ n) : QueueGen.Q.BypassQueueDpathRTL.side n :=
  max_one_clog2 n hn

theorem gen_Q_BypassQueueDpathRTL_out {α : Type} (n : Nat) (s : Ring α) (i : In α) :
    (ringStep true .bypass n s i).2.ret = if (ringStep true .bypass n s i).2.deqRdy then some (QBypassQueueDpathRTLVal n s i).deq_ret else none := rfl

/-! ## S.NormalQueueDpathRTL -/

/-- the signals of `NormalQueueDpathRTL` as terms of the model -/
def SNormalQueueDpathRTLVal {α : Type} (k : Kind) (n : Nat) (s : Ring α) (i : In α) : QueueGen.S.NormalQueueDpathRTL.Sig α :=
  { reset := i.rst,
    recv_msg := i.msg,
    send_msg := (s.regs s.head),
    wen := (i.enq && (ringStep false k n s i).2.enqRdy),
    waddr := s.tail,
    raddr := s.head,
    rf__raddr_0 := s.head,
    rf__rdata_0 := (s.regs s.head),
    rf__waddr_0 := s.tail,
    rf__wdata_0 := i.msg,
    rf__wen_0 := (i.enq && (ringStep false k n s i).2.enqRdy),
    rf__regs := s.regs }

theorem gen_S_NormalQueueDpathRTL_rf__rdata_0_eq {α : Type} (k : Kind) (n : Nat) (s : Ring α) (i : In α) :
    QueueGen.S.NormalQueueDpathRTL.rf__up_rf_read_rdata_0 n (SNormalQueueDpathRTLVal k n s i) = (SNormalQueueDpathRTLVal k n s i).rf__rdata_0 := rfl

theorem gen_S_NormalQueueDpathRTL_rf__regs_next_eq {α : Type} (k : Kind) (n : Nat) (s : Ring α) (i : In α) :
    QueueGen.S.NormalQueueDpathRTL.rf__up_rf_write_regs_next n (SNormalQueueDpathRTLVal k n s i) = (ringStep false k n s i).1.regs := by
  rw [ringStep_fst]; rfl

theorem gen_S_NormalQueueDpathRTL_wires {α : Type} (k : Kind) (n : Nat) (s : Ring α) (i : In α) : QueueGen.S.NormalQueueDpathRTL.wires n (SNormalQueueDpathRTLVal k n s i) :=
  ⟨rfl, rfl, rfl, rfl, rfl⟩

theorem gen_S_NormalQueueDpathRTL_widths (n : Nat) : QueueGen.S.NormalQueueDpathRTL.widths n =
    [("recv_msg", 0), ("send_msg", 0), ("wen", 1), ("waddr", Queue.clog2 n), ("raddr", Queue.clog2 n)] := rfl

theorem gen_S_NormalQueueDpathRTL_side (n : Nat) (hn : 2 ≤ n) : QueueGen.S.NormalQueueDpathRTL.side n :=
  max_one_clog2 n hn

theorem gen_S_NormalQueueDpathRTL_out {α : Type} (k : Kind) (n : Nat) (s : Ring α) (i : In α) :
    k ≠ .bypass → (ringStep false k n s i).2.ret = if (ringStep false k n s i).2.deqRdy then some (SNormalQueueDpathRTLVal k n s i).send_msg else none := by
  cases k <;> intro h
  · rfl
  · rfl
  · exact absurd rfl h

/-! ## S.BypassQueueDpathRTL -/

/-- the signals of `BypassQueueDpathRTL` as terms of the model -/
def SBypassQueueDpathRTLVal {α : Type} (n : Nat) (s : Ring α) (i : In α) : QueueGen.S.BypassQueueDpathRTL.Sig α :=
  { reset := i.rst,
    recv_msg := i.msg,
    send_msg := (if s.count = 0 then i.msg else s.regs s.head),
    wen := (i.enq && (ringStep false .bypass n s i).2.enqRdy),
    waddr := s.tail,
    raddr := s.head,
    mux_sel := decide (s.count = 0),
    rf__raddr_0 := s.head,
    rf__rdata_0 := (s.regs s.head),
    rf__waddr_0 := s.tail,
    rf__wdata_0 := i.msg,
    rf__wen_0 := (i.enq && (ringStep false .bypass n s i).2.enqRdy),
    rf__regs := s.regs,
    mux__in__0 := (s.regs s.head),
    mux__in__1 := i.msg,
    mux__out := (if s.count = 0 then i.msg else s.regs s.head),
    mux__sel := decide (s.count = 0) }

theorem gen_S_BypassQueueDpathRTL_rf__rdata_0_eq {α : Type} (n : Nat) (s : Ring α) (i : In α) :
    QueueGen.S.BypassQueueDpathRTL.rf__up_rf_read_rdata_0 n (SBypassQueueDpathRTLVal n s i) = (SBypassQueueDpathRTLVal n s i).rf__rdata_0 := rfl

theorem gen_S_BypassQueueDpathRTL_rf__regs_next_eq {α : Type} (n : Nat) (s : Ring α) (i : In α) :
    QueueGen.S.BypassQueueDpathRTL.rf__up_rf_write_regs_next n (SBypassQueueDpathRTLVal n s i) = (ringStep false .bypass n s i).1.regs := by
  rw [ringStep_fst]; rfl

theorem gen_S_BypassQueueDpathRTL_mux__out_eq {α : Type} (n : Nat) (s : Ring α) (i : In α) :
    QueueGen.S.BypassQueueDpathRTL.mux__up_mux_out n (SBypassQueueDpathRTLVal n s i) = (SBypassQueueDpathRTLVal n s i).mux__out :=
  ite_decide _ _ _

theorem gen_S_BypassQueueDpathRTL_wires {α : Type} (n : Nat) (s : Ring α) (i : In α) : QueueGen.S.BypassQueueDpathRTL.wires n (SBypassQueueDpathRTLVal n s i) :=
  ⟨rfl, rfl, rfl, rfl, rfl, rfl, rfl, rfl⟩

theorem gen_S_BypassQueueDpathRTL_widths (n : Nat) : QueueGen.S.BypassQueueDpathRTL.widths n =
    [("recv_msg", 0), ("send_msg", 0), ("wen", 1), ("waddr", Queue.clog2 n), ("raddr", Queue.clog2 n), ("mux_sel", 1)] := rfl

theorem gen_S_BypassQueueDpathRTL_side (n : Nat) (hn : 2 ≤ n) : QueueGen.S.BypassQueueDpathRTL.side n :=
  max_one_clog2 n hn

theorem gen_S_BypassQueueDpathRTL_out {α : Type} (n : Nat) (s : Ring α) (i : In α) :
    (ringStep false .bypass n s i).2.ret = if (ringStep false .bypass n s i).2.deqRdy then some (SBypassQueueDpathRTLVal n s i).send_msg else none := rfl

/-! ## Q.NormalQueue1EntryRTL -/

/-- the signals of `NormalQueue1EntryRTL` as terms of the model -/
def QNormalQueue1EntryRTLVal {α : Type} (s : Queue.One α) (i : In α) : QueueGen.Q.NormalQueue1EntryRTL.Sig α :=
  { reset := i.rst,
    enq_en := i.enq,
    enq_rdy := (q1Step .normal s i).2.enqRdy,
    enq_msg := i.msg,
    deq_en := i.deq,
    deq_rdy := (q1Step .normal s i).2.deqRdy,
    deq_ret := s.entry,
    count := s.full,
    entry := s.entry,
    full := s.full }

theorem gen_Q_NormalQueue1EntryRTL_enq_rdy_eq {α : Type} (s : Queue.One α) (i : In α) :
    QueueGen.Q.NormalQueue1EntryRTL.lambda_enq_rdy_enq_rdy (QNormalQueue1EntryRTLVal s i) = (QNormalQueue1EntryRTLVal s i).enq_rdy := rfl

theorem gen_Q_NormalQueue1EntryRTL_deq_rdy_eq {α : Type} (s : Queue.One α) (i : In α) :
    QueueGen.Q.NormalQueue1EntryRTL.lambda_deq_rdy_deq_rdy (QNormalQueue1EntryRTLVal s i) = (QNormalQueue1EntryRTLVal s i).deq_rdy := rfl

theorem gen_Q_NormalQueue1EntryRTL_full_next_eq {α : Type} (s : Queue.One α) (i : In α) :
    QueueGen.Q.NormalQueue1EntryRTL.ff_normal1_full_next (QNormalQueue1EntryRTLVal s i) = (q1Step .normal s i).1.full := rfl

theorem gen_Q_NormalQueue1EntryRTL_entry_next_eq {α : Type} (s : Queue.One α) (i : In α) :
    QueueGen.Q.NormalQueue1EntryRTL.ff_normal1_entry_next (QNormalQueue1EntryRTLVal s i) = (q1Step .normal s i).1.entry := rfl

theorem gen_Q_NormalQueue1EntryRTL_wires {α : Type} (s : Queue.One α) (i : In α) : QueueGen.Q.NormalQueue1EntryRTL.wires (QNormalQueue1EntryRTLVal s i) :=
  ⟨rfl, rfl⟩

theorem gen_Q_NormalQueue1EntryRTL_widths : QueueGen.Q.NormalQueue1EntryRTL.widths =
    [("enq_en", 1), ("enq_rdy", 1), ("enq_msg", 0), ("deq_en", 1), ("deq_rdy", 1), ("deq_ret", 0), ("count", 1), ("entry", 0), ("full", 1)] := rfl

theorem gen_Q_NormalQueue1EntryRTL_side : QueueGen.Q.NormalQueue1EntryRTL.side :=
  trivial

theorem gen_Q_NormalQueue1EntryRTL_out {α : Type} (s : Queue.One α) (i : In α) :
    (q1Step .normal s i).2.ret = (if (q1Step .normal s i).2.deqRdy then some (QNormalQueue1EntryRTLVal s i).deq_ret else none) ∧ (q1Step .normal s i).2.count = b2n s.full :=
  ⟨rfl, rfl⟩

/-! ## Q.PipeQueue1EntryRTL -/

/-- the signals of `PipeQueue1EntryRTL` as terms of the model -/
def QPipeQueue1EntryRTLVal {α : Type} (s : Queue.One α) (i : In α) : QueueGen.Q.PipeQueue1EntryRTL.Sig α :=
  { reset := i.rst,
    enq_en := i.enq,
    enq_rdy := (q1Step .pipe s i).2.enqRdy,
    enq_msg := i.msg,
    deq_en := i.deq,
    deq_rdy := (q1Step .pipe s i).2.deqRdy,
    deq_ret := s.entry,
    count := s.full,
    entry := s.entry,
    full := s.full }

theorem gen_Q_PipeQueue1EntryRTL_enq_rdy_eq {α : Type} (s : Queue.One α) (i : In α) :
    QueueGen.Q.PipeQueue1EntryRTL.lambda_enq_rdy_enq_rdy (QPipeQueue1EntryRTLVal s i) = (QPipeQueue1EntryRTLVal s i).enq_rdy := rfl

theorem gen_Q_PipeQueue1EntryRTL_deq_rdy_eq {α : Type} (s : Queue.One α) (i : In α) :
    QueueGen.Q.PipeQueue1EntryRTL.lambda_deq_rdy_deq_rdy (QPipeQueue1EntryRTLVal s i) = (QPipeQueue1EntryRTLVal s i).deq_rdy := rfl

theorem gen_Q_PipeQueue1EntryRTL_full_next_eq {α : Type} (s : Queue.One α) (i : In α) :
    QueueGen.Q.PipeQueue1EntryRTL.ff_pipe1_full_next (QPipeQueue1EntryRTLVal s i) = (q1Step .pipe s i).1.full := rfl

theorem gen_Q_PipeQueue1EntryRTL_entry_next_eq {α : Type} (s : Queue.One α) (i : In α) :
    QueueGen.Q.PipeQueue1EntryRTL.ff_pipe1_entry_next (QPipeQueue1EntryRTLVal s i) = (q1Step .pipe s i).1.entry := rfl

theorem gen_Q_PipeQueue1EntryRTL_wires {α : Type} (s : Queue.One α) (i : In α) : QueueGen.Q.PipeQueue1EntryRTL.wires (QPipeQueue1EntryRTLVal s i) :=
  ⟨rfl, rfl⟩

theorem gen_Q_PipeQueue1EntryRTL_widths : QueueGen.Q.PipeQueue1EntryRTL.widths =
    [("enq_en", 1), ("enq_rdy", 1), ("enq_msg", 0), ("deq_en", 1), ("deq_rdy", 1), ("deq_ret", 0), ("count", 1), ("entry", 0), ("full", 1)] := rfl

theorem gen_Q_PipeQueue1EntryRTL_side : QueueGen.Q.PipeQueue1EntryRTL.side :=
  trivial

theorem gen_Q_PipeQueue1EntryRTL_out {α : Type} (s : Queue.One α) (i : In α) :
    (q1Step .pipe s i).2.ret = (if (q1Step .pipe s i).2.deqRdy then some (QPipeQueue1EntryRTLVal s i).deq_ret else none) ∧ (q1Step .pipe s i).2.count = b2n s.full :=
  ⟨rfl, rfl⟩

/-! ## Q.BypassQueue1EntryRTL -/

/-- the signals of `BypassQueue1EntryRTL` as terms of the model -/
def QBypassQueue1EntryRTLVal {α : Type} (s : Queue.One α) (i : In α) : QueueGen.Q.BypassQueue1EntryRTL.Sig α :=
  { reset := i.rst,
    enq_en := i.enq,
    enq_rdy := (q1Step .bypass s i).2.enqRdy,
    enq_msg := i.msg,
    deq_en := i.deq,
    deq_rdy := (q1Step .bypass s i).2.deqRdy,
    deq_ret := (if s.full then s.entry else i.msg),
    count := s.full,
    entry := s.entry,
    full := s.full,
    bypass_mux__in__0 := i.msg,
    bypass_mux__in__1 := s.entry,
    bypass_mux__out := (if s.full then s.entry else i.msg),
    bypass_mux__sel := s.full }

theorem gen_Q_BypassQueue1EntryRTL_enq_rdy_eq {α : Type} (s : Queue.One α) (i : In α) :
    QueueGen.Q.BypassQueue1EntryRTL.lambda_enq_rdy_enq_rdy (QBypassQueue1EntryRTLVal s i) = (QBypassQueue1EntryRTLVal s i).enq_rdy := rfl

theorem gen_Q_BypassQueue1EntryRTL_deq_rdy_eq {α : Type} (s : Queue.One α) (i : In α) :
    QueueGen.Q.BypassQueue1EntryRTL.lambda_deq_rdy_deq_rdy (QBypassQueue1EntryRTLVal s i) = (QBypassQueue1EntryRTLVal s i).deq_rdy := rfl

theorem gen_Q_BypassQueue1EntryRTL_full_next_eq {α : Type} (s : Queue.One α) (i : In α) :
    QueueGen.Q.BypassQueue1EntryRTL.ff_bypass1_full_next (QBypassQueue1EntryRTLVal s i) = (q1Step .bypass s i).1.full := rfl

theorem gen_Q_BypassQueue1EntryRTL_entry_next_eq {α : Type} (s : Queue.One α) (i : In α) :
    QueueGen.Q.BypassQueue1EntryRTL.ff_bypass1_entry_next (QBypassQueue1EntryRTLVal s i) = (q1Step .bypass s i).1.entry := rfl

theorem gen_Q_BypassQueue1EntryRTL_bypass_mux__out_eq {α : Type} (s : Queue.One α) (i : In α) :
    QueueGen.Q.BypassQueue1EntryRTL.bypass_mux__up_mux_out (QBypassQueue1EntryRTLVal s i) = (QBypassQueue1EntryRTLVal s i).bypass_mux__out := rfl

theorem gen_Q_BypassQueue1EntryRTL_wires {α : Type} (s : Queue.One α) (i : In α) : QueueGen.Q.BypassQueue1EntryRTL.wires (QBypassQueue1EntryRTLVal s i) :=
  ⟨rfl, rfl, rfl, rfl, rfl⟩

theorem gen_Q_BypassQueue1EntryRTL_widths : QueueGen.Q.BypassQueue1EntryRTL.widths =
    [("enq_en", 1), ("enq_rdy", 1), ("enq_msg", 0), ("deq_en", 1), ("deq_rdy", 1), ("deq_ret", 0), ("count", 1), ("entry", 0), ("full", 1)] := rfl

theorem gen_Q_BypassQueue1EntryRTL_side : QueueGen.Q.BypassQueue1EntryRTL.side :=
  trivial

theorem gen_Q_BypassQueue1EntryRTL_out {α : Type} (s : Queue.One α) (i : In α) :
    (q1Step .bypass s i).2.ret = (if (q1Step .bypass s i).2.deqRdy then some (QBypassQueue1EntryRTLVal s i).deq_ret else none) ∧ (q1Step .bypass s i).2.count = b2n s.full :=
  ⟨rfl, rfl⟩

/-! ## S.NormalQueue1EntryRTL -/

/-- the signals of `NormalQueue1EntryRTL` as terms of the model -/
def SNormalQueue1EntryRTLVal {α : Type} (s : Queue.One α) (i : In α) : QueueGen.S.NormalQueue1EntryRTL.Sig α :=
  { reset := i.rst,
    recv_msg := i.msg,
    recv_val := i.enq,
    recv_rdy := (s1Step .normal s i).2.enqRdy,
    send_msg := s.entry,
    send_val := (s1Step .normal s i).2.deqRdy,
    send_rdy := i.deq,
    count := s.full,
    full := s.full,
    entry := s.entry }

theorem gen_S_NormalQueue1EntryRTL_recv_rdy_eq {α : Type} (s : Queue.One α) (i : In α) :
    QueueGen.S.NormalQueue1EntryRTL.lambda_recv_rdy_recv_rdy (SNormalQueue1EntryRTLVal s i) = (SNormalQueue1EntryRTLVal s i).recv_rdy := rfl

theorem gen_S_NormalQueue1EntryRTL_full_next_eq {α : Type} (s : Queue.One α) (i : In α) :
    QueueGen.S.NormalQueue1EntryRTL.ff_normal1_full_next (SNormalQueue1EntryRTLVal s i) = (s1Step .normal s i).1.full := rfl

theorem gen_S_NormalQueue1EntryRTL_entry_next_eq {α : Type} (s : Queue.One α) (i : In α) :
    QueueGen.S.NormalQueue1EntryRTL.ff_normal1_entry_next (SNormalQueue1EntryRTLVal s i) = (s1Step .normal s i).1.entry := rfl

theorem gen_S_NormalQueue1EntryRTL_wires {α : Type} (s : Queue.One α) (i : In α) : QueueGen.S.NormalQueue1EntryRTL.wires (SNormalQueue1EntryRTLVal s i) :=
  ⟨rfl, rfl, rfl⟩

theorem gen_S_NormalQueue1EntryRTL_widths : QueueGen.S.NormalQueue1EntryRTL.widths =
    [("recv_msg", 0), ("recv_val", 1), ("recv_rdy", 1), ("send_msg", 0), ("send_val", 1), ("send_rdy", 1), ("count", 1), ("full", 1), ("entry", 0)] := rfl

theorem gen_S_NormalQueue1EntryRTL_side : QueueGen.S.NormalQueue1EntryRTL.side :=
  trivial

theorem gen_S_NormalQueue1EntryRTL_out {α : Type} (s : Queue.One α) (i : In α) :
    (s1Step .normal s i).2.ret = (if (s1Step .normal s i).2.deqRdy then some (SNormalQueue1EntryRTLVal s i).send_msg else none) ∧ (s1Step .normal s i).2.count = b2n s.full :=
  ⟨rfl, rfl⟩

/-! ## S.PipeQueue1EntryRTL -/

/-- the signals of `PipeQueue1EntryRTL` as terms of the model -/
def SPipeQueue1EntryRTLVal {α : Type} (s : Queue.One α) (i : In α) : QueueGen.S.PipeQueue1EntryRTL.Sig α :=
  { reset := i.rst,
    recv_msg := i.msg,
    recv_val := i.enq,
    recv_rdy := (s1Step .pipe s i).2.enqRdy,
    send_msg := s.entry,
    send_val := (s1Step .pipe s i).2.deqRdy,
    send_rdy := i.deq,
    count := s.full,
    full := s.full,
    entry := s.entry }

theorem gen_S_PipeQueue1EntryRTL_recv_rdy_eq {α : Type} (s : Queue.One α) (i : In α) :
    QueueGen.S.PipeQueue1EntryRTL.lambda_recv_rdy_recv_rdy (SPipeQueue1EntryRTLVal s i) = (SPipeQueue1EntryRTLVal s i).recv_rdy := rfl

theorem gen_S_PipeQueue1EntryRTL_full_next_eq {α : Type} (s : Queue.One α) (i : In α) :
    QueueGen.S.PipeQueue1EntryRTL.ff_pipe1_full_next (SPipeQueue1EntryRTLVal s i) = (s1Step .pipe s i).1.full := rfl

theorem gen_S_PipeQueue1EntryRTL_entry_next_eq {α : Type} (s : Queue.One α) (i : In α) :
    QueueGen.S.PipeQueue1EntryRTL.ff_pipe1_entry_next (SPipeQueue1EntryRTLVal s i) = (s1Step .pipe s i).1.entry := rfl

theorem gen_S_PipeQueue1EntryRTL_wires {α : Type} (s : Queue.One α) (i : In α) : QueueGen.S.PipeQueue1EntryRTL.wires (SPipeQueue1EntryRTLVal s i) :=
  ⟨rfl, rfl, rfl⟩

theorem gen_S_PipeQueue1EntryRTL_widths : QueueGen.S.PipeQueue1EntryRTL.widths =
    [("recv_msg", 0), ("recv_val", 1), ("recv_rdy", 1), ("send_msg", 0), ("send_val", 1), ("send_rdy", 1), ("count", 1), ("full", 1), ("entry", 0)] := rfl

theorem gen_S_PipeQueue1EntryRTL_side : QueueGen.S.PipeQueue1EntryRTL.side :=
  trivial

theorem gen_S_PipeQueue1EntryRTL_out {α : Type} (s : Queue.One α) (i : In α) :
    (s1Step .pipe s i).2.ret = (if (s1Step .pipe s i).2.deqRdy then some (SPipeQueue1EntryRTLVal s i).send_msg else none) ∧ (s1Step .pipe s i).2.count = b2n s.full :=
  ⟨rfl, rfl⟩

/-! ## S.BypassQueue1EntryRTL -/

/-- the signals of `BypassQueue1EntryRTL` as terms of the model -/
def SBypassQueue1EntryRTLVal {α : Type} (s : Queue.One α) (i : In α) : QueueGen.S.BypassQueue1EntryRTL.Sig α :=
  { reset := i.rst,
    recv_msg := i.msg,
    recv_val := i.enq,
    recv_rdy := (s1Step .bypass s i).2.enqRdy,
    send_msg := (if s.full then s.entry else i.msg),
    send_val := (s1Step .bypass s i).2.deqRdy,
    send_rdy := i.deq,
    count := s.full,
    full := s.full,
    entry := s.entry,
    bypass_mux__in__0 := i.msg,
    bypass_mux__in__1 := s.entry,
    bypass_mux__out := (if s.full then s.entry else i.msg),
    bypass_mux__sel := s.full }

theorem gen_S_BypassQueue1EntryRTL_send_val_eq {α : Type} (s : Queue.One α) (i : In α) :
    QueueGen.S.BypassQueue1EntryRTL.lambda_send_val_send_val (SBypassQueue1EntryRTLVal s i) = (SBypassQueue1EntryRTLVal s i).send_val := rfl

theorem gen_S_BypassQueue1EntryRTL_recv_rdy_eq {α : Type} (s : Queue.One α) (i : In α) :
    QueueGen.S.BypassQueue1EntryRTL.lambda_recv_rdy_recv_rdy (SBypassQueue1EntryRTLVal s i) = (SBypassQueue1EntryRTLVal s i).recv_rdy := rfl

theorem gen_S_BypassQueue1EntryRTL_full_next_eq {α : Type} (s : Queue.One α) (i : In α) :
    QueueGen.S.BypassQueue1EntryRTL.ff_bypass1_full_next (SBypassQueue1EntryRTLVal s i) = (s1Step .bypass s i).1.full := rfl

theorem gen_S_BypassQueue1EntryRTL_entry_next_eq {α : Type} (s : Queue.One α) (i : In α) :
    QueueGen.S.BypassQueue1EntryRTL.ff_bypass1_entry_next (SBypassQueue1EntryRTLVal s i) = (s1Step .bypass s i).1.entry := rfl

theorem gen_S_BypassQueue1EntryRTL_bypass_mux__out_eq {α : Type} (s : Queue.One α) (i : In α) :
    QueueGen.S.BypassQueue1EntryRTL.bypass_mux__up_mux_out (SBypassQueue1EntryRTLVal s i) = (SBypassQueue1EntryRTLVal s i).bypass_mux__out := rfl

theorem gen_S_BypassQueue1EntryRTL_wires {α : Type} (s : Queue.One α) (i : In α) : QueueGen.S.BypassQueue1EntryRTL.wires (SBypassQueue1EntryRTLVal s i) :=
  ⟨rfl, rfl, rfl, rfl, rfl⟩

theorem gen_S_BypassQueue1EntryRTL_widths : QueueGen.S.BypassQueue1EntryRTL.widths =
    [("recv_msg", 0), ("recv_val", 1), ("recv_rdy", 1), ("send_msg", 0), ("send_val", 1), ("send_rdy", 1), ("count", 1), ("full", 1), ("entry", 0)] := rfl

theorem gen_S_BypassQueue1EntryRTL_side : QueueGen.S.BypassQueue1EntryRTL.side :=
  trivial

theorem gen_S_BypassQueue1EntryRTL_out {α : Type} (s : Queue.One α) (i : In α) :
    (s1Step .bypass s i).2.ret = (if (s1Step .bypass s i).2.deqRdy then some (SBypassQueue1EntryRTLVal s i).send_msg else none) ∧ (s1Step .bypass s i).2.count = b2n s.full :=
  ⟨rfl, rfl⟩

/-! ## ER.PipeQueue1RTL -/

/-- the signals of `PipeQueue1RTL` as terms of the model -/
def ERPipeQueue1RTLVal {α : Type} (s : Queue.One α) (i : In α) : QueueGen.ER.PipeQueue1RTL.Sig α :=
  { reset := i.rst,
    enq_msg := i.msg,
    enq_en := i.enq,
    enq_rdy := (er1Step .pipe s i).2.enqRdy,
    deq_msg := s.entry,
    deq_en := (er1Step .pipe s i).2.deqRdy,
    deq_rdy := i.deq,
    buffer__out := s.entry,
    buffer__in_ := i.msg,
    buffer__en := i.enq,
    full__out := s.full,
    full__in_ := (er1Step .pipe s i).1.full }

theorem gen_ER_PipeQueue1RTL_deq_en_eq {α : Type} (s : Queue.One α) (i : In α) :
    QueueGen.ER.PipeQueue1RTL.up_pipeq_use_deq_rdy_deq_en (ERPipeQueue1RTLVal s i) = (ERPipeQueue1RTLVal s i).deq_en := rfl

theorem gen_ER_PipeQueue1RTL_enq_rdy_eq {α : Type} (s : Queue.One α) (i : In α) :
    QueueGen.ER.PipeQueue1RTL.up_pipeq_use_deq_rdy_enq_rdy (ERPipeQueue1RTLVal s i) = (ERPipeQueue1RTLVal s i).enq_rdy := rfl

theorem gen_ER_PipeQueue1RTL_full__in__eq {α : Type} (s : Queue.One α) (i : In α) :
    QueueGen.ER.PipeQueue1RTL.up_pipeq_full_full__in_ (ERPipeQueue1RTLVal s i) = (ERPipeQueue1RTLVal s i).full__in_ := rfl

theorem gen_ER_PipeQueue1RTL_buffer__out_next_eq {α : Type} (s : Queue.One α) (i : In α) :
    QueueGen.ER.PipeQueue1RTL.buffer__up_regen_out_next (ERPipeQueue1RTLVal s i) = (er1Step .pipe s i).1.entry := rfl

theorem gen_ER_PipeQueue1RTL_full__out_next_eq {α : Type} (s : Queue.One α) (i : In α) :
    QueueGen.ER.PipeQueue1RTL.full__up_reg_out_next (ERPipeQueue1RTLVal s i) = (er1Step .pipe s i).1.full := rfl

theorem gen_ER_PipeQueue1RTL_wires {α : Type} (s : Queue.One α) (i : In α) : QueueGen.ER.PipeQueue1RTL.wires (ERPipeQueue1RTLVal s i) :=
  ⟨rfl, rfl, rfl⟩

theorem gen_ER_PipeQueue1RTL_widths : QueueGen.ER.PipeQueue1RTL.widths =
    [("enq_msg", 0), ("enq_en", 1), ("enq_rdy", 1), ("deq_msg", 0), ("deq_en", 1), ("deq_rdy", 1)] := rfl

theorem gen_ER_PipeQueue1RTL_side : QueueGen.ER.PipeQueue1RTL.side :=
  trivial

theorem gen_ER_PipeQueue1RTL_out {α : Type} (s : Queue.One α) (i : In α) :
    (er1Step .pipe s i).2.ret = (if (er1Step .pipe s i).2.deqRdy then some (ERPipeQueue1RTLVal s i).deq_msg else none) ∧ (er1Step .pipe s i).2.count = b2n s.full :=
  ⟨rfl, rfl⟩

/-! ## ER.BypassQueue1RTL -/

/-- the signals of `BypassQueue1RTL` as terms of the model -/
def ERBypassQueue1RTLVal {α : Type} (s : Queue.One α) (i : In α) : QueueGen.ER.BypassQueue1RTL.Sig α :=
  { reset := i.rst,
    enq_msg := i.msg,
    enq_en := i.enq,
    enq_rdy := (er1Step .bypass s i).2.enqRdy,
    deq_msg := (if s.full then s.entry else i.msg),
    deq_en := (er1Step .bypass s i).2.deqRdy,
    deq_rdy := i.deq,
    buffer__out := s.entry,
    buffer__in_ := i.msg,
    buffer__en := (i.enq && !(er1Step .bypass s i).2.deqRdy),
    full__out := s.full,
    full__in_ := ((i.enq || s.full) && !(er1Step .bypass s i).2.deqRdy),
    byp_mux__in__0 := i.msg,
    byp_mux__in__1 := s.entry,
    byp_mux__out := (if s.full then s.entry else i.msg),
    byp_mux__sel := s.full }

theorem gen_ER_BypassQueue1RTL_enq_rdy_eq {α : Type} (s : Queue.One α) (i : In α) :
    QueueGen.ER.BypassQueue1RTL.up_bypq_set_enq_rdy_enq_rdy (ERBypassQueue1RTLVal s i) = (ERBypassQueue1RTLVal s i).enq_rdy := rfl

theorem gen_ER_BypassQueue1RTL_deq_en_eq {α : Type} (s : Queue.One α) (i : In α) :
    QueueGen.ER.BypassQueue1RTL.up_bypq_use_enq_en_deq_en (ERBypassQueue1RTLVal s i) = (ERBypassQueue1RTLVal s i).deq_en := rfl

theorem gen_ER_BypassQueue1RTL_buffer__en_eq {α : Type} (s : Queue.One α) (i : In α) :
    QueueGen.ER.BypassQueue1RTL.up_bypq_use_enq_en_buffer__en (ERBypassQueue1RTLVal s i) = (ERBypassQueue1RTLVal s i).buffer__en := rfl

theorem gen_ER_BypassQueue1RTL_full__in__eq {α : Type} (s : Queue.One α) (i : In α) :
    QueueGen.ER.BypassQueue1RTL.up_bypq_use_enq_en_full__in_ (ERBypassQueue1RTLVal s i) = (ERBypassQueue1RTLVal s i).full__in_ := rfl

theorem gen_ER_BypassQueue1RTL_buffer__out_next_eq {α : Type} (s : Queue.One α) (i : In α) :
    QueueGen.ER.BypassQueue1RTL.buffer__up_regen_out_next (ERBypassQueue1RTLVal s i) = (er1Step .bypass s i).1.entry := rfl

theorem gen_ER_BypassQueue1RTL_full__out_next_eq {α : Type} (s : Queue.One α) (i : In α) :
    QueueGen.ER.BypassQueue1RTL.full__up_regrst_out_next (ERBypassQueue1RTLVal s i) = (er1Step .bypass s i).1.full := rfl

theorem gen_ER_BypassQueue1RTL_byp_mux__out_eq {α : Type} (s : Queue.One α) (i : In α) :
    QueueGen.ER.BypassQueue1RTL.byp_mux__up_mux_out (ERBypassQueue1RTLVal s i) = (ERBypassQueue1RTLVal s i).byp_mux__out := rfl

theorem gen_ER_BypassQueue1RTL_wires {α : Type} (s : Queue.One α) (i : In α) : QueueGen.ER.BypassQueue1RTL.wires (ERBypassQueue1RTLVal s i) :=
  ⟨rfl, rfl, rfl, rfl, rfl⟩

theorem gen_ER_BypassQueue1RTL_widths : QueueGen.ER.BypassQueue1RTL.widths =
    [("enq_msg", 0), ("enq_en", 1), ("enq_rdy", 1), ("deq_msg", 0), ("deq_en", 1), ("deq_rdy", 1)] := rfl

theorem gen_ER_BypassQueue1RTL_side : QueueGen.ER.BypassQueue1RTL.side :=
  trivial

theorem gen_ER_BypassQueue1RTL_out {α : Type} (s : Queue.One α) (i : In α) :
    (er1Step .bypass s i).2.ret = (if (er1Step .bypass s i).2.deqRdy then some (ERBypassQueue1RTLVal s i).deq_msg else none) ∧ (er1Step .bypass s i).2.count = b2n s.full :=
  ⟨rfl, rfl⟩

/-! ## ER.NormalQueue1RTL -/

/-- the signals of `NormalQueue1RTL` as terms of the model -/
def ERNormalQueue1RTLVal {α : Type} (s : Queue.One α) (i : In α) : QueueGen.ER.NormalQueue1RTL.Sig α :=
  { reset := i.rst,
    enq_msg := i.msg,
    enq_en := i.enq,
    enq_rdy := (er1Step .normal s i).2.enqRdy,
    deq_msg := s.entry,
    deq_en := (er1Step .normal s i).2.deqRdy,
    deq_rdy := i.deq,
    buffer__out := s.entry,
    buffer__in_ := i.msg,
    buffer__en := i.enq,
    full__out := s.full,
    full__in_ := (er1Step .normal s i).1.full }

theorem gen_ER_NormalQueue1RTL_enq_rdy_eq {α : Type} (s : Queue.One α) (i : In α) :
    QueueGen.ER.NormalQueue1RTL.up_normq_set_enq_rdy_enq_rdy (ERNormalQueue1RTLVal s i) = (ERNormalQueue1RTLVal s i).enq_rdy := rfl

theorem gen_ER_NormalQueue1RTL_deq_en_eq {α : Type} (s : Queue.One α) (i : In α) :
    QueueGen.ER.NormalQueue1RTL.up_normq_full_deq_en (ERNormalQueue1RTLVal s i) = (ERNormalQueue1RTLVal s i).deq_en := rfl

theorem gen_ER_NormalQueue1RTL_full__in__eq {α : Type} (s : Queue.One α) (i : In α) :
    QueueGen.ER.NormalQueue1RTL.up_normq_full_full__in_ (ERNormalQueue1RTLVal s i) = (ERNormalQueue1RTLVal s i).full__in_ := rfl

theorem gen_ER_NormalQueue1RTL_buffer__out_next_eq {α : Type} (s : Queue.One α) (i : In α) :
    QueueGen.ER.NormalQueue1RTL.buffer__up_regen_out_next (ERNormalQueue1RTLVal s i) = (er1Step .normal s i).1.entry := rfl

theorem gen_ER_NormalQueue1RTL_full__out_next_eq {α : Type} (s : Queue.One α) (i : In α) :
    QueueGen.ER.NormalQueue1RTL.full__up_reg_out_next (ERNormalQueue1RTLVal s i) = (er1Step .normal s i).1.full := rfl

theorem gen_ER_NormalQueue1RTL_wires {α : Type} (s : Queue.One α) (i : In α) : QueueGen.ER.NormalQueue1RTL.wires (ERNormalQueue1RTLVal s i) :=
  ⟨rfl, rfl, rfl⟩

theorem gen_ER_NormalQueue1RTL_widths : QueueGen.ER.NormalQueue1RTL.widths =
    [("enq_msg", 0), ("enq_en", 1), ("enq_rdy", 1), ("deq_msg", 0), ("deq_en", 1), ("deq_rdy", 1)] := rfl

theorem gen_ER_NormalQueue1RTL_side : QueueGen.ER.NormalQueue1RTL.side :=
  trivial

theorem gen_ER_NormalQueue1RTL_out {α : Type} (s : Queue.One α) (i : In α) :
    (er1Step .normal s i).2.ret = (if (er1Step .normal s i).2.deqRdy then some (ERNormalQueue1RTLVal s i).deq_msg else none) ∧ (er1Step .normal s i).2.count = b2n s.full :=
  ⟨rfl, rfl⟩

/-! ## VR.PipeQueue1RTL -/

/-- the signals of `PipeQueue1RTL` as terms of the model -/
def VRPipeQueue1RTLVal {α : Type} (s : Queue.One α) (i : In α) : QueueGen.VR.PipeQueue1RTL.Sig α :=
  { reset := i.rst,
    enq_msg := i.msg,
    enq_val := i.enq,
    enq_rdy := (v1Step .pipe s i).2.enqRdy,
    deq_msg := s.entry,
    deq_val := (v1Step .pipe s i).2.deqRdy,
    deq_rdy := i.deq,
    buffer__out := s.entry,
    buffer__in_ := i.msg,
    buffer__en := (i.enq && (v1Step .pipe s i).2.enqRdy),
    next_full := (v1Step .pipe s i).1.full,
    full := s.full }

theorem gen_VR_PipeQueue1RTL_full_next_eq {α : Type} (s : Queue.One α) (i : In α) :
    QueueGen.VR.PipeQueue1RTL.up_full_full_next (VRPipeQueue1RTLVal s i) = (v1Step .pipe s i).1.full := rfl

theorem gen_VR_PipeQueue1RTL_enq_rdy_eq {α : Type} (s : Queue.One α) (i : In α) :
    QueueGen.VR.PipeQueue1RTL.up_pipeq_set_enq_rdy_enq_rdy (VRPipeQueue1RTLVal s i) = (VRPipeQueue1RTLVal s i).enq_rdy := rfl

theorem gen_VR_PipeQueue1RTL_buffer__en_eq {α : Type} (s : Queue.One α) (i : In α) :
    QueueGen.VR.PipeQueue1RTL.up_pipeq_full_buffer__en (VRPipeQueue1RTLVal s i) = (VRPipeQueue1RTLVal s i).buffer__en := rfl

theorem gen_VR_PipeQueue1RTL_next_full_eq {α : Type} (s : Queue.One α) (i : In α) :
    QueueGen.VR.PipeQueue1RTL.up_pipeq_full_next_full (VRPipeQueue1RTLVal s i) = (VRPipeQueue1RTLVal s i).next_full := rfl

theorem gen_VR_PipeQueue1RTL_buffer__out_next_eq {α : Type} (s : Queue.One α) (i : In α) :
    QueueGen.VR.PipeQueue1RTL.buffer__up_regen_out_next (VRPipeQueue1RTLVal s i) = (v1Step .pipe s i).1.entry := rfl

theorem gen_VR_PipeQueue1RTL_wires {α : Type} (s : Queue.One α) (i : In α) : QueueGen.VR.PipeQueue1RTL.wires (VRPipeQueue1RTLVal s i) :=
  ⟨rfl, rfl, rfl⟩

theorem gen_VR_PipeQueue1RTL_widths : QueueGen.VR.PipeQueue1RTL.widths =
    [("enq_msg", 0), ("enq_val", 1), ("enq_rdy", 1), ("deq_msg", 0), ("deq_val", 1), ("deq_rdy", 1), ("next_full", 1), ("full", 1)] := rfl

theorem gen_VR_PipeQueue1RTL_side : QueueGen.VR.PipeQueue1RTL.side :=
  trivial

theorem gen_VR_PipeQueue1RTL_out {α : Type} (s : Queue.One α) (i : In α) :
    (v1Step .pipe s i).2.ret = (if (v1Step .pipe s i).2.deqRdy then some (VRPipeQueue1RTLVal s i).deq_msg else none) ∧ (v1Step .pipe s i).2.count = b2n s.full :=
  ⟨rfl, rfl⟩

/-! ## VR.BypassQueue1RTL -/

/-- the signals of `BypassQueue1RTL` as terms of the model -/
def VRBypassQueue1RTLVal {α : Type} (s : Queue.One α) (i : In α) : QueueGen.VR.BypassQueue1RTL.Sig α :=
  { reset := i.rst,
    enq_msg := i.msg,
    enq_val := i.enq,
    enq_rdy := (v1Step .bypass s i).2.enqRdy,
    deq_msg := (if s.full then s.entry else i.msg),
    deq_val := (v1Step .bypass s i).2.deqRdy,
    deq_rdy := i.deq,
    buffer__out := s.entry,
    buffer__in_ := i.msg,
    buffer__en := (!i.deq && (i.enq && (v1Step .bypass s i).2.enqRdy)),
    next_full := (v1Step .bypass s i).1.full,
    full := s.full,
    byp_mux__in__0 := i.msg,
    byp_mux__in__1 := s.entry,
    byp_mux__out := (if s.full then s.entry else i.msg),
    byp_mux__sel := s.full }

theorem gen_VR_BypassQueue1RTL_full_next_eq {α : Type} (s : Queue.One α) (i : In α) :
    QueueGen.VR.BypassQueue1RTL.up_full_full_next (VRBypassQueue1RTLVal s i) = (v1Step .bypass s i).1.full := rfl

theorem gen_VR_BypassQueue1RTL_enq_rdy_eq {α : Type} (s : Queue.One α) (i : In α) :
    QueueGen.VR.BypassQueue1RTL.up_bypq_set_enq_rdy_enq_rdy (VRBypassQueue1RTLVal s i) = (VRBypassQueue1RTLVal s i).enq_rdy := rfl

theorem gen_VR_BypassQueue1RTL_buffer__en_eq {α : Type} (s : Queue.One α) (i : In α) :
    QueueGen.VR.BypassQueue1RTL.up_bypq_internal_buffer__en (VRBypassQueue1RTLVal s i) = (VRBypassQueue1RTLVal s i).buffer__en := rfl

theorem gen_VR_BypassQueue1RTL_next_full_eq {α : Type} (s : Queue.One α) (i : In α) :
    QueueGen.VR.BypassQueue1RTL.up_bypq_internal_next_full (VRBypassQueue1RTLVal s i) = (VRBypassQueue1RTLVal s i).next_full := rfl

theorem gen_VR_BypassQueue1RTL_deq_val_eq {α : Type} (s : Queue.One α) (i : In α) :
    QueueGen.VR.BypassQueue1RTL.up_bypq_set_deq_val_deq_val (VRBypassQueue1RTLVal s i) = (VRBypassQueue1RTLVal s i).deq_val := rfl

theorem gen_VR_BypassQueue1RTL_buffer__out_next_eq {α : Type} (s : Queue.One α) (i : In α) :
    QueueGen.VR.BypassQueue1RTL.buffer__up_regen_out_next (VRBypassQueue1RTLVal s i) = (v1Step .bypass s i).1.entry := rfl

theorem gen_VR_BypassQueue1RTL_byp_mux__out_eq {α : Type} (s : Queue.One α) (i : In α) :
    QueueGen.VR.BypassQueue1RTL.byp_mux__up_mux_out (VRBypassQueue1RTLVal s i) = (VRBypassQueue1RTLVal s i).byp_mux__out := rfl

theorem gen_VR_BypassQueue1RTL_wires {α : Type} (s : Queue.One α) (i : In α) : QueueGen.VR.BypassQueue1RTL.wires (VRBypassQueue1RTLVal s i) :=
  ⟨rfl, rfl, rfl, rfl, rfl⟩

theorem gen_VR_BypassQueue1RTL_widths : QueueGen.VR.BypassQueue1RTL.widths =
    [("enq_msg", 0), ("enq_val", 1), ("enq_rdy", 1), ("deq_msg", 0), ("deq_val", 1), ("deq_rdy", 1), ("next_full", 1), ("full", 1)] := rfl

theorem gen_VR_BypassQueue1RTL_side : QueueGen.VR.BypassQueue1RTL.side :=
  trivial

theorem gen_VR_BypassQueue1RTL_out {α : Type} (s : Queue.One α) (i : In α) :
    (v1Step .bypass s i).2.ret = (if (v1Step .bypass s i).2.deqRdy then some (VRBypassQueue1RTLVal s i).deq_msg else none) ∧ (v1Step .bypass s i).2.count = b2n s.full :=
  ⟨rfl, rfl⟩

/-! ## VR.NormalQueue1RTL -/

/-- the signals of `NormalQueue1RTL` as terms of the model -/
def VRNormalQueue1RTLVal {α : Type} (s : Queue.One α) (i : In α) : QueueGen.VR.NormalQueue1RTL.Sig α :=
  { reset := i.rst,
    enq_msg := i.msg,
    enq_val := i.enq,
    enq_rdy := (v1Step .normal s i).2.enqRdy,
    deq_msg := s.entry,
    deq_val := (v1Step .normal s i).2.deqRdy,
    deq_rdy := i.deq,
    buffer__out := s.entry,
    buffer__in_ := i.msg,
    buffer__en := (i.enq && (v1Step .normal s i).2.enqRdy),
    next_full := (v1Step .normal s i).1.full,
    full := s.full }

theorem gen_VR_NormalQueue1RTL_full_next_eq {α : Type} (s : Queue.One α) (i : In α) :
    QueueGen.VR.NormalQueue1RTL.up_full_full_next (VRNormalQueue1RTLVal s i) = (v1Step .normal s i).1.full := rfl

theorem gen_VR_NormalQueue1RTL_enq_rdy_eq {α : Type} (s : Queue.One α) (i : In α) :
    QueueGen.VR.NormalQueue1RTL.up_normq_set_enq_rdy_enq_rdy (VRNormalQueue1RTLVal s i) = (VRNormalQueue1RTLVal s i).enq_rdy := rfl

theorem gen_VR_NormalQueue1RTL_buffer__en_eq {α : Type} (s : Queue.One α) (i : In α) :
    QueueGen.VR.NormalQueue1RTL.up_normq_internal_buffer__en (VRNormalQueue1RTLVal s i) = (VRNormalQueue1RTLVal s i).buffer__en := rfl

theorem gen_VR_NormalQueue1RTL_next_full_eq {α : Type} (s : Queue.One α) (i : In α) :
    QueueGen.VR.NormalQueue1RTL.up_normq_internal_next_full (VRNormalQueue1RTLVal s i) = (VRNormalQueue1RTLVal s i).next_full := rfl

theorem gen_VR_NormalQueue1RTL_buffer__out_next_eq {α : Type} (s : Queue.One α) (i : In α) :
    QueueGen.VR.NormalQueue1RTL.buffer__up_regen_out_next (VRNormalQueue1RTLVal s i) = (v1Step .normal s i).1.entry := rfl

theorem gen_VR_NormalQueue1RTL_wires {α : Type} (s : Queue.One α) (i : In α) : QueueGen.VR.NormalQueue1RTL.wires (VRNormalQueue1RTLVal s i) :=
  ⟨rfl, rfl, rfl⟩

theorem gen_VR_NormalQueue1RTL_widths : QueueGen.VR.NormalQueue1RTL.widths =
    [("enq_msg", 0), ("enq_val", 1), ("enq_rdy", 1), ("deq_msg", 0), ("deq_val", 1), ("deq_rdy", 1), ("next_full", 1), ("full", 1)] := rfl

theorem gen_VR_NormalQueue1RTL_side : QueueGen.VR.NormalQueue1RTL.side :=
  trivial

theorem gen_VR_NormalQueue1RTL_out {α : Type} (s : Queue.One α) (i : In α) :
    (v1Step .normal s i).2.ret = (if (v1Step .normal s i).2.deqRdy then some (VRNormalQueue1RTLVal s i).deq_msg else none) ∧ (v1Step .normal s i).2.count = b2n s.full :=
  ⟨rfl, rfl⟩

/-! ## VR.NormalQueueRTLCtrl -/

/-- the signals of `NormalQueueRTLCtrl` as terms of the model -/
def VRNormalQueueRTLCtrlVal {α : Type} (n : Nat) (s : VRing α) (i : In α) : QueueGen.VR.NormalQueueRTLCtrl.Sig :=
  { reset := i.rst,
    enq_val := i.enq,
    enq_rdy := (!s.full),
    deq_val := (!(!s.full && decide (s.enqPtr = s.deqPtr))),
    deq_rdy := i.deq,
    num_free_entries := (vrStep n s i).2.count,
    wen := (!s.full && i.enq),
    waddr := s.enqPtr,
    raddr := s.deqPtr,
    full := s.full,
    empty := (!s.full && decide (s.enqPtr = s.deqPtr)),
    do_enq := (!s.full && i.enq),
    do_deq := (i.deq && !(!s.full && decide (s.enqPtr = s.deqPtr))),
    enq_ptr := s.enqPtr,
    deq_ptr := s.deqPtr,
    enq_ptr_next := (if (!s.full && i.enq) then (if s.enqPtr = trunc (Queue.clog2 n) (n - 1) then 0 else trunc (Queue.clog2 n) (s.enqPtr + 1)) else s.enqPtr),
    deq_ptr_next := (if (i.deq && !(!s.full && decide (s.enqPtr = s.deqPtr))) then (if s.deqPtr = trunc (Queue.clog2 n) (n - 1) then 0 else trunc (Queue.clog2 n) (s.deqPtr + 1)) else s.deqPtr),
    enq_ptr_inc := (if s.enqPtr = trunc (Queue.clog2 n) (n - 1) then 0 else trunc (Queue.clog2 n) (s.enqPtr + 1)),
    deq_ptr_inc := (if s.deqPtr = trunc (Queue.clog2 n) (n - 1) then 0 else trunc (Queue.clog2 n) (s.deqPtr + 1)),
    full_next_cycle := ((!s.full && i.enq) && !(i.deq && !(!s.full && decide (s.enqPtr = s.deqPtr))) && decide ((if (!s.full && i.enq) then (if s.enqPtr = trunc (Queue.clog2 n) (n - 1) then 0 else trunc (Queue.clog2 n) (s.enqPtr + 1)) else s.enqPtr) = s.deqPtr)),
    num_free_entries__latch := s.nfe }

theorem gen_VR_NormalQueueRTLCtrl_do_enq_eq {α : Type} (n : Nat) (s : VRing α) (i : In α) :
    QueueGen.VR.NormalQueueRTLCtrl.comb_do_enq n (VRNormalQueueRTLCtrlVal n s i) = (VRNormalQueueRTLCtrlVal n s i).do_enq := rfl

theorem gen_VR_NormalQueueRTLCtrl_do_deq_eq {α : Type} (n : Nat) (s : VRing α) (i : In α) :
    QueueGen.VR.NormalQueueRTLCtrl.comb_do_deq n (VRNormalQueueRTLCtrlVal n s i) = (VRNormalQueueRTLCtrlVal n s i).do_deq := rfl

theorem gen_VR_NormalQueueRTLCtrl_wen_eq {α : Type} (n : Nat) (s : VRing α) (i : In α) :
    QueueGen.VR.NormalQueueRTLCtrl.comb_wen n (VRNormalQueueRTLCtrlVal n s i) = (VRNormalQueueRTLCtrlVal n s i).wen := rfl

theorem gen_VR_NormalQueueRTLCtrl_enq_ptr_inc_eq {α : Type} (n : Nat) (s : VRing α) (i : In α) :
    QueueGen.VR.NormalQueueRTLCtrl.comb_enq_ptr_inc n (VRNormalQueueRTLCtrlVal n s i) = (VRNormalQueueRTLCtrlVal n s i).enq_ptr_inc :=
  (vrInc_eq_gen n s.enqPtr).symm

theorem gen_VR_NormalQueueRTLCtrl_deq_ptr_inc_eq {α : Type} (n : Nat) (s : VRing α) (i : In α) :
    QueueGen.VR.NormalQueueRTLCtrl.comb_deq_ptr_inc n (VRNormalQueueRTLCtrlVal n s i) = (VRNormalQueueRTLCtrlVal n s i).deq_ptr_inc :=
  (vrInc_eq_gen n s.deqPtr).symm

theorem gen_VR_NormalQueueRTLCtrl_enq_ptr_next_eq {α : Type} (n : Nat) (s : VRing α) (i : In α) :
    QueueGen.VR.NormalQueueRTLCtrl.comb_enq_ptr_next n (VRNormalQueueRTLCtrlVal n s i) = (VRNormalQueueRTLCtrlVal n s i).enq_ptr_next := by
  simp only [VRNormalQueueRTLCtrlVal, vrInc_eq_gen]; rfl

theorem gen_VR_NormalQueueRTLCtrl_deq_ptr_next_eq {α : Type} (n : Nat) (s : VRing α) (i : In α) :
    QueueGen.VR.NormalQueueRTLCtrl.comb_deq_ptr_next n (VRNormalQueueRTLCtrlVal n s i) = (VRNormalQueueRTLCtrlVal n s i).deq_ptr_next := by
  simp only [VRNormalQueueRTLCtrlVal, vrInc_eq_gen]; rfl

theorem gen_VR_NormalQueueRTLCtrl_num_free_entries_eq {α : Type} (n : Nat) (s : VRing α) (i : In α) :
    QueueGen.VR.NormalQueueRTLCtrl.comb_num_free_entries n (VRNormalQueueRTLCtrlVal n s i) = (VRNormalQueueRTLCtrlVal n s i).num_free_entries := by
  simp only [QueueGen.VR.NormalQueueRTLCtrl.comb_num_free_entries, decide_eq_true_eq]
  show _ = (vrStep n s i).2.count
  unfold vrStep
  simp only [numEntries_eq]; rfl

theorem gen_VR_NormalQueueRTLCtrl_full_next_cycle_eq {α : Type} (n : Nat) (s : VRing α) (i : In α) :
    QueueGen.VR.NormalQueueRTLCtrl.comb_full_next_cycle n (VRNormalQueueRTLCtrlVal n s i) = (VRNormalQueueRTLCtrlVal n s i).full_next_cycle := by
  simp only [VRNormalQueueRTLCtrlVal, vrInc_eq_gen]; rfl

theorem gen_VR_NormalQueueRTLCtrl_empty_eq {α : Type} (n : Nat) (s : VRing α) (i : In α) :
    QueueGen.VR.NormalQueueRTLCtrl.up_ctrl_signals_empty n (VRNormalQueueRTLCtrlVal n s i) = (VRNormalQueueRTLCtrlVal n s i).empty := rfl

theorem gen_VR_NormalQueueRTLCtrl_enq_rdy_eq {α : Type} (n : Nat) (s : VRing α) (i : In α) :
    QueueGen.VR.NormalQueueRTLCtrl.up_ctrl_signals_enq_rdy n (VRNormalQueueRTLCtrlVal n s i) = (VRNormalQueueRTLCtrlVal n s i).enq_rdy := rfl

theorem gen_VR_NormalQueueRTLCtrl_deq_val_eq {α : Type} (n : Nat) (s : VRing α) (i : In α) :
    QueueGen.VR.NormalQueueRTLCtrl.up_ctrl_signals_deq_val n (VRNormalQueueRTLCtrlVal n s i) = (VRNormalQueueRTLCtrlVal n s i).deq_val := rfl

theorem gen_VR_NormalQueueRTLCtrl_waddr_eq {α : Type} (n : Nat) (s : VRing α) (i : In α) :
    QueueGen.VR.NormalQueueRTLCtrl.up_ctrl_signals_waddr n (VRNormalQueueRTLCtrlVal n s i) = (VRNormalQueueRTLCtrlVal n s i).waddr := rfl

theorem gen_VR_NormalQueueRTLCtrl_raddr_eq {α : Type} (n : Nat) (s : VRing α) (i : In α) :
    QueueGen.VR.NormalQueueRTLCtrl.up_ctrl_signals_raddr n (VRNormalQueueRTLCtrlVal n s i) = (VRNormalQueueRTLCtrlVal n s i).raddr := rfl

theorem gen_VR_NormalQueueRTLCtrl_seq_deq_ptr_next_eq {α : Type} (n : Nat) (s : VRing α) (i : In α) :
    QueueGen.VR.NormalQueueRTLCtrl.seq_deq_ptr_next n (VRNormalQueueRTLCtrlVal n s i) = (vrStep n s i).1.deqPtr := rfl

theorem gen_VR_NormalQueueRTLCtrl_seq_enq_ptr_next_eq {α : Type} (n : Nat) (s : VRing α) (i : In α) :
    QueueGen.VR.NormalQueueRTLCtrl.seq_enq_ptr_next n (VRNormalQueueRTLCtrlVal n s i) = (vrStep n s i).1.enqPtr := rfl

theorem gen_VR_NormalQueueRTLCtrl_full_next_eq {α : Type} (n : Nat) (s : VRing α) (i : In α) :
    QueueGen.VR.NormalQueueRTLCtrl.seq_full_next n (VRNormalQueueRTLCtrlVal n s i) = (vrStep n s i).1.full := rfl

theorem gen_VR_NormalQueueRTLCtrl_wires {α : Type} (n : Nat) (s : VRing α) (i : In α) : QueueGen.VR.NormalQueueRTLCtrl.wires n (VRNormalQueueRTLCtrlVal n s i) :=
  trivial

theorem gen_VR_NormalQueueRTLCtrl_widths (n : Nat) : QueueGen.VR.NormalQueueRTLCtrl.widths n =
    [("enq_val", 1), ("enq_rdy", 1), ("deq_val", 1), ("deq_rdy", 1), ("num_free_entries", Queue.clog2 (n + 1)), ("wen", 1), ("waddr", Queue.clog2 n), ("raddr", Queue.clog2 n), ("full", 1), ("empty", 1), ("do_enq", 1), ("do_deq", 1), ("enq_ptr", Queue.clog2 n), ("deq_ptr", Queue.clog2 n), ("enq_ptr_next", Queue.clog2 n), ("deq_ptr_next", Queue.clog2 n), ("enq_ptr_inc", Queue.clog2 n), ("deq_ptr_inc", Queue.clog2 n), ("full_next_cycle", 1)] := rfl

theorem gen_VR_NormalQueueRTLCtrl_side (n : Nat) (hn : 2 ≤ n) : QueueGen.VR.NormalQueueRTLCtrl.side n :=
  ⟨Nat.le_of_succ_le hn, pred_lt_two_pow_clog2 n (Nat.le_of_succ_le hn), lt_two_pow_clog2_succ n, clog2_mono_succ n, Nat.two_pow_pos _⟩

theorem gen_VR_NormalQueueRTLCtrl_out {α : Type} (n : Nat) (s : VRing α) (i : In α) :
    (vrStep n s i).2.enqRdy = (VRNormalQueueRTLCtrlVal n s i).enq_rdy ∧ (vrStep n s i).2.deqRdy = (VRNormalQueueRTLCtrlVal n s i).deq_val ∧ (vrStep n s i).1.nfe = (VRNormalQueueRTLCtrlVal n s i).num_free_entries :=
  ⟨rfl, rfl, rfl⟩

/-! ## VR.NormalQueueRTLDpath -/

-- the datapath has no signal whose term mentions the capacity; `n` is kept so that all valuations take the same arguments
set_option linter.unusedVariables false in
/-- the signals of `NormalQueueRTLDpath` as terms of the model -/
def VRNormalQueueRTLDpathVal {α : Type} (n : Nat) (s : VRing α) (i : In α) : QueueGen.VR.NormalQueueRTLDpath.Sig α :=
  { reset := i.rst,
    enq_bits := i.msg,
    deq_bits := (s.regs s.deqPtr),
    wen := (!s.full && i.enq),
    waddr := s.enqPtr,
    raddr := s.deqPtr,
    queue__raddr_0 := s.deqPtr,
    queue__rdata_0 := (s.regs s.deqPtr),
    queue__waddr_0 := s.enqPtr,
    queue__wdata_0 := i.msg,
    queue__wen_0 := (!s.full && i.enq),
    queue__regs := s.regs }

theorem gen_VR_NormalQueueRTLDpath_queue__rdata_0_eq {α : Type} (n : Nat) (s : VRing α) (i : In α) :
    QueueGen.VR.NormalQueueRTLDpath.queue__up_rf_read_rdata_0 n (VRNormalQueueRTLDpathVal n s i) = (VRNormalQueueRTLDpathVal n s i).queue__rdata_0 := rfl

theorem gen_VR_NormalQueueRTLDpath_queue__regs_next_eq {α : Type} (n : Nat) (s : VRing α) (i : In α) :
    QueueGen.VR.NormalQueueRTLDpath.queue__up_rf_write_regs_next n (VRNormalQueueRTLDpathVal n s i) = (vrStep n s i).1.regs := rfl

theorem gen_VR_NormalQueueRTLDpath_wires {α : Type} (n : Nat) (s : VRing α) (i : In α) : QueueGen.VR.NormalQueueRTLDpath.wires n (VRNormalQueueRTLDpathVal n s i) :=
  ⟨rfl, rfl, rfl, rfl, rfl⟩

theorem gen_VR_NormalQueueRTLDpath_widths (n : Nat) : QueueGen.VR.NormalQueueRTLDpath.widths n =
    [("enq_bits", 0), ("deq_bits", 0), ("wen", 1), ("waddr", Queue.clog2 n), ("raddr", Queue.clog2 n)] := rfl

theorem gen_VR_NormalQueueRTLDpath_side (n : Nat) (hn : 2 ≤ n) : QueueGen.VR.NormalQueueRTLDpath.side n :=
  max_one_clog2 n hn

theorem gen_VR_NormalQueueRTLDpath_out {α : Type} (n : Nat) (s : VRing α) (i : In α) :
    (vrStep n s i).2.ret = if (vrStep n s i).2.deqRdy then some (VRNormalQueueRTLDpathVal n s i).deq_bits else none := rfl

/-! ## wrapper classes: dispatch on the capacity, instance and connection tables

The expected tables are the wiring the valuations above follow (ctrl ↔ dpath: `wen`, `waddr`, `raddr`, `mux_sel`; interface fields ↔
ctrl / dpath ports; one-entry class for capacity 1), compared by reading; connections are sorted, a pair is unordered. -/

theorem gen_Q_NormalQueueRTL_struct (n : Nat) :
    QueueGen.Q.NormalQueueRTL.ports n = [("enq", "EnqIfcRTL", 0), ("deq", "DeqIfcRTL", 0), ("count", "OutPort", Queue.clog2 (n + 1))] ∧
    QueueGen.Q.NormalQueueRTL.asserts = ["num_entries > 0"] ∧
    QueueGen.Q.NormalQueueRTL.insts_one = [("q", "NormalQueue1EntryRTL(EntryType)")] ∧
    QueueGen.Q.NormalQueueRTL.conns_one = [("count", "q.count"), ("deq", "q.deq"), ("enq", "q.enq")] ∧
    QueueGen.Q.NormalQueueRTL.insts_multi = [("ctrl", "NormalQueueCtrlRTL(num_entries)"), ("dpath", "NormalQueueDpathRTL(EntryType, num_entries)")] ∧
    QueueGen.Q.NormalQueueRTL.conns_multi = [("count", "ctrl.count"), ("ctrl.deq_en", "deq.en"), ("ctrl.deq_rdy", "deq.rdy"), ("ctrl.enq_en", "enq.en"), ("ctrl.enq_rdy", "enq.rdy"), ("ctrl.raddr", "dpath.raddr"), ("ctrl.waddr", "dpath.waddr"), ("ctrl.wen", "dpath.wen"), ("deq.ret", "dpath.deq_ret"), ("dpath.enq_msg", "enq.msg")] :=
  ⟨rfl, rfl, rfl, rfl, rfl, rfl⟩

theorem gen_Q_NormalQueueRTL_dispatch {α : Type} (n : Nat) (d : α) (is : List (In α)) :
    runCls .qNormal n d is = if QueueGen.Q.NormalQueueRTL.sel_one n then run (q1Step .normal) (Queue.One.init d) is else run (ringStep true .normal n) (Ring.init d) is :=
  (if_beq n 1 _ _).symm

theorem gen_Q_PipeQueueRTL_struct (n : Nat) :
    QueueGen.Q.PipeQueueRTL.ports n = [("enq", "EnqIfcRTL", 0), ("deq", "DeqIfcRTL", 0), ("count", "OutPort", Queue.clog2 (n + 1))] ∧
    QueueGen.Q.PipeQueueRTL.asserts = ["num_entries > 0"] ∧
    QueueGen.Q.PipeQueueRTL.insts_one = [("q", "PipeQueue1EntryRTL(EntryType)")] ∧
    QueueGen.Q.PipeQueueRTL.conns_one = [("count", "q.count"), ("deq", "q.deq"), ("enq", "q.enq")] ∧
    QueueGen.Q.PipeQueueRTL.insts_multi = [("ctrl", "PipeQueueCtrlRTL(num_entries)"), ("dpath", "NormalQueueDpathRTL(EntryType, num_entries)")] ∧
    QueueGen.Q.PipeQueueRTL.conns_multi = [("count", "ctrl.count"), ("ctrl.deq_en", "deq.en"), ("ctrl.deq_rdy", "deq.rdy"), ("ctrl.enq_en", "enq.en"), ("ctrl.enq_rdy", "enq.rdy"), ("ctrl.raddr", "dpath.raddr"), ("ctrl.waddr", "dpath.waddr"), ("ctrl.wen", "dpath.wen"), ("deq.ret", "dpath.deq_ret"), ("dpath.enq_msg", "enq.msg")] :=
  ⟨rfl, rfl, rfl, rfl, rfl, rfl⟩

theorem gen_Q_PipeQueueRTL_dispatch {α : Type} (n : Nat) (d : α) (is : List (In α)) :
    runCls .qPipe n d is = if QueueGen.Q.PipeQueueRTL.sel_one n then run (q1Step .pipe) (Queue.One.init d) is else run (ringStep true .pipe n) (Ring.init d) is :=
  (if_beq n 1 _ _).symm

theorem gen_Q_BypassQueueRTL_struct (n : Nat) :
    QueueGen.Q.BypassQueueRTL.ports n = [("enq", "EnqIfcRTL", 0), ("deq", "DeqIfcRTL", 0), ("count", "OutPort", Queue.clog2 (n + 1))] ∧
    QueueGen.Q.BypassQueueRTL.asserts = ["num_entries > 0"] ∧
    QueueGen.Q.BypassQueueRTL.insts_one = [("q", "BypassQueue1EntryRTL(EntryType)")] ∧
    QueueGen.Q.BypassQueueRTL.conns_one = [("count", "q.count"), ("deq", "q.deq"), ("enq", "q.enq")] ∧
    QueueGen.Q.BypassQueueRTL.insts_multi = [("ctrl", "BypassQueueCtrlRTL(num_entries)"), ("dpath", "BypassQueueDpathRTL(EntryType, num_entries)")] ∧
    QueueGen.Q.BypassQueueRTL.conns_multi = [("count", "ctrl.count"), ("ctrl.deq_en", "deq.en"), ("ctrl.deq_rdy", "deq.rdy"), ("ctrl.enq_en", "enq.en"), ("ctrl.enq_rdy", "enq.rdy"), ("ctrl.mux_sel", "dpath.mux_sel"), ("ctrl.raddr", "dpath.raddr"), ("ctrl.waddr", "dpath.waddr"), ("ctrl.wen", "dpath.wen"), ("deq.ret", "dpath.deq_ret"), ("dpath.enq_msg", "enq.msg")] :=
  ⟨rfl, rfl, rfl, rfl, rfl, rfl⟩

theorem gen_Q_BypassQueueRTL_dispatch {α : Type} (n : Nat) (d : α) (is : List (In α)) :
    runCls .qBypass n d is = if QueueGen.Q.BypassQueueRTL.sel_one n then run (q1Step .bypass) (Queue.One.init d) is else run (ringStep true .bypass n) (Ring.init d) is :=
  (if_beq n 1 _ _).symm

theorem gen_S_NormalQueueRTL_struct (n : Nat) :
    QueueGen.S.NormalQueueRTL.ports n = [("recv", "RecvIfcRTL", 0), ("send", "SendIfcRTL", 0), ("count", "OutPort", Queue.clog2 (n + 1))] ∧
    QueueGen.S.NormalQueueRTL.asserts = ["num_entries > 0"] ∧
    QueueGen.S.NormalQueueRTL.insts_one = [("q", "NormalQueue1EntryRTL(EntryType)")] ∧
    QueueGen.S.NormalQueueRTL.conns_one = [("count", "q.count"), ("q.recv", "recv"), ("q.send", "send")] ∧
    QueueGen.S.NormalQueueRTL.insts_multi = [("ctrl", "NormalQueueCtrlRTL(num_entries)"), ("dpath", "NormalQueueDpathRTL(EntryType, num_entries)")] ∧
    QueueGen.S.NormalQueueRTL.conns_multi = [("count", "ctrl.count"), ("ctrl.raddr", "dpath.raddr"), ("ctrl.recv_rdy", "recv.rdy"), ("ctrl.recv_val", "recv.val"), ("ctrl.send_rdy", "send.rdy"), ("ctrl.send_val", "send.val"), ("ctrl.waddr", "dpath.waddr"), ("ctrl.wen", "dpath.wen"), ("dpath.recv_msg", "recv.msg"), ("dpath.send_msg", "send.msg")] :=
  ⟨rfl, rfl, rfl, rfl, rfl, rfl⟩

theorem gen_S_NormalQueueRTL_dispatch {α : Type} (n : Nat) (d : α) (is : List (In α)) :
    runCls .sNormal n d is = if QueueGen.S.NormalQueueRTL.sel_one n then run (s1Step .normal) (Queue.One.init d) is else run (ringStep false .normal n) (Ring.init d) is :=
  (if_beq n 1 _ _).symm

theorem gen_S_PipeQueueRTL_struct (n : Nat) :
    QueueGen.S.PipeQueueRTL.ports n = [("recv", "RecvIfcRTL", 0), ("send", "SendIfcRTL", 0), ("count", "OutPort", Queue.clog2 (n + 1))] ∧
    QueueGen.S.PipeQueueRTL.asserts = ["num_entries > 0"] ∧
    QueueGen.S.PipeQueueRTL.insts_one = [("q", "PipeQueue1EntryRTL(EntryType)")] ∧
    QueueGen.S.PipeQueueRTL.conns_one = [("count", "q.count"), ("q.recv", "recv"), ("q.send", "send")] ∧
    QueueGen.S.PipeQueueRTL.insts_multi = [("ctrl", "PipeQueueCtrlRTL(num_entries)"), ("dpath", "NormalQueueDpathRTL(EntryType, num_entries)")] ∧
    QueueGen.S.PipeQueueRTL.conns_multi = [("count", "ctrl.count"), ("ctrl.raddr", "dpath.raddr"), ("ctrl.recv_rdy", "recv.rdy"), ("ctrl.recv_val", "recv.val"), ("ctrl.send_rdy", "send.rdy"), ("ctrl.send_val", "send.val"), ("ctrl.waddr", "dpath.waddr"), ("ctrl.wen", "dpath.wen"), ("dpath.recv_msg", "recv.msg"), ("dpath.send_msg", "send.msg")] :=
  ⟨rfl, rfl, rfl, rfl, rfl, rfl⟩

theorem gen_S_PipeQueueRTL_dispatch {α : Type} (n : Nat) (d : α) (is : List (In α)) :
    runCls .sPipe n d is = if QueueGen.S.PipeQueueRTL.sel_one n then run (s1Step .pipe) (Queue.One.init d) is else run (ringStep false .pipe n) (Ring.init d) is :=
  (if_beq n 1 _ _).symm

theorem gen_S_BypassQueueRTL_struct (n : Nat) :
    QueueGen.S.BypassQueueRTL.ports n = [("recv", "RecvIfcRTL", 0), ("send", "SendIfcRTL", 0), ("count", "OutPort", Queue.clog2 (n + 1))] ∧
    QueueGen.S.BypassQueueRTL.asserts = ["num_entries > 0"] ∧
    QueueGen.S.BypassQueueRTL.insts_one = [("q", "BypassQueue1EntryRTL(EntryType)")] ∧
    QueueGen.S.BypassQueueRTL.conns_one = [("count", "q.count"), ("q.recv", "recv"), ("q.send", "send")] ∧
    QueueGen.S.BypassQueueRTL.insts_multi = [("ctrl", "BypassQueueCtrlRTL(num_entries)"), ("dpath", "BypassQueueDpathRTL(EntryType, num_entries)")] ∧
    QueueGen.S.BypassQueueRTL.conns_multi = [("count", "ctrl.count"), ("ctrl.mux_sel", "dpath.mux_sel"), ("ctrl.raddr", "dpath.raddr"), ("ctrl.recv_rdy", "recv.rdy"), ("ctrl.recv_val", "recv.val"), ("ctrl.send_rdy", "send.rdy"), ("ctrl.send_val", "send.val"), ("ctrl.waddr", "dpath.waddr"), ("ctrl.wen", "dpath.wen"), ("dpath.recv_msg", "recv.msg"), ("dpath.send_msg", "send.msg")] :=
  ⟨rfl, rfl, rfl, rfl, rfl, rfl⟩

theorem gen_S_BypassQueueRTL_dispatch {α : Type} (n : Nat) (d : α) (is : List (In α)) :
    runCls .sBypass n d is = if QueueGen.S.BypassQueueRTL.sel_one n then run (s1Step .bypass) (Queue.One.init d) is else run (ringStep false .bypass n) (Ring.init d) is :=
  (if_beq n 1 _ _).symm

theorem gen_ER_BypassQueue2RTL_struct (n : Nat) :
    QueueGen.ER.BypassQueue2RTL.ports n = [("enq", "RecvIfcRTL", 0), ("deq", "SendIfcRTL", 0)] ∧
    QueueGen.ER.BypassQueue2RTL.asserts = ["queue_size == 2"] ∧
    QueueGen.ER.BypassQueue2RTL.insts_all = [("q1", "BypassQueue1RTL(MsgType)"), ("q2", "BypassQueue1RTL(MsgType)")] ∧
    QueueGen.ER.BypassQueue2RTL.conns_all = [("deq", "q2.deq"), ("enq", "q1.enq"), ("q1.deq", "q2.enq")] :=
  ⟨rfl, rfl, rfl, rfl⟩

theorem gen_VR_NormalQueueRTL_struct (n : Nat) :
    QueueGen.VR.NormalQueueRTL.ports n = [("enq", "InValRdyIfc", 0), ("deq", "OutValRdyIfc", 0), ("num_free_entries", "OutPort", Queue.clog2 (n + 1))] ∧
    QueueGen.VR.NormalQueueRTL.asserts = [] ∧
    QueueGen.VR.NormalQueueRTL.insts_all = [("ctrl", "NormalQueueRTLCtrl(num_entries)"), ("dpath", "NormalQueueRTLDpath(num_entries, Type)")] ∧
    QueueGen.VR.NormalQueueRTL.conns_all = [("ctrl.deq_rdy", "deq.rdy"), ("ctrl.deq_val", "deq.val"), ("ctrl.enq_rdy", "enq.rdy"), ("ctrl.enq_val", "enq.val"), ("ctrl.num_free_entries", "num_free_entries"), ("ctrl.raddr", "dpath.raddr"), ("ctrl.waddr", "dpath.waddr"), ("ctrl.wen", "dpath.wen"), ("deq.msg", "dpath.deq_bits"), ("dpath.enq_bits", "enq.msg")] :=
  ⟨rfl, rfl, rfl, rfl⟩

end PV.C17Gen
