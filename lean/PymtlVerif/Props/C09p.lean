import PymtlVerif.Proofs.Place
/-!
# C09 / C07 — operator placement: which assignment targets are accepted where, and what the analysis records for them

Model: `Model/Place.lean` — the names a block binds (`Tgt`, `Scope.bound`), the classification of an index expression as
constant / variable (`classify`), the walk from the recorded name to signal objects (`expand`, `resolve`: `objs` and
`part_objs` of `extract_obj_from_names`), the write checks (`verdict`) and the flip-flop marking (`marked`); against the
run-time meaning of the statement (`evalIdx`, `dynPath`, `Target.isWhole`).  Inside helpers `verdict` has no rule on the
operator; /repo also rejects the other block kind's operator there (`_collect_vars`, `func_write_ops`): that is
`verdictStrict`, `helper_table_strict`.

* `place_total`, `update_table`, `update_ff_table`, `helper_table`: the decision table — target shape × operator × block
  kind × inside an `@s.func` helper or not — is total, every rejection carries the class that belongs to the block kind, and
  acceptance is characterised declaratively;
* `ff_accept_whole` / `ff_whole_accepted`: a `<<=` the `update_ff` rules accept assigns **whole top-level signals** (the
  signal itself or whole elements of a list of signals) — no field, no bit, no slice, whatever the index expressions are —
  and conversely; `helper_ff_accept_nocut` / `helper_nocut_accepted`: a `<<=` accepted inside a helper assigns whole
  signals or whole struct fields (which carry their own shadow value);
* `static_covers_dynamic`: for **every** run-time value of the index expressions (loop variables, temporaries, signal
  values), the element the statement assigns belongs to the recorded object set — for blocks that bind none of their free
  variables (`Scope.WF`; a name declared `nonlocal` and assigned is outside it), in particular whatever module-level names exist;
  `ff_marks_cover`: hence every register an accepted `<<=` can assign at run time is marked `needs_double_buffer` (the
  flip machinery of C07 sees it);
* `bound_name_is_variable`, `bound_index_all_elements`: an index written with a name bound anywhere in the block — plain,
  tuple, nested-tuple or starred target of a loop / assignment / comprehension — is a variable index even if a module-level
  name of the same spelling exists, and `s.l[x]` then records every element of the list.
-/
namespace PV.C09p
open PV.Place

/-- the table is total and a rejection carries the class of the block kind: `UpdateBlockWriteError` only in `update`
blocks, the two `update_ff` classes only there (or, for the part-select rule, inside a helper) -/
theorem place_total (ff helper : Bool) (op : AOp) (objs : List RObj) :
    verdict ff helper op objs = .accept ∨
    (verdict ff helper op objs = .reject .updateBlockWrite ∧ ff = false ∧ helper = false ∧ op ≠ .at) ∨
    (verdict ff helper op objs = .reject .updateFFBlockWrite ∧ ff = true ∧ helper = false ∧ op ≠ .ff) ∨
    (verdict ff helper op objs = .reject .updateFFNonTop ∧ op = .ff ∧ (ff = true ∨ helper = true)) := by
  cases helper
  · cases objs with
    | nil => exact .inl rfl
    | cons o os =>
      have hne := List.cons_ne_nil o os
      cases ff
      · rw [verdict_update op hne]
        by_cases h : op = .at
        · exact .inl (if_pos h)
        · exact .inr (.inl ⟨if_neg h, rfl, rfl, h⟩)
      · rw [verdict_ff op hne]
        by_cases h : op = .ff
        · rw [if_neg (not_not_intro h)]
          by_cases hw : (o :: os).all RObj.whole = true
          · exact .inl (if_pos hw)
          · exact .inr (.inr (.inr ⟨if_neg hw, h, .inl rfl⟩))
        · exact .inr (.inr (.inl ⟨if_pos h, rfl, rfl, h⟩))
  · rw [verdict_helper]
    by_cases hc : (decide (op = .ff) && objs.any RObj.cut) = true
    · exact .inr (.inr (.inr ⟨if_pos hc, of_decide_eq_true (Bool.and_eq_true _ _ ▸ hc).1, .inr rfl⟩))
    · exact .inl (if_neg hc)

/-- `update` blocks: `@=` on anything, nothing else -/
theorem update_table (op : AOp) (objs : List RObj) (hne : objs ≠ []) :
    (verdict false false op objs = .accept ↔ op = .at) ∧
    (op ≠ .at → verdict false false op objs = .reject .updateBlockWrite) := by
  rw [verdict_update op hne]
  by_cases h : op = .at <;> simp [h]

/-- `update_ff` blocks: `<<=` only, and only on whole top-level signals -/
theorem update_ff_table (op : AOp) (objs : List RObj) (hne : objs ≠ []) :
    (verdict true false op objs = .accept ↔ op = .ff ∧ ∀ o ∈ objs, o.whole = true) ∧
    (op ≠ .ff → verdict true false op objs = .reject .updateFFBlockWrite) ∧
    (op = .ff → (∃ o ∈ objs, o.whole = false) → verdict true false op objs = .reject .updateFFNonTop) := by
  rw [verdict_ff op hne]
  by_cases h : op = .ff <;> simp [h]

/-- inside an `@s.func` helper `verdict` applies no operator rule, except that `<<=` on a bit / slice / run-time selected part is
rejected (/repo has one more rule: `helper_table_strict`) -/
theorem helper_table (ff : Bool) (op : AOp) (objs : List RObj) :
    (verdict ff true op objs = .accept ↔ (op = .ff → ∀ o ∈ objs, o.cut = false)) ∧
    (verdict ff true op objs ≠ .accept → verdict ff true op objs = .reject .updateFFNonTop) := by
  rw [verdict_helper]
  by_cases h : op = .ff <;> simp [h]

/-- with the helper operator rule of `_collect_vars` (`func_write_ops`, /repo/pymtl3/dsl/ComponentLevel2.py:383-393; in the model
`verdictStrict`, which `Model/Place.lean` calls a proposed repair) a helper may not use the other block kind's operator: `@=` is
rejected when an `update_ff` block reaches it, `<<=` when an `update` block does (and, as under `verdict`, on a bit / slice);
everything else inside helpers and the blocks themselves are unchanged -/
theorem helper_table_strict (ff : Bool) (op : AOp) (objs : List RObj) (hne : objs ≠ []) :
    (verdictStrict ff true op objs = .accept ↔
      ¬ (ff = true ∧ op = .at) ∧ ¬ (ff = false ∧ op = .ff) ∧ (op = .ff → ∀ o ∈ objs, o.cut = false)) ∧
    (verdictStrict ff true op objs = .reject .updateFFBlockWrite ↔ ff = true ∧ op = .at) ∧
    (verdictStrict ff true op objs = .reject .updateBlockWrite ↔ ff = false ∧ op = .ff ∧ ∀ o ∈ objs, o.cut = false) ∧
    verdictStrict ff false op objs = verdict ff false op objs := by
  have he : objs.isEmpty = false := List.isEmpty_eq_false_iff.2 hne
  have hc : (∀ o ∈ objs, o.cut = false) ↔ objs.any RObj.cut = false := by simp
  unfold verdictStrict
  rw [if_pos rfl, he, hc]
  generalize objs.any RObj.cut = c
  by_cases h : op = .ff
  · cases c <;> cases ff <;> simp [h]
  · cases ff <;> by_cases h2 : op = .at <;> simp [h, h2]

/-- **accepted in `update_ff` ⇒ whole top-level signal(s)**: the signal itself or whole elements of a list of signals,
never a field, a bit or a slice — for every form of the index expressions -/
theorem ff_accept_whole (sc : Scope) (dims : List Nat) (t : Target) (op : AOp)
    (hne : resolve sc dims t ≠ []) (h : verdict true false op (resolve sc dims t) = .accept) :
    op = .ff ∧ t.isWhole dims := by
  obtain ⟨hop, hall⟩ := ((update_ff_table op _ hne).1).mp h
  obtain ⟨o, ho⟩ := List.exists_mem_of_ne_nil _ hne
  exact ⟨hop, (resolve_class sc dims t o ho).2.1 (hall o ho)⟩

/-- … and conversely every whole target is accepted under `<<=` -/
theorem ff_whole_accepted (sc : Scope) (dims : List Nat) (t : Target) (h : t.isWhole dims) :
    verdict true false .ff (resolve sc dims t) = .accept := by
  by_cases hne : resolve sc dims t = []
  · simp [verdict, hne]
  · exact ((update_ff_table .ff _ hne).1).mpr ⟨rfl, fun o ho => (resolve_class sc dims t o ho).2.2 h⟩

/-- a `<<=` accepted inside a helper assigns whole signals or whole struct fields -/
theorem helper_ff_accept_nocut (sc : Scope) (dims : List Nat) (t : Target) (ff : Bool)
    (hne : resolve sc dims t ≠ []) (h : verdict ff true .ff (resolve sc dims t) = .accept) : t.noCut dims := by
  obtain ⟨o, ho⟩ := List.exists_mem_of_ne_nil _ hne
  exact (resolve_class sc dims t o ho).1.1 (((helper_table ff .ff _).1).mp h rfl o ho)

theorem helper_nocut_accepted (sc : Scope) (dims : List Nat) (t : Target) (ff : Bool) (op : AOp) (h : t.noCut dims) :
    verdict ff true op (resolve sc dims t) = .accept :=
  ((helper_table ff op _).1).mpr fun _ o ho => (resolve_class sc dims t o ho).1.2 h

/-- for every run-time value of the index expressions `t.subs`, the element the statement assigns to is among the recorded objects -/
theorem static_covers_dynamic (sc : Scope) (hwf : sc.WF) (ρ : Rt) (dims : List Nat) (t : Target) (p : List Nat)
    (h : dynPath dims (t.subs.map (evalIdx sc ρ)) = some p) : ∃ o ∈ resolve sc dims t, o.path = p := by
  by_cases hf : t.fields = 0
  · rw [resolve_nofield hf]
    exact expand_covers sc hwf ρ _ dims t.subs p h
  · obtain ⟨o, ho, hop⟩ := expand_covers sc hwf ρ [] dims t.subs p h
    rw [resolve_field hf]
    exact ⟨_, List.mem_map.2 ⟨o, ho, rfl⟩, (applyField_path _ o).trans hop⟩

/-- every register an accepted `<<=` (in the block or in a helper it calls) can assign at run time is marked as a flip-flop -/
theorem ff_marks_cover (sc : Scope) (hwf : sc.WF) (ρ : Rt) (dims : List Nat) (t : Target) (helper : Bool) (op : AOp)
    (p : List Nat) (hacc : verdict true helper op (resolve sc dims t) = .accept)
    (h : dynPath dims (t.subs.map (evalIdx sc ρ)) = some p) : p ∈ marked helper op (resolve sc dims t) := by
  obtain ⟨o, ho, hop⟩ := static_covers_dynamic sc hwf ρ dims t p h
  simp only [marked, hacc, if_true, List.mem_map]
  exact ⟨o, ho, hop⟩

/-- a name bound by any target of the block — plain, tuple, nested tuple, starred — is a variable index, whatever
module-level names exist -/
theorem bound_name_is_variable (sc : Scope) (hwf : sc.WF) (x : String) (tg : Tgt) (ht : tg ∈ sc.tgts) (hb : tg.Binds x) :
    classify sc (.name x) = .star := by
  have hx : x ∈ sc.bound := (sc.mem_bound_iff x).mpr ⟨tg, ht, hb⟩
  exact classify_bound sc x hx (hwf x hx)

/-- … so `s.l[x] ⟨op⟩ …` records every element of the list -/
theorem bound_index_all_elements (sc : Scope) (hwf : sc.WF) (x : String) (tg : Tgt) (ht : tg ∈ sc.tgts) (hb : tg.Binds x)
    (d : Nat) : (resolve sc [d] ⟨[.name x], 0, .none⟩).map (·.path) = (List.range d).map (fun i => [i]) := by
  have := bound_name_is_variable sc hwf x tg ht hb
  simp [resolve, subSteps, tailSteps, this, expand, RObj.whole0, ← List.map_eq_flatMap]

/-! ## non-vacuity -/

def scI : Scope := { closure := [("K", 2)], globals := [("i", 0), ("N", 1)], tgts := [.pair (.name "i") (.pair (.name "j") (.name "v"))] }
example : scI.WF := by decide +kernel
-- `for i, (j, v) in …: s.l[i] <<= …` with a module-level `i = 0`: all four elements, accepted, all marked
example : resolve scI [4] ⟨[.name "i"], 0, .none⟩ = [.whole0 [0], .whole0 [1], .whole0 [2], .whole0 [3]] := by decide +kernel
example : verdict true false .ff (resolve scI [4] ⟨[.name "i"], 0, .none⟩) = .accept := by decide +kernel
example : marked false .ff (resolve scI [4] ⟨[.name "i"], 0, .none⟩) = [[0], [1], [2], [3]] := by decide +kernel
-- a module-level name the block does not bind, a closure constant: one element
example : resolve scI [4] ⟨[.name "N"], 0, .none⟩ = [.whole0 [1]] := by decide +kernel
example : resolve scI [4] ⟨[.name "K"], 0, .none⟩ = [.whole0 [2]] := by decide +kernel
-- `s.r[ s.sel ] <<= …`, `s.r[ s.sel : s.sel+2 ] <<= …`, `s.r[2] <<= …`, `s.st.a <<= …` in an update_ff block
example : verdict true false .ff (resolve scI [] ⟨[.dyn 0], 0, .none⟩) = .reject .updateFFNonTop := by decide
example : verdict true false .ff (resolve scI [] ⟨[], 0, .sliceV⟩) = .reject .updateFFNonTop := by decide
example : verdict true false .ff (resolve scI [] ⟨[.num 2], 0, .none⟩) = .reject .updateFFNonTop := by decide
example : verdict true false .ff (resolve scI [] ⟨[], 1, .none⟩) = .reject .updateFFNonTop := by decide
example : verdict true false .ff (resolve scI [] ⟨[], 0, .none⟩) = .accept := by decide
example : verdict true false (.aug .add) (resolve scI [] ⟨[], 0, .none⟩) = .reject .updateFFBlockWrite := by decide
example : verdict false false (.aug .add) (resolve scI [] ⟨[], 0, .none⟩) = .reject .updateBlockWrite := by decide
example : verdict false false .at (resolve scI [4] ⟨[.dyn 0], 1, .sliceV⟩) = .accept := by decide +kernel
-- inside a helper: the field is accepted, the bit of it is not
example : verdict true true .ff (resolve scI [] ⟨[], 1, .none⟩) = .accept := by decide
example : verdict true true .ff (resolve scI [] ⟨[], 1, .bit (.num 1)⟩) = .reject .updateFFNonTop := by decide
example : verdict true true .assign (resolve scI [] ⟨[.num 1], 0, .none⟩) = .accept := by decide
-- the two shapes the helper operator rule is about: `@=` in a helper reached from update_ff, `<<=` in one reached from update
example : verdict true true .at (resolve scI [] ⟨[], 0, .none⟩) = .accept := by decide
example : verdictStrict true true .at (resolve scI [] ⟨[], 0, .none⟩) = .reject .updateFFBlockWrite := by decide
example : verdict false true .ff (resolve scI [] ⟨[], 0, .none⟩) = .accept := by decide
example : verdictStrict false true .ff (resolve scI [] ⟨[], 0, .none⟩) = .reject .updateBlockWrite := by decide
example : verdictStrict true true .ff (resolve scI [4] ⟨[.name "i"], 0, .none⟩) = .accept := by decide +kernel
example : verdictStrict true true .assign (resolve scI [] ⟨[], 0, .none⟩) = .accept := by decide
example : (⟨[.name "i"], 0, .none⟩ : Target).isWhole [4] := by decide
example : ¬ (⟨[.name "i", .dyn 0], 0, .none⟩ : Target).isWhole [4] := by decide
example : dynPath [4] [3] = some [3] := by decide
example : Tgt.Binds "v" (.pair (.name "i") (.pair (.name "j") (.name "v"))) := .right (.right .name)

end PV.C09p
