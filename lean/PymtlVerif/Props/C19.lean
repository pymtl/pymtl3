import PymtlVerif.Proofs.Arb
/-!
# C19 — round-robin arbiters grant exactly one requester, fairly

Property theorems about `Model/Arb.lean` (`RoundRobinArbiter` = `hasEn := false`, `RoundRobinArbiterEn` =
`hasEn := true`), for every number of requesters `n`, every request vector and every input history.

The statements use `Pointer`, `advances`, `Winner` (head of `Proofs/Arb.lean`) and `dist` (`Model/Arb.lean`).
Where a statement asks for `2 ≤ n`, that is the range of `nreqs` for which PyMTL builds the component (the slice
`in_[1:nreqs]`, `C19Gen.Plain.gen_priority_reg_in__conn_eq`); the proofs in this file use `0 < n` only.
-/
namespace PV.C19
open PV.Arb

/-- C19_pointer_update: reset → pointer 0; advancing (no reset, `priority_en` high) → the granted input is
    some `k` and the new pointer is `(k+1) % n` (the grant vector rotated left by one); otherwise the
    register keeps its value -/
theorem pointer_update (hasEn : Bool) {n s p : Nat} (inp : In) (hs : Pointer n s p) :
    (inp.reset = true → (cycle hasEn n s inp).next = 2 ^ 0) ∧
    (inp.reset = false → (cycle hasEn n s inp).prioEn = true →
        ∃ k, k < n ∧ (cycle hasEn n s inp).grants = 2 ^ k ∧ (cycle hasEn n s inp).next = 2 ^ ((k + 1) % n)) ∧
    (inp.reset = false → (cycle hasEn n s inp).prioEn = false → (cycle hasEn n s inp).next = s) := by
  rcases cycle_cases hasEn inp hs with ⟨_, hc⟩ | ⟨k, hk, _, hc⟩
  · rw [hc]
    exact ⟨fun hr => if_pos hr, fun _ h => Bool.noConfusion h, fun hr _ => if_neg (ne_true_of_eq_false hr)⟩
  · rw [hc]
    exact ⟨fun hr => if_pos hr,
      fun hr ha => ⟨k, hk, rfl, (if_neg (ne_true_of_eq_false hr)).trans (if_pos ha)⟩,
      fun hr ha => (if_neg (ne_true_of_eq_false hr)).trans (if_neg (ne_true_of_eq_false ha))⟩

/-- one cycle keeps the register a pointer, whatever the inputs are (reset included) -/
theorem step_pointer (hasEn : Bool) {n s p : Nat} (hn : 0 < n) (inp : In) (hs : Pointer n s p) :
    ∃ p', Pointer n (step hasEn n s inp) p' := by
  have ⟨h1, h2, h3⟩ := pointer_update hasEn inp hs
  cases hr : inp.reset
  · cases he : (cycle hasEn n s inp).prioEn
    · exact ⟨p, hs.1, (h3 hr he).trans hs.2⟩
    · have ⟨k, _, _, hk⟩ := h2 hr he
      exact ⟨_, Nat.mod_lt _ hn, hk⟩
  · exact ⟨0, hn, h1 hr⟩

/-- a reset cycle makes the register point to input 0, from any previous value (also from the
    uninitialised value 0 of a fresh simulation, which is not a pointer) -/
theorem reset_pointer (hasEn : Bool) (n s0 : Nat) (inp : In) (hr : inp.reset = true) :
    step hasEn n s0 inp = 2 ^ 0 := by
  simp [step, cycle, regEnRst, hr]

/-- the invariant: every register value reachable through a reset is a pointer (any `n > 0`) -/
theorem reachable_pointer (hasEn : Bool) {n s : Nat} (hn : 0 < n) (h : Reachable hasEn n s) : ∃ p, Pointer n s p := by
  induction h with
  | reset s0 inp hr => exact ⟨0, hn, reset_pointer hasEn n s0 inp hr⟩
  | step inp _ ih => exact ih.elim fun p hp => step_pointer hasEn hn inp hp

/-- C19_onehot_inv: every register value reachable through a reset is one-hot: exactly one `p < n`
    has its bit set, and the value is `2^p` -/
theorem onehot_inv (hasEn : Bool) (n : Nat) (hn : 2 ≤ n) (s : Nat) (h : Reachable hasEn n s) :
    ∃ p, Pointer n s p ∧ (∀ i, bit s i = decide (i = p)) ∧ ∀ q, Pointer n s q → q = p :=
  have ⟨p, hp⟩ := reachable_pointer hasEn (Nat.lt_of_lt_of_le Nat.two_pos hn) h
  ⟨p, hp, fun i => hp.2 ▸ bit_two_pow p i, fun _ hq => (Nat.pow_right_inj (by decide)).mp (hq.2.symm.trans hp.2)⟩

/-- the same over input histories: after any history that contains a reset cycle — whatever came before
    it, whatever comes after it (further resets included) — the register is a pointer -/
theorem onehot_history (hasEn : Bool) (n : Nat) (hn : 2 ≤ n) (s0 : Nat) (pre post : List In) (r : In)
    (hr : r.reset = true) : ∃ p, Pointer n (run hasEn n s0 (pre ++ r :: post)) p :=
  run_append hasEn n pre (r :: post) s0 ▸ reachable_pointer hasEn (Nat.lt_of_lt_of_le Nat.two_pos hn)
    (reachable_run post (Reachable.reset (run hasEn n s0 pre) r hr))

/-- a register value without a bit among the low n is stuck: nothing is ever granted and the register keeps its value -/
theorem stuck_without_pointer (hasEn : Bool) {n s : Nat} (h0 : ∀ j, j < n → bit s j = false) (reqs : Nat) (en : Bool) :
    cycle hasEn n s ⟨false, en, reqs⟩ = ⟨s, 0, false, s⟩ := by
  have hi : ∀ i, grantsInt (prioInt n s) (reqsInt n reqs) i = false := fun i =>
    Bool.eq_false_iff.mpr fun h => by
      obtain ⟨_, q, hq, _⟩ := (grantsInt_iff i).mp h
      unfold prioInt at hq
      split at hq
      · next hlt => exact Bool.eq_false_iff.mp (h0 q hlt) hq
      · cases hq
  have hg : grants n reqs s = 0 := pack_eq_zero _ _ fun i _ => by rw [grantBit, hi, hi]; rfl
  simp only [cycle]
  rw [hg, priorityEn_zero]
  rfl

/-- without a reset the invariant is not established: from the uninitialised register value 0 nothing is
    ever granted and the register stays 0 (why `Reachable` starts at a reset) -/
theorem dead_before_reset (hasEn : Bool) (n reqs : Nat) (en : Bool) :
    cycle hasEn n 0 ⟨false, en, reqs⟩ = ⟨0, 0, false, 0⟩ :=
  stuck_without_pointer hasEn (fun j _ => bit_zero j) reqs en

theorem bit_grants_iff {n s p : Nat} (reqs : Nat) (hs : Pointer n s p) (k : Nat) :
    bit (grants n reqs s) k = true ↔ k < n ∧ Winner n reqs p k := by
  rw [bit_grants, Bool.and_eq_true, decide_eq_true_iff]
  exact and_congr_right fun hk => grantBit_iff hs hk

/-- C19_subset: only requesting inputs (and only bits below n) are granted -/
theorem grants_subset {n s p : Nat} (reqs : Nat) (hs : Pointer n s p) (k : Nat)
    (hg : bit (grants n reqs s) k = true) : k < n ∧ bit reqs k = true :=
  have ⟨hk, hw⟩ := (bit_grants_iff reqs hs k).mp hg
  ⟨hk, hw.1⟩

/-- C19_onehot0: at most one bit of `grants` is set -/
theorem grants_onehot0 {n s p : Nat} (reqs : Nat) (hs : Pointer n s p) (k k' : Nat)
    (hg : bit (grants n reqs s) k = true) (hg' : bit (grants n reqs s) k' = true) : k = k' :=
  have ⟨hk, hw⟩ := (bit_grants_iff reqs hs k).mp hg
  have ⟨hk', hw'⟩ := (bit_grants_iff reqs hs k').mp hg'
  hw.unique hs.1 hk hk' hw'

/-- the same as a value: `grants` is 0 or a power of two below 2^n -/
theorem grants_zero_or_onehot {n s p : Nat} (reqs : Nat) (hs : Pointer n s p) :
    grants n reqs s = 0 ∨ ∃ k, k < n ∧ grants n reqs s = 2 ^ k := by
  rcases grants_cases reqs hs with ⟨hz, _⟩ | ⟨k, hk, hg, _⟩
  · exact Or.inl hz
  · exact Or.inr ⟨k, hk, hg⟩

/-- C19_nonzero_iff: something is granted iff something is requested -/
theorem grants_nonzero_iff {n s p : Nat} (reqs : Nat) (hs : Pointer n s p) :
    grants n reqs s ≠ 0 ↔ ∃ k, k < n ∧ bit reqs k = true := by
  rcases grants_cases reqs hs with ⟨hz, hall⟩ | ⟨k, hk, hg, hw⟩
  · exact ⟨fun h => absurd hz h, fun ⟨k, hk, hr⟩ => absurd hr (Bool.eq_false_iff.mp (hall k hk))⟩
  · exact ⟨fun _ => ⟨k, hk, hw.1⟩, fun _ => hg ▸ NeZero.ne (2 ^ k)⟩

/-- C19_first_from_pointer: the granted input is the first requester at or after the pointer in cyclic
    order: no requester is cyclically closer to the pointer -/
theorem first_from_pointer {n s p : Nat} (reqs : Nat) (hs : Pointer n s p) (k : Nat)
    (hg : bit (grants n reqs s) k = true) (j : Nat) (hj : j < n) (hr : bit reqs j = true) :
    dist n p k ≤ dist n p j :=
  ((bit_grants_iff reqs hs k).mp hg).2.2 j hj hr

/-- closed form of the whole kill-chain network: `grants = 2^k` exactly for the requester `k` that is
    cyclically closest to the pointer (and `grants = 0` iff there is none, `grants_nonzero_iff`) -/
theorem grants_closed_form {n s p : Nat} (reqs : Nat) (hs : Pointer n s p) (k : Nat) (hk : k < n) :
    grants n reqs s = 2 ^ k ↔
      (bit reqs k = true ∧ ∀ j, j < n → bit reqs j = true → dist n p k ≤ dist n p j) := by
  constructor
  · intro h
    exact ((bit_grants_iff reqs hs k).mp (by rw [h, bit_two_pow]; exact decide_eq_true rfl)).2
  · intro hw
    rcases grants_cases reqs hs with ⟨_, hall⟩ | ⟨k', hk', hg, hw'⟩
    · exact absurd hw.1 (Bool.eq_false_iff.mp (hall k hk))
    · rw [hg, hw'.unique hs.1 hk' hk hw]

/-- the wire `priority_en`: high iff something is granted (and, in the `En` variant, `en` is high) -/
theorem prioEn_iff (hasEn : Bool) (n s : Nat) (inp : In) :
    (cycle hasEn n s inp).prioEn = true ↔
      ((cycle hasEn n s inp).grants ≠ 0 ∧ (hasEn = true → inp.en = true)) := by
  simp only [cycle, priorityEn]
  cases hasEn <;> simp

/-- `RoundRobinArbiterEn`: with `en` low (and no reset) the priority never moves, whatever is granted -/
theorem en_low_holds (n s : Nat) (inp : In) (hr : inp.reset = false) (he : inp.en = false) :
    step true n s inp = s := by
  simp [step, cycle, priorityEn, regEnRst, hr, he]

/-- `RoundRobinArbiter` ignores `en` altogether -/
theorem plain_ignores_en (n s : Nat) (r e e' : Bool) (reqs : Nat) :
    cycle false n s ⟨r, e, reqs⟩ = cycle false n s ⟨r, e', reqs⟩ := by
  simp [cycle, priorityEn]

/-- what fairness needs of one cycle without reset in which input `i` requests -/
theorem cycle_requesting (hasEn : Bool) {n s p i : Nat} (inp : In) (hs : Pointer n s p) (hi : i < n)
    (hr : inp.reset = false) (hq : bit inp.reqs i = true) :
    (cycle hasEn n s inp).prioEn = advances hasEn inp ∧
    ∃ p', Pointer n (step hasEn n s inp) p' ∧
      if advances hasEn inp then bit (cycle hasEn n s inp).grants i = true ∨ dist n p' i < dist n p i else p' = p := by
  rcases cycle_cases hasEn inp hs with ⟨hz, _⟩ | ⟨k, hk, hw, hc⟩
  · exact absurd hq (Bool.eq_false_iff.mp (hz i hi))
  · unfold step
    rw [hc, hr]
    refine ⟨rfl, ?_⟩
    cases advances hasEn inp
    · exact ⟨p, hs, rfl⟩
    · refine ⟨(k + 1) % n, ⟨Nat.mod_lt _ (Nat.zero_lt_of_lt hi), rfl⟩, ?_⟩
      by_cases hki : k = i
      · exact .inl (by rw [hki, bit_two_pow]; exact decide_eq_true rfl)
      · exact .inr (dist_decreases p k i hs.1 hk hi hki (hw.2 i hi hq))

/-- the cycles with `priority_en` high are, while input `i` keeps requesting, exactly the cycles whose
    inputs enable the update (`en` high for the `En` variant, every cycle for the plain arbiter) -/
theorem enCount_eq (hasEn : Bool) {n : Nat} (i : Nat) (hi : i < n) :
    ∀ (h : List In) (s p : Nat), Pointer n s p →
      (∀ inp ∈ h, inp.reset = false ∧ bit inp.reqs i = true) →
      enCount (trace hasEn n s h) = (h.filter (advances hasEn)).length := by
  intro h
  induction h with
  | nil => intro s p _ _; rfl
  | cons inp h ih =>
    intro s p hs hall
    have ⟨⟨hr, hq⟩, hrest⟩ := List.forall_mem_cons.1 hall
    obtain ⟨hpe, p', hp', -⟩ := cycle_requesting hasEn inp hs hi hr hq
    have ih := ih _ p' hp' hrest
    rw [trace, List.filter_cons]
    cases ha : advances hasEn inp
    · rw [enCount_cons_false (hpe.trans ha), ih, if_neg Bool.false_ne_true]
    · rw [enCount_cons_true (hpe.trans ha), ih, if_pos rfl, List.length_cons]

/-- C19_fair, measure form: from any pointer position `p`, while input `i` keeps requesting (no reset),
    `i` is granted in an advancing cycle that is preceded by at most `dist n p i` advancing cycles.
    (`dist n p i` strictly decreases in every advancing cycle that grants someone else.) -/
theorem fair_within (hasEn : Bool) {n : Nat} (i : Nat) (hi : i < n) :
    ∀ (h : List In) (s p : Nat), Pointer n s p →
      (∀ inp ∈ h, inp.reset = false ∧ bit inp.reqs i = true) →
      dist n p i < enCount (trace hasEn n s h) →
      ∃ pre c post, trace hasEn n s h = pre ++ c :: post ∧
        c.prioEn = true ∧ bit c.grants i = true ∧ enCount pre ≤ dist n p i := by
  intro h
  induction h with
  | nil => intro s p _ _ hc; exact absurd hc (Nat.not_lt_zero _)
  | cons inp h ih =>
    intro s p hs hall hcount
    have ⟨⟨hr, hq⟩, hrest⟩ := List.forall_mem_cons.1 hall
    have ⟨hpe, p', hp', hstep⟩ := cycle_requesting hasEn inp hs hi hr hq
    cases ha : advances hasEn inp <;> rw [ha] at hstep hpe
    · -- the pointer stays; the count does not move
      subst hstep
      rw [trace, enCount_cons_false hpe] at hcount
      obtain ⟨pre, c, post, htr, hce, hcg, hle⟩ := ih _ p' hp' hrest hcount
      exact ⟨_ :: pre, c, post, by rw [trace, htr]; rfl, hce, hcg, (enCount_cons_false hpe pre).symm ▸ hle⟩
    · rw [trace, enCount_cons_true hpe] at hcount
      rcases hstep with hg | hlt
      · -- i itself is granted in this advancing cycle
        exact ⟨[], _, _, rfl, hpe, hg, Nat.zero_le _⟩
      · -- somebody else, not farther from the pointer than i, is granted: i gets closer
        obtain ⟨pre, c, post, htr, hce, hcg, hle⟩ :=
          ih _ p' hp' hrest (Nat.lt_of_lt_of_le hlt (Nat.le_of_lt_succ hcount))
        refine ⟨_ :: pre, c, post, by rw [trace, htr]; rfl, hce, hcg, ?_⟩
        rw [enCount_cons_true hpe]
        exact Nat.lt_of_le_of_lt hle hlt

/-- C19_fair: an input that keeps requesting is granted within `n` advancing cycles.  For every history
    `h` without reset in which input `i` requests all the time and which contains `n` cycles that enable
    the update (`advances`: all cycles for `RoundRobinArbiter`, the cycles with `en` high for
    `RoundRobinArbiterEn`), some advancing cycle grants `i`, and fewer than `n` advancing cycles precede it.
    The window may start in any reachable state. -/
theorem fair (hasEn : Bool) {n : Nat} (i : Nat) (hi : i < n) (h : List In) (s p : Nat) (hs : Pointer n s p)
    (hall : ∀ inp ∈ h, inp.reset = false ∧ bit inp.reqs i = true)
    (hlen : n ≤ (h.filter (advances hasEn)).length) :
    ∃ pre c post, trace hasEn n s h = pre ++ c :: post ∧
      c.prioEn = true ∧ bit c.grants i = true ∧ enCount pre < n := by
  have hn : 0 < n := Nat.zero_lt_of_lt hi
  have hd := dist_lt n p i hn
  have hcnt := enCount_eq hasEn i hi h s p hs hall
  obtain ⟨pre, c, post, htr, hce, hcg, hle⟩ := fair_within hasEn i hi h s p hs hall (hcnt ▸ Nat.lt_of_lt_of_le hd hlen)
  exact ⟨pre, c, post, htr, hce, hcg, Nat.lt_of_le_of_lt hle hd⟩

/-- the plain arbiter: a continuously requesting input is granted within the first `n` cycles -/
theorem fair_plain {n : Nat} (i : Nat) (hi : i < n) (h : List In) (s p : Nat) (hs : Pointer n s p)
    (hall : ∀ inp ∈ h, inp.reset = false ∧ bit inp.reqs i = true) (hlen : n ≤ h.length) :
    ∃ pre c post, trace false n s h = pre ++ c :: post ∧ bit c.grants i = true ∧ pre.length < n := by
  have hf : h.filter (advances false) = h := List.filter_eq_self.mpr fun _ _ => rfl
  obtain ⟨pre, c, post, htr, _, hcg, hlt⟩ := fair false i hi h s p hs hall (hf.symm ▸ hlen)
  refine ⟨pre, c, post, htr, hcg, ?_⟩
  -- `priority_en` is high in as many cycles as the trace has, so in every cycle of the prefix
  have hpe := List.length_filter_eq_length_iff.1
    ((enCount_eq false i hi h s p hs hall).trans (hf.symm ▸ (length_trace false n h s).symm))
  rw [htr] at hpe
  rwa [enCount, List.filter_eq_self.2 fun c hc => hpe c (List.mem_append_left _ hc)] at hlt

/-- fairness stated from reset: in every state reachable through a reset, for both variants -/
theorem fair_reachable (hasEn : Bool) (n : Nat) (hn : 2 ≤ n) (s : Nat) (hr : Reachable hasEn n s)
    (i : Nat) (hi : i < n) (h : List In)
    (hall : ∀ inp ∈ h, inp.reset = false ∧ bit inp.reqs i = true)
    (hlen : n ≤ (h.filter (advances hasEn)).length) :
    ∃ pre c post, trace hasEn n s h = pre ++ c :: post ∧
      c.prioEn = true ∧ bit c.grants i = true ∧ enCount pre < n := by
  obtain ⟨p, hp, _⟩ := onehot_inv hasEn n hn s hr
  exact fair hasEn i hi h s p hp hall hlen

/-! ## non-vacuity -/
example : Reachable false 4 1 := Reachable.reset 0 ⟨true, false, 0⟩ rfl
example : Pointer 4 8 3 := ⟨by decide, by decide⟩
example : grants 4 0b0110 (2 ^ 3) = 0b0010 := by decide +kernel
example : (cycle true 4 (2 ^ 3) ⟨false, true, 0b0110⟩).next = 2 ^ 2 := by decide +kernel
example : (cycle true 4 (2 ^ 3) ⟨false, false, 0b0110⟩).next = 2 ^ 3 := by decide +kernel
example : (trace false 3 1 [⟨false, false, 7⟩, ⟨false, false, 7⟩, ⟨false, false, 7⟩]).map (·.grants) = [1, 2, 4] := by
  decide +kernel

end PV.C19
