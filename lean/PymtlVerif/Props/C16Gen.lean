import PymtlVerif.Gen.VcdSymGen
import PymtlVerif.Proofs.VCD
/-!
# C16Gen — the VCD identifier codes generated from the current Python source equal the model's

`Gen/VcdSymGen.lean` is regenerated by `tools/py2lean_vcdsym.py` from `_gen_vcd_symbol`
(`pymtl3/passes/tracing/VcdGenerationPass.py`) before every build of this file: the generator is rendered as its
step function (running counter ↦ yielded code and counter at the next pass) and `VcdSymGen.symbol k` is the code the
k-th `next()` returns.  `gen_symbol_eq` proves it equal, for every k, to `VCD.symCodes k` (ordinary base-94
positional code over chr(33..126), most significant digit first), the codes `Model/VCD.lean` gives to net k; the
property-level facts (all codes distinct, printable, non-empty) are then theorems about every k.
-/
namespace PV.C16Gen
open PV.VCD PV.PyInt PV.PyStr
open PV.VcdSymGen (step init c_mod c_codechars)

theorem symbol_text (n : Nat) : symbol n = String.ofList ((symCodes n).map Char.ofNat) := by
  unfold symbol symCodes
  rw [List.map_map]
  rfl

/-- distinct nets get distinct identifier codes, for all nets -/
theorem symbol_injective (a b : Nat) (h : symCodes a = symCodes b) : a = b := by
  apply symbol_inj
  rw [symbol_text, symbol_text, h]

/-- every character of every code is printable ASCII 33..126 (no blank, so a code is one VCD token) -/
theorem symbol_chars_printable (n c : Nat) (h : c ∈ symCodes n) : 33 ≤ c ∧ c ≤ 126 := by
  simp only [symCodes, List.mem_map] at h
  obtain ⟨d, hd, rfl⟩ := h
  have := symDigits_lt n d hd
  omega

theorem symbol_nonempty (n : Nat) : symCodes n ≠ [] := by
  simp only [symCodes, ne_eq, List.map_eq_nil_iff]
  exact symLoop_ne_nil _ _ _ (by simp)

theorem symCodes_fuel (n f : Nat) (h : n / 94 ≤ f) :
    symCodes n = (symLoop f (n / 94) [n % 94]).map (33 + ·) := by
  unfold symCodes symDigits
  rw [symLoop_fuel n f _ _ (Nat.div_le_self n 94) h]

theorem c_mod_eq : c_mod = 94 := by
  simp [c_mod, c_codechars, chrRange]

theorem charAt_digit (r : Nat) (h : r < 94) : charAt c_codechars (r : Int) = R.ok [33 + r] := by
  have hlen : c_codechars.length = 94 := by simp [c_codechars, chrRange]
  unfold charAt
  rw [hlen, if_pos (idxOk_natCast h), idx_natCast]
  simp [c_codechars, chrRange, List.getD_eq_getElem?_getD, h]

/-- the remainder variable `r` when the inner loop ends (not used afterwards) -/
def lastR : Nat → Nat → Int → Int
  | 0, _, r => r
  | f + 1, q, r => if q = 0 then r else lastR f (q / 94) ((q % 94 : Nat) : Int)

/-- the inner `while q > 0` loop is `symLoop` -/
theorem loop_eq (cond : Int × Int × Str → Bool) (body : Int × Int × Str → R (Int × Int × Str))
    (hc : ∀ q r code, cond (q, r, code) = decide (q > 0))
    (hb : ∀ (q : Nat) r code, body ((q : Int), r, code)
            = R.ok (((q / 94 : Nat) : Int), ((q % 94 : Nat) : Int), (33 + q % 94) :: code))
    (f q : Nat) (r : Int) (ds : List Nat) (code : Str) (hcode : code = ds.map (33 + ·)) (h : q ≤ f) :
    whileR (f + 1) cond body ((q : Int), r, code)
      = R.ok (0, lastR f q r, (symLoop f q ds).map (33 + ·)) := by
  subst hcode
  fun_induction symLoop f q ds generalizing r with
  | case1 q ds =>
    obtain rfl := Nat.le_zero.mp h
    rw [whileR, hc]; rfl
  | case2 f ds => rw [whileR, hc]; rfl
  | case3 f q ds hq ih =>
    rw [whileR, hc, decide_eq_true (Int.natCast_pos.mpr (Nat.pos_of_ne_zero hq)), if_pos rfl, hb, bindR_ok,
      lastR, if_neg hq]
    exact ih _ (div94_le hq h)

/-- one pass of the generator at counter k: yields the model's code of k and moves the counter to k + 1 -/
theorem step_eq (fuel k : Nat) (h : k / 94 + 1 ≤ fuel) :
    step fuel (k : Int) = R.ok (symCodes k, ((k + 1 : Nat) : Int)) := by
  obtain ⟨f, rfl⟩ := Nat.exists_eq_add_one_of_ne_zero (Nat.ne_of_gt (Nat.lt_of_lt_of_le (Nat.succ_pos _) h))
  have hf : k / 94 ≤ f := Nat.le_of_succ_le_succ h
  have hnz : nonzero (94 : Int) = R.ok () := by decide
  have hq : ∀ q : Nat, pyFloorDiv (q : Int) 94 = ((q / 94 : Nat) : Int) := fun q => pyFloorDiv_natCast q 94
  have hr : ∀ q : Nat, pyMod (q : Int) 94 = ((q % 94 : Nat) : Int) := fun q => pyMod_natCast q 94
  have hch : ∀ q : Nat, charAt c_codechars ((q % 94 : Nat) : Int) = R.ok [33 + q % 94] :=
    fun q => charAt_digit _ (Nat.mod_lt _ (by decide))
  unfold step
  simp only [c_mod_eq, hnz, bind_ok, hq, hr, hch]
  rw [loop_eq _ _ ?_ ?_ f (k / 94) _ [k % 94] [33 + k % 94] rfl hf]
  · simp only [bind_ok, pure_eq_ok, ← symCodes_fuel k f hf]
    rfl
  · intro q r code; rfl
  · intro q r code
    simp only [bind_ok, hq, hr, hch, pure_eq_ok]
    rfl

theorem state_eq (fuel k : Nat) (h : k / 94 + 1 ≤ fuel) :
    genState (step fuel) init k = R.ok (k : Int) := by
  induction k with
  | zero => rfl
  | succ k ih =>
    have hk : k / 94 + 1 ≤ fuel := Nat.le_trans (Nat.succ_le_succ (Nat.div_le_div_right (Nat.le_succ k))) h
    rw [genState, ih hk, bindR_ok, step_eq fuel k hk, bindR_ok]

/-- **generated = model**: the k-th identifier code the Python generator yields is the model's code of net k -/
theorem gen_symbol_eq (n : Nat) : VcdSymGen.symbol n = R.ok (symCodes n) := by
  have h : n / 94 + 1 ≤ n + 2 := Nat.succ_le_succ (Nat.le_succ_of_le (Nat.div_le_self n 94))
  unfold VcdSymGen.symbol genNth
  rw [state_eq _ _ h, bindR_ok, step_eq _ _ h, bindR_ok]

/-- consequently the codes the Python generator hands out are pairwise distinct -/
theorem gen_symbol_injective (a b : Nat) (h : VcdSymGen.symbol a = VcdSymGen.symbol b) : a = b := by
  rw [gen_symbol_eq, gen_symbol_eq] at h
  exact symbol_injective a b (R.ok.inj h)

/-! ## non-vacuity: around the first and the second roll-over -/
example : symCodes 93 = [126] ∧ symCodes 94 = [34, 33] ∧ symCodes 95 = [34, 34] := by decide
example : symCodes (94 ^ 2 - 1) = [126, 126] ∧ symCodes (94 ^ 2) = [34, 33, 33]
    ∧ symCodes (94 + 94 ^ 2) = [34, 34, 33] := by
  decide +kernel
example : VcdSymGen.symbol 0 = R.ok [33] ∧ VcdSymGen.symbol 1 = R.ok [34] := by decide +kernel
example : VcdSymGen.symbol 94 = R.ok [34, 33] := by rw [gen_symbol_eq]; decide
example : symbol 94 = "\"!" ∧ symbol 95 = "\"\"" := by decide

end PV.C16Gen
