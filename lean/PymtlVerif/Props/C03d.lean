import PymtlVerif.Proofs.NamesMangle
import PymtlVerif.Proofs.SDeclYosys
import PymtlVerif.Proofs.SDeclGen
import PymtlVerif.Proofs.SDeclDenote
/-!
# C03 / C12 — declarations, instances and operand rendering of the structural translators

Property theorems about `Model/SDecl.lean` (the model of `StructuralTranslatorL1…L4.translate_decls`, of the `rtlir_tr_*` hooks of
`VStructuralTranslatorL1…L4` / `YosysStructuralTranslatorL1…L4` and of `gen_signal_expr`), for every structural table.

* `decls_cover`, `decl_dims_in_order` — the declarations the SystemVerilog backend emits are exactly the objects of the table (one
  per port / wire / interface member / sub-component port, in order), each under the `__`-joined names of its levels, with the
  list dimensions of the levels concatenated outermost first.
* `ifc_decl_matches_subcomp`, `inst_binds_child_ports`, `inst_formals_nodup`, `insts_cover_elements` — where the module's own interface declaration
  does not raise, it equals what the parent derives for the same interface; every instance block binds every declared port of
  the child exactly once, in order, to the wire declared for it (same packed type, dimensions = the slot's, then the port's)
  selected by the instance's index tuple; there is exactly one instance per index tuple.
* `tokens_in_order` — the token stack of `gen_signal_expr` yields, outermost object first, the attribute and then its list
  indices in their own order.
* `gen_signal_expr_path` — on a path that is well typed in the table `gen_signal_expr` builds the node classes of `OPath.sexp`.
* `render_path`, `render_queue_empty`, `operand_denotes` — the text of an operand is the declared identifier followed by all list
  indices in declaration order and the selects into the data type; read over the environment of unpacked arrays that the
  declarations create it denotes the same value as the PyMTL object path (`denoteSV (render p) = denotePy p`); the index queue
  is left empty.  `transposed_operand_differs`: the statement is false for a transposed index order.
* `names_injective`, `decl_idents_nodup`, `inst_names_injective` — under `Names.okName` different objects get different identifiers.
* Yosys: `ywire_dims_in_order`, `ywire_dims_wrapped`, `yconn_pairs_same_element`, `yrender_path`.
-/
namespace PV.C03d
open PV.SDecl
open PV.SV (PTy Fields)
open PV.Names (Seg flatId okName flatId_injOn nodup_map_flatId flatId_names)

/-- **Declarations cover exactly the objects of the table**, in order. -/
theorem decls_cover (T : Table) (ds : List Decl) (h : vAllDecls T = some ds) : ds = (families T).map Family.decl :=
  vAllDecls_eq T ds h

/-- every declared variable carries the `__`-joined names of its levels and the concatenation of their list dimensions,
outermost level first, inside a level in the order of `get_dim_sizes()` -/
theorem decl_dims_in_order (T : Table) (ds : List Decl) (h : vAllDecls T = some ds) (d : Decl) (hd : d ∈ ds) :
    ∃ f ∈ families T, d.ident = flatId (f.levels.map fun l => Seg.name l.name) ∧ d.dims = f.levels.flatMap (·.dims) ∧ d.ty = f.ty := by
  rw [decls_cover T ds h] at hd
  obtain ⟨f, hf, rfl⟩ := List.mem_map.mp hd
  exact ⟨f, hf, rfl, rfl, rfl⟩

example :
    let T : Table := ⟨[⟨"in_", [2, 3], .input, .vec 8⟩], [⟨"w", [3, 2], .wire, .vec 4⟩],
      [⟨"ifc", [2], .port "msg" [3] .input (.vec 4) (.ifc "sub" [] (.port "ack" [] .output (.vec 1) .nil) .nil)⟩], []⟩
    (vAllDecls T).map (fun ds => ds.map fun d => (d.ident, d.dims)) =
      some [("in_", [2, 3]), ("ifc__msg", [2, 3]), ("ifc__sub__ack", [2]), ("w", [3, 2])] := by decide +kernel

/-- the quirk of `rtlir_tr_interface_port_decl`: a list of ports inside a nested interface raises -/
example : vIfcDecl ⟨"ifc", [], .ifc "sub" [] (.port "v" [2] .output (.vec 1) .nil) .nil⟩ = none := by decide +kernel

/-- **The module's own interface declarations = the parent's view of them** (where the former do not raise). -/
theorem ifc_decl_matches_subcomp (C : Table) (k : Sub) (hp : k.ports = C.ports) (hi : k.ifcs = C.ifcs)
    (ds : List Decl) (hds : vModulePorts C = some ds) : vSubDescs k = ds := by
  rw [vSubDescs_eq, vModulePorts_eq C ds hds, portFams, hp, hi]

/-- **Every port of the child is bound exactly once, to the wire declared for it.**  `ds` = the ports the child module declares.
The wires the parent declares for the slot are, port by port, `<slot>__<port>` with the child's packed type and the dimensions
of the slot followed by the port's own; every instance block binds, port by port, the formal `<port>` to that wire selected by
the instance's index tuple, which is an index tuple of the slot. -/
theorem inst_binds_child_ports (C : Table) (k : Sub) (hp : k.ports = C.ports) (hi : k.ifcs = C.ifcs)
    (ds : List Decl) (hds : vModulePorts C = some ds) :
    vSubWires k = ds.map (fun d => ⟨.wire, Seg.name k.name :: d.path, d.ty, k.dims ++ d.dims⟩) ∧
    ∀ I ∈ vSubInsts k, ∃ ix, IdxLt ix k.dims ∧ I.name = Seg.name k.name :: ix.map Seg.idx ∧
      I.conns.map (fun c => (c.formal, c.wire, c.idx)) = ds.map (fun d => (d.ident, Seg.name k.name :: d.path, ix)) := by
  have hd := ifc_decl_matches_subcomp C k hp hi ds hds
  refine ⟨by simp [vSubWires, hd], ?_⟩
  intro I hI
  simp only [vSubInsts, List.mem_map] at hI
  obtain ⟨⟨ix, m⟩, hz, rfl⟩ := hI
  refine ⟨ix, (mem_allIdx _ _).mp (List.of_mem_zip hz).1, rfl, ?_⟩
  simp [vInst, hd, Decl.ident, Function.comp_def]

/-- "exactly once": the formals of a port map are the declared identifiers of the child, so they are distinct when those are -/
theorem inst_formals_nodup (C : Table) (k : Sub) (hp : k.ports = C.ports) (hi : k.ifcs = C.ifcs)
    (ds : List Decl) (hds : vModulePorts C = some ds) (hn : (ds.map Decl.ident).Nodup) :
    ∀ I ∈ vSubInsts k, (I.conns.map (·.formal)).Nodup := by
  intro I hI
  obtain ⟨ix, _, _, h⟩ := (inst_binds_child_ports C k hp hi ds hds).2 I hI
  have : I.conns.map (·.formal) = ds.map Decl.ident := by
    have := congrArg (List.map (·.1)) h
    simpa [List.map_map, Function.comp_def] using this
  rw [this]; exact hn

/-- **one instance per element**: the instance names are `<slot>__i__j` for the index tuples of the slot, each exactly once,
in row-major order -/
theorem insts_cover_elements (k : Sub) (hm : k.mods.length = (allIdx k.dims).length) :
    (vSubInsts k).map (·.name) = (allIdx k.dims).map (fun ix => Seg.name k.name :: ix.map Seg.idx) ∧
    (allIdx k.dims).Nodup ∧ ∀ ix, ix ∈ allIdx k.dims ↔ IdxLt ix k.dims := by
  refine ⟨?_, allIdx_nodup _, mem_allIdx _⟩
  have e : (vSubInsts k).map (·.name) =
      (((allIdx k.dims).zip k.mods).map Prod.fst).map fun ix => Seg.name k.name :: ix.map Seg.idx := by
    simp only [vSubInsts, List.map_map, Function.comp_def, vInst]
  rw [e, List.map_fst_zip (Nat.le_of_eq hm.symm)]

example :
    let k : Sub := ⟨"c", [2, 3], ["M0", "M1", "M2", "M3", "M4", "M5"], [⟨"p", [2], .input, .vec 4⟩], []⟩
    ((vSubWires k).map fun d => (d.ident, d.dims)) = [("c__p", [2, 3, 2])] ∧
    ((vSubInsts k).map fun I => (flatId I.name, I.mod, I.conns.map fun c => (c.formal, flatId c.wire, c.idx))) =
      [("c__0__0", "M0", [("p", "c__p", [0, 0])]), ("c__0__1", "M1", [("p", "c__p", [0, 1])]), ("c__0__2", "M2", [("p", "c__p", [0, 2])]),
       ("c__1__0", "M3", [("p", "c__p", [1, 0])]), ("c__1__1", "M4", [("p", "c__p", [1, 1])]), ("c__1__2", "M5", [("p", "c__p", [1, 2])])] := by
  decide +kernel

/-- **Token order of `gen_signal_expr`**: outermost object first; per object its attribute, then its list indices in their own
order; the slice last. -/
theorem tokens_in_order (sl : Option (Nat × Nat)) (frames : List Frame) :
    tokens sl frames = (frames.reverse.flatMap fun f => Tk.attr f.name :: f.idxs.map Tk.idx) ++ sliceTk sl :=
  tokens_eq sl frames

/-- **`gen_signal_expr` on a well-typed object path**: `construct_attr` / `construct_index` / `construct_slice`, driven by the
RTLIR types of the table, build exactly `OPath.sexp` — the expression the rendering theorems are about. -/
theorem gen_signal_expr_path (T : Table) (p : OPath) (h : p.TypedIn T) (sl : Option (Nat × Nat)) (frames : List Frame)
    (ht : tokens sl frames = p.toks) : ∃ t, genSExp T sl frames = some (p.sexp, t) := by
  unfold genSExp
  rw [ht]
  exact constructAll_opath T p h

example :
    let T : Table := ⟨[], [], [], [⟨"c", [2, 3], ["M", "M", "M", "M", "M", "M"], [⟨"p", [2], .input, .vec 4⟩], []⟩]⟩
    let p : OPath := ⟨some ("c", [0, 2]), [], "p", [1], false, [.slice 0 4]⟩
    tokens (some (0, 4)) [⟨"p", [1]⟩, ⟨"c", [0, 2]⟩] = p.toks ∧
    (genSExp T (some (0, 4)) [⟨"p", [1]⟩, ⟨"c", [0, 2]⟩]).map (·.1) = some p.sexp := by decide +kernel

/-- **The text of an operand.** -/
theorem render_path (p : OPath) (hw : p.WireLocal) :
    (render p.sexp).map (·.ref) = some ⟨p.names, p.allIdx.map Sel.idx ++ p.packed.map PStep.sel⟩ := by
  simp [render_opath p hw]

/-- the shared index queue `_rtlir_tr_unpacked_q` is empty after every operand (nothing leaks into the next one) -/
theorem render_queue_empty (p : OPath) (hw : p.WireLocal) : (render p.sexp).map (·.q) = some [] := by
  simp [render_opath p hw]

/-- **`denoteSV (render p) = denotePy p`.**  `fams` are the objects the module declares variables for, `ρ` gives every PyMTL
signal object its value; the SystemVerilog side reads the rendered reference over `envOf fams ρ`: element `ix` of the array
declared for a family stands for the object reached by cutting `ix` level by level — the meaning the declarations
(`decls_cover`) and the port maps (`inst_binds_child_ports`) give it. -/
theorem operand_denotes (fams : List Family) (ρ : List Seg → Option PVal) (p : OPath) (f : Family) (hf : f ∈ fams)
    (hin : InFamily p f) (huniq : ∀ g ∈ fams, flatId g.names = flatId f.names → g = f) (hw : p.WireLocal)
    (hok : ∀ v, ρ p.objPath = some v → StepsOk v p.packed) :
    ∃ st, render p.sexp = some st ∧ denoteSV (dimsOf fams) (envOf fams ρ) st.ref = denotePy ρ p := by
  refine ⟨_, render_opath p hw, ?_⟩
  have hid : (Ref.mk p.names (p.allIdx.map Sel.idx ++ p.packed.map PStep.sel)).ident = flatId f.names := by
    have : f.names = p.names.map Seg.name := by
      unfold Family.names OPath.names
      have := congrArg (List.map Seg.name) hin.1
      simpa [List.map_map, Function.comp_def] using this
    rw [this, flatId_names]; rfl
  have hfam := famOf_eq fams f hf huniq
  unfold denoteSV dimsOf envOf denotePy
  simp only [hid, hfam, Option.map_some, Option.bind_some, dims_length p f hin, splitSels_map_idx, objPath_eq p f hin]
  cases hv : ρ p.objPath with
  | none => rfl
  | some v => simpa using stepsSV_sel v p.packed (hok v hv)

/-- families with well-formed names that get the same identifier have the same name list -/
theorem names_injective (f g : Family) (hf : ∀ l ∈ f.levels, okName l.name = true) (hg : ∀ l ∈ g.levels, okName l.name = true)
    (h : flatId f.names = flatId g.names) : f.names = g.names :=
  flatId_injOn _ _ (List.forall_mem_map.mpr hf) (List.forall_mem_map.mpr hg) h

/-- **every identifier is declared once**: well-formed names and pairwise different objects -/
theorem decl_idents_nodup (fams : List Family) (hok : ∀ f ∈ fams, ∀ l ∈ f.levels, okName l.name = true)
    (hd : (fams.map Family.names).Nodup) : ((fams.map Family.decl).map Decl.ident).Nodup := by
  have e : (fams.map Family.decl).map Decl.ident = (fams.map Family.names).map flatId := by
    simp only [List.map_map, Function.comp_def, Decl.ident, Family.decl]
  rw [e]
  refine nodup_map_flatId _ (fun p hp => ?_) hd
  obtain ⟨f, hf, rfl⟩ := List.mem_map.mp hp
  exact List.forall_mem_map.mpr (hok f hf)

/-- the uniqueness hypothesis of `operand_denotes` follows from well-formed names and pairwise different name lists -/
theorem uniq_of_wf (fams : List Family) (hok : ∀ f ∈ fams, ∀ l ∈ f.levels, okName l.name = true)
    (hd : (fams.map Family.names).Nodup) (f : Family) (hf : f ∈ fams) :
    ∀ g ∈ fams, flatId g.names = flatId f.names → g = f :=
  fun g hg e => eq_of_nodup_map hd hg hf (names_injective g f (hok g hg) (hok f hf) e)

/-- instance names never collide with each other (slot names well formed) -/
theorem inst_names_injective (a b : String) (ix jx : List Nat) (ha : okName a = true) (hb : okName b = true)
    (h : flatId (Seg.name a :: ix.map Seg.idx) = flatId (Seg.name b :: jx.map Seg.idx)) : a = b ∧ ix = jx := by
  have hok : ∀ (n : String) (l : List Nat), okName n = true → ∀ s ∈ Seg.name n :: l.map Seg.idx, s.ok = true :=
    fun n l hn => List.forall_mem_cons.mpr ⟨hn, List.forall_mem_map.mpr fun _ _ => rfl⟩
  have := flatId_injOn (Seg.name a :: ix.map Seg.idx) (Seg.name b :: jx.map Seg.idx) (hok a ix ha) (hok b jx hb) h
  simp only [List.cons.injEq, Seg.name.injEq] at this
  exact ⟨this.1, (List.map_inj_right fun _ _ h => Seg.idx.inj h).mp this.2⟩

/-! ### non-vacuity: a 2 × 3 list of sub-components with a 2-element port list; the transposed index is a different object -/

def exFam : Family := ⟨[⟨"c", [2, 3]⟩, ⟨"p", [2]⟩], .wire, .vec 4⟩

def exFams : List Family := [exFam, ⟨[⟨"q", []⟩], .input, .vec 4⟩]

def exPath : OPath := ⟨some ("c", [0, 2]), [], "p", [1], false, [.slice 0 4]⟩

/-- every object carries the number spelled by its own indices -/
def exRho : List Seg → Option PVal
  | [.name "c", .idx i, .idx j, .name "p", .idx k] => some (.bits 4 (i * 6 + j * 2 + k))
  | _ => none

/-- width and value of a vector (for comparing values in the examples) -/
def bitsOfVal : Option PVal → Option (Nat × Nat)
  | some (.bits w v) => some (w, v)
  | _ => none

example : (render exPath.sexp).map (fun s => (s.ref.ident, s.ref.sels, s.q)) =
    some ("c__p", [.idx 0, .idx 2, .idx 1, .rng 3 0], []) := by decide +kernel

example : (render exPath.sexp).map (fun s => bitsOfVal (denoteSV (dimsOf exFams) (envOf exFams exRho) s.ref)) = some (some (4, 5)) ∧
    bitsOfVal (denotePy exRho exPath) = some (4, 5) := by decide +kernel

/-- with the indices of the sub-component list transposed the reference reads another element (`c[2][0].p[1]`, which the
declaration `c__p [0:1][0:2][0:1]` does not even contain): the statement of `operand_denotes` is false for a transposed index
order -/
theorem transposed_operand_differs :
    denoteSV (dimsOf exFams) (envOf exFams exRho) ⟨["c", "p"], [.idx 2, .idx 0, .idx 1, .rng 3 0]⟩ ≠ denotePy exRho exPath := by
  intro h
  have := congrArg bitsOfVal h
  revert this
  decide +kernel

example : ∃ st, render exPath.sexp = some st ∧ denoteSV (dimsOf exFams) (envOf exFams exRho) st.ref = denotePy exRho exPath :=
  operand_denotes exFams exRho exPath exFam (List.mem_cons_self ..) ⟨rfl, rfl⟩
    (uniq_of_wf exFams (by decide +kernel) (by decide +kernel) exFam (List.mem_cons_self ..)) (by intro h; cases h)
    (by
      intro v hv
      have h : exRho exPath.objPath = some (.bits 4 5) := by rfl
      rw [h] at hv
      cases hv
      simp [StepsOk, StepOk, exPath])

/-- **Wire forms: list dimensions first, then the dimensions of the packed-array fields on the way, in order.** -/
theorem ywire_dims_in_order (s : Sig) : ∀ w ∈ (yOfSig s).wires,
    ∃ p ds, w.path = Seg.name s.name :: p ∧ DimsAlong s.ty p ds ∧ w.dims = s.dims ++ ds := by
  intro w hw
  simp only [yOfSig, List.mem_map] at hw
  obtain ⟨w', hw', rfl⟩ := hw
  obtain ⟨ds, hda, hd⟩ := yWires_dims s.ty s.dims w' hw'
  exact ⟨w'.path, ds, rfl, hda, hd⟩

/-- … and an enclosing list of interfaces / sub-components puts its own dimensions in front -/
theorem ywire_dims_wrapped (name : String) (dims : List Nat) (r : YRec) : ∀ w ∈ (yWrap name dims false r).wires,
    ∃ w' ∈ r.wires, w.path = Seg.name name :: w'.path ∧ w.dims = dims ++ w'.dims := by
  intro w hw
  simp only [yWrap, Bool.false_eq_true, if_false, List.mem_map] at hw
  obtain ⟨w', hw', rfl⟩ := hw
  exact ⟨w', hw', rfl, rfl⟩

/-- **Flat port ↔ wire form**: in every emitted connection that is not a slice of a struct's packed vector, the flat port
identifier `a__i__b__j` the connection names is paired with element `[i][j]` (indices in the order in which they occur in that
identifier) of the wire form `a__b`; for ports, port lists, struct and packed-array fields, interfaces (without lists of
interfaces inside: finding F25) and sub-components. That the identifier is one of the ports the record declares is not part
of the statement. -/
theorem yconn_pairs_same_element :
    (∀ s : Sig, RecOk (yOfSig s)) ∧ (∀ e : IfcE, NoNestedLists e.ms → RecOk (yOfIfc e)) ∧
    (∀ k : Sub, (∀ e ∈ k.ifcs, NoNestedLists e.ms) → RecOk (yOfSub k)) :=
  ⟨yOfSig_ok, yOfIfc_ok, yOfSub_ok⟩

/-- **Yosys operand**: all names (struct fields included) joined by `__`, then all indices in order — the element
`yconn_pairs_same_element` connects the flat port of the same object with. -/
theorem yrender_path (p : OPath) :
    yRender p.sexp = ⟨p.names ++ fldNames p.packed, p.allIdx.map Sel.idx ++ nonFldSels p.packed⟩ :=
  yRender_opath p

example :
    let s : Sig := ⟨"in_", [2], .input, .struct "S" (.cons "ch" (.arr 3 (.vec 2)) (.cons "x" (.vec 4) .nil))⟩
    ((yOfSig s).wires.map fun w => (flatId w.path, w.dims, w.present)) =
      [("in___ch", [2, 3], false), ("in___x", [2], false), ("in_", [2], true)] ∧
    (((yOfSig s).conns.filter fun c => !c.present).map fun c => (flatId c.pid, flatId c.wid, c.idx)) =
      [("in___0__ch__0", "in___ch", [.idx 0, .idx 0]), ("in___0__ch__1", "in___ch", [.idx 0, .idx 1]),
       ("in___0__ch__2", "in___ch", [.idx 0, .idx 2]), ("in___0__x", "in___x", [.idx 0]),
       ("in___1__ch__0", "in___ch", [.idx 1, .idx 0]), ("in___1__ch__1", "in___ch", [.idx 1, .idx 1]),
       ("in___1__ch__2", "in___ch", [.idx 1, .idx 2]), ("in___1__x", "in___x", [.idx 1])] := by
  decide +kernel

example : yRender (OPath.sexp ⟨none, [], "in_", [1], false, [.fld "ch", .pidx 2]⟩) = ⟨["in_", "ch"], [.idx 1, .idx 2]⟩ := by decide +kernel

end PV.C03d
