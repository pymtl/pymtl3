import PymtlVerif.Gen.MemGen
import PymtlVerif.Props.C04Gen
import PymtlVerif.Props.C04
import PymtlVerif.Proofs.MemSeq
/-!
# C18Gen — the memory cores generated from the current Python source equal the hand-written model

`Gen/MemGen.lean` is regenerated by `tools/py2lean_mem.py` from `pymtl3/extra/pypy/fast_bytearray_funcs.py`, the table
`AMO_FUNS` of `pymtl3/stdlib/mem/MagicMemoryFL.py` and the request-handling glue of `up_mem` in
`pymtl3/stdlib/mem/MagicMemoryCL.py` / `pymtl3/stdlib/stream/magic_memory.py` on every check of C18; so is
`Gen/BitsGen.lean`, whose definitions it calls, by `tools/py2lean_bits.py`.

**Representation of a `bytearray`.**  The generated definitions take a Python `bytearray` `arr` as the pair
`(len : Nat) (m : Nat → Nat)`: `len(arr) = len` and `arr[i] = m i` for every `i < len`.  The model's `Store` is the
element function alone.  In the theorems below `m : Store` is the element function of a bytearray of length `len`
(outside `[0, len)` it may be anything that keeps `Bytes m`, e.g. 0), the access lies inside the object
(`a + k ≤ len`, otherwise Python raises IndexError — outside the model, see `Model/Mem.lean`), and the result of the
generated `write_bytearray_bits` is the element function of the same object afterwards.
`Bytes m` (`∀ b, m b < 256`) is the invariant of every `bytearray`.

Other hypotheses: `fuel > k` (the `while` loops run `k` times; `none` = out of fuel); for reads `1 ≤ k`, `8k < 1024`
(the result is constructed by `Bits(nbytes << 3, ret)`); for a Bits `data` of width `w`: `8 ≤ w < 1024`
(`data & 255`, `data >> 8` reject an int operand above `2^w - 1`); for the AMOs two well-formed operands of one width.
-/
namespace PV.C18Gen
open PV.Bits PV.PyInt PV.PyMem PV.Mem

theorem arrSet_eq_upd (m : Store) (a v : Nat) : arrSet m a v = upd m a v := rfl

theorem pyShl_8 (r : Nat) : pyShl (r : Int) 8 = ((256 * r : Nat) : Int) := pyShl_natCast_mul r 8

theorem pyShl_3 (k : Nat) : pyShl (k : Int) 3 = ((8 * k : Nat) : Int) := pyShl_natCast_mul k 3

theorem pyShr_8 (d : Nat) : pyShr (d : Int) 8 = ((d / 256 : Nat) : Int) := pyShr_natCast_div d 8

theorem pyShr_3 (d : Nat) : pyShr (d : Int) 3 = ((d / 8 : Nat) : Int) := pyShr_natCast_div d 3

theorem pyAnd_255 (d : Nat) : pyAnd (d : Int) 255 = ((d % 256 : Nat) : Int) := pyAnd_natCast_mod d 8

theorem lt_two_pow_of_lt_256 {k w : Nat} (hk : k < 256) (h8 : 8 ≤ w) : k < 2 ^ w :=
  Nat.lt_of_lt_of_le hk (Nat.pow_le_pow_right (by decide) h8 : 2 ^ 8 ≤ 2 ^ w)

/-- Bits data of width `w ≥ 8`: `data & 255` and `data >> 8` are the model's `% 256` and `/ 256` -/
theorem bits_and_255 (w d : Nat) (h8 : 8 ≤ w) (hn : w < 1024) : BitsGen.and_ ⟨w, d⟩ (.int 255) = .ok ⟨w, d % 256⟩ :=
  (C04Gen.gen_and_eq ⟨w, d⟩ _ hn).trans <| (binop_natCast .and ⟨w, d⟩ 255 (lt_two_pow_of_lt_256 (by decide) h8)).trans <|
    (PV.C04.bitwise_spec w d 255).1.trans (by rw [← Nat.and_two_pow_sub_one_eq_mod d 8])

theorem bits_shr_8 (w d : Nat) (h8 : 8 ≤ w) (hn : w < 1024) : BitsGen.rshift ⟨w, d⟩ (.int 8) = .ok ⟨w, d / 256⟩ :=
  (C04Gen.gen_rshift_eq ⟨w, d⟩ _ hn).trans <| (binop_natCast .rshift ⟨w, d⟩ 8 (lt_two_pow_of_lt_256 (by decide) h8)).trans
    (PV.C04.shift_spec w d 8).2

/-- A loop over `(ret, addr)` whose test is `addr ≥ a` and whose body is `ret = (ret << 8) + arr[addr]; addr -= 1` computes
`readLE`: the body is the defining equation of `readLE` read from right to left, so with `j` bytes still to visit `ret`
is the `readLE` of the `i` bytes visited. -/
theorem read_loop (len : Nat) (m : Store) (a : Nat) (cond : Int × Int → Bool) (body : Int × Int → Except Err (Int × Int))
    (hc : ∀ (r x : Int), cond (r, x) = decide (x ≥ (a : Int)))
    (hb : ∀ (r n : Nat), n < len → body ((r : Int), (n : Int)) = .ok (((m n + 256 * r : Nat) : Int), (n : Int) - 1))
    (j : Nat) : ∀ (i f : Nat) (r : Int), r = ((readLE m (a + j) i : Nat) : Int) → a + j ≤ len →
    whileM (j + f + 1) cond body (r, ((a + j : Nat) : Int) - 1) = some (.ok (((readLE m a (j + i) : Nat) : Int), (a : Int) - 1)) := by
  induction j with
  | zero =>
    intro i f r hr _
    rw [whileM_done _ _ _ _ (by rw [hc]; exact decide_eq_false (Int.not_le.mpr (Int.sub_one_lt_of_le (Int.le_refl _)))),
      hr, Nat.zero_add]
    rfl
  | succ j ih =>
    intro i f r hr hl
    rw [hr, Nat.add_right_comm j 1 f,
      show ((a + (j + 1) : Nat) : Int) - 1 = ((a + j : Nat) : Int) from Int.add_sub_cancel ((a + j : Nat) : Int) 1,
      whileM_step _ _ _ _ _ (by rw [hc]; exact decide_eq_true (Int.ofNat_le.mpr (Nat.le_add_right a j))) (hb (readLE m (a + (j + 1)) i) (a + j) hl)]
    exact (ih (i + 1) f _ rfl (Nat.le_of_succ_le hl)).trans (by rw [Nat.add_right_comm, Nat.add_assoc])

theorem gen_read_bytearray_bits_eq (len : Nat) (m : Store) (a k fuel : Nat) (hb : Bytes m)
    (hr : a + k ≤ len) (hk1 : 1 ≤ k) (hk2 : 8 * k < 1024) (hf : k < fuel) :
    MemGen.read_bytearray_bits fuel len m (a : Int) (k : Int) = some (.ok ⟨8 * k, readLE m a k⟩) := by
  obtain ⟨f, rfl⟩ := Nat.exists_eq_add_of_lt hf
  rw [MemGen.read_bytearray_bits, ← Int.natCast_add, read_loop len m a _ _ (fun _ _ => rfl) ?hb k 0 f 0 rfl hr]
  · dsimp only
    rw [pyShl_3, C04Gen.gen_init_eq, Nat.add_zero,
      PV.C04.ctor_nat _ _ (Nat.le_trans hk1 (Nat.le_mul_of_pos_left k (by decide))) hk2 (readLE_lt_two_pow k m a hb)]
  · intro r n hn
    simp only [idxOk_natCast hn, not_true_eq_false, ↓reduceIte, idx_natCast, pyShl_8, ← Int.natCast_add, Nat.add_comm]

/-- the guard `0 ≤ v ≤ 255` of `arr[i] = v` holds of a low byte -/
theorem low_byte_le (d : Nat) : ¬ (((d % 256 : Nat) : Int) > 255) :=
  Int.not_lt.mpr (Int.ofNat_le.mpr (Nat.le_of_lt_succ (Nat.mod_lt d (by decide))))

/-- A loop over `(array, data, address)` whose test is `addr < e` and whose body stores the low byte of the data,
shifts the data by a byte and advances the address is `writeLE`.  `mk` is how the state holds the data (an `int`, or
a `Bits` of some width); test and body are parameters: the generated ones are shown to be of this form below. -/
theorem write_loop {δ : Type} (mk : Nat → δ) (len e : Nat) (cond : (Nat → Nat) × δ × Int → Bool)
    (body : (Nat → Nat) × δ × Int → Except Err ((Nat → Nat) × δ × Int))
    (hc : ∀ (m : Nat → Nat) (x : δ) (i : Int), cond (m, x, i) = decide (i < (e : Int)))
    (hb : ∀ (m : Nat → Nat) (d a : Nat), a < len →
      body (m, mk d, (a : Int)) = .ok (arrSet m a (d % 256), mk (d / 256), ((a + 1 : Nat) : Int)))
    (hl : e ≤ len) (j : Nat) : ∀ (m : Store) (d a f : Nat), a + j = e →
    whileM (j + f + 1) cond body (m, mk d, (a : Int)) = some (.ok (writeLE m a j d, mk (d / 256 ^ j), (e : Int))) := by
  induction j with
  | zero =>
    intro m d a f he
    rw [whileM_done _ _ _ _ (by rw [hc, ← he]; exact decide_eq_false (Int.lt_irrefl _)), Nat.pow_zero, Nat.div_one, ← he]
    rfl
  | succ j ih =>
    intro m d a f he
    have hlt : a < e := he ▸ Nat.lt_add_of_pos_right (Nat.succ_pos j)
    rw [Nat.add_right_comm j 1 f,
      whileM_step _ _ _ _ _ (by rw [hc]; exact decide_eq_true (Int.ofNat_lt.mpr hlt)) (hb m d a (Nat.lt_of_lt_of_le hlt hl)),
      ih _ _ _ f ((Nat.succ_add_eq_add_succ a j).trans he), Nat.div_div_eq_div_mul, ← Nat.pow_succ', arrSet_eq_upd]
    rfl

theorem gen_write_bytearray_bits_int_eq (len : Nat) (m : Store) (a k d fuel : Nat) (hr : a + k ≤ len) (hf : k < fuel) :
    MemGen.write_bytearray_bits_int fuel len m (a : Int) (k : Int) (d : Int) = some (.ok (writeLE m a k d)) := by
  obtain ⟨f, rfl⟩ := Nat.exists_eq_add_of_lt hf
  rw [MemGen.write_bytearray_bits_int, ← Int.natCast_add, write_loop Nat.cast len (a + k) _ _ (fun _ _ _ => rfl) ?hb hr k m d a f rfl]
  intro m d a ha
  simp only [idxOk_natCast ha, not_true_eq_false, ↓reduceIte, idx_natCast, pyAnd_255, low_byte_le, Int.toNat_natCast, pyShr_8,
    Int.natCast_add, Int.natCast_one]

theorem gen_write_bytearray_bits_eq (len : Nat) (m : Store) (a k w d fuel : Nat) (hr : a + k ≤ len) (hf : k < fuel)
    (h8 : 8 ≤ w) (hn : w < 1024) :
    MemGen.write_bytearray_bits fuel len m (a : Int) (k : Int) ⟨w, d⟩ = some (.ok (writeLE m a k d)) := by
  obtain ⟨f, rfl⟩ := Nat.exists_eq_add_of_lt hf
  rw [MemGen.write_bytearray_bits, ← Int.natCast_add, write_loop (B.mk w) len (a + k) _ _ (fun _ _ _ => rfl) ?hb hr k m d a f rfl]
  intro m d a ha
  simp only [bits_and_255 w _ h8 hn, bits_shr_8 w _ h8 hn, idxOk_natCast ha, not_true_eq_false, ↓reduceIte, idx_natCast, low_byte_le,
    Int.toNat_natCast, Int.natCast_add, Int.natCast_one]

theorem gen_int_sint (w x : Nat) (h1 : 1 ≤ w) (hn : w < 1024) (hx : x < 2 ^ w) : BitsGen.int_ ⟨w, x⟩ = .ok (sint w x) :=
  (C04Gen.gen_int_eq ⟨w, x⟩ h1 hn).trans (congrArg Except.ok ((PV.C04.int_signed w x h1 hx).1.trans (sint_eq w x).symm))

/-- every entry of the table, on two well-formed operands of width `w`, is `amoFun` of the model -/
theorem gen_AMO_FUNS_eq (op : AmoOp) (w m a : Nat) (h1 : 1 ≤ w) (hn : w < 1024) (hm : m < 2 ^ w) (ha : a < 2 ^ w) :
    ∃ f, MemGen.AMO_FUNS (op.code : Int) = some f ∧ f ⟨w, m⟩ ⟨w, a⟩ = .ok ⟨w, amoFun w op m a⟩ := by
  cases op
  case add => exact ⟨_, rfl, (C04Gen.gen_add_eq ⟨w, m⟩ _ hn).trans (PV.C04.add_spec w m a)⟩
  case and => exact ⟨_, rfl, (C04Gen.gen_and_eq ⟨w, m⟩ _ hn).trans (PV.C04.bitwise_spec w m a).1⟩
  case or => exact ⟨_, rfl, (C04Gen.gen_or_eq ⟨w, m⟩ _ hn).trans (PV.C04.bitwise_spec w m a).2.1⟩
  case xor => exact ⟨_, rfl, (C04Gen.gen_xor_eq ⟨w, m⟩ _ hn).trans (PV.C04.bitwise_spec w m a).2.2⟩
  case swap => exact ⟨_, rfl, rfl⟩
  case min =>
    refine ⟨_, rfl, ?_⟩
    simp only [MemGen.AMO_FUNS_AMO_MIN, gen_int_sint w m h1 hn hm, gen_int_sint w a h1 hn ha, amoFun]
    split <;> rfl
  case max =>
    refine ⟨_, rfl, ?_⟩
    simp only [MemGen.AMO_FUNS_AMO_MAX, gen_int_sint w m h1 hn hm, gen_int_sint w a h1 hn ha, amoFun]
    split <;> rfl
  case minu =>
    refine ⟨_, rfl, ?_⟩
    simp only [MemGen.AMO_FUNS_AMO_MINU, C04Gen.gen_lt_eq ⟨w, a⟩ _ hn, PV.C04.cmp_spec, cmpRaw, amoFun]
    by_cases h : a < m <;> simp [h]
  case maxu =>
    refine ⟨_, rfl, ?_⟩
    simp only [MemGen.AMO_FUNS_AMO_MAXU, C04Gen.gen_gt_eq ⟨w, a⟩ _ hn, PV.C04.cmp_spec, cmpRaw, amoFun]
    by_cases h : a > m <;> simp [h]

/-- the keys of the table are exactly the nine AMO codes of the model -/
theorem gen_AMO_FUNS_keys (k : Int) : (MemGen.AMO_FUNS k).isSome = true ↔ ∃ op : AmoOp, k = (op.code : Int) := by
  constructor
  · intro h
    unfold MemGen.AMO_FUNS at h
    by_cases h3 : k = 3; · exact ⟨.add, h3⟩
    by_cases h4 : k = 4; · exact ⟨.and, h4⟩
    by_cases h5 : k = 5; · exact ⟨.or, h5⟩
    by_cases h6 : k = 6; · exact ⟨.swap, h6⟩
    by_cases h7 : k = 7; · exact ⟨.min, h7⟩
    by_cases h8 : k = 8; · exact ⟨.minu, h8⟩
    by_cases h9 : k = 9; · exact ⟨.max, h9⟩
    by_cases h10 : k = 10; · exact ⟨.maxu, h10⟩
    by_cases h11 : k = 11; · exact ⟨.xor, h11⟩
    simp [h3, h4, h5, h6, h7, h8, h9, h10, h11] at h
  · rintro ⟨op, rfl⟩
    cases op <;> rfl

/-! ## the request-handling glue of `up_mem` (MagicMemoryCL and the stream MagicMemoryRTL)

`tools/py2lean_mem.py` cuts five small functions out of the update block `up_mem` of each memory (the statements that
compute `len_`; the data argument of `s.mem.write` / `s.mem.amo`; what wraps `s.mem.read` / `s.mem.amo` in the response)
and translates them: `MemGen.cl_up_mem_*`, `MemGen.rtl_up_mem_*`.  Below: each equals what `Model/Mem.lean: service`
assumes (`nbytes`; the low `len_` bytes of the data field as a `Bits(8·len_)`; zero-extension to the data width), and the
three branches of `up_mem`, re-composed from the generated pieces along `MagicMemoryFL.read / write / amo`, equal
`service`.  The compositions `flAmo`, `upMemRead`, `upMemWrite`, `upMemAmo` are written by hand (they mirror the three
lines of `MagicMemoryFL.amo` and the call structure of the branch); the dispatch on `req.type_` is not generated. -/

/-- `x[0 : k << 3]` of a `w`-bit value: the low `k` bytes as a `Bits(8k)` -/
theorem slice_low_bytes (w d k : Nat) (h1 : 1 ≤ k) (hk : 8 * k ≤ w) (hn : w < 1024) :
    BitsGen.getitem_slice ⟨w, d⟩ (some 0) (some (pyShl (k : Int) 3)) none = .ok ⟨8 * k, d % 2 ^ (8 * k)⟩ := by
  rw [C04Gen.gen_getitem_slice_eq _ _ _ _ hn, pyShl_3]
  have hc : (0 : Int) ≤ 0 ∧ (0 : Int) < ((8 * k : Nat) : Int) ∧ ((8 * k : Nat) : Int) ≤ (w : Int) :=
    ⟨Int.le_refl 0, Int.ofNat_lt.mpr (Nat.mul_pos (by decide) h1), Int.ofNat_le.mpr hk⟩
  simp only [getSlice, sliceBounds, Option.isSome_none, Bool.false_eq_true, ↓reduceIte, Option.getD_some, hc, and_self,
    Int.toNat_zero, Int.toNat_natCast, Nat.sub_zero, Nat.shiftRight_zero]

/-- `zext(x, dn)` of an `n`-bit value, `n ≤ dn`: the same value as a `Bits(dn)` -/
theorem zext_value (n v dn : Nat) (h : n ≤ dn) (h1 : 1 ≤ dn) (hdn : dn < 1024) (hv : v < 2 ^ n) :
    BitsGen.zext ⟨n, v⟩ (dn : Int) = .ok ⟨dn, v⟩ := by
  rw [C04Gen.gen_zext_eq, zext, if_neg (not_not_intro (Int.ofNat_le.mpr h)),
    PV.C04.ctor_nat dn v h1 hdn (Nat.lt_of_lt_of_le hv (Nat.pow_le_pow_right (by decide) h))]

/-- the five glue functions of one memory -/
structure Glue where
  len : B → Int → Except Err Int
  readRet : B → Int → Int → Except Err B
  writeArg : B → Int → Int → Except Err B
  amoArg : B → Int → Int → Except Err B
  amoRet : B → Int → Int → Except Err B

def clGlue : Glue := ⟨MemGen.cl_up_mem_len, MemGen.cl_up_mem_read_ret, MemGen.cl_up_mem_write_arg,
  MemGen.cl_up_mem_amo_arg, MemGen.cl_up_mem_amo_ret⟩
def rtlGlue : Glue := ⟨MemGen.rtl_up_mem_len, MemGen.rtl_up_mem_read_ret, MemGen.rtl_up_mem_write_arg,
  MemGen.rtl_up_mem_amo_arg, MemGen.rtl_up_mem_amo_ret⟩

/-- what `service` assumes about the glue -/
structure Glue.Ok (g : Glue) : Prop where
  /-- `len_ = int(req.len); if len_ == 0: len_ = data_nbits >> 3` is `nbytes (data_nbits / 8) len` -/
  len : ∀ (lw l dn : Nat), g.len ⟨lw, l⟩ (dn : Int) = .ok ((nbytes (dn / 8) l : Nat) : Int)
  /-- the data handed to `write` / `amo`: the low `k` bytes of the data field, as a `Bits(8k)` -/
  writeArg : ∀ (w d k : Nat) (dn : Int), 1 ≤ k → 8 * k ≤ w → w < 1024 →
    g.writeArg ⟨w, d⟩ (k : Int) dn = .ok ⟨8 * k, d % 2 ^ (8 * k)⟩
  amoArg : ∀ (w d k : Nat) (dn : Int), 1 ≤ k → 8 * k ≤ w → w < 1024 →
    g.amoArg ⟨w, d⟩ (k : Int) dn = .ok ⟨8 * k, d % 2 ^ (8 * k)⟩
  /-- the data of the response: what `read` / `amo` returned, zero-extended to the data width -/
  readRet : ∀ (n v dn : Nat) (k : Int), n ≤ dn → 1 ≤ dn → dn < 1024 → v < 2 ^ n →
    g.readRet ⟨n, v⟩ k (dn : Int) = .ok ⟨dn, v⟩
  amoRet : ∀ (n v dn : Nat) (k : Int), n ≤ dn → 1 ≤ dn → dn < 1024 → v < 2 ^ n →
    g.amoRet ⟨n, v⟩ k (dn : Int) = .ok ⟨dn, v⟩

theorem gen_up_mem_len_eq (lw l dn : Nat) :
    MemGen.cl_up_mem_len ⟨lw, l⟩ (dn : Int) = .ok ((nbytes (dn / 8) l : Nat) : Int) := by
  unfold MemGen.cl_up_mem_len nbytes
  by_cases h : l = 0
  · simp [h, pyShr_3]
  · simp [h]

/-- the glue generated from `MagicMemoryCL.up_mem` is what the model assumes -/
theorem gen_cl_glue_ok : clGlue.Ok where
  len := gen_up_mem_len_eq
  writeArg := fun w d k _ h1 hk hn => by
    simp only [clGlue, MemGen.cl_up_mem_write_arg]; exact slice_low_bytes w d k h1 hk hn
  amoArg := fun w d k _ h1 hk hn => by
    simp only [clGlue, MemGen.cl_up_mem_amo_arg]; exact slice_low_bytes w d k h1 hk hn
  readRet := fun n v dn _ h h1 hdn hv => by
    simp only [clGlue, MemGen.cl_up_mem_read_ret]; exact zext_value n v dn h h1 hdn hv
  amoRet := fun n v dn _ h h1 hdn hv => by
    simp only [clGlue, MemGen.cl_up_mem_amo_ret]; exact zext_value n v dn h h1 hdn hv

/-- the two memories handle a request with the same glue (the generated definitions coincide) -/
theorem gen_rtl_glue_eq_cl : rtlGlue = clGlue := rfl

theorem gen_rtl_glue_ok : rtlGlue.Ok := gen_rtl_glue_eq_cl ▸ gen_cl_glue_ok

/-- `MagicMemoryFL.amo(amo, addr, nbytes, data)`:
`ret = s.read(addr, nbytes); s.write(addr, nbytes, AMO_FUNS[int(amo)](ret, data)); return ret`, `read` / `write` being
`read_bytearray_bits(s.mem, ..)` / `write_bytearray_bits(s.mem, ..)`.  `none`: out of fuel, or KeyError. -/
def flAmo (fuel len : Nat) (m : Nat → Nat) (ty addr k : Int) (data : B) : Option (Except Err (B × (Nat → Nat))) :=
  match MemGen.read_bytearray_bits fuel len m addr k with
  | none => none
  | some (.error e) => some (.error e)
  | some (.ok ret) =>
    match MemGen.AMO_FUNS ty with
    | none => none
    | some f =>
      match f ret data with
      | .error e => some (.error e)
      | .ok new =>
        match MemGen.write_bytearray_bits fuel len m addr k new with
        | none => none
        | some (.error e) => some (.error e)
        | some (.ok m') => some (.ok (ret, m'))

/-- READ branch: `zext(s.mem.read(req.addr, len_), data_nbits)`; the data of the response -/
def upMemRead (g : Glue) (fuel len : Nat) (m : Nat → Nat) (addr : Int) (lenField : B) (dn : Int) :
    Option (Except Err B) :=
  match g.len lenField dn with
  | .error e => some (.error e)
  | .ok k =>
    match MemGen.read_bytearray_bits fuel len m addr k with
    | none => none
    | some (.error e) => some (.error e)
    | some (.ok ret) => some (g.readRet ret k dn)

/-- WRITE branch: `s.mem.write(req.addr, len_, req.data[0:len_<<3])`; the byte array afterwards -/
def upMemWrite (g : Glue) (fuel len : Nat) (m : Nat → Nat) (addr : Int) (lenField data : B) (dn : Int) :
    Option (Except Err (Nat → Nat)) :=
  match g.len lenField dn with
  | .error e => some (.error e)
  | .ok k =>
    match g.writeArg data k dn with
    | .error e => some (.error e)
    | .ok arg => MemGen.write_bytearray_bits fuel len m addr k arg

/-- AMO branch: `zext(s.mem.amo(req.type_, req.addr, len_, req.data[0:len_<<3]), data_nbits)`; the data of the
response and the byte array afterwards -/
def upMemAmo (g : Glue) (fuel len : Nat) (m : Nat → Nat) (ty addr : Int) (lenField data : B) (dn : Int) :
    Option (Except Err (B × (Nat → Nat))) :=
  match g.len lenField dn with
  | .error e => some (.error e)
  | .ok k =>
    match g.amoArg data k dn with
    | .error e => some (.error e)
    | .ok arg =>
      match flAmo fuel len m ty addr k arg with
      | none => none
      | some (.error e) => some (.error e)
      | some (.ok (ret, m')) =>
        match g.amoRet ret k dn with
        | .error e => some (.error e)
        | .ok r => some (.ok (r, m'))

/-- a request as a message of a class with an `8·nb`-bit data field can carry it: `1 ≤ nb`, the width is a legal Bits
width, `len` is below `nb` (the `len` field has `clog2(nb)` bits), the data fits its field; the access lies inside the
byte array of length `len`; enough fuel for the byte loops -/
structure InRange (r : Req) (len fuel : Nat) : Prop where
  nb1 : 1 ≤ r.nb
  nbw : 8 * r.nb < 1024
  lenlt : r.len < r.nb
  data : r.data < 2 ^ (8 * r.nb)
  inside : r.addr + nbytes r.nb r.len ≤ len
  fuel : nbytes r.nb r.len < fuel

theorem InRange.bounds (r : Req) {len fuel : Nat} (h : InRange r len fuel) :
    1 ≤ nbytes r.nb r.len ∧ 8 ≤ 8 * nbytes r.nb r.len ∧ 8 * nbytes r.nb r.len ≤ 8 * r.nb ∧
    8 * nbytes r.nb r.len < 1024 ∧ 1 ≤ 8 * r.nb := by
  have hk : 1 ≤ nbytes r.nb r.len ∧ nbytes r.nb r.len ≤ r.nb := by
    unfold nbytes; split
    · exact ⟨h.nb1, Nat.le_refl _⟩
    · exact ⟨Nat.pos_of_ne_zero ‹_›, Nat.le_of_lt h.lenlt⟩
  exact ⟨hk.1, Nat.mul_le_mul_left 8 hk.1, Nat.mul_le_mul_left 8 hk.2, Nat.lt_of_le_of_lt (Nat.mul_le_mul_left 8 hk.2) h.nbw,
    Nat.le_trans h.nb1 (Nat.le_mul_of_pos_left r.nb (by decide))⟩

/-- the READ branch composed from the generated pieces answers what `service` answers, zero-extended to the data width.
In this and the two other branches every piece is rewritten to its value in the model, in call order. -/
theorem gen_up_mem_read_eq (g : Glue) (hg : g.Ok) (r : Req) (m : Store) (len fuel lw : Nat) (h : r.kind = .read)
    (hb : Bytes m) (hr : InRange r len fuel) :
    upMemRead g fuel len m (r.addr : Int) ⟨lw, r.len⟩ ((8 * r.nb : Nat) : Int)
      = some (.ok ⟨8 * r.nb, (service r m).1.data⟩) := by
  obtain ⟨hk1, _, hk2, hk3, hn1⟩ := hr.bounds
  simp only [upMemRead, service_read h, hg.len, Nat.mul_div_cancel_left r.nb (by decide : 0 < 8),
    gen_read_bytearray_bits_eq len m r.addr _ fuel hb hr.inside hk1 hk3 hr.fuel,
    hg.readRet _ _ _ _ hk2 hn1 hr.nbw (readLE_lt_two_pow _ m r.addr hb)]

/-- the WRITE branch composed from the generated pieces leaves the byte array `service` leaves -/
theorem gen_up_mem_write_eq (g : Glue) (hg : g.Ok) (r : Req) (m : Store) (len fuel lw : Nat) (h : r.kind = .write)
    (hr : InRange r len fuel) :
    upMemWrite g fuel len m (r.addr : Int) ⟨lw, r.len⟩ ⟨8 * r.nb, r.data⟩ ((8 * r.nb : Nat) : Int)
      = some (.ok (service r m).2) := by
  obtain ⟨hk1, hk8, hk2, hk3, _⟩ := hr.bounds
  simp only [upMemWrite, service_write h, hg.len, Nat.mul_div_cancel_left r.nb (by decide : 0 < 8),
    hg.writeArg _ _ _ _ hk1 hk2 hr.nbw, gen_write_bytearray_bits_eq len m r.addr _ _ _ fuel hr.inside hr.fuel hk8 hk3]

/-- The AMO branch, at every byte count `len_` (sub-word or full width): `up_mem`'s glue (generated), `MagicMemoryFL.amo`
(composed by hand from the generated byte-array helpers and the generated table `AMO_FUNS`) and the zero-extension answer the data `service`
answers, as a `Bits` of the data width, and leave the byte array `service` leaves.  In particular no width error arises
on the way: the value read, the operand and the result of the table entry all have `8·len_` bits. -/
theorem gen_up_mem_amo_eq (g : Glue) (hg : g.Ok) (r : Req) (op : AmoOp) (m : Store) (len fuel lw : Nat)
    (h : r.kind = .amo op) (hb : Bytes m) (hr : InRange r len fuel) :
    upMemAmo g fuel len m (op.code : Int) (r.addr : Int) ⟨lw, r.len⟩ ⟨8 * r.nb, r.data⟩ ((8 * r.nb : Nat) : Int)
      = some (.ok (⟨8 * r.nb, (service r m).1.data⟩, (service r m).2)) := by
  obtain ⟨hk1, hk8, hk2, hk3, hn1⟩ := hr.bounds
  have hold := readLE_lt_two_pow (nbytes r.nb r.len) m r.addr hb
  obtain ⟨f, hf1, hf2⟩ := gen_AMO_FUNS_eq op (8 * nbytes r.nb r.len) _ (r.data % 2 ^ (8 * nbytes r.nb r.len))
    (Nat.le_trans (by decide) hk8) hk3 hold (Nat.mod_lt _ (Nat.two_pow_pos _))
  simp only [upMemAmo, flAmo, service_amo h, hg.len, Nat.mul_div_cancel_left r.nb (by decide : 0 < 8),
    hg.amoArg _ _ _ _ hk1 hk2 hr.nbw, gen_read_bytearray_bits_eq len m r.addr _ fuel hb hr.inside hk1 hk3 hr.fuel, hf1, hf2,
    gen_write_bytearray_bits_eq len m r.addr _ _ _ fuel hr.inside hr.fuel hk8 hk3, hg.amoRet _ _ _ _ hk2 hn1 hr.nbw hold]

/-- the AMO branch with the glue of each memory; READ and WRITE instantiate in the same way with `gen_cl_glue_ok` /
`gen_rtl_glue_ok` -/
theorem gen_cl_up_mem_amo_eq (r : Req) (op : AmoOp) (m : Store) (len fuel lw : Nat)
    (h : r.kind = .amo op) (hb : Bytes m) (hr : InRange r len fuel) :
    upMemAmo clGlue fuel len m (op.code : Int) (r.addr : Int) ⟨lw, r.len⟩ ⟨8 * r.nb, r.data⟩ ((8 * r.nb : Nat) : Int)
      = some (.ok (⟨8 * r.nb, (service r m).1.data⟩, (service r m).2)) :=
  gen_up_mem_amo_eq clGlue gen_cl_glue_ok r op m len fuel lw h hb hr

theorem gen_rtl_up_mem_amo_eq (r : Req) (op : AmoOp) (m : Store) (len fuel lw : Nat)
    (h : r.kind = .amo op) (hb : Bytes m) (hr : InRange r len fuel) :
    upMemAmo rtlGlue fuel len m (op.code : Int) (r.addr : Int) ⟨lw, r.len⟩ ⟨8 * r.nb, r.data⟩ ((8 * r.nb : Nat) : Int)
      = some (.ok (⟨8 * r.nb, (service r m).1.data⟩, (service r m).2)) :=
  gen_up_mem_amo_eq rtlGlue gen_rtl_glue_ok r op m len fuel lw h hb hr

private def exOk : Option (Except Err (B × (Nat → Nat))) → Bool
  | some (.ok (x, m')) => x == ⟨32, 0xbeef⟩ && m' 16 == 1 && m' 17 == 0 && m' 18 == 0x34 && m' 19 == 0x12 && m' 20 == 0
  | _ => false

/-- non-vacuity: a 2-byte AMO_MAX of a 4-byte port on the word 0x1234beef with data 0xffff0001 (see `Props/C18.lean`),
run through the generated definitions -/
example :
    exOk (upMemAmo clGlue 8 64 (fun b => if b = 16 then 0xef else if b = 17 then 0xbe else if b = 18 then 0x34
                                         else if b = 19 then 0x12 else 0) 9 16 ⟨2, 2⟩ ⟨32, 0xffff0001⟩ 32) = true := by
  decide +kernel

example : InRange ⟨.amo .max, 2, 16, 2, 0xffff0001, 4⟩ 64 8 :=
  ⟨by decide, by decide, by decide, by decide, by decide, by decide⟩

end PV.C18Gen
