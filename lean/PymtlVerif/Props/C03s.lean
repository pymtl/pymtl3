import PymtlVerif.Proofs.SConnFix
/-!
# C03s — the structural part of the translation: which `assign` is emitted in which module

Theorems about `Model/SConn.lean` (`gen_connections` + `StructuralRTLIRGenL1Pass._gen_metadata` + one `assign` per pair),
for every component hierarchy `H`, every list of connect statements, every net list and every order `nb` in which the
adjacency sets are iterated (`ValidOrder H nb`: `nb u` enumerates the neighbours of `u` without repetition).

1. `tree_edges`            the pairs filed for a net form a spanning tree of the writer's net, rooted at the writer and listed
                           parent-before-child; `tree_edges_fuel` (the fuel is not what ends the traversal);
                           `tree_edges_order_indep` (connect graph without cycle: the same oriented pairs whatever `nb`);
2. `host_total`, `host_can_name`, `host_elsewhere_iff`, `no_typeError_of_legal`
                           the four-case rule on the shapes PyMTL allows; the one legal shape filed under a component other
                           than the one that executed the statement: both ends are signals of the same child;
   `emit_error_iff`        `emit` fails exactly when a statement of the component is filed under it in neither orientation;
   `emit_error_iff_legal`  on legal designs: exactly when the component connects two signals of one and the same child;
3. `emit_exact`            when nothing raises, the emitted assigns are the filed tree edges, each once (reader = target);
   `emit_eq_assigns`       the per-component `connections` metadata is the part of `assigns` tagged with the component;
   `single_driver`         every member of a net other than the writer is the left side of exactly one assign, the writer of none;
   `members_equal_writer`  in every valuation that satisfies all assigns, every member equals its net's writer;
   `assigns_settle`, `assigns_fixed_point_unique`
                           (through `Proofs/Sched.lean`) executing the assigns in tree order reaches a valuation that
                           satisfies all of them and keeps every undriven signal; two valuations that satisfy all assigns and
                           agree on the undriven signals are equal;
4. `emit_order`            a component's assigns come in the order of its `connect_order`, each statement as written or swapped.

Hypotheses, where used: `NetsOk H` (what elaboration guarantees about `get_all_value_nets()`: members = the writer's
connected component, different nets not connected, every connected signal is in a headed net), `StmtsNodup H` (no component
states one pair twice: `_connect_signal_signal` skips it), `¬ HasCycle H.edges` (`_floodfill_nets` rejects loops; as a
multigraph: also no pair stated by two components), legality of the statements (`CanName`). All are evaluated on every
design of the correspondence run (`harness/checks/c03_sconn.py`).
-/
namespace PV.C03s
open PV.Nets PV.SConn

/-- `valid 1`, `nodup 1`, `netsok 1`, `cyclic 0` in a reply of `pv_sconn` establish `ValidOrder`, `StmtsNodup`, `NetsOk`,
`¬ HasCycle`; and a valid order always exists -/
theorem preconditions_sound {H : Hier} {nb : Sig → List Sig} :
    (validOrderB H nb = true → (∀ u, u ∉ nodesOf H.edges → nb u = []) → ValidOrder H nb) ∧
    (stmtsNodupB H = true → StmtsNodup H) ∧
    (netsOkB H = true → NetsOk H) ∧
    (cyc H.edges = false → ¬ HasCycle H.edges) ∧
    ValidOrder H H.nbrs :=
  ⟨validOrderB_sound, stmtsNodupB_sound, netsOkB_sound,
    fun (h : cyc H.edges = false) (hc : HasCycle H.edges) => (by rw [(cyc_iff _).mpr hc] at h; cases h), nbrs_valid H⟩

/-- The pairs filed for the net of writer `w`:
every pair is a connection; the list is in discovery order — every source is the writer or the target of an *earlier* pair and
every target is new (`TreeOrd`, so the pairs are acyclic and rooted at the writer); every signal connected to the writer, other
than the writer, is the target of exactly one pair, the writer of none; nothing outside the writer's net is touched. -/
theorem tree_edges {H : Hier} {nb : Sig → List Sig} (hv : ValidOrder H nb) (w : Sig) :
    (∀ p ∈ traverse H nb w, Step H.edges p.1 p.2) ∧
    TreeOrd [w] (traverse H nb w) ∧
    (∀ pre p post, traverse H nb w = pre ++ p :: post → (p.1 = w ∨ p.1 ∈ pre.map (·.2)) ∧ p.2 ≠ w ∧ p.2 ∉ pre.map (·.2)) ∧
    (∀ m, Reach H.edges w m → m ≠ w → ((traverse H nb w).map (·.2)).count m = 1) ∧
    ((traverse H nb w).map (·.2)).count w = 0 ∧
    (∀ p ∈ traverse H nb w, Reach H.edges w p.1 ∧ Reach H.edges w p.2) := by
  have h := traverse_spanTree hv w
  refine ⟨h.step, h.ord, fun pre p post e => ?_, h.count, List.count_eq_zero.mpr h.root_not_target, h.reach⟩
  obtain ⟨a, b, c⟩ := (e ▸ h.ord).split
  exact ⟨a.imp_left List.mem_singleton.mp, fun hc => b (List.mem_singleton.mpr hc), c⟩

/-- more fuel files the same pairs in the same order -/
theorem tree_edges_fuel {H : Hier} {nb : Sig → List Sig} (hv : ValidOrder H nb) (w : Sig) (f : Nat) (hf : H.fuel ≤ f) :
    walk nb f [w] [w] = traverse H nb w := traverse_fuel hv w f hf

/-- when the connect graph has no cycle (each net's connections form a tree), the set of filed pairs — orientation
included — is the same for every order in which the adjacency sets are iterated, and it is the whole connect graph of the net -/
theorem tree_edges_order_indep {H : Hier} {nb nb' : Sig → List Sig} (hv : ValidOrder H nb) (hv' : ValidOrder H nb')
    (hac : ¬ HasCycle H.edges) (w : Sig) :
    (∀ p, p ∈ traverse H nb w ↔ p ∈ traverse H nb' w) ∧
    (∀ e ∈ H.edges, Reach H.edges w e.1 → e ∈ traverse H nb w ∨ (e.2, e.1) ∈ traverse H nb w) :=
  ⟨(traverse_spanTree hv w).unique (traverse_spanTree hv' w) hac, (traverse_spanTree hv w).closed hac⟩

/-- hosts related as PyMTL allows (same component, parent / child, siblings): the rule is defined, and nothing else is -/
theorem host_total (H : Hier) (u v : Sig) : (∃ c, hostOf H (u, v) = some c) ↔ Related H u v :=
  Option.isSome_iff_exists.symm.trans fourCases_isSome

/-- the chosen component can name both ends: each is its own signal or a signal of a direct child -/
theorem host_can_name (H : Hier) (u v : Sig) (c : Comp) (h : hostOf H (u, v) = some c) : CanName H c u ∧ CanName H c v :=
  fourCases_eq_some h

/-- a statement between two signals that component `c` can name is filed under `c`, with one exception: both ends are
hosted by one and the same other component (a child of `c`: the parent connects two ports of one child) — then it is filed
under that child, in either orientation -/
theorem host_elsewhere_iff {H : Hier} {c : Comp} {u v : Sig} (hu : CanName H c u) (hv : CanName H c v)
    (hT : H.parent (H.parent c) ≠ c) :
    (hostOf H (u, v) ≠ some c ↔ (H.hostC u = H.hostC v ∧ H.hostC u ≠ c)) ∧
    (H.hostC u = H.hostC v → hostOf H (u, v) = some (H.hostC u) ∧ hostOf H (v, u) = some (H.hostC u)) := by
  refine ⟨hostOf_elsewhere_iff hu hv hT, fun e => ?_⟩
  constructor
  · rw [hostOf_legal hu hv hT, if_pos e]
  · rw [hostOf_legal hv hu hT, if_pos e.symm, e]

/-- `gen_connections` does not raise when every statement connects signals the executing component can name -/
theorem no_typeError_of_legal {H : Hier} {nb : Sig → List Sig} (hv : ValidOrder H nb)
    (hl : ∀ s ∈ H.stmts, CanName H s.1 s.2.1 ∧ CanName H s.1 s.2.2) : typeErr H nb = false := by
  apply typeErrOf_false_iff.mpr
  intro p hp
  obtain ⟨s, hs, e⟩ := tree_edge_stated hv hp
  obtain ⟨h1, h2⟩ := hl s hs
  rcases e with e | e <;> rw [e] at h1 h2
  · exact (host_total H p.1 p.2).mpr (canName_related h1 h2)
  · exact (host_total H p.1 p.2).mpr (canName_related h2 h1)

/-- `emit` fails exactly when some statement of the component is filed under it in neither orientation — because the pair
is not a tree edge at all (a redundant statement) or because the tree edge is filed under another component; the failure is
the assertion of `_gen_metadata` (`RTLIRConversionError`), and there is no other outcome than a list or this error -/
theorem emit_error_iff (H : Hier) (nb : Sig → List Sig) (c : Comp) (e : SConn.Err) :
    emit H nb c = .error e ↔
      e = .conversion ∧ ∃ x ∈ H.connectOrder c, ∀ y, (y = x ∨ y = (x.2, x.1)) → y ∈ treeEdges H nb → hostOf H y ≠ some c := by
  rw [emit, emitOf, emitFrom_error_iff]
  simp only [mem_filedOf, not_and, forall_eq_or_imp, forall_eq, ne_eq]

theorem emit_total (H : Hier) (nb : Sig → List Sig) (c : Comp) :
    (∃ l, emit H nb c = .ok l) ∨ emit H nb c = .error .conversion := emitFrom_total _ _

/-- On a design as elaboration leaves it (nets as `NetsOk`, no connection loop, every statement between signals its
component can name, a proper component tree) a component is rejected **exactly** when it connects two signals hosted by one
and the same other component — the parent-level loop-through `s.child.in_ //= s.child.out`, which the DSL accepts. -/
theorem emit_error_iff_legal {H : Hier} {nb : Sig → List Sig} (hv : ValidOrder H nb) (hn : NetsOk H)
    (hac : ¬ HasCycle H.edges) (hl : ∀ s ∈ H.stmts, CanName H s.1 s.2.1 ∧ CanName H s.1 s.2.2) (c : Comp)
    (hT : H.parent (H.parent c) ≠ c) :
    emit H nb c = .error .conversion ↔ ∃ x ∈ H.connectOrder c, H.hostC x.1 = H.hostC x.2 ∧ H.hostC x.1 ≠ c := by
  rw [emit_error_iff, eq_self_iff_true, true_and]
  refine exists_congr fun x => and_congr_right fun hx => ?_
  have hs := mem_connectOrder.mp hx
  obtain ⟨h1, h2⟩ := hl (c, x) hs
  -- both orientations of the statement are filed under one component, and one of them is a tree edge
  have hsw : hostOf H (x.2, x.1) = hostOf H x := hostOf_swap_legal h1 h2 hT
  rw [← hostOf_elsewhere_iff h1 h2 hT]
  constructor
  · intro h
    rcases stmt_is_tree_edge hv hn hac x (List.mem_map.mpr ⟨(c, x), hs, rfl⟩) with ht | ht
    · exact h x (Or.inl rfl) ht
    · exact hsw ▸ h _ (Or.inr rfl) ht
  · rintro h y (rfl | rfl) _
    · exact h
    · exact hsw ▸ h

/-- When no component raises, the emitted assigns of the whole hierarchy are exactly the filed tree edges, each once; an
assign `(c, (u, v))` stands for `assign v = u;` in the module of `c`, and `c` is the component the pair is filed under. -/
theorem emit_exact {H : Hier} {nb : Sig → List Sig} (hv : ValidOrder H nb) (hn : NetsOk H) (hs : StmtsNodup H)
    (hacc : accepted H nb = true) :
    ((assigns H nb).map (·.2)).Perm (treeEdges H nb) ∧ (∀ a ∈ assigns H nb, hostOf H a.2 = some a.1) :=
  ⟨assigns_perm hv hn.disjoint hs hacc, fun _ ha => (mem_filedOf.mp (assignsOf_filed ha)).2⟩

/-- `accepted` = no `TypeError` and every component's `emit` succeeds; the list a component emits is the part of `assigns`
tagged with it, in the same order -/
theorem emit_eq_assigns {H : Hier} {nb : Sig → List Sig} :
    (accepted H nb = true ↔ typeErr H nb = false ∧ ∀ c, ∃ l, emit H nb c = .ok l) ∧
    (∀ c l, emit H nb c = .ok l → l = ((assigns H nb).filter (fun a => a.1 == c)).map (·.2)) :=
  ⟨acceptedOf_iff, fun c l h => by
    rw [assigns, assigns_of_comp]
    exact (Forall2.filterMap_iff.mp ((emitFrom_ok_iff _ _ _).mp h)).2⟩

/-- an accepted design has no redundant statement: every statement is a tree edge, one way round -/
theorem accepted_stmts_are_tree_edges {H : Hier} {nb : Sig → List Sig} (hacc : accepted H nb = true) :
    ∀ e ∈ H.edges, e ∈ treeEdges H nb ∨ (e.2, e.1) ∈ treeEdges H nb := by
  intro e he
  obtain ⟨s, hs, rfl⟩ := List.mem_map.mp he
  obtain ⟨y, hy⟩ := Option.isSome_iff_exists.mp (acceptedOf_stmts hacc s hs)
  obtain ⟨hf, ho⟩ := orient_eq_some hy
  have := (mem_filedOf.mp hf).1
  rcases ho with ho | ho
  · left; rw [← ho]; exact this
  · right; rw [← ho]; exact this

/-- every member of every net other than the writer is the reader of exactly ONE emitted assign (over all modules), the
writer of none -/
theorem single_driver {H : Hier} {nb : Sig → List Sig} (hv : ValidOrder H nb) (hn : NetsOk H) (hs : StmtsNodup H)
    (hacc : accepted H nb = true) (n : Sig × List Sig) (hnm : n ∈ H.nets) :
    (∀ m ∈ n.2, m ≠ n.1 → ((assigns H nb).map (fun a => a.2.2)).count m = 1) ∧
    ((assigns H nb).map (fun a => a.2.2)).count n.1 = 0 := by
  have hp := assigns_targets_perm (assigns_perm hv hn.disjoint hs hacc)
  refine ⟨fun m hm hne => ?_, ?_⟩
  · obtain ⟨u, hu⟩ := (traverse_spanTree hv n.1).complete m ((hn.members n hnm m).mp hm) hne
    rw [hp.count_eq, (treeEdges_fresh hv hn.disjoint).snd_nodup.count,
      if_pos (List.mem_map.mpr ⟨(u, m), mem_treeEdges.mpr ⟨n, hnm, hu⟩, rfl⟩)]
  · rw [hp.count_eq, List.count_eq_zero]
    exact treeEdges_writer_not_target hv hn.disjoint n hnm

/-- continuous assigns: in every valuation in which each emitted `assign v = u` holds (`σ v = σ u`), every member of every
net carries the value of the net's writer -/
theorem members_equal_writer {H : Hier} {nb : Sig → List Sig} (hv : ValidOrder H nb) (hn : NetsOk H) (hs : StmtsNodup H)
    (hacc : accepted H nb = true) {α : Type} (σ : Sig → α) (hσ : ∀ a ∈ assigns H nb, σ a.2.2 = σ a.2.1) :
    ∀ n ∈ H.nets, ∀ m ∈ n.2, σ m = σ n.1 := by
  intro n hnm m hm
  have hσ' := (forall_assigns_iff (assigns_perm hv hn.disjoint hs hacc) (fun p => σ p.2 = σ p.1)).mp hσ
  exact (traverse_spanTree hv n.1).const σ (fun p hp => hσ' p (mem_treeEdges.mpr ⟨n, hnm, hp⟩)) m ((hn.members n hnm m).mp hm)

/-- the assigns as processes (`Proofs/Sched.lean`): executing them once, net after net in tree order, from any valuation
`s` yields a valuation that satisfies every emitted assign, leaves every undriven signal (so every writer) as it was, and
gives every member of a net the value its writer has in `s` -/
theorem assigns_settle {H : Hier} {nb : Sig → List Sig} (hv : ValidOrder H nb) (hn : NetsOk H) (hs : StmtsNodup H)
    (hacc : accepted H nb = true) {α : Type} (s : Sig → α) :
    let t := settleTree H nb s
    (∀ a ∈ assigns H nb, t a.2.2 = t a.2.1) ∧
    (∀ x, x ∉ (assigns H nb).map (fun a => a.2.2) → t x = s x) ∧
    (∀ n ∈ H.nets, ∀ m ∈ n.2, t m = s n.1) := by
  intro t
  have hp := assigns_perm hv hn.disjoint hs hacc
  have hσ : ∀ a ∈ assigns H nb, t a.2.2 = t a.2.1 :=
    (forall_assigns_iff hp (fun p => t p.2 = t p.1)).mpr (asg_fixed (treeEdges_fresh hv hn.disjoint) s)
  have hframe : ∀ x, x ∉ (treeEdges H nb).map (·.2) → t x = s x := asg_frame (treeEdges_fresh hv hn.disjoint) s
  refine ⟨hσ, fun x hx => hframe x (mt (assigns_targets_perm hp).mem_iff.mpr hx), fun n hnm m hm => ?_⟩
  rw [members_equal_writer hv hn hs hacc t hσ n hnm m hm]
  exact hframe _ (treeEdges_writer_not_target hv hn.disjoint n hnm)

/-- single driver ⇒ unique fixed point: two valuations that satisfy every emitted assign and agree on the undriven
signals are equal -/
theorem assigns_fixed_point_unique {H : Hier} {nb : Sig → List Sig} (hv : ValidOrder H nb) (hn : NetsOk H) (hs : StmtsNodup H)
    (hacc : accepted H nb = true) {α : Type} (t t' : Sig → α)
    (hin : ∀ x, x ∉ (assigns H nb).map (fun a => a.2.2) → t x = t' x)
    (ht : ∀ a ∈ assigns H nb, t a.2.2 = t a.2.1) (ht' : ∀ a ∈ assigns H nb, t' a.2.2 = t' a.2.1) : t = t' := by
  have hp := assigns_perm hv hn.disjoint hs hacc
  exact asg_fixed_unique (treeEdges_fresh hv hn.disjoint) t t' (fun x hx => hin x (mt (assigns_targets_perm hp).mem_iff.mp hx))
    ((forall_assigns_iff hp (fun p => t p.2 = t p.1)).mp ht) ((forall_assigns_iff hp (fun p => t' p.2 = t' p.1)).mp ht')

/-- the assigns of a component come in the order of its `connect_order`: as many, the `i`-th one is the `i`-th statement as
written or swapped (writer side first), and it is filed under the component -/
theorem emit_order {H : Hier} {nb : Sig → List Sig} {c : Comp} {l : List Pair} (h : emit H nb c = .ok l) :
    l.length = (H.connectOrder c).length ∧
    ∀ (i : Nat) (h1 : i < (H.connectOrder c).length) (h2 : i < l.length),
      (l[i] = (H.connectOrder c)[i] ∨ l[i] = (((H.connectOrder c)[i]).2, ((H.connectOrder c)[i]).1)) ∧ l[i] ∈ filed H nb c := by
  have hf := (emitFrom_ok_iff _ _ _).mp h
  refine ⟨hf.length_eq.symm, fun i h1 h2 => ?_⟩
  have := orient_eq_some (hf.get i h1 h2)
  exact ⟨this.2, this.1⟩

/-! ## non-vacuity -/

deriving instance DecidableEq for Except

/-- a pass-through net over three levels: `top.in_ → mid.in_ → leaf.in_ → leaf.w`, each statement written `reader //= writer`
in the component that hosts its writer side -/
def exPass : Hier :=
  { par := [0, 0, 1, 2], host := [1, 2, 3, 3],
    stmts := [(1, (1, 0)), (2, (2, 1)), (3, (3, 2))], nets := [(0, [0, 1, 2, 3])] }

example : traverse exPass exPass.nbrs 0 = [(0, 1), (1, 2), (2, 3)] := by decide +kernel
example : accepted exPass exPass.nbrs = true := by decide +kernel
example : emit exPass exPass.nbrs 1 = .ok [(0, 1)] ∧ emit exPass exPass.nbrs 2 = .ok [(1, 2)] ∧
    emit exPass exPass.nbrs 3 = .ok [(2, 3)] := by decide +kernel
example : assigns exPass exPass.nbrs = [(1, (0, 1)), (2, (1, 2)), (3, (2, 3))] := by decide +kernel
example : validOrderB exPass exPass.nbrs = true ∧ stmtsNodupB exPass = true ∧ netsOkB exPass = true ∧ exPass.wf = true ∧
    cyc exPass.edges = false := by decide +kernel

/-- the hypotheses of `emit_exact` / `single_driver` / `members_equal_writer` hold together on `exPass`, and the conclusion of
`single_driver` is the expected one: signal 3 (`leaf.w`) has exactly one driving assign, signal 0 (`top.in_`, the writer) none -/
example : ((assigns exPass exPass.nbrs).map (fun a => a.2.2)).count 3 = 1 ∧
    ((assigns exPass exPass.nbrs).map (fun a => a.2.2)).count 0 = 0 := by
  have h := single_driver (nbrs_valid exPass) (netsOkB_sound (by decide +kernel)) (stmtsNodupB_sound (by decide +kernel))
    (by decide +kernel : accepted exPass exPass.nbrs = true) (0, [0, 1, 2, 3]) (by decide +kernel)
  exact ⟨h.1 3 (by decide +kernel) (by decide +kernel), h.2⟩

/-- a parent connecting two ports of one child (`s.c.in_ //= s.c.out`; `s.c.out` is the writer): filed under the child,
the parent's `emit` fails, the child emits nothing for it -/
def exLoop : Hier :=
  { par := [0, 0, 1], host := [2, 2, 1], stmts := [(1, (1, 0)), (1, (2, 0))], nets := [(0, [0, 1, 2])] }

example : hostOf exLoop (0, 1) = some 2 ∧ hostOf exLoop (0, 2) = some 1 := by decide +kernel
example : filed exLoop exLoop.nbrs 2 = [(0, 1)] ∧ filed exLoop exLoop.nbrs 1 = [(0, 2)] := by decide +kernel
example : emit exLoop exLoop.nbrs 1 = .error .conversion ∧ emit exLoop exLoop.nbrs 2 = .ok [] := by decide +kernel
example : accepted exLoop exLoop.nbrs = false ∧ typeErr exLoop exLoop.nbrs = false := by decide +kernel
example : CanName exLoop 1 0 ∧ CanName exLoop 1 1 ∧ exLoop.hostC 0 = exLoop.hostC 1 ∧ exLoop.hostC 0 ≠ 1 := by
  unfold CanName; decide

/-- a redundant third statement closing a triangle: not a tree edge, the component is rejected -/
def exTri : Hier :=
  { par := [0, 0], host := [1, 1, 1], stmts := [(1, (1, 0)), (1, (2, 1)), (1, (0, 2))], nets := [(0, [0, 1, 2])] }

example : traverse exTri exTri.nbrs 0 = [(0, 1), (0, 2)] := by decide +kernel
example : emit exTri exTri.nbrs 1 = .error .conversion := by decide +kernel
/-- the triangle is a loop already as a simple graph: `hasLoop` is `cyc` of the deduplicated unordered pairs; the `cyclic` of
the driver's reply, and the hypothesis `¬ HasCycle H.edges`, are about `cyc H.edges`, which also counts a pair stated twice -/
example : hasLoop exTri.edges = true := by decide +kernel

/-- a square: the filed pairs depend on the order in which `adjs[0]` is iterated (the hypothesis of `tree_edges_order_indep`
is needed) -/
def exSq : Hier :=
  { par := [0, 0], host := [1, 1, 1, 1], stmts := [(1, (1, 0)), (1, (2, 1)), (1, (3, 2)), (1, (0, 3))], nets := [(0, [0, 1, 2, 3])] }

example : traverse exSq exSq.nbrs 0 = [(0, 1), (0, 3), (3, 2)] := by decide +kernel
example : traverse exSq (fun u => if u = 0 then [3, 1] else exSq.nbrs u) 0 = [(0, 3), (0, 1), (1, 2)] := by decide +kernel

/-- hosts too far apart: `TypeError` -/
example : hostOf exPass (0, 2) = none := by decide +kernel

end PV.C03s
