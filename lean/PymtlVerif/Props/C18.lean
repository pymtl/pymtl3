import PymtlVerif.Proofs.Mem
/-!
# C18 — magic memories act as one in-order memory whatever the timing parameters

Property theorems about `Model/Mem.lean`.  The statements also use `Bytes` (every cell below 256; `Proofs/MemBytes.lean`),
`footprint`, `AgreeOn`, `tyOpq`, `reqTyOpq` (the cells a request touches, agreement of two stores on a set of cells, the echoed
fields; `Proofs/MemSeq.lean`), `respsOf` (the responses of one port; `Proofs/Mem.lean`) and the operation histories `DeqOp`,
`SendOp`, `runOps`, `runEdges` of `Proofs/MemPipe.lean`.

* byte store: read-after-write, frame (`read_write`, `write_frame`, `write_keeps_bytes`)
* every byte a read (or the old value of an AMO) returns is the byte stored by the latest
  earlier-processed request covering it, else the initial image (`read_latest`); the same for the
  final image (`image_latest`); what a write stores (`write_stores`); a memory of any size is its own first `size` bytes
  (`bounded_store`)
* atomic operations (`amo_spec`, `amo_old_new`, `amo_low_bytes_only`, `amo_full_width`, `amo_table`, `sint_twos_complement`):
  an AMO has a byte count like a read or a write (`len`, 0 = full width), works on the low `len` bytes of the data field at
  width `8·len` (signed min / max at that width) and answers the old `len` bytes zero-extended
* the three delay pipes are FIFO for every delay the model covers (`DelayPipeSendCL`, `InelasticDelayPipe`: `delay ≥ 1`) and every
  history of ticks / enqueue and dequeue attempts / back-pressure (`deq_pipe_fifo`, `send_pipe_fifo`, `inelastic_pipe_fifo`)
* timing independence of the two memory systems (`cl_timing_independent`, `rtl_timing_independent`
  and their corollaries): for every number of ports, every latency, every per-port stall stream,
  source-offer stream and sink-ready stream (arbitrary functions of the cycle — quantified, not
  sampled) and every number of cycles.
-/
namespace PV.C18
open PV.Mem

/-- reading back `k` bytes just written returns the low `k` bytes of the data -/
theorem read_write (k : Nat) (m : Store) (a d : Nat) : readLE (writeLE m a k d) a k = d % 256 ^ k :=
  PV.Mem.read_write k m a d

/-- a write changes nothing outside `[a, a+k)`, and inside puts byte `b-a` of the data at `b` -/
theorem write_frame (k : Nat) (m : Store) (a d b : Nat) :
    ((b < a ∨ a + k ≤ b) → writeLE m a k d b = m b) ∧
    ((a ≤ b ∧ b < a + k) → writeLE m a k d b = (d / 256 ^ (b - a)) % 256) :=
  ⟨PV.Mem.write_frame k m a d b, fun h => (writeLE_byte k m a d b).trans (if_pos h)⟩

/-- the store stays a byte store under every processed request -/
theorem write_keeps_bytes (l : List Req) (m : Store) (h : Bytes m) : Bytes (seqSpec l m).2 :=
  seqSpec_bytes l m h

/-- In any processed sequence `pre ++ r :: post`: a write is answered `(WRITE, opaque, 0, 0, 0)`;
a read or an AMO `r` is answered `(type, opaque, 0, len, d)` where, for every byte `j` of the access,
byte `j` of `d` is the byte stored at `r.addr + j` by the latest request of `pre` that stored to that
address — or the byte of the initial image if no request of `pre` did. -/
theorem read_latest (pre post : List Req) (r : Req) (m0 : Store) (hm : Bytes m0) :
    (r.kind = .write →
      (seqSpec (pre ++ r :: post) m0).1[pre.length]? = some ⟨1, r.opq, 0, 0, 0⟩) ∧
    (r.kind ≠ .write →
      ∃ d, (seqSpec (pre ++ r :: post) m0).1[pre.length]? = some ⟨r.kind.code, r.opq, 0, r.len, d⟩ ∧
        d < 256 ^ nbytes r.nb r.len ∧
        ∀ j, j < nbytes r.nb r.len →
          (d / 256 ^ j) % 256 = (latest (effects pre m0) (r.addr + j)).getD (m0 (r.addr + j))) := by
  have hidx : (seqSpec (pre ++ r :: post) m0).1[pre.length]? = some (service r (seqSpec pre m0).2).1 := by
    rw [seqSpec_append]
    exact (List.getElem?_append_right (Nat.le_of_eq (seqSpec_length pre m0))).trans
      (by rw [seqSpec_length, Nat.sub_self]; rfl)
  have hb := seqSpec_bytes pre m0 hm
  rw [hidx]
  constructor
  · intro hw
    rw [service_write hw]
  · intro hw
    refine ⟨readLE (seqSpec pre m0).2 r.addr (nbytes r.nb r.len), ?_, readLE_lt _ _ _ hb, ?_⟩
    · cases hk : r.kind with
      | read => rw [service_read hk]; rfl
      | write => exact absurd hk hw
      | amo op => rw [service_amo hk]; rfl
    · intro j hj
      rw [readLE_byte _ _ _ _ hb hj, store_latest]

/-- the final image: every byte is the one stored by the latest processed request covering it,
else the initial byte -/
theorem image_latest (l : List Req) (m0 : Store) (b : Nat) :
    (seqSpec l m0).2 b = (latest (effects l m0) b).getD (m0 b) :=
  store_latest l m0 b

/-- what a write stores: byte `j` of its data at `addr + j`, for the `len` bytes of the access
(`len = 0` means the full data width `r.nb` of the request's message class) -/
theorem write_stores (r : Req) (m : Store) (h : r.kind = .write) :
    ∃ e, effect r m = some e ∧ e.addr = r.addr ∧ e.k = nbytes r.nb r.len ∧
      ∀ j, j < e.k → e.covers (r.addr + j) = true ∧ e.byte (r.addr + j) = (r.data / 256 ^ j) % 256 := by
  refine ⟨⟨r.addr, nbytes r.nb r.len, r.data % 2 ^ (8 * nbytes r.nb r.len)⟩, by rw [effect, h], rfl, rfl, ?_⟩
  intro j hj
  refine ⟨Bool.and_eq_true_iff.mpr ⟨decide_eq_true (Nat.le_add_right ..), decide_eq_true (Nat.add_lt_add_left hj _)⟩, ?_⟩
  rw [WEvent.byte, Nat.add_sub_cancel_left, byte_mod _ _ _ hj]

/-- the memory may have any size (power of two or not): while every request stays inside `[0, size)` — the real
byte array raises IndexError otherwise — responses and the first `size` bytes are determined by the first `size` bytes
of the initial image alone, addresses select bytes directly (no aliasing of in-range addresses: `image_latest` holds
cell by cell), and nothing at or beyond `size` is ever stored: an array of exactly `size` bytes is the whole state -/
theorem bounded_store (size : Nat) (l : List Req) (m m' : Store)
    (hl : ∀ r ∈ l, r.addr + nbytes r.nb r.len ≤ size) (h : ∀ b, b < size → m b = m' b) :
    (seqSpec l m).1 = (seqSpec l m').1 ∧ (∀ b, b < size → (seqSpec l m).2 b = (seqSpec l m').2 b) ∧
    (∀ b, size ≤ b → (seqSpec l m).2 b = m b) :=
  have h := seqSpec_on (· < size) l m m' (fun r hr _ hb => Nat.lt_of_lt_of_le hb.2 (hl r hr)) h
  ⟨h.1, h.2.1, fun b hb => h.2.2 b (Nat.not_lt.mpr hb)⟩

/-- an AMO of `k` bytes (`k = len`, or the full data width `nb` of the request's message class when `len = 0`; a
sub-word AMO is `0 < len < nb`) operates on the low `k` bytes `arg` of the data field at width `8k`: it answers the old
`k` bytes, leaves `op(old, arg) mod 2^(8k)` in memory — byte `j` of it at `addr + j` —, touches nothing outside its
`k` bytes, and the event recorded for it in `effects` is exactly that store -/
theorem amo_spec (r : Req) (op : AmoOp) (m : Store) (h : r.kind = .amo op) :
    let k := nbytes r.nb r.len
    let old := readLE m r.addr k
    let arg := r.data % 2 ^ (8 * k)
    (service r m).1 = ⟨op.code, r.opq, 0, r.len, old⟩ ∧
    readLE (service r m).2 r.addr k = amoFun (8 * k) op old arg % 2 ^ (8 * k) ∧
    (∀ j, j < k → (service r m).2 (r.addr + j) = (amoFun (8 * k) op old arg / 256 ^ j) % 256) ∧
    (∀ b, (b < r.addr ∨ r.addr + k ≤ b) → (service r m).2 b = m b) ∧
    effect r m = some ⟨r.addr, k, amoFun (8 * k) op old arg⟩ := by
  intro k old arg
  rw [service_amo h]
  refine ⟨rfl, ?_, ?_, ?_, ?_⟩
  · exact (PV.Mem.read_write ..).trans (congrArg (_ % ·) (pow256 _).symm)
  · intro j hj; exact (writeLE_add ..).trans (if_pos hj)
  · intro b hb; exact PV.Mem.write_frame _ _ _ _ _ hb
  · rw [effect, h]

/-- on a byte store the answer of an AMO is what a read of the same `len` at the same address answers (the old `k`
bytes, zero-extended: it is below `2^(8k)`), and the value written back is `op(old, arg)` itself: every `AMO_FUNS`
entry maps two `8k`-bit operands to an `8k`-bit value, no truncation takes place -/
theorem amo_old_new (r : Req) (op : AmoOp) (m : Store) (h : r.kind = .amo op) (hm : Bytes m) :
    let k := nbytes r.nb r.len
    let old := readLE m r.addr k
    let arg := r.data % 2 ^ (8 * k)
    (service r m).1.data = (service { r with kind := .read } m).1.data ∧
    (service r m).1.data = old ∧ old < 2 ^ (8 * k) ∧
    (∀ j, j < k → (old / 256 ^ j) % 256 = m (r.addr + j)) ∧
    amoFun (8 * k) op old arg < 2 ^ (8 * k) ∧
    readLE (service r m).2 r.addr k = amoFun (8 * k) op old arg := by
  have hold := readLE_lt_two_pow (nbytes r.nb r.len) m r.addr hm
  have hlt := amoFun_lt (8 * nbytes r.nb r.len) op _ (r.data % 2 ^ (8 * nbytes r.nb r.len)) hold
    (Nat.mod_lt _ (Nat.two_pow_pos _))
  refine ⟨by rw [service_amo h, service_read rfl], by rw [service_amo h], hold, fun j hj => readLE_byte _ _ _ _ hm hj, hlt, ?_⟩
  rw [(amo_spec r op m h).2.1, Nat.mod_eq_of_lt hlt]

/-- only the low `k` bytes of the data field of an AMO matter -/
theorem amo_low_bytes_only (r : Req) (op : AmoOp) (m : Store) (h : r.kind = .amo op) (d d' : Nat)
    (hd : d % 2 ^ (8 * nbytes r.nb r.len) = d' % 2 ^ (8 * nbytes r.nb r.len)) :
    service { r with data := d } m = service { r with data := d' } m := by
  simp only [service, h, hd]

/-- the full-width AMO is the special case `len = 0` (also `len = nb`, which no message can express): on a well-formed
message (`data` fits the `8·nb` bits of its field) the operand is the whole data field and the width is `8·nb` -/
theorem amo_full_width (r : Req) (op : AmoOp) (m : Store) (h : r.kind = .amo op) (hl : r.len = 0)
    (hd : r.data < 2 ^ (8 * r.nb)) :
    let old := readLE m r.addr r.nb
    service r m = (⟨op.code, r.opq, 0, 0, old⟩, writeLE m r.addr r.nb (amoFun (8 * r.nb) op old r.data)) := by
  rw [service_amo h, hl, show nbytes r.nb 0 = r.nb from rfl, Nat.mod_eq_of_lt hd]

/-- the table `AMO_FUNS` of `MagicMemoryFL.py`, entry by entry, as `amoFun` has it -/
theorem amo_table (w m a : Nat) :
    amoFun w .add m a = (m + a) % 2 ^ w ∧
    amoFun w .and m a = m &&& a ∧ amoFun w .or m a = m ||| a ∧ amoFun w .xor m a = m ^^^ a ∧
    amoFun w .swap m a = a ∧
    amoFun w .min m a = (if sint w m < sint w a then m else a) ∧
    amoFun w .max m a = (if sint w m > sint w a then m else a) ∧
    amoFun w .minu m a = (if a < m then a else m) ∧
    amoFun w .maxu m a = (if a > m then a else m) :=
  ⟨rfl, rfl, rfl, rfl, rfl, rfl, rfl, rfl, rfl⟩

/-- `sint` is the two's complement reading of a `w`-bit value -/
theorem sint_twos_complement (w x : Nat) (hw : 1 ≤ w) (hx : x < 2 ^ w) :
    sint w x = (if x < 2 ^ (w - 1) then (x : Int) else (x : Int) - (2 ^ w : Nat)) ∧
    -((2 ^ (w - 1) : Nat) : Int) ≤ sint w x ∧ sint w x < ((2 ^ (w - 1) : Nat) : Int) ∧
    sint w x % ((2 ^ w : Nat) : Int) = x := by
  -- with `w = v + 1` and `h = 2^v`: `x < 2h`, and `sint` is `x` below `h`, `x - 2h` from `h` on
  obtain ⟨v, rfl⟩ : ∃ v, w = v + 1 := ⟨w - 1, (Nat.sub_add_cancel hw).symm⟩
  rw [Nat.pow_succ'] at hx
  rw [sint_eq, show (2 : Int) ^ (v + 1) = ((2 ^ (v + 1) : Nat) : Int) from (Int.natCast_pow 2 _).symm, Nat.add_sub_cancel,
    Nat.pow_succ']
  generalize 2 ^ v = h at *
  have hm : (x : Int) % ((2 * h : Nat) : Int) = x := Int.emod_eq_of_lt (Int.natCast_nonneg x) (Int.ofNat_lt.mpr hx)
  split
  · next hlt =>
    exact ⟨rfl, Int.le_trans (Int.neg_nonpos_of_nonneg (Int.natCast_nonneg h)) (Int.natCast_nonneg x), Int.ofNat_lt.mpr hlt, hm⟩
  · have : -(h : Int) ≤ x - ((2 * h : Nat) : Int) ∧ (x : Int) - ((2 * h : Nat) : Int) < h := by omega
    exact ⟨rfl, this.1, this.2, (Int.sub_emod_right _ _).trans hm⟩

/-- `DelayPipeDeqCL(delay)`: after any history of `up_delay` ticks, enqueue attempts and dequeue
attempts (an attempt on a pipe that is not ready is skipped), the dequeued messages followed by the
messages still inside are exactly the accepted messages, in order: no loss, duplication or
reordering, whatever the delay and the back-pressure. -/
theorem deq_pipe_fifo {α : Type} (delay : Nat) (ops : List (DeqOp α)) :
    let r := DeqPipe.runOps ops (Slots.empty (delay + 1)) [] []
    r.2.2 ++ r.1.contents = r.2.1 ∧ r.2.2 <+: r.2.1 := by
  have h := DeqPipe.runOps_fifo ops (Slots.empty (delay + 1) : Slots α) [] []
    (congrArg ([] ++ ·) (Slots.contents_empty _))
  exact ⟨h, ⟨_, h⟩⟩

/-- `DelayPipeSendCL(delay)`, `delay ≥ 1`: the same, the consumer being `send` with an arbitrary `rdy` per tick (at `delay = 0` the real
class wires `enq` to `send`, while `Slots.empty 0` accepts nothing: the statement holds and says nothing) -/
theorem send_pipe_fifo {α : Type} (delay : Nat) (ops : List (SendOp α)) :
    let r := SendPipe.runOps ops (Slots.empty delay) [] []
    r.2.2 ++ r.1.contents = r.2.1 ∧ r.2.2 <+: r.2.1 := by
  have h := SendPipe.runOps_fifo ops (Slots.empty delay : Slots α) [] [] (congrArg ([] ++ ·) (Slots.contents_empty _))
  exact ⟨h, ⟨_, h⟩⟩

/-- `InelasticDelayPipe(delay)`, `delay ≥ 1`: for any sequence of clock edges with arbitrary
upstream `val`/`msg` and downstream `rdy` -/
theorem inelastic_pipe_fifo {α : Type} (delay : Nat) (hd : 1 ≤ delay) (es : List (Bool × α × Bool)) :
    let r := IPipe.runEdges es (IPipe.init delay) [] []
    r.2.2 ++ r.1.slots.contents = r.2.1 ∧ r.2.2 <+: r.2.1 := by
  have h := IPipe.runEdges_fifo es (IPipe.init delay : IPipe α) [] [] (IPipe.init_ok delay hd)
    (congrArg ([] ++ ·) (Slots.contents_empty _))
  exact ⟨h, ⟨_, h⟩⟩

/-- `MagicMemoryCL`. For every port count `n`, `latency`, data widths (each request carries the byte width `nb` of
the message class of its port, so ports may differ in width), request streams `reqs`,
initial image `m0`, environment `env` (per cycle and port: does the source offer, does the stall
gate close, is the sink ready — arbitrary) and number of cycles `T`, with `log` the requests in the
order the memory processed them:
the store is `seqSpec log`'s store; each port's responses (received, then those still in the
response pipe) are `seqSpec log`'s responses for that port, in order; each port's processed
requests followed by those in its request pipe and those not yet sent are its request stream; only
ports `< n` are served. -/
theorem cl_timing_independent (n latency : Nat) (reqs : Nat → List Req) (m0 : Store)
    (env : Nat → Nat → CL.Env) (T : Nat) :
    let s := CL.run n env T (CL.init latency reqs m0)
    let spec := seqSpec (s.log.map (·.2)) m0
    s.store = spec.2 ∧
    (∀ i, (s.ports i).delivered ++ (s.ports i).respQ.contents = respsOf i s.log spec.1) ∧
    (∀ i, procs i s.log ++ (s.ports i).reqQ.contents ++ (s.ports i).pending = reqs i) ∧
    (∀ e ∈ s.log, e.1 < n) := by
  have h := CL.run_inv n latency reqs m0 env T
  exact ⟨h.toSeqSpec.1, h.toSeqSpec.2.1, h.toSeqSpec.2.2, h.bound⟩

/-- the stream `MagicMemoryRTL` (with `RandomStall` and `InelasticDelayPipe(extra_latency+1)`) -/
theorem rtl_timing_independent (n extra : Nat) (reqs : Nat → List Req) (m0 : Store)
    (env : Nat → Nat → RTL.Env) (T : Nat) :
    let s := RTL.run n env T (RTL.init extra reqs m0)
    let spec := seqSpec (s.log.map (·.2)) m0
    s.store = spec.2 ∧
    (∀ i, (s.ports i).delivered ++ (s.ports i).pipe.slots.contents = respsOf i s.log spec.1) ∧
    (∀ i, procs i s.log ++ (s.ports i).pending = reqs i) ∧
    (∀ e ∈ s.log, e.1 < n) := by
  have h := (RTL.run_inv n extra reqs m0 env T).1
  refine ⟨h.toSeqSpec.1, h.toSeqSpec.2.1, ?_, h.bound⟩
  exact fun i => (congrArg (· ++ _) (List.append_nil _).symm).trans (h.toSeqSpec.2.2 i)

/-- observable consequences, `MagicMemoryCL`: what a sink has received is a prefix of the
sequential specification's responses for its port; the processed requests of a port are a prefix
of its request stream; the (type, opaque) sequence received is a prefix of the (type, opaque)
sequence requested; and once nothing is in flight everything was processed and answered. -/
theorem cl_responses_in_order (n latency : Nat) (reqs : Nat → List Req) (m0 : Store)
    (env : Nat → Nat → CL.Env) (T : Nat) (i : Nat) :
    let s := CL.run n env T (CL.init latency reqs m0)
    (s.ports i).delivered <+: respsOf i s.log (seqSpec (s.log.map (·.2)) m0).1 ∧
    procs i s.log <+: reqs i ∧
    (s.ports i).delivered.map tyOpq <+: (reqs i).map reqTyOpq ∧
    ((s.ports i).pending = [] → (s.ports i).reqQ.contents = [] → (s.ports i).respQ.contents = [] →
      procs i s.log = reqs i ∧
      (s.ports i).delivered = respsOf i s.log (seqSpec (s.log.map (·.2)) m0).1) := by
  have h := CL.run_inv n latency reqs m0 env T
  exact ⟨h.delivered_prefix i, h.procs_prefix i, h.echo i, h.drained i⟩

theorem rtl_responses_in_order (n extra : Nat) (reqs : Nat → List Req) (m0 : Store)
    (env : Nat → Nat → RTL.Env) (T : Nat) (i : Nat) :
    let s := RTL.run n env T (RTL.init extra reqs m0)
    (s.ports i).delivered <+: respsOf i s.log (seqSpec (s.log.map (·.2)) m0).1 ∧
    procs i s.log <+: reqs i ∧
    (s.ports i).delivered.map tyOpq <+: (reqs i).map reqTyOpq ∧
    ((s.ports i).pending = [] → (s.ports i).pipe.slots.contents = [] →
      procs i s.log = reqs i ∧
      (s.ports i).delivered = respsOf i s.log (seqSpec (s.log.map (·.2)) m0).1) := by
  have h := (RTL.run_inv n extra reqs m0 env T).1
  exact ⟨h.delivered_prefix i, h.procs_prefix i, h.echo i, fun h1 h3 => h.drained i h1 rfl h3⟩

/-- with one port the contents do not depend on timing at all: under *any* latency / stall / source
/ sink timing the responses received are a prefix of the sequential specification applied to the
request list itself, and once every request was processed the image is the specification's. Two
runs of the same stream under different timing therefore agree on every response they both got. -/
theorem cl_single_port (latency : Nat) (reqs : Nat → List Req) (m0 : Store)
    (env : Nat → Nat → CL.Env) (T : Nat) :
    let s := CL.run 1 env T (CL.init latency reqs m0)
    (s.ports 0).delivered <+: (seqSpec (reqs 0) m0).1 ∧
    ((s.ports 0).pending = [] → (s.ports 0).reqQ.contents = [] → s.store = (seqSpec (reqs 0) m0).2) :=
  (CL.run_inv 1 latency reqs m0 env T).single_port

theorem rtl_single_port (extra : Nat) (reqs : Nat → List Req) (m0 : Store)
    (env : Nat → Nat → RTL.Env) (T : Nat) :
    let s := RTL.run 1 env T (RTL.init extra reqs m0)
    (s.ports 0).delivered <+: (seqSpec (reqs 0) m0).1 ∧
    ((s.ports 0).pending = [] → s.store = (seqSpec (reqs 0) m0).2) := by
  have h := (RTL.run_inv 1 extra reqs m0 env T).1.single_port
  exact ⟨h.1, fun h1 => h.2 h1 rfl⟩

/-- several ports working on pairwise disjoint address regions: under any timing and any
interleaving each port receives a prefix of the sequential specification applied to its own request
list, and once all its requests are processed its region of the image is that specification's -/
theorem cl_disjoint_ports (n latency : Nat) (reqs : Nat → List Req) (m0 : Store)
    (env : Nat → Nat → CL.Env) (T : Nat) (region : Nat → Nat → Prop)
    (hdisj : ∀ i j b, i ≠ j → region i b → ¬ region j b)
    (hreg : ∀ i, ∀ r ∈ reqs i, ∀ b, footprint r b → region i b) (i : Nat) :
    let s := CL.run n env T (CL.init latency reqs m0)
    (s.ports i).delivered <+: (seqSpec (reqs i) m0).1 ∧
    ((s.ports i).pending = [] → (s.ports i).reqQ.contents = [] →
      AgreeOn (region i) s.store (seqSpec (reqs i) m0).2) :=
  (CL.run_inv n latency reqs m0 env T).disjoint region hdisj hreg i

theorem rtl_disjoint_ports (n extra : Nat) (reqs : Nat → List Req) (m0 : Store)
    (env : Nat → Nat → RTL.Env) (T : Nat) (region : Nat → Nat → Prop)
    (hdisj : ∀ i j b, i ≠ j → region i b → ¬ region j b)
    (hreg : ∀ i, ∀ r ∈ reqs i, ∀ b, footprint r b → region i b) (i : Nat) :
    let s := RTL.run n env T (RTL.init extra reqs m0)
    (s.ports i).delivered <+: (seqSpec (reqs i) m0).1 ∧
    ((s.ports i).pending = [] → AgreeOn (region i) s.store (seqSpec (reqs i) m0).2) := by
  have h := (RTL.run_inv n extra reqs m0 env T).1.disjoint region hdisj hreg i
  exact ⟨h.1, fun h1 => h.2 h1 rfl⟩

/-- timing changes only *when*, never *what*: two runs of `MagicMemoryCL` (different latency,
environment, length) that processed the requests in the same order have the same image and the same
per-port response streams -/
theorem cl_same_order_same_contents (n l1 l2 : Nat) (reqs : Nat → List Req) (m0 : Store)
    (e1 e2 : Nat → Nat → CL.Env) (T1 T2 : Nat)
    (h : (CL.run n e1 T1 (CL.init l1 reqs m0)).log = (CL.run n e2 T2 (CL.init l2 reqs m0)).log) :
    let s1 := CL.run n e1 T1 (CL.init l1 reqs m0)
    let s2 := CL.run n e2 T2 (CL.init l2 reqs m0)
    s1.store = s2.store ∧
    ∀ i, (s1.ports i).delivered ++ (s1.ports i).respQ.contents =
         (s2.ports i).delivered ++ (s2.ports i).respQ.contents :=
  (CL.run_inv n l1 reqs m0 e1 T1).same_log (CL.run_inv n l2 reqs m0 e2 T2) h

/-! ## non-vacuity: concrete runs in which requests are processed, stalled and delivered -/

private def wr (o a l d : Nat) : Req := ⟨.write, o, a, l, d, 4⟩
private def rd (o a l : Nat) : Req := ⟨.read, o, a, l, 0, 4⟩
private def exReqs : Nat → List Req
  | 0 => [wr 1 16 0 0xdeadbeef, rd 2 17 2]
  | 1 => [⟨.amo .add, 3, 16, 0, 1, 4⟩, rd 4 16 0]
  | _ => []
/-- port 1 is stalled in cycles 0..2, the sinks are not ready in cycle 4 -/
private def exEnv (t i : Nat) : CL.Env := ⟨true, i == 1 && t < 3, t != 4⟩

example :
    let s := CL.run 2 exEnv 12 (CL.init 3 exReqs (fun _ => 0))
    s.log.map (·.1) = [0, 0, 1, 1] ∧
    (s.ports 0).delivered = [⟨1, 1, 0, 0, 0⟩, ⟨0, 2, 0, 2, 0xadbe⟩] ∧
    (s.ports 1).delivered = [⟨3, 3, 0, 0, 0xdeadbeef⟩, ⟨0, 4, 0, 0, 0xdeadbef0⟩] ∧
    readLE s.store 16 4 = 0xdeadbef0 := by decide +kernel

example :
    let s := RTL.run 2 (fun t i => ⟨true, i == 1 && t < 3, t != 4⟩) 12 (RTL.init 1 exReqs (fun _ => 0))
    s.log.map (·.1) = [0, 0, 1, 1] ∧
    (s.ports 1).delivered = [⟨3, 3, 0, 0, 0xdeadbeef⟩, ⟨0, 4, 0, 0, 0xdeadbef0⟩] := by decide +kernel

/-- ports of different data widths: a full-width write of a 16-byte port next to a full-width read of a 4-byte port -/
example :
    let x := seqSpec [⟨.write, 1, 32, 0, 0x0123456789abcdeffedcba9876543210, 16⟩, ⟨.read, 2, 44, 0, 0, 4⟩,
                      ⟨.read, 3, 32, 0, 0, 16⟩] (fun _ => 0)
    x.1 = [⟨1, 1, 0, 0, 0⟩, ⟨0, 2, 0, 0, 0x01234567⟩, ⟨0, 3, 0, 0, 0x0123456789abcdeffedcba9876543210⟩] ∧
    x.2 47 = 0x01 ∧ x.2 48 = 0 := by decide +kernel

/-- sub-word AMOs on a 4-byte port. The word at 16 holds 0x1234beef: positive as a 32-bit value, its low half 0xbeef
negative as a 16-bit value. A 2-byte AMO_MAX with data 0xffff0001 works on (0xbeef, 0x0001) at width 16: signed max is 1
(a 32-bit signed max of 0x1234beef and 0xffff0001 would have kept the word), the answer is the old half 0xbeef
zero-extended, bytes 18 / 19 stay. Then a 1-byte AMO_ADD of 0x1ff at 17 adds 0xff to 0x00 without a carry into byte 18,
a 2-byte AMO_MIN at 18 compares 0x1234 with 0x8000 (negative at 16 bits), a 3-byte AMO_MINU, and a full-width AMO_MIN
(`len = 0`) sees the 32-bit sign again. -/
example :
    let x := seqSpec [⟨.write, 1, 16, 0, 0x1234beef, 4⟩, ⟨.amo .max, 2, 16, 2, 0xffff0001, 4⟩,
                      ⟨.amo .add, 3, 17, 1, 0x1ff, 4⟩, ⟨.amo .min, 4, 18, 2, 0x77778000, 4⟩,
                      ⟨.amo .minu, 5, 16, 3, 0xff000002, 4⟩, ⟨.amo .min, 6, 16, 0, 5, 4⟩, ⟨.read, 7, 16, 0, 0, 4⟩]
              (fun _ => 0)
    x.1 = [⟨1, 1, 0, 0, 0⟩, ⟨9, 2, 0, 2, 0xbeef⟩, ⟨3, 3, 0, 1, 0x00⟩, ⟨7, 4, 0, 2, 0x1234⟩, ⟨8, 5, 0, 3, 0x00ff01⟩,
           ⟨7, 6, 0, 0, 0x80000002⟩, ⟨0, 7, 0, 0, 0x80000002⟩] ∧
    x.2 20 = 0 ∧ x.2 15 = 0 := by decide +kernel

/-- the same 16-bit operands under the two readings of the sign: signed at the sub-word width against unsigned /
against the 32-bit reading of the zero-extended values -/
example : amoFun 16 .max 0xbeef 1 = 1 ∧ amoFun 16 .maxu 0xbeef 1 = 0xbeef ∧ amoFun 32 .max 0xbeef 1 = 0xbeef ∧
    amoFun 16 .min 0x1234 0x8000 = 0x8000 ∧ amoFun 32 .min 0x1234 0x8000 = 0x1234 ∧
    amoFun 8 .add 0xbe 0xff = 0xbd := by decide

example : amoFun 32 .min 0x80000000 1 = 0x80000000 ∧ amoFun 32 .minu 0x80000000 1 = 1 ∧
    amoFun 32 .max 0xffffffff 1 = 1 ∧ amoFun 32 .maxu 0xffffffff 1 = 0xffffffff ∧
    amoFun 32 .add 0xffffffff 2 = 1 := by decide

example : latest [⟨16, 4, 0xdeadbeef⟩, ⟨17, 2, 0x1234⟩] 18 = some 0x12 ∧
    latest [⟨16, 4, 0xdeadbeef⟩, ⟨17, 2, 0x1234⟩] 19 = some 0xde ∧
    latest [⟨16, 4, 0xdeadbeef⟩, ⟨17, 2, 0x1234⟩] 20 = none := by decide

end PV.C18
