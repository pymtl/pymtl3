import PymtlVerif.Proofs.VCD
/-!
# C16 — waveform dumps replay the simulation exactly

Theorems about `Model/VCD.lean`: the value-change section written by `VcdGenerationPass` (`dump`), read by a
reader that knows only the `$var` declarations and the lines of the file (`replay`: a value holds until it is
changed; cycle `t` = time `100·t`), gives back the sampled trace — for every number of nets, every trace
(values may return to earlier values, nets may never change), every position of the clock net.

`dump` follows the code including its slip in `dump_vcd_inner` (`last_values` is indexed by the position in
`net_details`, which skips the clock net, but was filled by net index). The theorems therefore carry the
hypothesis `QuirkSafe` (from the clock net on, neighbouring nets of equal width have equal default values);
it holds whenever all default values are equal — in pymtl3 they are all zero (`replay_dump_zero_init`) — and
it cannot be dropped (`quirk_needs_equal_defaults`).
-/
namespace PV.C16
open PV.Bits PV.VCD

/-- a sampled row: one value per non-clock net (order of `details`), each fitting the net's width -/
def RowOk (d : Design) (row : List Nat) : Prop :=
  row.length = (details d).length ∧
  ∀ i (h1 : i < (details d).length) (h2 : i < row.length), row[i] < 2 ^ (details d)[i].1

/-- position of net `j` in a sampled row (`net_details` skips the clock net) -/
def dataPos (d : Design) (j : Nat) : Nat := if j < d.clk then j else j - 1

/-- `to_vcd_str` parses back: 1-bit values are `0`/`1`, wider ones `b<nbits binary digits><blank>` -/
theorem vcd_str_parses (n v : Nat) (hv : v < 2 ^ n) : parseVcdStr n (toVcdStr ⟨n, v⟩) = some v :=
  (parse_str n v).trans (congrArg some (Nat.mod_eq_of_lt hv))

/-- `to_vcd_str` is injective on (nbits, value) for value < 2^nbits -/
theorem vcd_str_injective (n v m u : Nat) (hv : v < 2 ^ n) (hu : u < 2 ^ m)
    (h : toVcdStr ⟨n, v⟩ = toVcdStr ⟨m, u⟩) : n = m ∧ v = u := by
  have := str_inj n v m u h
  rwa [Nat.mod_eq_of_lt hv, Nat.mod_eq_of_lt hu] at this

/-- the shape of the string: length 1 for one bit, nbits + 2 otherwise (zero padded to nbits) -/
theorem vcd_str_length (n v : Nat) :
    (toVcdStr ⟨n, v⟩).toList.length = if n = 1 then 1 else n + 2 :=
  str_length n v

/-- distinct nets get distinct VCD symbols (`_gen_vcd_symbol`) -/
theorem symbol_injective (a b : Nat) (h : symbol a = symbol b) : a = b := symbol_inj a b h

/-! ## replay ∘ dump = id -/

/-- Reading the dump of a trace gives the trace back, for every non-clock net in every
    cycle (cycle 0 and the header values included). -/
theorem replay_dump (d : Design) (init : List Nat) (tr : List (List Nat))
    (hk : d.clk < d.widths.length) (hi : init.length = d.widths.length) (hq : QuirkSafe d init)
    (hr : ∀ row ∈ tr, RowOk d row) :
    replay (dataDecls d) (dump d init tr) tr.length = tr.map (fun row => row.map some) := by
  refine List.ext_getElem (by simp [replay]) fun t h1 h2 => List.ext_getElem? fun i => ?_
  have ht : t < tr.length := by simpa using h2
  simp only [replay, dataDecls, List.getElem_map, List.getElem_range, List.getElem?_map]
  cases hp : (details d)[i]? with
  | none =>
    -- behind the last net both rows end
    rw [List.getElem?_eq_none ((hr _ (List.getElem_mem ht)).1 ▸ List.getElem?_eq_none_iff.mp hp)]; rfl
  | some p =>
    obtain ⟨v, hv, h⟩ := dump_read d init tr hk hi hq.slipSafe (fun row hrow => (hr row hrow).1) t ht (hr _ (List.getElem_mem ht)).2 hp
    rw [hv]; exact congrArg some h

/-- the case that exists in pymtl3: every default value is zero — no further hypothesis -/
theorem replay_dump_zero_init (d : Design) (tr : List (List Nat))
    (hk : d.clk < d.widths.length) (hr : ∀ row ∈ tr, RowOk d row) :
    replay (dataDecls d) (dump d (List.replicate d.widths.length 0) tr) tr.length
      = tr.map (fun row => row.map some) :=
  replay_dump d _ tr hk (by simp) (quirkSafe_replicate d 0) hr

/-- per declared signal: a signal mapped to non-clock net `j` reads, in cycle `t`, the sampled value of net `j` -/
theorem replay_signal (d : Design) (init : List Nat) (tr : List (List Nat))
    (hk : d.clk < d.widths.length) (hi : init.length = d.widths.length) (hq : QuirkSafe d init)
    (hr : ∀ row ∈ tr, RowOk d row)
    (a : Nat) (ha : a < d.sigs.length) (hj : d.sigs[a] ≠ d.clk) (hjN : d.sigs[a] < d.widths.length)
    (t : Nat) (ht : t < tr.length) :
    ∃ v, tr[t][dataPos d d.sigs[a]]? = some v ∧
      (replay (decls d) (dump d init tr) tr.length)[t]?.bind (·[a]?) = some (some v) := by
  obtain ⟨v, hv, h⟩ := dump_read d init tr hk hi hq.slipSafe (fun row hrow => (hr row hrow).1) t ht
    (hr _ (List.getElem_mem ht)).2 (details_net d _ hj hjN)
  refine ⟨v, hv, ?_⟩
  rw [replay_get, List.getElem?_range ht, Option.bind_some, decls, List.getElem?_map, List.getElem?_eq_getElem ha,
    Option.map_some, Option.map_some, List.getD_eq_getElem?_getD, List.getElem?_eq_getElem hjN, Option.getD_some, h]

/-- signals mapped to the same net read the same value in every cycle of any file -/
theorem shared_symbol (d : Design) (evs : List Ev) (n : Nat) (a b : Nat)
    (ha : a < d.sigs.length) (hb : b < d.sigs.length) (hab : d.sigs[a] = d.sigs[b]) (t : Nat) :
    (replay (decls d) evs n)[t]?.bind (·[a]?) = (replay (decls d) evs n)[t]?.bind (·[b]?) := by
  have hd : (decls d)[a]? = (decls d)[b]? := by
    rw [decls, List.getElem?_map, List.getElem?_map, List.getElem?_eq_getElem ha, List.getElem?_eq_getElem hb, hab]
  rw [replay_get, replay_get, hd]

/-- the timestamped lines of the clock symbol in a dump of N cycles: 1 at time 0, then for every cycle c
    0 at 100c+50 and 1 at 100c+100 — nothing else writes that symbol once time has started (before `#0` the header gives
    every net, the clock net too, a value line) -/
theorem clock_edges (d : Design) (init : List Nat) (tr : List (List Nat)) :
    edgesOf (symbol d.clk) none (dump d init tr) = (0, "1") :: clockExp 0 tr.length := by
  rw [dump, List.append_assoc, edgesOf_append_chgs _ _ _ _ (headerEvs_chgs _) (Or.inl rfl)]
  simp only [List.cons_append, List.nil_append, edgesOf, if_true, edges_cycles _ _ (details_clk d)]

/-- the clock toggles exactly once per cycle: inside [100t, 100t+100) it rises at 100t and falls at 100t+50 -/
theorem clock_once_per_cycle (d : Design) (init : List Nat) (tr : List (List Nat)) (t : Nat) (ht : t < tr.length) :
    (edgesOf (symbol d.clk) none (dump d init tr)).filter (fun e => 100 * t ≤ e.1 ∧ e.1 < 100 * t + 100)
      = [(100 * t, "1"), (100 * t + 50, "0")] := by
  rw [clock_edges]
  exact clock_window 0 tr.length t (Nat.zero_le t) ((Nat.zero_add _).symm ▸ ht)

/-- the text-wave record of a signal, read back, is its sampled value sequence -/
theorem textwave_record (w : Nat) (vals : List Nat) (h : ∀ v ∈ vals, v < 2 ^ w) :
    (wavRecord w vals).map (parseWav w) = vals.map some := by
  simp only [wavRecord, List.map_map]
  apply List.map_congr_left
  intro v hv
  simp only [Function.comp, parse_wav, Nat.mod_eq_of_lt (h v hv)]

/-- with unequal default values the slip loses a change: nets (clk, a, b), both 4 bits wide, default 5 and 0;
    b = 5 in cycle 0 is compared with a's header string, found "unchanged", and the file keeps saying b = 0 -/
theorem quirk_needs_equal_defaults :
    let d : Design := { widths := [1, 4, 4], clk := 0, sigs := [] }
    replay (dataDecls d) (dump d [0, 5, 0] [[5, 5]]) 1 = [[some 5, some 0]] := by
  decide +kernel

/-- with pymtl3's all-zero defaults the slip only costs redundant lines in cycle 0:
    here `b0000000 #` is written again although net 2 did not change -/
example :
    (dump { widths := [8, 1, 7], clk := 1, sigs := [] } [0, 0, 0] [[0, 0]]).map Ev.text
      = ["b00000000 !", "0\"", "b0000000 #", "#0", "1\"", "b0000000 #", "#50", "0\"", "#100", "1\""] := by
  decide +kernel

/-! ## non-vacuity -/

example : symbol 0 = "!" ∧ symbol 93 = "~" ∧ symbol 94 = "\"!" := by decide
example : toVcdStr ⟨1, 1⟩ = "1" ∧ toVcdStr ⟨3, 2⟩ = "b010 " := by decide
example : wavRecord 3 [2, 7, 2] = ["0b010", "0b111", "0b010"] := by decide +kernel
/-- a trace that returns to earlier values, with a net that never changes, clock net in the middle -/
example :
    let d : Design := { widths := [3, 1, 2, 1], clk := 1, sigs := [0, 0, 2, 3, 1] }
    replay (dataDecls d) (dump d [0, 0, 0, 0] [[5, 0, 1], [2, 0, 1], [5, 0, 0], [5, 0, 1]]) 4
      = [[some 5, some 0, some 1], [some 2, some 0, some 1], [some 5, some 0, some 0], [some 5, some 0, some 1]] := by
  decide +kernel
example : RowOk { widths := [3, 1, 2, 1], clk := 1, sigs := [] } [5, 0, 1] := by
  unfold RowOk; decide

end PV.C16
