import PymtlVerif.Proofs.AstRW
/-!
# C02a — the read / write / call sets extracted from the source of an update block cover what the block does

Theorems about `Model/AstRW.lean` (`AstHelper.DetectReadsWritesCalls`, `extract_reads_writes_calls`,
`ComponentLevel2.extract_obj_from_names`) against the semantics of `Proofs/AstRW.lean`:

* `Exec ρ ns tr` — executing the statements `ns` can produce the trace of accesses `tr` (read / assign / call of a concrete
  object path, every index with its run-time value); every branch outcome, loop count, `else` clause and early exit is an
  execution; an index has any value unless it is a literal or a name that is constant during the execution (`ρ`);
  `acc ρ n e` — some execution of `n` performs the access `e` (`exec_acc`: every access of every trace is one);
* `Matches σ nm p` — the recorded name `nm` matches the concrete path `p` step by step (`"*"` matches every index or slice,
  a literal itself, `(is_closure, x)` the value `σ` that `extract_obj_from_names` will look up, `slice(lo, up)` the same
  bounds); `Recorded σ evs e` — some record of `evs` of the kind of `e` matches the path of `e`;
* `Agree env σ ρ` — every name the visitor resolves statically (`x in self.closure`, `x in self.globals` after the
  block-local names were removed) is constant during the execution and has the value the lookup uses; `AgreeBody` asks
  this of the environment of each statement, and follows from `Agree` of the environment the visitor starts with
  (`agree_body`);
* `resolve v p` — the object the path reaches in the elaborated component; `lookName` — the objects the real lookup puts
  into the set for a name.

Statements:

* `complete_partial` — for every function body: every object path read, assigned or called by ANY execution of any
  statement of the body is matched by a recorded read, write resp. call; `complete_fn` — the same for a function with
  parameters; `exec_complete` — the same for the traces of `Exec`.  `supported` excludes two of the shapes the visitor
  rejects (a slice that is not the last subscript, a slice of a slice; a `Del` context and a base that is neither name, call
  nor string are `supported` and raise: `= .ok` excludes them) and at least one it accepts: a call whose callee ends in a
  slice, `s.f[0:2]()` (`visit_Call` strips the slice; `supported` asks `supChain` of the callee).  For that shape
  completeness is open, so `supported` stays a hypothesis (hence `_partial`).  `Agree` is a hypothesis about the names, not
  about the visitor.
* `objects_covered` — down to objects: when the path of such an access resolves in the component, the real lookup of the
  matching record, if it does not raise, yields, for every NamedObject reached, that object or one it is a part / an element of.
* `sound` — every record is the name, as written in the source, of an attribute / subscript node that occurs in the body in
  load (read) resp. store (write) context, or of the callee of a call node (call).
* `for_else_visited`, `if_elif_else_visited`, `children_visited` — the records of a `for` are those of its target, iterable,
  body AND `else` clause; of an `if` those of the test, the body and the `else` / `elif` part; every child of every other
  compound node is visited.
* `env_congr`, `enter_idem`, `enter_comm`, `body_append` — the result depends on `self.closure` / `self.globals` as sets only;
  entering a statement twice, or two statements in either order, leaves the same module-level names; the records of a
  body are the records of its parts in order, the second part under the names left by the first.
-/
namespace PV.C02a
open PV.AstRW

/-- FULL STATEMENT: the same without `hsup`.  Not proved; an accepted body need not be `supported` (`s.f[0:2]()`). -/
theorem complete_partial {σ : Valuation} {ρ : REnv} {env : Env} {body : List Node} {evs : List Ev}
    (hsup : supportedBody body = true) (hA : AgreeBody σ ρ env body) (h : extractBody env body = .ok evs)
    {e : Access} (he : accList ρ body e) :
    ∃ r, r ∈ evs ∧ r.kind = e.kind ∧ Matches σ r.name e.path :=
  body_complete body hA hsup h e he

/-- a function with parameters: the parameter names are not module-level names -/
theorem complete_fn {σ : Valuation} {ρ : REnv} {env : Env} {params : List String} {body : List Node} {evs : List Ev}
    (hsup : supportedBody body = true)
    (hA : AgreeBody σ ρ { env with globals := env.globals.filter (fun g => !params.contains g) } body)
    (h : extractFn env params body = .ok evs) {e : Access} (he : accList ρ body e) :
    ∃ r, r ∈ evs ∧ r.kind = e.kind ∧ Matches σ r.name e.path :=
  complete_partial hsup hA h he

/-- the same for executions: every access of every trace of the body -/
theorem exec_complete {σ : Valuation} {ρ : REnv} {env : Env} {body : List Node} {evs : List Ev} {tr : List Access}
    (hsup : supportedBody body = true) (hA : AgreeBody σ ρ env body) (h : extractBody env body = .ok evs)
    (hx : Exec ρ body tr) {e : Access} (he : e ∈ tr) :
    ∃ r, r ∈ evs ∧ r.kind = e.kind ∧ Matches σ r.name e.path :=
  complete_partial hsup hA h (exec_acc hx e he)

/-- the trace semantics is contained in the access semantics the completeness theorems are stated for -/
theorem exec_accesses {ρ : REnv} {ns : List Node} {tr : List Access} (h : Exec ρ ns tr) {e : Access} (he : e ∈ tr) :
    accList ρ ns e :=
  exec_acc h e he

/-- the hypothesis on the names holds for every statement when it holds for the names the visitor starts with -/
theorem agree_body {σ : Valuation} {ρ : REnv} {env : Env} (h : Agree env σ ρ) (body : List Node) : AgreeBody σ ρ env body := by
  induction body generalizing env with
  | nil => trivial
  | cons s ss ih => exact ⟨h.enter s, ih (h.enter s)⟩

/-- down to objects: the block runs on the component `.named id fs`; an access of an execution whose path `s.<p>` resolves to `v`
is matched by a record whose lookup (`extract_obj_from_names`), if it does not raise, contains, for every NamedObject `u` of
`v` (`v` itself, or its elements when it is a list), an object from which `u` is reached by a path: `u` itself or an object `u` is a
part of -/
theorem objects_covered {σ : Valuation} {ρ : REnv} {env : Env} {body : List Node} {evs : List Ev}
    (hsup : supportedBody body = true) (hA : AgreeBody σ ρ env body) (h : extractBody env body = .ok evs)
    {e : Access} (he : accList ρ body e) {p : List CStep} (hp : e.path = .fld "s" :: p) (hsl : sliceLast p = true)
    {id : Nat} {fs : List (String × Obj)} {funcs : List String} {v : Val} (hr : resolve (.obj (.named id fs)) p = some v) :
    ∃ r, r ∈ evs ∧ r.kind = e.kind ∧ ∀ ws, lookName σ (.named id fs) funcs r.name = .ok ws →
      ∀ u, u ∈ lookEnd v → ∃ w, w ∈ ws ∧ ∃ q, resolve w q = some u := by
  obtain ⟨r, hr1, hr2, hm⟩ := complete_partial hsup hA h he
  rw [hp] at hm
  exact ⟨r, hr1, hr2, fun ws hl => lookName_reaches hm hsl hr hl⟩

/-- every record comes from a node of the body: an attribute / subscript whose name (as `_get_full_name` writes it down,
under the names visible at its statement: the closure names and a subset of the module-level names) is the recorded one,
in load context for a read and store context for a write, or the callee of a call -/
theorem sound {env : Env} {body : List Node} {evs : List Ev} (h : extractBody env body = .ok evs) {ev : Ev} (hev : ev ∈ evs) :
    ∃ s env', s ∈ body ∧ (∀ x, x ∈ env'.closure ↔ x ∈ env.closure) ∧ (∀ x, x ∈ env'.globals → x ∈ env.globals) ∧
      ((∃ m, m ∈ subs s ∧ topName env' m = some ev.name ∧
          ((ev.kind = .rd ∧ ctxOf m = some .load) ∨ (ev.kind = .wr ∧ ctxOf m = some .store))) ∨
       (ev.kind = .fc ∧ ∃ f args kws, Node.call f args kws ∈ subs s ∧ topName env' f = some ev.name)) :=
  body_sound body h ev hev

/-- the records of a `for` statement are those of the target, the iterable, every statement of the body and every statement
of the `else` clause -/
theorem for_else_visited {env : Env} {op : Op} {t it : Node} {body orelse : List Node} {evs : List Ev} :
    visit env op (.for_ t it body orelse) = .ok evs ↔
      ∃ a b c d, visit env .for_ t = .ok a ∧ visit env .none it = .ok b ∧ visitList env .none body = .ok c ∧
        visitList env .none orelse = .ok d ∧ evs = a ++ b ++ c ++ d :=
  visit_for_iff

/-- the records of an `if` are those of the test, the body and the `else` part (an `elif` is an `if` in the `else` part) -/
theorem if_elif_else_visited {env : Env} {op : Op} {t : Node} {body orelse : List Node} {evs : List Ev} :
    visit env op (.node .ifS [t, .node .block body, .node .block orelse]) = .ok evs ↔
      ∃ a c d, visit env op t = .ok a ∧ visitList env op body = .ok c ∧ visitList env op orelse = .ok d ∧
        evs = a ++ c ++ d :=
  visit_if_iff

/-- every child of a node without a visitor method of its own is visited, and its records are kept -/
theorem children_visited {env : Env} {op : Op} {k : Kind} {cs : List Node} {evs : List Ev}
    (h : visit env op (.node k cs) = .ok evs) {c : Node} (hc : c ∈ cs) :
    ∃ e, visit env op c = .ok e ∧ ∀ x, x ∈ e → x ∈ evs :=
  visitList_mem h c hc

/-- `self.closure` and `self.globals` are sets: only membership matters -/
theorem env_congr {e1 e2 : Env} (hc : ∀ x, x ∈ e1.closure ↔ x ∈ e2.closure) (hg : ∀ x, x ∈ e1.globals ↔ x ∈ e2.globals)
    (body : List Node) : extractBody e1 body = extractBody e2 body :=
  extractBody_congr body ⟨hc, hg⟩

theorem enter_idem (env : Env) (s : Node) : enterEnv (enterEnv env s) s = enterEnv env s := by
  simp only [enterEnv, List.filter_filter, Bool.and_self]

theorem enter_comm (env : Env) (a b : Node) : enterEnv (enterEnv env a) b = enterEnv (enterEnv env b) a := by
  simp only [enterEnv, List.filter_filter]
  congr 1
  exact List.filter_congr fun x _ => Bool.and_comm _ _

theorem body_append (a b : List Node) (env : Env) :
    extractBody env (a ++ b) = (do
      let x ← extractBody env a
      let y ← extractBody (enterAll env a) b
      pure (x ++ y)) := by
  induction a generalizing env with
  | nil => simp [extractBody, enterAll]
  | cons s ss ih =>
    simp only [List.cons_append, extractBody, enterAll, ih, bind_assoc, pure_bind, List.append_assoc]

/-! ### non-vacuity and counter-examples -/

def S : Node := .name "s" .load
def sig (a : String) : Node := .attr S a .load
def wsig (a : String) : Node := .attr S a .store
def matmul (t v : Node) : Node := .aug t "MatMult" v
/-- no closure or module-level name is an integer constant -/
def σ0 : Valuation := fun _ _ => none
def ρ0 : REnv := fun _ => none
def env0 : Env := ⟨[], []⟩

theorem agree0 : Agree env0 σ0 ρ0 := fun _ => ⟨nofun, nofun⟩

/-- `s.o @= s.v[ s.sel + 1 ].a`, then `for x in s.v: x else: s.q[ 0 : 4 ] @= s.c` -/
def demo : List Node :=
  [matmul (wsig "o") (.attr (.sub (sig "v") (.node .binOp [sig "sel", .num 1]) .load) "a" .load),
   .for_ (.name "x" .store) (sig "v") [.node .exprS [.name "x" .load]]
     [matmul (.sub (sig "q") (.slice (.num 0) (.num 4) .nil) .store) (sig "c")]]

def demoRecords : List Ev :=
  [⟨.wr, [.fld "s", .fld "o"], .aug "MatMult"⟩, ⟨.rd, [.fld "s", .fld "sel"], .none⟩,
   ⟨.rd, [.fld "s", .fld "v", .sel .star, .fld "a"], .none⟩, ⟨.rd, [.fld "s", .fld "v"], .none⟩,
   ⟨.wr, [.fld "s", .fld "q", .sel (.slice (.num 0) (.num 4))], .aug "MatMult"⟩, ⟨.rd, [.fld "s", .fld "c"], .none⟩]

example : supportedBody demo = true := by decide
example : extractBody env0 demo = .ok demoRecords := by rfl
/-- an execution reads `s.v[3].a`, one writes `s.q[0:4]` in the `else` clause -/
example : accList ρ0 demo ⟨.rd, [.fld "s", .fld "v", .sel (.idx 3), .fld "a"]⟩ :=
  -- first statement, right side of `@=`: the chain `s.v[ _ ].a` with index value 3
  .inl (.inr (.inl ⟨_, ⟨_, ⟨_, 3, ⟨_, rfl, rfl⟩, trivial, rfl⟩, rfl⟩, rfl⟩))
example : accList ρ0 demo ⟨.wr, [.fld "s", .fld "q", .sel (.slc (some 0) (some 4))]⟩ :=
  -- second statement, `else` clause, left side of `@=`
  .inr (.inl (.inr (.inr (.inr (.inl (.inl (.inl (.inl ⟨_, ⟨_, _, _, ⟨_, rfl, rfl⟩, rfl, rfl, rfl⟩, rfl⟩))))))))
example : Recorded σ0 demoRecords ⟨.rd, [.fld "s", .fld "v", .sel (.idx 3), .fld "a"]⟩ := by
  rw [← recordedB_iff]; decide

/-- an execution of the second statement as a trace: the iterable is read, the loop runs twice, then the `else` clause -/
example : Exec ρ0 [.for_ (.name "x" .store) (sig "v") [.node .exprS [.name "x" .load]]
      [matmul (.sub (sig "q") (.slice (.num 0) (.num 4) .nil) .store) (sig "c")]]
    [⟨.rd, [.fld "s", .fld "v"]⟩, ⟨.rd, [.fld "s", .fld "c"]⟩,
     ⟨.wr, [.fld "s", .fld "q", .sel (.slc (some 0) (some 4))]⟩] := by
  have hit : Exec ρ0 [sig "v"] [⟨.rd, [.fld "s", .fld "v"]⟩] :=
    Exec.attrR (v := S) (ti := []) (tr := []) rfl .nil ⟨_, rfl, rfl⟩ .nil
  have hbody : Exec ρ0 [.name "x" .store, .node .exprS [.name "x" .load]] [] := .stop
  have hc : Exec ρ0 [sig "c"] [⟨.rd, [.fld "s", .fld "c"]⟩] :=
    Exec.attrR (v := S) (ti := []) (tr := []) rfl .nil ⟨_, rfl, rfl⟩ .nil
  have hq : Exec ρ0 [.sub (sig "q") (.slice (.num 0) (.num 4) .nil) .store]
      [⟨.wr, [.fld "s", .fld "q", .sel (.slc (some 0) (some 4))]⟩] :=
    Exec.subR (ti := []) (tr := []) rfl .stop ⟨_, _, _, ⟨_, rfl, rfl⟩, rfl, rfl, rfl⟩ .nil
  have helse : Exec ρ0 [matmul (.sub (sig "q") (.slice (.num 0) (.num 4) .nil) .store) (sig "c")]
      [⟨.rd, [.fld "s", .fld "c"]⟩, ⟨.wr, [.fld "s", .fld "q", .sel (.slc (some 0) (some 4))]⟩] :=
    Exec.aug (tr := []) hc hq .nil
  exact Exec.forStart hit (Exec.forIter hbody (Exec.forIter hbody (Exec.forElse (tr := []) helse .nil)))

/-- objects: on a component with a list `v` of two struct signals, the record `s.v[*].a` is looked up as both `a` fields;
the path `s.v[1].a` an execution reads reaches the second -/
def root : Obj := .named 0 [("v", .lst [.sig 1 true 0 [("a", .sig 2 false 8 [])], .sig 3 true 0 [("a", .sig 4 false 8 [])]])]
example : lookName σ0 root [] [.fld "s", .fld "v", .sel .star, .fld "a"] = .ok [.obj (.sig 2 false 8 []), .obj (.sig 4 false 8 [])] := by
  simp [root, lookName, look, lookAll, getattr, assoc?, children, Val.isNone, Val.isNamed, isSel, lookEnd, flattenObj,
    List.dropWhile, bind, Except.bind, pure, Except.pure]
example : resolve (.obj root) [.fld "v", .sel (.idx 1), .fld "a"] = some (.obj (.sig 4 false 8 [])) := by rfl

/-- `s.o @= s.ps[ s.sel == 1 ].a`: every index expression that is followed by a field is visited, also a comparison -/
def innerCompare : List Node :=
  [matmul (wsig "o") (.attr (.sub (sig "ps") (.node .compare [sig "sel", .num 1]) .load) "a" .load)]
example : supportedBody innerCompare = true := by decide
example : extractBody env0 innerCompare = .ok
    [⟨.wr, [.fld "s", .fld "o"], .aug "MatMult"⟩, ⟨.rd, [.fld "s", .fld "sel"], .none⟩,
     ⟨.rd, [.fld "s", .fld "ps", .sel .star, .fld "a"], .none⟩] := by rfl

/-- `s.o @= s.ps[ hsel( k=s.c ) ].a`: a call used as an index that is followed by a field is visited as a call — the
helper is recorded as called, its arguments and keyword arguments as read -/
def innerCall : List Node :=
  [matmul (wsig "o") (.attr (.sub (sig "ps") (.call (.name "hsel" .load) [] [sig "c"]) .load) "a" .load)]
example : supportedBody innerCall = true := by decide
example : extractBody env0 innerCall = .ok
    [⟨.wr, [.fld "s", .fld "o"], .aug "MatMult"⟩, ⟨.fc, [.fld "hsel"], .none⟩, ⟨.rd, [.fld "s", .fld "c"], .none⟩,
     ⟨.rd, [.fld "s", .fld "ps", .sel .star, .fld "a"], .none⟩] := by rfl

/-- `s.o @= s.a[ s.lo : s.lo + 4 ][ 0 : 2 ]`: a slice of a slice is rejected (`assert len(slices) == 1`); a single slice
with a bound that is not constant is recorded as `s.a[*]`, which matches every part of the signal -/
def sliceSlice : List Node :=
  [matmul (wsig "o") (.sub (.sub (sig "a") (.slice (sig "lo") (.node .binOp [sig "lo", .num 4]) .nil) .load)
     (.slice (.num 0) (.num 2) .nil) .load)]
example : extractBody env0 sliceSlice = .error .multiSlice := by rfl
example : extractBody env0 [matmul (wsig "o") (.sub (sig "a") (.slice (sig "lo") (.node .binOp [sig "lo", .num 4]) .nil) .load)] = .ok
    [⟨.wr, [.fld "s", .fld "o"], .aug "MatMult"⟩, ⟨.rd, [.fld "s", .fld "a", .sel .star], .none⟩,
     ⟨.rd, [.fld "s", .fld "lo"], .none⟩, ⟨.rd, [.fld "s", .fld "lo"], .none⟩] := by rfl

/-- `def hp( i ): return s.v[ i ]` with a module-level `i = 0`: the parameter is removed from the module-level names, the
index is `"*"`; without the parameter list the same body is resolved to the module-level value -/
def paramIndex : List Node := [.node .gen [.sub (sig "v") (.name "i" .load) .load]]
def envI : Env := ⟨[], ["i"]⟩
example : extractFn envI ["i"] paramIndex = .ok [⟨.rd, [.fld "s", .fld "v", .sel .star], .none⟩] := by rfl
example : extractFn envI [] paramIndex = .ok [⟨.rd, [.fld "s", .fld "v", .sel (.var false "i")], .none⟩] := by rfl
/-- `lambda i: s.v[ i ]`: the parameter (rendered as a stored name of the `arg` node) is local to the statement -/
example : extractBody envI [.node .gen [.node .gen [.node .gen [.name "i" .store]], .sub (sig "v") (.name "i" .load) .load]] = .ok
    [⟨.rd, [.fld "s", .fld "v", .sel .star], .none⟩] := by rfl

/-- `for i in ...: s.o @= s.v[ i ]` with the same module-level `i`: the stored name is removed from the module-level names
before the statement is visited, the index is `"*"` -/
example : extractBody envI [.for_ (.name "i" .store) (.name "r" .load) [matmul (wsig "o") (.sub (sig "v") (.name "i" .load) .load)] []] = .ok
    [⟨.wr, [.fld "s", .fld "o"], .aug "MatMult"⟩, ⟨.rd, [.fld "s", .fld "v", .sel .star], .none⟩] := by rfl

end PV.C02a
