import PymtlVerif.Proofs.Bits
/-!
# C04 — Bits arithmetic is exact unsigned arithmetic modulo 2^n

Every statement is for an arbitrary width `n` and arbitrary operands `x = ⟨n, a⟩`, `y = ⟨n, b⟩`; where a
statement needs `a < 2^n` or `b < 2^n` it says so. The table, mask and operand-form lemmas are in `Proofs/Bits.lean`.
The model (`Model/Bits.lean`) follows `PythonBits.py` method by method; the correspondence
check `harness/checks/c04.py` runs model and implementation on the same operands.
-/
namespace PV.Bits

/-- well-formedness of an operand: a Bits operand is a well-formed Bits -/
def Opnd.Wf : Opnd → Prop
  | .bits b => b.Wf
  | _ => True

instance (b : B) : Decidable b.Wf := by unfold B.Wf; infer_instance

end PV.Bits

namespace PV.C04
open PV.Bits

/-- The mask tables the module builds by shifting are `2^n - 1` and `-2^(n-1)`. -/
theorem tables (n : Nat) : upperTab n = upper n ∧ (1 ≤ n → lowerTab n = lower n) :=
  ⟨upperTab_eq n, lowerTab_eq n⟩

theorem add_spec (n a b : Nat) :
    binop .add ⟨n, a⟩ (.bits ⟨n, b⟩) = .ok ⟨n, (a + b) % 2 ^ n⟩ :=
  binop_same_width .add ⟨n, a⟩ b

theorem sub_spec (n a b : Nat) (hb : b < 2 ^ n) :
    binop .sub ⟨n, a⟩ (.bits ⟨n, b⟩) = .ok ⟨n, (a + 2 ^ n - b) % 2 ^ n⟩ := by
  rw [← maskInt_sub n a b (Nat.le_of_lt hb)]; exact binop_same_width .sub ⟨n, a⟩ b

theorem mul_spec (n a b : Nat) :
    binop .mul ⟨n, a⟩ (.bits ⟨n, b⟩) = .ok ⟨n, (a * b) % 2 ^ n⟩ :=
  binop_same_width .mul ⟨n, a⟩ b

theorem div_spec (n a b : Nat) :
    binop .floordiv ⟨n, a⟩ (.bits ⟨n, b⟩) = (if b = 0 then .error .zerodiv else .ok ⟨n, a / b⟩) ∧
    binop .mod ⟨n, a⟩ (.bits ⟨n, b⟩) = (if b = 0 then .error .zerodiv else .ok ⟨n, a % b⟩) := by
  rw [binop_same_width .floordiv ⟨n, a⟩ b, binop_same_width .mod ⟨n, a⟩ b, binRaw, binRaw]
  by_cases h : b = 0
  · simp only [if_pos h, and_self]
  · simp only [if_neg h, and_self]

theorem bitwise_spec (n a b : Nat) :
    binop .and ⟨n, a⟩ (.bits ⟨n, b⟩) = .ok ⟨n, a &&& b⟩ ∧
    binop .or  ⟨n, a⟩ (.bits ⟨n, b⟩) = .ok ⟨n, a ||| b⟩ ∧
    binop .xor ⟨n, a⟩ (.bits ⟨n, b⟩) = .ok ⟨n, a ^^^ b⟩ :=
  ⟨binop_same_width .and ⟨n, a⟩ b, binop_same_width .or ⟨n, a⟩ b, binop_same_width .xor ⟨n, a⟩ b⟩

/-- `~x` is the one's complement inside the width. -/
theorem invert_spec (n a : Nat) (ha : a < 2 ^ n) : invert ⟨n, a⟩ = ⟨n, 2 ^ n - 1 - a⟩ := by
  rw [invert, maskInt_neg_succ n a ha]

/-- bit `i` of `~x` is the negation of bit `i` of `x`, for every bit inside the width -/
theorem invert_testBit (n a i : Nat) (ha : a < 2 ^ n) (hi : i < n) :
    (invert ⟨n, a⟩).v.testBit i = !a.testBit i := by
  rw [invert_spec n a ha, Nat.sub_sub, Nat.add_comm, Nat.testBit_two_pow_sub_succ ha, decide_eq_true hi,
    Bool.true_and]

theorem shift_spec (n a b : Nat) :
    binop .lshift ⟨n, a⟩ (.bits ⟨n, b⟩) = .ok ⟨n, if b ≥ n then 0 else (a * 2 ^ b) % 2 ^ n⟩ ∧
    binop .rshift ⟨n, a⟩ (.bits ⟨n, b⟩) = .ok ⟨n, a / 2 ^ b⟩ := by
  refine ⟨(binop_same_width .lshift ⟨n, a⟩ b).trans ?_, (binop_same_width .rshift ⟨n, a⟩ b).trans ?_⟩
  · unfold binRaw
    by_cases h : b ≥ n
    · simp only [if_pos h]
    · simp only [if_neg h, Nat.shiftLeft_eq]
  · simp only [binRaw, Nat.shiftRight_eq_div_pow]

theorem cmp_spec (n a b : Nat) (op : CmpOp) :
    cmpop op ⟨n, a⟩ (.bits ⟨n, b⟩) = .ok ⟨1, if cmpRaw op a b then 1 else 0⟩ :=
  cmpop_same_width op ⟨n, a⟩ b

theorem cmpRaw_spec (a b : Nat) :
    (cmpRaw .eq a b = true ↔ a = b) ∧ (cmpRaw .ne a b = true ↔ a ≠ b) ∧
    (cmpRaw .lt a b = true ↔ a < b) ∧ (cmpRaw .le a b = true ↔ a ≤ b) ∧
    (cmpRaw .gt a b = true ↔ a > b) ∧ (cmpRaw .ge a b = true ↔ a ≥ b) := by
  simp [cmpRaw]

/-! ## errors instead of silent truncation -/

/-- operands of different widths: always an error, for every operator and comparison -/
theorem width_mismatch (n m a b : Nat) (h : m ≠ n) (op : BinOp) (cop : CmpOp) :
    binop op ⟨n, a⟩ (.bits ⟨m, b⟩) = .error .width ∧
    cmpop cop ⟨n, a⟩ (.bits ⟨m, b⟩) = .error .width := by
  simp only [binop, cmpop, if_pos h, and_self]

/-- an int operand that fits behaves exactly like the Bits of the same width; one that does not
fit (negative or ≥ 2^n) is an error — never truncated -/
theorem int_operand (n a : Nat) (k : Int) (op : BinOp) (cop : CmpOp) :
    ((0 ≤ k ∧ k < 2 ^ n) →
        binop op ⟨n, a⟩ (.int k) = binop op ⟨n, a⟩ (.bits ⟨n, k.toNat⟩) ∧
        cmpop cop ⟨n, a⟩ (.int k) = cmpop cop ⟨n, a⟩ (.bits ⟨n, k.toNat⟩)) ∧
    ((k < 0 ∨ k ≥ 2 ^ n) →
        binop op ⟨n, a⟩ (.int k) = .error .range ∧ cmpop cop ⟨n, a⟩ (.int k) = .error .range) := by
  simp only [binop_int, cmpop_int, int_range]
  constructor
  · intro h
    have hk : ¬ (k < 0 ∨ k ≥ 2 ^ n) := by omega
    exact ⟨if_neg hk, if_neg hk⟩
  · intro h
    exact ⟨if_pos h, if_pos h⟩

/-- reflected forms: commutative operators equal the forward form; `k - x`, `k // x`, `k % x`
are computed with the int on the left -/
theorem reflected (n a : Nat) (k : Nat) (hk : k < 2 ^ n) (ha : a < 2 ^ n) :
    rbinop .add (.int k) ⟨n, a⟩ = .ok ⟨n, (a + k) % 2 ^ n⟩ ∧
    rbinop .mul (.int k) ⟨n, a⟩ = .ok ⟨n, (a * k) % 2 ^ n⟩ ∧
    rbinop .and (.int k) ⟨n, a⟩ = .ok ⟨n, a &&& k⟩ ∧
    rbinop .or  (.int k) ⟨n, a⟩ = .ok ⟨n, a ||| k⟩ ∧
    rbinop .xor (.int k) ⟨n, a⟩ = .ok ⟨n, a ^^^ k⟩ ∧
    rbinop .sub (.int k) ⟨n, a⟩ = .ok ⟨n, (k + 2 ^ n - a) % 2 ^ n⟩ ∧
    rbinop .floordiv (.int k) ⟨n, a⟩ = (if a = 0 then .error .zerodiv else .ok ⟨n, k / a⟩) ∧
    rbinop .mod (.int k) ⟨n, a⟩ = (if a = 0 then .error .zerodiv else .ok ⟨n, k % a⟩) :=
  ⟨(binop_natCast .add ⟨n, a⟩ k hk).trans (add_spec n a k),
   (binop_natCast .mul ⟨n, a⟩ k hk).trans (mul_spec n a k),
   (binop_natCast .and ⟨n, a⟩ k hk).trans (bitwise_spec n a k).1,
   (binop_natCast .or ⟨n, a⟩ k hk).trans (bitwise_spec n a k).2.1,
   (binop_natCast .xor ⟨n, a⟩ k hk).trans (bitwise_spec n a k).2.2,
   (rbinop_natCast .sub (.inl rfl) ⟨n, a⟩ k hk).trans (sub_spec n k a ha),
   (rbinop_natCast .floordiv (.inr (.inl rfl)) ⟨n, a⟩ k hk).trans (div_spec n k a).1,
   (rbinop_natCast .mod (.inr (.inr rfl)) ⟨n, a⟩ k hk).trans (div_spec n k a).2⟩

/-- an int that does not fit is never accepted on the left: the reflected method raises ValueError, or there is none
(`<<`, `>>`) and Python raises TypeError -/
theorem reflected_out_of_range (n a : Nat) (k : Int) (h : k < 0 ∨ k ≥ 2 ^ n) (op : BinOp) :
    rbinop op (.int k) ⟨n, a⟩ = .error .range ∨ rbinop op (.int k) ⟨n, a⟩ = .error .type := by
  have hr := (int_range n k).mpr h
  refine rbinop_int_cases op ⟨n, a⟩ k (fun r => r = .error .range ∨ r = .error .type) (.inl ?_) (.inl (if_pos hr))
    (.inr rfl)
  rw [binop_int]; exact if_pos hr

/-! ## construction and assignment accept exactly -2^(n-1) .. 2^n - 1 -/

theorem ctor_spec (n : Nat) (h1 : 1 ≤ n) (h2 : n < 1024) (k : Int) :
    ((-(2 ^ (n - 1) : Int) ≤ k ∧ k < 2 ^ n) → ctor n (.int k) false = .ok ⟨n, maskInt n k⟩) ∧
    ((k < -(2 ^ (n - 1) : Int) ∨ k ≥ 2 ^ n) → ctor n (.int k) false = .error .range) := by
  have hn : ¬ ((n : Int) < 1 ∨ (n : Int) ≥ 1024) := by omega
  simp only [ctor, if_neg hn, Int.toNat_natCast, Bool.not_false, Bool.true_and]
  exact value_test n k _

/-- the stored value: non-negative ints unchanged, negative ones in two's complement -/
theorem ctor_value (n : Nat) (k : Int) :
    (0 ≤ k → k < 2 ^ n → (maskInt n k : Int) = k) ∧
    (k < 0 → -(2 ^ n : Int) ≤ k → (maskInt n k : Int) = 2 ^ n + k) :=
  ⟨maskInt_of_nonneg n k, maskInt_neg n k⟩

theorem ctor_nat (w v : Nat) (h1 : 1 ≤ w) (h2 : w < 1024) (hv : v < 2 ^ w) :
    ctor w (.int v) false = .ok ⟨w, v⟩ := by
  have := cast_two_pow w
  have : (0 : Int) < 2 ^ (w - 1) := Int.pow_pos (by decide)
  rw [(ctor_spec w h1 h2 v).1 ⟨by omega, by omega⟩, maskInt_of_lt _ _ hv]

theorem ctor_bad_width (nbits : Int) (v : Opnd) (t : Bool) (h : nbits < 1 ∨ nbits ≥ 1024) :
    ctor nbits v t = .error .range := by
  rw [ctor, if_pos h]

theorem ctor_from_bits (n m a : Nat) (h1 : 1 ≤ n) (h2 : n < 1024) (t : Bool) :
    ctor n (.bits ⟨m, a⟩) t = if n = m then .ok ⟨n, a⟩ else .error .width := by
  have hn : ¬ ((n : Int) < 1 ∨ (n : Int) ≥ 1024) := by omega
  simp only [ctor, if_neg hn, Int.toNat_natCast, ne_eq, ite_not]

/-- `@=` has the acceptance set of the constructor; a Bits of another width is an error -/
theorem assign_spec (n a : Nat) (k : Int) (m b : Nat) :
    ((-(2 ^ (n - 1) : Int) ≤ k ∧ k < 2 ^ n) → imatmul ⟨n, a⟩ (.int k) = .ok ⟨n, maskInt n k⟩) ∧
    ((k < -(2 ^ (n - 1) : Int) ∨ k ≥ 2 ^ n) → imatmul ⟨n, a⟩ (.int k) = .error .range) ∧
    (imatmul ⟨n, a⟩ (.bits ⟨m, b⟩) = if m = n then .ok ⟨n, b⟩ else .error .width) :=
  ⟨(value_test n k _).1, (value_test n k _).2, by simp only [imatmul, ne_eq, ite_not]⟩

/-- `<<=` does not change the visible value; the flip installs exactly what `@=` would have -/
theorem nb_assign_spec (x : Reg) (v : Opnd) (r : Reg) (h : ilshift x v = .ok r) :
    r.cur = x.cur ∧ ∃ b, imatmul x.cur v = .ok b ∧ Bits.flip r = some { r with cur := b } := by
  unfold ilshift at h
  cases hi : imatmul x.cur v with
  | error e => rw [hi] at h; cases h
  | ok b =>
    rw [hi] at h; cases h
    exact ⟨rfl, b, rfl, by simp only [Bits.flip, ← imatmul_n hi]⟩

/-! ## the range invariant: a stored value always lies in [0, 2^n) -/

theorem binRaw_lt (op : BinOp) (n a b r : Nat) (ha : a < 2 ^ n) (hb : b < 2 ^ n)
    (h : binRaw op n a b = .ok r) : r < 2 ^ n := by
  have hp := Nat.two_pow_pos n
  cases op <;> simp only [binRaw] at h
  case add => cases h; exact Nat.mod_lt _ hp
  case sub => cases h; exact maskInt_lt _ _
  case mul => cases h; exact Nat.mod_lt _ hp
  case and => cases h; exact Nat.and_lt_two_pow _ hb
  case or => cases h; exact Nat.or_lt_two_pow ha hb
  case xor => cases h; exact Nat.xor_lt_two_pow ha hb
  case floordiv => cases (of_ite_error h).2; exact Nat.lt_of_le_of_lt (Nat.div_le_self _ _) ha
  case mod => cases (of_ite_error h).2; exact Nat.lt_of_le_of_lt (Nat.mod_le _ _) ha
  case lshift =>
    by_cases hz : b ≥ n
    · rw [if_pos hz] at h; cases h; exact hp
    · rw [if_neg hz] at h; cases h; exact Nat.mod_lt _ hp
  case rshift => cases h; exact Nat.lt_of_le_of_lt (Nat.shiftRight_le _ _) ha

/-- the invariant for a Bits operand; the other operand kinds reduce to it -/
theorem binop_bits_wf (op : BinOp) (x b r : B) (hx : x.Wf) (hb : b.v < 2 ^ b.n)
    (h : binop op x (.bits b) = .ok r) : r.Wf := by
  rw [binop] at h
  obtain ⟨hw, h⟩ := of_ite_error h
  cases hr : binRaw op x.n x.v b.v with
  | error e => rw [hr] at h; cases h
  | ok q =>
    rw [hr] at h; cases h
    exact ⟨hx.1, hx.2.1, binRaw_lt op _ _ _ _ hx.2.2 (Decidable.of_not_not hw ▸ hb) hr⟩

theorem range_invariant_binop (op : BinOp) (x : B) (y : Opnd) (r : B)
    (hx : x.Wf) (hy : y.Wf) (h : binop op x y = .ok r) : r.Wf := by
  cases y with
  | other => cases h
  | bits b => exact binop_bits_wf op x b r hx hy.2.2 h
  | int k =>
    rw [binop_int] at h
    obtain ⟨hk, h⟩ := of_ite_error h
    exact binop_bits_wf op x _ r hx (toNat_lt_of_range hk) h

theorem range_invariant_rbinop (op : BinOp) (x : B) (k : Opnd) (r : B)
    (hx : x.Wf) (h : rbinop op k x = .ok r) : r.Wf := by
  cases k with
  | bits b => cases h
  | other => cases h
  | int k =>
    refine rbinop_int_cases op x k (fun r' => r' = .ok r → r.Wf) (range_invariant_binop op x (.int k) r hx trivial)
      (fun h => ?_) (fun h => by cases h) h
    obtain ⟨hk, h⟩ := of_ite_error h
    exact binop_bits_wf op ⟨x.n, k.toNat⟩ x r ⟨hx.1, hx.2.1, toNat_lt_of_range hk⟩ hx.2.2 h

theorem b1_range (c : Bool) : (b1 c).n = 1 ∧ (b1 c).v < 2 := by
  cases c <;> exact ⟨rfl, by decide⟩

theorem range_invariant_cmp (op : CmpOp) (x : B) (y : Opnd) (r : B) (h : cmpop op x y = .ok r) :
    r.n = 1 ∧ r.v < 2 := by
  have bits : ∀ b, cmpop op x (.bits b) = .ok r → r.n = 1 ∧ r.v < 2 := fun b h => by
    rw [cmpop] at h
    cases (of_ite_error h).2; exact b1_range _
  cases y with
  | bits b => exact bits b h
  | int k =>
    rw [cmpop_int] at h
    exact bits _ (of_ite_error h).2
  | other => cases op <;> cases h <;> exact b1_range _

theorem range_invariant_ctor (nbits : Int) (v : Opnd) (t : Bool) (r : B)
    (hv : v.Wf) (h : ctor nbits v t = .ok r) : r.Wf := by
  unfold ctor at h
  obtain ⟨hn, h⟩ := of_ite_error h
  have h1 : 1 ≤ nbits.toNat := by omega
  have h2 : nbits.toNat < 1024 := by omega
  cases v with
  | other => cases h
  | bits b =>
    obtain ⟨hw, h⟩ := of_ite_error h
    cases h; exact ⟨h1, h2, Decidable.of_not_not hw ▸ hv.2.2⟩
  | int k => cases (of_ite_error h).2; exact ⟨h1, h2, maskInt_lt _ _⟩

theorem range_invariant_assign (x : B) (v : Opnd) (r : B)
    (hx : x.Wf) (hv : v.Wf) (h : imatmul x v = .ok r) : r.Wf := by
  unfold imatmul at h
  cases v with
  | other => cases h
  | bits b =>
    obtain ⟨hw, h⟩ := of_ite_error h
    cases h; exact ⟨hx.1, hx.2.1, Decidable.of_not_not hw ▸ hv.2.2⟩
  | int k => cases (of_ite_error h).2; exact ⟨hx.1, hx.2.1, maskInt_lt _ _⟩

theorem range_invariant_invert (x : B) (hx : x.Wf) : (invert x).Wf :=
  ⟨hx.1, hx.2.1, maskInt_lt _ _⟩

/-- `x.int()` is the two's-complement reading; `uint()`/`int(x)` the unsigned one -/
theorem int_signed (n a : Nat) (h1 : 1 ≤ n) (ha : a < 2 ^ n) :
    toInt ⟨n, a⟩ = (if a < 2 ^ (n - 1) then (a : Int) else (a : Int) - 2 ^ n) ∧ toUInt ⟨n, a⟩ = a := by
  refine ⟨?_, rfl⟩
  have hp := Nat.two_pow_pos (n - 1)
  rw [toInt, invert_spec n a ha]
  show (if a >>> (n - 1) != 0 then -(((2 ^ n - 1 - a + 1) % 2 ^ n : Nat) : Int) else (a : Int)) = _
  rw [Nat.shiftRight_eq_div_pow]
  by_cases hlt : a < 2 ^ (n - 1)
  · rw [if_pos hlt, Nat.div_eq_of_lt hlt]; rfl
  · have hne : (a / 2 ^ (n - 1) != 0) = true :=
      bne_iff_ne.mpr (Nat.ne_of_gt (Nat.div_pos (Nat.le_of_not_lt hlt) hp))
    -- `~a + 1 = 2^n - a`, which is below `2^n` because `a > 0`
    rw [if_neg hlt, if_pos hne, Nat.sub_right_comm, Nat.sub_add_cancel (Nat.sub_pos_of_lt ha),
      Nat.mod_eq_of_lt (Nat.sub_lt (Nat.two_pow_pos n) (Nat.lt_of_lt_of_le hp (Nat.le_of_not_lt hlt))),
      Int.natCast_sub (Nat.le_of_lt ha), cast_two_pow, Int.neg_sub]

/-! ## non-vacuity: the hypotheses above are met by concrete non-trivial values -/

example : (⟨8, 200⟩ : B).Wf := by decide
example : binop .add ⟨8, 200⟩ (.bits ⟨8, 100⟩) = .ok ⟨8, 44⟩ := by decide
example : binop .sub ⟨8, 2⟩ (.int 5) = .ok ⟨8, 253⟩ := by decide
example : binop .add ⟨8, 2⟩ (.int 256) = .error .range := by decide
example : ctor 4 (.int (-8)) false = .ok ⟨4, 8⟩ ∧ ctor 4 (.int (-9)) false = .error .range ∧
          ctor 4 (.int 15) false = .ok ⟨4, 15⟩ ∧ ctor 4 (.int 16) false = .error .range := by decide
example : toInt ⟨8, 171⟩ = -85 := by decide

end PV.C04
