import PymtlVerif.Proofs.Pipe
import PymtlVerif.Proofs.PipeDemo
import PymtlVerif.Proofs.PipeExcl
import PymtlVerif.Proofs.PipeL2
import PymtlVerif.Proofs.PipeL2Ex
import PymtlVerif.Proofs.PipeRef4
import PymtlVerif.Proofs.PipeEx
/-!
# C20p — the five-stage `ProcRTL` itself, inside the model

`Model/Pipe.lean` is a cycle-level transcription of ProcCtrlRTL + ProcDpathRTL + drop unit + the fetch-path
queues (tied to /repo cycle by cycle by `harness/checks/c20_pipe.py`).  Proved here about that model:

* LEVEL 1 — one-cycle facts of the control equations, any state, any input: stall chain, a stalled stage keeps
  its instruction, bubbles, squash only from a taken branch in a non-stalled X and only into D and F,
  register-file writes only from W, x0.
* LEVEL 2 — for all states reachable from power-on under ANY input list (no assumption on the environment,
  resets at any time), with ghost sequence numbers: every stage is a one-place buffer of its input stream
  (`stage_conservation`), tags are strictly increasing from W back to F and commits are in fetch order without
  repetition (`tags_in_order`), every fetched instruction is exactly one of committed / squashed in D /
  squashed in F / still in flight (`no_dup_no_loss`), squashed instructions are younger than the branch
  (`squashed_younger`), the drop unit drops exactly the responses of squashed fetches and the stream entering
  D is the stream of the others (`drop_unit_exact`, `deq_is_accounted`), a register-file write comes from a
  non-stalled W (`rf_written_by_unstalled_W`).
* LEVEL 3 — data correctness for ALL programs and ALL environment timings allowed by the explicit assumption
  `envOk` (instruction memory answers accepted fetches in order with the words of the image, data memory
  answers accepted requests in order with little-endian word semantics, mngr2proc delivers the source list in
  order; every `rdy` and all delays arbitrary, no fairness): the control table + immediate generator + ALU
  implement the ten instructions (`isa_step_is_datapath`); along every admissible trace from reset the
  refinement invariant holds (`refinement_invariant`: operands after bypass, results, branch decisions,
  memory and mngr2proc side effects of every valid instruction in D/X/M/W are the ISA's at its position in
  program order; at most two fetches outstanding); hence register file and proc2mngr stream always equal the
  ISA state after as many instructions as have committed (`arch_state_refines`), and the sequence of
  architectural states at the commits IS the ISA execution (`commits_are_isa`).
  Hypothesis on the program (`Runs p N`): the ISA interpreter executes N instructions from reset without
  stopping, and none of them was overwritten by an earlier store (no self-modifying code).  Safety only: nothing
  says that a commit ever happens (the environment may stall forever).
-/
namespace PV.C20p
open PV.Pipe

/-! # LEVEL 1 -/

/-- the stall chain: a stalled stage stalls every valid younger stage -/
theorem stall_chain (s : State) (i : EnvIn) :
    (stall_W s i = true → s.val_M = true → stall_M s i = true) ∧
    (stall_M s i = true → s.val_X = true → stall_X s i = true) ∧
    (stall_X s i = true → s.val_D = true → stall_D s i = true) ∧
    (stall_D s i = true → s.val_F = true → stall_F s i = true) :=
  ⟨stall_M_of_stall_W s i, stall_X_of_stall_M s i, stall_D_of_stall_X s i, stall_F_of_stall_D s i⟩

/-- a stage that stalls keeps its instruction: valid bit, control word and data registers unchanged -/
theorem stall_keeps (s : State) (i : EnvIn) (hr : i.reset = false) :
    (stall_W s i = true → (next s i).val_W = s.val_W ∧ (next s i).cw = s.cw ∧ (next s i).wb_result_W = s.wb_result_W) ∧
    (stall_M s i = true → (next s i).val_M = s.val_M ∧ (next s i).cm = s.cm ∧ (next s i).ex_result_M = s.ex_result_M) ∧
    (stall_X s i = true → (next s i).val_X = s.val_X ∧ (next s i).cx = s.cx ∧ (next s i).op1_X = s.op1_X ∧
        (next s i).op2_X = s.op2_X ∧ (next s i).store_X = s.store_X ∧ (next s i).br_target_X = s.br_target_X) ∧
    (stall_D s i = true → squash_D s i = false →
        (next s i).val_D = s.val_D ∧ (next s i).pc_D = s.pc_D ∧ (next s i).inst_D = s.inst_D) ∧
    (stall_F s i = true → squash_F s i = false → (next s i).val_F = s.val_F ∧ (next s i).pc_F = s.pc_F) :=
  ⟨hold_W s i hr, hold_M s i hr, hold_X s i hr, hold_D s i hr, hold_F s i hr⟩

/-- a non-stalled stage whose predecessor stalls, is squashed or is empty receives a bubble -/
theorem bubble (s : State) (i : EnvIn) (hr : i.reset = false) :
    (stall_W s i = false → (stall_M s i = true ∨ s.val_M = false) → (next s i).val_W = false) ∧
    (stall_M s i = false → (stall_X s i = true ∨ s.val_X = false) → (next s i).val_M = false) ∧
    (stall_X s i = false → (stall_D s i = true ∨ squash_D s i = true ∨ s.val_D = false) → (next s i).val_X = false) ∧
    (reg_en_D s i = true → (stall_F s i = true ∨ squash_F s i = true ∨ s.val_F = false) → (next s i).val_D = false) :=
  ⟨bubble_W s i hr, bubble_M s i hr, bubble_X s i hr, bubble_D s i hr⟩

/-- squashes originate only from a valid, non-stalled X-stage instruction whose control word is "branch"
and whose operands differ (there is no jump: `osquash_D` is constant 0) -/
theorem squash_origin (s : State) (i : EnvIn) (h : squash_D s i = true ∨ squash_F s i = true) :
    s.val_X = true ∧ stall_X s i = false ∧ s.cx.br_type = true ∧ s.op1_X ≠ s.op2_X := by
  rcases h with h | h
  · exact osquash_X_origin s i (squash_D_origin s i h).2
  · exact osquash_X_origin s i (squash_F_origin s i h).2

/-- ... and it only hits younger instructions, those in D and F: after the edge D and X are empty (F never is: `val_F_next`), the PC
register is the branch target if F held a fetch, and the branch itself has moved on to M (it is not stalled) -/
theorem squash_younger_only (s : State) (i : EnvIn) (hr : i.reset = false) (h : osquash_X s i = true) :
    (next s i).val_D = false ∧ (next s i).val_X = false ∧ (next s i).val_M = true ∧
    (s.val_F = true → (next s i).pc_F = s.br_target_X) := by
  obtain ⟨a, b, c⟩ := squash_effect s i hr h
  obtain ⟨hv, hs, _⟩ := osquash_X_origin s i h
  refine ⟨a, b, ?_, c⟩
  have hm : stall_M s i = false := by
    cases hm : stall_M s i
    · rfl
    · rw [stall_X_of_stall_M s i hm hv] at hs; cases hs
  rw [(load_M s i hr hm).1, next_val_X, hv, hs]; rfl

/-- the register file changes only through a valid W-stage instruction with `rf_wen_pending` and a
non-zero destination, and then exactly that register takes `wb_result_W` -/
theorem rf_write_only_W (s : State) (i : EnvIn) (h : (next s i).rf ≠ s.rf) :
    s.val_W = true ∧ s.cw.rf_wen_pending = true ∧ s.cw.rf_waddr ≠ 0 ∧
    (next s i).rf = s.rf.set s.cw.rf_waddr s.wb_result_W := rf_change s i h

/-- x0 is never written ... -/
theorem x0_never_written (s : State) (i : EnvIn) : rf_read (next s i).rf 0 = rf_read s.rf 0 := rf_zero s i

/-- ... so it reads 0 in every state reachable from power-on under ANY input sequence (resets included) -/
theorem x0_zero (envs : List EnvIn) : rf_read (runS State.init envs).rf 0 = 0 :=
  runS_inv (P := fun s => rf_read s.rf 0 = 0) (fun s i h => (rf_zero s i).trans h) envs _ (by decide)

-- a load-use stall in D (cycle 9: `add x4,x3,x2` behind `lw x3`), which also stalls F and bubbles X
example : (demo.map fun r => (stall_D r.1 r.2.1, stall_F r.1 r.2.1, ostall_hazard_D r.1))[9]? = some (true, true, true) := by decide +kernel
example : (demo.map fun r => r.1.val_X)[10]? = some false := by decide +kernel
-- a taken branch in X (cycle 13) squashes D and F; one cycle later D and X are empty and the PC is the target
example : (demo.map fun r => (osquash_X r.1 r.2.1, squash_D r.1 r.2.1, squash_F r.1 r.2.1))[13]? = some (true, true, true) := by decide +kernel
example : (demo.map fun r => (r.1.val_D, r.1.val_X, r.1.pc_F))[14]? = some (false, false, 0x208) := by decide +kernel
-- bypasses from M and X (cycle 7), from W (cycle 8)
example : (demo.map fun r => (op1_byp_sel_D r.1, op2_byp_sel_D r.1))[7]? = some (2, 1) := by decide +kernel
example : (demo.map fun r => op1_byp_sel_D r.1)[8]? = some 3 := by decide +kernel
-- the 13th commit (cycle 24) is the `csrw`, which sends 2; behind it the zero words after the program flow through
example : ((demo.take 25).filter fun r => r.2.2.commit_inst).length = 13 := by decide +kernel
example : (demo.filterMap fun r => if r.2.2.proc2mngr_en then some r.2.2.proc2mngr_msg else none) = [2] := by decide +kernel
-- the register file at the end: x1 = 0x2000, x2 = 0, x3 = 1, x4 = 2
example : (runS State.init demoTrace).rf.take 5 = [0, 0x2000, 0, 1, 2] := by decide +kernel


/-! # LEVEL 2: reachable states under any input, ghost sequence numbers

`Ghost` / `gnext` / `grun` (`Proofs/PipeGhost.lean`) instrument the model: every fetch issue (`reg_en_F`) takes a
fresh tag; tags move with the instructions; logs record what leaves each stage.  A reset cycle clears the
logs and starts a new tag epoch (`base`).  `Reach s g` = `(s, g)` is the instrumented state after some input
list from power-on. -/

/-- the ghost state does not influence the model -/
theorem ghost_projection (s : State) (g : Ghost) (envs : List EnvIn) : (grun s g envs).1 = runS s envs :=
  grun_fst s g envs

/-- every stage is a one-place buffer: (stream that entered) = (log of what left) ++ (occupant).
F: the tags issued since reset are the consumed responses, then the awaited squashed fetch, then the current
fetch.  D receives exactly the non-dropped responses; X exactly the non-squashed instructions that left D;
M what left X; W what left M; commits what left W.  So the sequence entering stage S+1 is the
subsequence-by-squash of the sequence entering S, nothing duplicated, nothing lost, order kept. -/
theorem stage_conservation {s : State} {g : Ghost} (h : Reach s g) :
    List.range' g.base (g.nxt - g.base) = g.consumedF.map (·.1) ++ opt [g.tWait] s.drop_wait ++ opt [g.tF] s.val_F ∧
    (g.consumedF.filter (fun e => !e.2)).map (·.1) = g.outD.map (·.1) ++ opt [g.tD] s.val_D ∧
    (g.outD.filter (fun e => !e.2)).map (·.1) = g.outX ++ opt [g.tX] s.val_X ∧
    g.outX = g.outM ++ opt [g.tM] s.val_M ∧
    g.outM = g.commits ++ opt [g.tW] s.val_W ∧
    (s.drop_wait = true → s.val_D = false ∧ s.val_X = false) :=
  ⟨h.inv.F, h.inv.D, h.inv.X, h.inv.M, h.inv.W, h.inv.wait⟩

/-- committed tags, then the tags in W, M, X, D, the drop unit, F are strictly increasing: commits are in
fetch order without repetition, everything committed is older than everything in flight, the pipeline holds
strictly younger instructions from W back to F -/
theorem tags_in_order {s : State} {g : Ghost} (h : Reach s g) :
    List.Pairwise (· < ·)
      (g.commits ++ opt [g.tW] s.val_W ++ opt [g.tM] s.val_M ++ opt [g.tX] s.val_X ++ opt [g.tD] s.val_D
        ++ opt [g.tWait] s.drop_wait ++ opt [g.tF] s.val_F) := tags_increasing h.inv

/-- every tag issued since the last reset is exactly one of: committed, squashed in D, squashed in F, still
in W / M / X / D / F -/
theorem no_dup_no_loss {s : State} {g : Ghost} (h : Reach s g) :
    List.Perm
      (g.commits ++ (g.outD.filter (·.2)).map (·.1) ++ g.sqF ++
        (opt [g.tW] s.val_W ++ opt [g.tM] s.val_M ++ opt [g.tX] s.val_X ++ opt [g.tD] s.val_D ++ opt [g.tF] s.val_F))
      (List.range' g.base (g.nxt - g.base)) := fate_partition h.inv

/-- when X squashes, what it squashes (D, F) is younger than the branch, and the branch itself moves on to M -/
theorem squashed_younger {s : State} {g : Ghost} (h : Reach s g) (i : EnvIn) (hq : osquash_X s i = true) :
    (s.val_D = true → g.tX < g.tD) ∧ (s.val_F = true → g.tX < g.tF) ∧
    (i.reset = false → (gnext s g i).outX = g.outX ++ [g.tX]) := squashed_are_younger h.inv i hq

/-- the drop unit drops exactly the responses of the squashed fetches (in order; the last one may still be
awaited), the stream entering D is exactly the stream of non-dropped responses, and only squashed fetches
are dropped -/
theorem drop_unit_exact {s : State} {g : Ghost} (h : Reach s g) :
    g.sqF = (g.consumedF.filter (·.2)).map (·.1) ++ opt [g.tWait] s.drop_wait ∧
    (g.consumedF.filter (fun e => !e.2)).map (·.1) = g.outD.map (·.1) ++ opt [g.tD] s.val_D ∧
    (∀ e ∈ g.consumedF, e.2 = true → e.1 ∈ g.sqF) := ⟨h.inv.drop, h.inv.D, drop_exact h.inv⟩

/-- every real dequeue from the instruction response queue is a WAIT-drop, a squash-drop, a delivery to D, or
(while F holds no fetch: only before the first fetch after power-on or a reset, `val_F_next`) a response nobody waits for thrown away -/
theorem deq_is_accounted (s : State) (g : Ghost) (i : EnvIn) (hr : i.reset = false)
    (hen : drop_in_en s i = true) (hrdy : drop_in_rdy s i = true) :
    (s.drop_wait = true ∧ (gnext s g i).consumedF = g.consumedF ++ [(g.tWait, true)]) ∨
    (s.drop_wait = false ∧ squash_F s i = true ∧ (gnext s g i).consumedF = g.consumedF ++ [(g.tF, true)]) ∨
    (s.drop_wait = false ∧ next_val_F s i = true ∧ (gnext s g i).consumedF = g.consumedF ++ [(g.tF, false)]) ∨
    (s.drop_wait = false ∧ s.val_F = false ∧ (gnext s g i).consumedF = g.consumedF) :=
  deq_accounted s g i hr hen hrdy

/-- in every state reachable from power-on under any input list, a register-file write comes from a valid,
NON-STALLED (committing) W-stage instruction with `rf_wen_pending` and a non-zero destination -/
theorem rf_written_by_unstalled_W (envs : List EnvIn) (i : EnvIn)
    (hc : (next (runS State.init envs) i).rf ≠ (runS State.init envs).rf) :
    let s := runS State.init envs
    s.val_W = true ∧ stall_W s i = false ∧ commit_inst s i = true ∧ s.cw.rf_wen_pending = true ∧
    s.cw.rf_waddr ≠ 0 ∧ (next s i).rf = s.rf.set s.cw.rf_waddr s.wb_result_W :=
  rf_change_unstalled (excl_run envs) i hc

-- non-vacuity: `Proofs/PipeL2Ex.lean` evaluates the ghost machine on the recorded trace (one instruction squashed
-- in D, one fetch squashed in F and dropped at once, 16 commits) and on a variant that goes through the WAIT
-- state of the drop unit and through a reset in mid-flight
example : (grun State.init {} demoTrace).2.sqF = [8] ∧
    ((grun State.init {} demoTrace).2.outD.filter (·.2)).map (·.1) = [7] := by decide +kernel
example : (grun State.init {} (waitTrace.take 14)).1.drop_wait = true := by decide +kernel

/-! # LEVEL 3: the committed instructions are the ISA execution -/

open PV.TinyRV0 (decode exec loadWord)

/-- the control-signal table, the immediate generator and the ALU implement the ISA: for every word the ISA
document decodes and every state in which it executes, the ISA step is the step computed through the
table row of that word (`U.next`: rs1 / rs2 / immediate / mngr2proc operand selection, ALU function,
write-back select, memory request type, branch condition), and the row satisfies the side conditions the
hazard logic relies on (`RowOk`) -/
theorem isa_step_is_datapath (S S' : TinyRV0.State) (w : Nat) (ins : TinyRV0.Inst)
    (hd : decode w = some ins) (he : exec S ins = .ok S') : S' = U.next S w ∧ RowOk S w :=
  exec_uniform S S' w ins hd he

/-- the refinement invariant holds after every admissible trace from a post-reset state, with the commit
count of the trace -/
theorem refinement_invariant (p : Prog) (N : Nat) (hR : Runs p N) (s0 : State) (h0 : PostReset s0)
    (envs : List EnvIn) (hE : EnvTrace p (Env.init p) s0 envs) :
    Inv p N (runS s0 envs) (envRun (Env.init p) s0 envs) (commitCount s0 envs) := by
  simpa using inv_run hR envs (inv_init p N h0) hE

/-- at every moment the architectural state of the pipeline is the ISA state after as many instructions
as have committed: register file, messages sent to proc2mngr, and -- once X, M, W are empty -- the data
memory; the mngr2proc messages not yet consumed by the ISA are still in the source list or the input queue -/
theorem arch_state_refines (p : Prog) (N : Nat) (hR : Runs p N) (s0 : State) (h0 : PostReset s0)
    (envs : List EnvIn) (hE : EnvTrace p (Env.init p) s0 envs) (hk : commitCount s0 envs ≤ N) :
    let s := runS s0 envs
    let k := commitCount s0 envs
    s.rf = (isaAt p k).regs ∧ sent s0 envs = (isaAt p k).out ∧
    (s.val_X = false → s.val_M = false → s.val_W = false →
      (envRun (Env.init p) s0 envs).dmem = (isaAt p k).mem ∧
      (s.val_D = false → (if s.mngr2proc_q.full then [s.mngr2proc_q.entry] else []) ++
        (envRun (Env.init p) s0 envs).src = (isaAt p k).inp)) := by
  have I := refinement_invariant p N hR s0 h0 envs hE
  refine ⟨I.rf hk, ?_, ?_⟩
  · have := I.out hk
    rw [envRun_out] at this
    simpa [Env.init] using this
  · intro hx hm hw
    have e : iX (runS s0 envs) (commitCount s0 envs) = commitCount s0 envs := by simp [iX, iM, hw, hm]
    refine ⟨by have := I.dmem (by rw [e]; exact hk); rw [e] at this; exact this, ?_⟩
    intro hd
    have e2 : iD (runS s0 envs) (commitCount s0 envs) = commitCount s0 envs := by simp [iD, e, hx]
    have := I.inp (by rw [e2]; exact hk); rw [e2] at this; exact this

/-- the commits of a run are a prefix of the ISA execution: the register file and the proc2mngr stream observed right
after each commit are those of the ISA after 1, 2, ..., k instructions -/
theorem commits_are_isa (p : Prog) (N : Nat) (hR : Runs p N) (s0 : State) (h0 : PostReset s0)
    (envs : List EnvIn) (hE : EnvTrace p (Env.init p) s0 envs) (hk : commitCount s0 envs ≤ N) :
    commitObs (Env.init p) s0 envs = isaObs p 0 (commitCount s0 envs) :=
  commitObs_eq hR envs (inv_init p N h0) hE (by simpa using hk)

/-- the hardware's branch decision is the ISA's: in every admissible state, a valid X-stage instruction
inside the ISA window redirects the PC iff the ISA takes the branch -/
theorem branch_decision_is_isa (p : Prog) (N : Nat) (hR : Runs p N) (s0 : State) (h0 : PostReset s0)
    (envs : List EnvIn) (hE : EnvTrace p (Env.init p) s0 envs) :
    let s := runS s0 envs
    let k := iX s (commitCount s0 envs)
    s.val_X = true → k < N → pc_redirect_X s = U.taken (isaAt p k) (wordAt p k) :=
  fun hv hj => redirect_X_ok hR (refinement_invariant p N hR s0 h0 envs hE) hv hj

/-- the environment assumption is satisfiable for every program, from every state, for every length: the
environment that answers as early as the protocol allows -/
theorem env_assumption_satisfiable (p : Prog) (n : Nat) (E : Env) (s : State) :
    EnvTrace p E s (idealTrace p n E s) := idealTrace_ok p n E s

-- so is the silent one: never ready, never answering (no fairness is assumed anywhere)
example (p : Prog) (E : Env) (s : State) : EnvTrace p E s [{}, {}, {}] :=
  ⟨⟨rfl, nofun, nofun, nofun⟩, ⟨rfl, nofun, nofun, nofun⟩, ⟨rfl, nofun, nofun, nofun⟩, trivial⟩

/-- one reset cycle from power-on gives a `PostReset` state (so does the reset sequence of the simulator) -/
theorem reset_gives_postReset (i : EnvIn) (hr : i.reset = true) : PostReset (next State.init i) :=
  postReset_of_reset i hr
example : PostReset (runS State.init (demoTrace.take 3)) := by
  constructor <;> decide

/-- a program that satisfies `Runs`: `addi x1, x0, 5 ; csrw proc2mngr, x1` -/
theorem runs_satisfiable : Runs tiny 2 := tiny_runs

-- all hypotheses of `commits_are_isa` together, on `tiny` against the ideal environment, any number of cycles
example (n : Nat) :
    let s0 := next State.init { reset := true }
    let envs := idealTrace tiny n (Env.init tiny) s0
    commitCount s0 envs ≤ 2 → commitObs (Env.init tiny) s0 envs = isaObs tiny 0 (commitCount s0 envs) :=
  fun hk => commits_are_isa tiny 2 tiny_runs _ (postReset_of_reset _ rfl) _ (idealTrace_ok tiny n _ _) hk


/-! ## a concrete instance end to end: the real ProcRTL's recorded inputs while running `tiny` -/

-- the recorded inputs satisfy the environment assumption for `tiny` (`tinyTrace_ok`: the fetch bookkeeping is
-- evaluated, the four words of the image that were fetched are proved by rewriting)
example : EnvTrace tiny (Env.init tiny) tinyS0 tinyTrace := tinyTrace_ok
-- two commits in these nine cycles, and 5 is sent to proc2mngr in the second one
example : commitCount tinyS0 tinyTrace = 2 ∧ sent tinyS0 tinyTrace = [5] := by decide +kernel
-- what the model's pipeline shows at its two commits (evaluated) ...
example : (commitObs (Env.init tiny) tinyS0 tinyTrace).map (fun o => (o.1.take 3, o.2)) = [([0, 5, 0], []), ([0, 5, 0], [5])] := by
  decide +kernel
-- ... is, by `commits_are_isa`, the ISA's register file and output stream after 1 and 2 instructions
example : isaObs tiny 0 2 = commitObs (Env.init tiny) tinyS0 tinyTrace :=
  (commits_are_isa tiny 2 tiny_runs tinyS0 (postReset_of_reset _ rfl) tinyTrace tinyTrace_ok (by decide)).symm
example : (isaAt tiny 2).out = [5] ∧ (isaAt tiny 2).regs.take 3 = [0, 5, 0] := by
  have h := arch_state_refines tiny 2 tiny_runs tinyS0 (postReset_of_reset _ rfl) tinyTrace tinyTrace_ok (by decide)
  have hc : commitCount tinyS0 tinyTrace = 2 := by decide
  simp only [hc] at h
  exact ⟨by rw [← h.2.1]; decide, by rw [← h.1]; decide⟩

end PV.C20p
