import PymtlVerif.Proofs.Names
import PymtlVerif.Proofs.NamesMangle
/-!
# C13 — translation is deterministic and module names never alias different hardware

Property theorems about `Model/Names.lean`. Two pairs of functions are compared throughout:
`translateAll` (first writer wins: `translate_component` before it compared bodies, finding F7) and `translateChecked` (a name
that is present must come with the same body: `translate_component` since then); `uniqueName` (the full name is kept unless it
contains one of six special characters: `get_component_unique_name` before) and `uniqueNameR` (kept only if it is an identifier:
since then).

Names of one class collide only through their parameter values, so the injectivity theorems assume the same ordered parameter
names, separator-free values (`NoSep`) and a hash without collisions whose digests contain no `_`. Identifiers made by
`__`-joining user names (`flatId`) and struct type names are injective under `okName` (not empty, does not start with `_` or a
digit, no `__`), struct names without nested structs only; the `*_witnesses` theorems show that none of this can be dropped.

What is NOT a theorem: independence of the text from `PYTHONHASHSEED` and from earlier translations in the same
process is a property of CPython and of the whole translator; it is covered by the correspondence check only
(byte equality across fresh processes).
-/
namespace PV.C13
open PV.Names

/-- `[A-Za-z_][A-Za-z0-9_$]*` and not a reserved word -/
def LegalId (s : String) : Prop :=
  (∃ c cs, s.toList = c :: cs ∧ isIdStart c = true ∧ ∀ x ∈ cs, isIdChar x = true) ∧ s ∉ verilogReserved

/-- every module name and every typedef name is defined once -/
def DefinedOnce (t : ModTable) : Prop := t.names.Nodup ∧ t.typedefs.Nodup

/-- every instantiated module is defined in the table -/
def Closed (t : ModTable) : Prop := ∀ m ∈ t.modules, ∀ i ∈ m.insts, ∃ d ∈ t.modules, d.name = i.1

/-- identifiers are legal and unique in their scope (instance names are among the module's identifiers) -/
def LegalUniqueIds (t : ModTable) : Prop :=
  (∀ x ∈ t.typedefs, LegalId x) ∧
  ∀ m ∈ t.modules, LegalId m.name ∧ (∀ x ∈ m.ids, LegalId x) ∧ m.ids.Nodup ∧ ∀ i ∈ m.insts, i.2 ∈ m.ids

theorem isIdStart_iff (c : Char) :
    isIdStart c = true ↔ ('a' ≤ c ∧ c ≤ 'z') ∨ ('A' ≤ c ∧ c ≤ 'Z') ∨ c = '_' := by
  simp only [isIdStart, Char.isAlpha, Char.isUpper, Char.isLower, Bool.or_eq_true, Bool.and_eq_true,
    decide_eq_true_eq, beq_iff_eq, ge_iff_le]
  constructor
  · rintro ((h | h) | h)
    · exact Or.inr (Or.inl h)
    · exact Or.inl h
    · exact Or.inr (Or.inr h)
  · rintro (h | h | h)
    · exact Or.inl (Or.inr h)
    · exact Or.inl (Or.inl h)
    · exact Or.inr h

theorem legalId_iff (s : String) : legalId s = true ↔ LegalId s := by
  simp [legalId, LegalId, idShape_iff]

theorem wfModule_iff (defined : List String) (m : Module) :
    wfModule defined m = true ↔
      LegalId m.name ∧ (∀ x ∈ m.ids, LegalId x) ∧ m.ids.Nodup ∧ ∀ i ∈ m.insts, i.1 ∈ defined ∧ i.2 ∈ m.ids := by
  simp only [wfModule, Bool.and_eq_true, List.all_eq_true, legalId_iff, nodupB_iff, List.contains_iff_mem, and_assoc]

theorem wfModules_iff (t : ModTable) :
    wfModules t = true ↔ DefinedOnce t ∧ Closed t ∧ LegalUniqueIds t := by
  simp only [wfModules, DefinedOnce, Closed, LegalUniqueIds, Bool.and_eq_true, nodupB_iff, List.all_eq_true, legalId_iff,
    wfModule_iff, ModTable.names, List.mem_map]
  -- the same clauses, grouped per table on the left and per property on the right
  constructor
  · rintro ⟨⟨⟨h1, h2⟩, h3⟩, h4⟩
    exact ⟨⟨h1, h2⟩, fun m hm i hi => ((h4 m hm).2.2.2 i hi).1, h3,
      fun m hm => ⟨(h4 m hm).1, (h4 m hm).2.1, (h4 m hm).2.2.1, fun i hi => ((h4 m hm).2.2.2 i hi).2⟩⟩
  · rintro ⟨⟨h1, h2⟩, hc, h3, h4⟩
    exact ⟨⟨⟨h1, h2⟩, h3⟩, fun m hm =>
      ⟨(h4 m hm).1, (h4 m hm).2.1, (h4 m hm).2.2.1, fun i hi => ⟨hc m hm i hi, (h4 m hm).2.2.2 i hi⟩⟩⟩

/-- The checker accepts only tables in which every module (and typedef) is defined once, every instantiated
module is defined, and identifiers are legal, not reserved, and unique per module scope. -/
theorem wfModules_sound (t : ModTable) (h : wfModules t = true) :
    DefinedOnce t ∧ Closed t ∧ LegalUniqueIds t := (wfModules_iff t).mp h

/-- … and it accepts all of them (so a rejected table really violates one of the three clauses). -/
theorem wfModules_complete (t : ModTable) (h : DefinedOnce t ∧ Closed t ∧ LegalUniqueIds t) :
    wfModules t = true := (wfModules_iff t).mpr h

section table
variable {β : Type}

/-- `components[name]` is the body of the FIRST instance of the post-order walk that has this name. -/
theorem table_first_wins (is : List (String × β)) (n : String) :
    (translateAll is).lookup n = is.lookup n := lookup_translateAll is n

/-- the emitted table defines every module name once … -/
theorem table_defined_once (is : List (String × β)) : ((translateAll is).map (·.1)).Nodup :=
  keys_nodup_foldl_insert [] is (by simp)

/-- … defines the name of every instance (so every instantiated module is defined) … -/
theorem table_closed (is : List (String × β)) (e : String × β) (he : e ∈ is) :
    ∃ b, (translateAll is).lookup e.1 = some b ∧ (e.1, b) ∈ is := by
  rw [table_first_wins]
  exact lookup_of_mem is e he

/-- … and contains nothing but (name, body) pairs of instances. -/
theorem table_from_instances (is : List (String × β)) (e : String × β) (h : e ∈ translateAll is) : e ∈ is :=
  (translateAll_sublist is).subset h

/-- names injective on bodies ⇒ no instance is given another instance's body -/
theorem no_alias_if_names_injective (is : List (String × β))
    (hinj : ∀ a ∈ is, ∀ b ∈ is, a.1 = b.1 → a.2 = b.2) :
    ∀ e ∈ is, (translateAll is).lookup e.1 = some e.2 := by
  intro e he
  obtain ⟨b, h1, h2⟩ := table_closed is e he
  have hb : b = e.2 := hinj (e.1, b) h2 e he rfl
  rw [h1, hb]

/-- two instances with one name and different bodies ⇒ one of them gets the other body -/
theorem alias_if_not_injective (is : List (String × β)) (a b : String × β) (ha : a ∈ is) (hb : b ∈ is)
    (hn : a.1 = b.1) (hne : a.2 ≠ b.2) :
    ∃ e ∈ is, ∃ w, (translateAll is).lookup e.1 = some w ∧ w ≠ e.2 := by
  obtain ⟨w, h1, _⟩ := table_closed is a ha
  by_cases hw : w = a.2
  · refine ⟨b, hb, w, by rw [← hn]; exact h1, ?_⟩
    rw [hw]; exact hne
  · exact ⟨a, ha, w, h1, hw⟩

/-- The first-wins walk aliases exactly when names are not injective on bodies. -/
theorem no_alias_iff_names_injective (is : List (String × β)) :
    (∀ e ∈ is, (translateAll is).lookup e.1 = some e.2) ↔ (∀ a ∈ is, ∀ b ∈ is, a.1 = b.1 → a.2 = b.2) := by
  constructor
  · intro h a ha b hb hn
    have h1 := h a ha
    have h2 := h b hb
    rw [hn, h2] at h1
    injection h1 with h1
    exact h1.symm
  · exact no_alias_if_names_injective is

/-- the tree form: the table of a hierarchy is the table of its post-order walk (children by `repr`) -/
theorem tree_first_wins (t : Tree β) (n : String) : (translateTree t).lookup n = t.post.lookup n :=
  table_first_wins t.post n

end table

/-! ### Finding F7 and its relatives, as theorems about the first-wins walk and `uniqueName` -/

theorem uniqueName_noparam_inner (H : String → String) : uniqueName H "Inner" [] = "Inner_noparam" :=
  (uniqueName_plain H "Inner" [] (by decide +kernel)).trans (by decide +kernel)

/-- **F7.** There is a walk with two instances of one name and different bodies whose first-wins table has the keys
`Inner_noparam`, `Top_noparam` and gives instance `b` the body of instance `a`. That the shared name is what `uniqueName`
gives two parameterless classes `Inner` is said by the witnesses of the proof (`uniqueName_noparam_inner`) only: `H` does
not occur in the statement. -/
theorem alias_witness (H : String → String) :
    ∃ (is : List (String × Nat)) (a b : String × Nat), a ∈ is ∧ b ∈ is ∧ a.1 = b.1 ∧ a.2 ≠ b.2 ∧
      (translateAll is).map (·.1) = ["Inner_noparam", "Top_noparam"] ∧
      (translateAll is).lookup b.1 = some a.2 := by
  refine ⟨[(uniqueName H "Inner" [], 1), (uniqueName H "Inner" [], 2), ("Top_noparam", 0)],
    (uniqueName H "Inner" [], 1), (uniqueName H "Inner" [], 2), by simp, by simp, rfl, by simp, ?_⟩
  rw [uniqueName_noparam_inner]
  decide +kernel

/-- Different parameter values with the same `str()` image: the int `1` and the string `"1"`. -/
theorem param_image_collision (H : String → String) :
    PVal.int 1 ≠ PVal.str "1" ∧ PVal.image H (.int 1) = PVal.image H (.str "1") := by
  constructor
  · intro h
    cases h
  · simp only [PVal.image]
    decide +kernel

/-- Same class, parameter `1` vs `"1"`: one module name, hence (by `alias_if_not_injective`) aliasing whenever the
two bodies differ. -/
theorem param_image_alias_witness (H : String → String) :
    uniqueName H "Inner" (images H [("p", .int 1)]) = uniqueName H "Inner" (images H [("p", .str "1")]) := by
  have : images H [("p", .int 1)] = images H [("p", .str "1")] := by
    simp only [images, List.map_cons, List.map_nil, (param_image_collision H).2]
  rw [this]

/-- A negative integer parameter yields a module name that is not an identifier (`Inner__p_-1`). -/
theorem illegal_name_witness (H : String → String) :
    uniqueName H "Inner" (images H [("p", .int (-1))]) = "Inner__p_-1" ∧ idShape "Inner__p_-1" = false := by
  have hi : images H [("p", .int (-1))] = [("p", "-1")] := rfl
  rw [hi]
  exact ⟨(uniqueName_plain H "Inner" [("p", "-1")] (by decide +kernel)).trans (by decide +kernel), by decide +kernel⟩

section checked
variable {β : Type} [DecidableEq β]

/-- If the checked walk succeeds, it built the same table as the first-wins walk and NO instance is aliased. -/
theorem checked_no_alias (is : List (String × β)) (t : Table β) (h : translateChecked is = .ok t) :
    t = translateAll is ∧ ∀ e ∈ is, t.lookup e.1 = some e.2 := by
  rw [translateChecked_eq] at h
  split at h
  · next hn => cases h; exact ⟨rfl, (aliased_eq_nil_iff is).mp (List.head?_eq_none_iff.mp hn)⟩
  · cases h

/-- If it fails, two instances really share the reported name and differ in body. -/
theorem checked_error_sound (is : List (String × β)) (n : String) (h : translateChecked is = .error n) :
    ∃ b b', (n, b) ∈ is ∧ (n, b') ∈ is ∧ b ≠ b' := by
  rw [translateChecked_eq] at h
  split at h
  · cases h
  · next e he =>
    cases h
    obtain ⟨hm, hne⟩ := List.mem_filter.mp (List.mem_of_mem_head? he)
    obtain ⟨b, h1, h2⟩ := table_closed is e hm
    exact ⟨b, e.2, h2, hm, fun hb => by simp [h1, hb] at hne⟩

/-- The check is conservative: the walk succeeds (with the unchanged table) exactly on the designs whose names are
injective on bodies, i.e. exactly where the first-wins walk is right. -/
theorem checked_ok_iff_injective (is : List (String × β)) :
    translateChecked is = .ok (translateAll is) ↔ (∀ a ∈ is, ∀ b ∈ is, a.1 = b.1 → a.2 = b.2) := by
  rw [← no_alias_iff_names_injective, ← aliased_eq_nil_iff, translateChecked_eq]
  cases aliased is <;> simp

end checked

/-- **Same class, different parameter values never collide** (full name): for one class — hence the same ordered
parameter names — and values whose images contain no `__` and do not end in `_`. -/
theorem fullName_inj (cls : String) (ps ps' : List (String × String))
    (hk : ps.map (·.1) = ps'.map (·.1))
    (hv : ∀ kv ∈ ps, NoSep kv.2) (hv' : ∀ kv ∈ ps', NoSep kv.2)
    (h : fullName cls ps = fullName cls ps') : ps = ps' := by
  rw [fullName_eq, fullName_eq] at h
  exact nameTail_inj ps ps' hk hv hv' ((String.append_right_inj cls).mp h)

/-- The same through the length / "is the full name usable" test and the hashed form, whatever that test is, for
a hash without collisions whose digests contain no `_` (hexadecimal). -/
theorem uniqueNameWith_inj (ok : String → Bool) (H : String → String) (hH : ∀ s s', H s = H s' → s = s')
    (hhex : ∀ s, '_' ∉ (H s).toList)
    (cls : String) (ps ps' : List (String × String))
    (hk : ps.map (·.1) = ps'.map (·.1))
    (hv : ∀ kv ∈ ps, NoSep kv.2) (hv' : ∀ kv ∈ ps', NoSep kv.2)
    (h : uniqueNameWith ok H cls ps = uniqueNameWith ok H cls ps') : ps = ps' := by
  -- a full name is never a hashed one: after the class name the one goes on with a parameter, the other with a digest
  have mixed : ∀ qs s, fullName cls qs ≠ cls ++ "__" ++ H s := by
    intro qs s e
    rw [fullName_eq, String.append_assoc] at e
    exact nameTail_ne_hashed qs _ (hhex s) ((String.append_right_inj cls).mp e)
  unfold uniqueNameWith at h
  simp only at h
  split at h <;> split at h
  · exact fullName_inj cls ps ps' hk hv hv' h
  · exact absurd h (mixed ps _)
  · exact absurd h.symm (mixed ps' _)
  · rw [String.append_assoc, String.append_assoc] at h
    exact nameTail_inj ps ps' hk hv hv'
      (hH _ _ ((String.append_right_inj "__").mp ((String.append_right_inj cls).mp h)))

/-- `uniqueName`: same class, different parameter values never collide -/
theorem uniqueName_inj (H : String → String) (hH : ∀ s s', H s = H s' → s = s')
    (hhex : ∀ s, '_' ∉ (H s).toList)
    (cls : String) (ps ps' : List (String × String))
    (hk : ps.map (·.1) = ps'.map (·.1))
    (hv : ∀ kv ∈ ps, NoSep kv.2) (hv' : ∀ kv ∈ ps', NoSep kv.2)
    (h : uniqueName H cls ps = uniqueName H cls ps') : ps = ps' :=
  uniqueNameWith_inj _ H hH hhex cls ps ps' hk hv hv' h

/-- … and the same for `uniqueNameR` -/
theorem uniqueNameR_inj (H : String → String) (hH : ∀ s s', H s = H s' → s = s')
    (hhex : ∀ s, '_' ∉ (H s).toList)
    (cls : String) (ps ps' : List (String × String))
    (hk : ps.map (·.1) = ps'.map (·.1))
    (hv : ∀ kv ∈ ps, NoSep kv.2) (hv' : ∀ kv ∈ ps', NoSep kv.2)
    (h : uniqueNameR H cls ps = uniqueNameR H cls ps') : ps = ps' :=
  uniqueNameWith_inj _ H hH hhex cls ps ps' hk hv hv' h

/-- When is the emitted module name an identifier: the class name is one, parameter names and value images consist
of identifier characters, and so do the digests. (`illegal_name_witness`: the condition on values is needed.) -/
theorem uniqueName_idShape (H : String → String) (hH : ∀ s, ∀ c ∈ (H s).toList, isIdChar c = true)
    (cls : String) (ps : List (String × String)) (hc : idShape cls = true)
    (hp : ∀ kv ∈ ps, (∀ c ∈ kv.1.toList, isIdChar c = true) ∧ (∀ c ∈ kv.2.toList, isIdChar c = true)) :
    idShape (uniqueName H cls ps) = true := by
  refine uniqueNameWith_cases _ H cls ps (fun s => idShape s = true) (fun _ _ => ?_) (idShape_hashed hc (hH _))
  rw [fullName_eq]
  exact idShape_append hc (nameTail_idChars ps hp)

/-- `uniqueNameR` emits an identifier for EVERY parameter list (class name an identifier, digests
made of identifier characters): no condition on the values is left. -/
theorem uniqueNameR_idShape (H : String → String) (hH : ∀ s, ∀ c ∈ (H s).toList, isIdChar c = true)
    (cls : String) (ps : List (String × String)) (hc : idShape cls = true) :
    idShape (uniqueNameR H cls ps) = true :=
  uniqueNameWith_cases _ H cls ps (fun s => idShape s = true) (fun _ h => h) (idShape_hashed hc (hH _))

theorem hasSpecial_not_idShape (f : String) (h : hasSpecial f = true) : idShape f = false := by
  refine Bool.eq_false_iff.mpr fun hi => ?_
  obtain ⟨c, cs, e, h1, h2⟩ := (idShape_iff f).mp hi
  obtain ⟨x, hx, hs⟩ := List.any_eq_true.mp h
  have key := (by decide : ∀ c ∈ specialChars, isIdStart c = false ∧ isIdChar c = false) x (List.contains_iff_mem.mp hs)
  rcases List.mem_cons.mp (e ▸ hx) with rfl | hx
  · exact Bool.false_ne_true (key.1.symm.trans h1)
  · exact Bool.false_ne_true (key.2.symm.trans (h2 x hx))

/-- The identifier test changes no name that was an identifier already. -/
theorem uniqueNameR_conservative (H : String → String) (cls : String) (ps : List (String × String))
    (h : idShape (uniqueName H cls ps) = true) :
    uniqueNameR H cls ps = uniqueName H cls ps := by
  refine uniqueNameWith_congr _ _ H cls ps fun hl => ?_
  -- a full name with a special character is not an identifier; one without is the emitted name, an identifier by `h`
  cases hs : hasSpecial (fullName cls ps) with
  | true => simp [hasSpecial_not_idShape _ hs]
  | false =>
    rw [uniqueName_plain H cls ps (by simp [hl, hs])] at h
    simp [h]

/-- The order in which `translate_component` reaches the instances — hence which body wins and the order of the
emitted modules — does not depend on the order in which the children are enumerated (they come out of a Python
`set`): any permutation of the children, each with an unchanged walk, gives the same walk, when their `repr`s are
distinct. -/
theorem post_perm_invariant {β : Type} (r n : String) (b : β) (cs cs' : List (Tree β))
    (hp : (postKids cs).Perm (postKids cs'))
    (hd : ∀ x ∈ postKids cs, ∀ y ∈ postKids cs, x.1 = y.1 → x = y) :
    (Tree.node r n b cs).post = (Tree.node r n b cs').post := by
  simp only [Tree.post]
  rw [sortByKey_perm_eq (fun kv => kv.1) _ _ hp hd]

/-- in particular: permuting the children themselves -/
theorem post_children_perm {β : Type} (r n : String) (b : β) (cs cs' : List (Tree β)) (hp : cs.Perm cs')
    (hd : ∀ x ∈ cs, ∀ y ∈ cs, x.repr = y.repr → x = y) :
    (Tree.node r n b cs).post = (Tree.node r n b cs').post := by
  apply post_perm_invariant
  · rw [postKids_eq_map, postKids_eq_map]; exact hp.map _
  · intro x hx y hy hxy
    rw [postKids_eq_map] at hx hy
    simp only [List.mem_map] at hx hy
    obtain ⟨cx, hcx, rfl⟩ := hx
    obtain ⟨cy, hcy, rfl⟩ := hy
    have := hd cx hcx cy hcy hxy
    rw [this]

/-- port order of a module does not depend on the enumeration order of ports and interfaces -/
theorem portOrder_perm_invariant (ports ports' : List String) (ifcs ifcs' : List Ifc)
    (hp : ports.Perm ports') (hi : (flatKids ifcs).Perm (flatKids ifcs'))
    (hd : ∀ x ∈ flatKids ifcs, ∀ y ∈ flatKids ifcs, x.1 = y.1 → x = y) :
    portOrder ports ifcs = portOrder ports' ifcs' := by
  unfold portOrder
  rw [sortByKey_perm_eq id _ _ hp (fun a _ b _ h => h), sortByKey_perm_eq (fun kv => kv.1) _ _ hi hd]

/-- block order of a module does not depend on the enumeration order of the update blocks -/
theorem blockOrder_perm_invariant (comb comb' seq seq' : List String)
    (hc : comb.Perm comb') (hs : seq.Perm seq') : blockOrder comb seq = blockOrder comb' seq' := by
  unfold blockOrder
  rw [sortByKey_perm_eq id _ _ hc (fun a _ b _ h => h), sortByKey_perm_eq id _ _ hs (fun a _ b _ h => h)]

/-! ## identifiers made by `__`-joining user names; struct type names

`okName` (Model/Names.lean): not empty, first character neither `_` nor a digit, no `__` inside; a trailing `_` is
allowed (`in_`, `type_`). pymtl3 guarantees the first two clauses for hardware objects (Python identifiers; an attribute
whose name starts with `_` is not a hardware object); the third is the user's obligation and is what the findings
"duplicate flattened identifier" are about. -/

/-- **Different hardware objects of a module never get the same identifier**: `"__".join` is injective on paths whose
user names are well formed (list indices are decimal numbers). -/
theorem flatId_inj (p q : List Seg) (hp : ∀ s ∈ p, s.ok = true) (hq : ∀ s ∈ q, s.ok = true)
    (h : flatId p = flatId q) : p = q :=
  flatId_injOn p q hp hq h

/-- … hence a module whose objects have pairwise different paths declares every identifier once. -/
theorem flatIds_nodup (ps : List (List Seg)) (hok : ∀ p ∈ ps, ∀ s ∈ p, s.ok = true) (hd : ps.Nodup) :
    (ps.map flatId).Nodup :=
  nodup_map_flatId ps hok hd

/-- the collision list the harness asks for is empty exactly when every identifier is declared once -/
theorem flatCollisions_eq_nil_iff (ps : List (List Seg)) : flatCollisions ps = [] ↔ (ps.map flatId).Nodup := by
  simp only [flatCollisions, List.filter_eq_nil_iff, decide_eq_true_eq, List.nodup_iff_count]
  constructor
  · intro h a
    by_cases ha : a ∈ ps.map flatId
    · exact Nat.le_of_not_lt (h a ha)
    · rw [List.count_eq_zero_of_not_mem ha]; omega
  · intro h a _
    exact Nat.not_lt.mpr (h a)

theorem flatCollisions_nil_of_ok (ps : List (List Seg)) (hok : ∀ p ∈ ps, ∀ s ∈ p, s.ok = true) (hd : ps.Nodup) :
    flatCollisions ps = [] :=
  (flatCollisions_eq_nil_iff ps).mpr (flatIds_nodup ps hok hd)

/-- Without the conditions on user names the identifiers collide (each pair replayed on the real translators by the
harness): a name containing `__` (child `a` with port `b__c` / child `a__b` with port `c`), a name that looks like a list
index (`a[0]` / `a__0`), a name starting with `_` after a name ending in `_` (port `a_` with struct field `b` / port `a`
with field `_b`, Yosys backend), a name starting with a digit. -/
theorem flatId_collision_witnesses :
    (flatId [.name "a", .name "b__c"] = flatId [.name "a__b", .name "c"] ∧ okName "b__c" = false) ∧
    (flatId [.name "a", .idx 0] = flatId [.name "a__0"] ∧ okName "a__0" = false) ∧
    (flatId [.name "a_", .name "b"] = flatId [.name "a", .name "_b"] ∧ okName "_b" = false ∧ okName "a_" = true) ∧
    (flatId [.name "a", .name "0"] = flatId [.name "a", .idx 0] ∧ okName "0" = false) := by
  decide +kernel

/-- **Struct types without nested structs never share a full name**: class names and field names well formed, every
field a vector or a list of vectors. (`structName_collision_witnesses`: none of the conditions can be dropped, and with a
nested struct the name is ambiguous even for well-formed names.) -/
theorem structFullName_inj (c c' : String) (fs fs' : List (String × DT))
    (hc : okName c = true) (hc' : okName c' = true) (hf : flatStruct fs = true) (hf' : flatStruct fs' = true)
    (h : DT.fullName (.struct c fs) = DT.fullName (.struct c' fs')) : c = c' ∧ fs = fs' := by
  rw [DT.fullName, DT.fullName] at h
  obtain ⟨e1, e2⟩ := cls_cancel c c' _ _ hc hc' (fieldStr_shape fs hf).1 (fieldStr_shape fs' hf').1 h
  exact ⟨e1, fieldStr_inj fs fs' ((flatStruct_iff fs).mp hf).2 ((flatStruct_iff fs').mp hf').2 e2⟩

/-- The same for the emitted name (`Struct.get_name`: the full name, or class name + `__` + hash of the field string when
the full name has 64 characters or more), for a hash without collisions whose digests contain no `_`. -/
theorem structName_inj (H : String → String) (hH : ∀ s s', H s = H s' → s = s') (hhex : ∀ s, '_' ∉ (H s).toList)
    (c c' : String) (fs fs' : List (String × DT))
    (hc : okName c = true) (hc' : okName c' = true) (hf : flatStruct fs = true) (hf' : flatStruct fs' = true)
    (h : structName H c fs = structName H c' fs') : c = c' ∧ fs = fs' := by
  -- the emitted name is the class name, `__` and the field string or its digest; neither starts with `_`
  have shape : ∀ c fs, flatStruct fs = true → ∃ X, structName H c fs = c ++ "__" ++ X ∧ X.toList.head? ≠ some '_' ∧
      (X = fieldStr fs ∨ X = H (fieldStr fs)) := by
    intro c fs hf
    unfold structName
    simp only [DT.fullName]
    by_cases hl : (c ++ "__" ++ fieldStr fs).length < 64
    · exact ⟨_, if_pos hl, (fieldStr_shape fs hf).1, .inl rfl⟩
    · exact ⟨_, if_neg hl, fun e => hhex _ (List.mem_of_mem_head? e), .inr rfl⟩
  obtain ⟨X, e, hX, hX2⟩ := shape c fs hf
  obtain ⟨X', e', hX', hX2'⟩ := shape c' fs' hf'
  rw [e, e'] at h
  obtain ⟨rfl, rfl⟩ := cls_cancel c c' X X' hc hc' hX hX' h
  have inj := fieldStr_inj fs fs' ((flatStruct_iff fs).mp hf).2 ((flatStruct_iff fs').mp hf').2
  -- a field string is never a digest: it contains `_`
  rcases hX2 with rfl | rfl <;> rcases hX2' with e | e
  · exact ⟨rfl, inj e⟩
  · exact absurd (e ▸ (fieldStr_shape fs hf).2) (hhex _)
  · exact absurd (e ▸ (fieldStr_shape fs' hf').2) (hhex _)
  · exact ⟨rfl, inj (hH _ _ e)⟩

/-- `Struct.get_full_name` is NOT injective beyond that (each pair replayed on the real `get_rtlir_dtype` /
translators by the harness). With well-formed names and a nested struct: (1) the fields after a nested struct are
indistinguishable from its own last fields; (2) `f` of type `My_S` / `f_My` of type `S`; (5) a list of structs / a
struct with a list field. Without nesting but with `__` in a name: (3) a field name, (4) a class name. -/
theorem structName_collision_witnesses :
    -- (1) Outer{ i: Inner{x:8, y:8}, z:4 }  /  Outer{ i: Inner{x:8}, y:8, z:4 }
    ((DT.struct "Outer" [("i", .struct "Inner" [("x", .vec 8), ("y", .vec 8)]), ("z", .vec 4)]).fullName =
     (DT.struct "Outer" [("i", .struct "Inner" [("x", .vec 8)]), ("y", .vec 8), ("z", .vec 4)]).fullName) ∧
    -- (2) C{ f: My_S{g:8} }  /  C{ f_My: S{g:8} }
    ((DT.struct "C" [("f", .struct "My_S" [("g", .vec 8)])]).fullName =
     (DT.struct "C" [("f_My", .struct "S" [("g", .vec 8)])]).fullName) ∧
    -- (3) S{ a:4, b:8 }  /  S{ a_4__b: 8 }
    ((DT.struct "S" [("a", .vec 4), ("b", .vec 8)]).fullName = (DT.struct "S" [("a_4__b", .vec 8)]).fullName ∧
      okName "a_4__b" = false) ∧
    -- (4) A{ b:8, c:4 }  /  A__b_8{ c:4 }
    ((DT.struct "A" [("b", .vec 8), ("c", .vec 4)]).fullName = (DT.struct "A__b_8" [("c", .vec 4)]).fullName ∧
      okName "A__b_8" = false) ∧
    -- (5) C{ f: [D{g:8}] * 2 }  /  C{ f: D{ g: [Bits8] * 2 } }
    ((DT.struct "C" [("f", .arr [2] (.struct "D" [("g", .vec 8)]))]).fullName =
     (DT.struct "C" [("f", .struct "D" [("g", .arr [2] (.vec 8))])]).fullName) := by
  decide +kernel

/-- (6) A class name that ends in `_<width>` makes a nested struct look like a vector field:
`C{ f: My_8{g:4} }` (4 bits) and `C{ f_My: 8, g: 4 }` (12 bits) share a name and do not even have the same width. -/
theorem struct_collision_changes_layout :
    (DT.struct "C" [("f", .struct "My_8" [("g", .vec 4)])]).fullName =
      (DT.struct "C" [("f_My", .vec 8), ("g", .vec 4)]).fullName ∧
    (DT.struct "C" [("f", .struct "My_8" [("g", .vec 4)])]).leafWidths = [4] ∧
    (DT.struct "C" [("f_My", .vec 8), ("g", .vec 4)]).leafWidths = [8, 4] ∧
    okName "My_8" = true ∧ okName "f_My" = true := by
  decide +kernel

/-- a table the checker accepts … -/
example : wfModules ⟨["S__a_4"], [⟨"Inner_noparam", ["clk", "in_", "out", "up"], []⟩,
    ⟨"Top_noparam", ["clk", "a", "a__clk"], [("Inner_noparam", "a")]⟩]⟩ = true := by decide +kernel
/-- … and ones it rejects: a module defined twice, an illegal module name … -/
example : wfModules ⟨[], [⟨"A", [], []⟩, ⟨"A", [], []⟩]⟩ = false := by decide +kernel
example : wfModules ⟨[], [⟨"Inner__p_-1", [], []⟩]⟩ = false := by decide +kernel
-- … an undefined instantiated module, a reserved word, a duplicate identifier: each refuted through the clause of
-- `wfModules_sound` that fails, which shows for WHICH reason the table is rejected (evaluation shows only that it is)
example : wfModules ⟨[], [⟨"T", ["a"], [("Missing", "a")]⟩]⟩ = false :=
  Bool.eq_false_iff.mpr fun h => by simpa [Closed] using (wfModules_sound _ h).2.1
example : wfModules ⟨[], [⟨"T", ["logic"], []⟩]⟩ = false :=
  Bool.eq_false_iff.mpr fun h => by
    obtain ⟨_, hids, _⟩ := (wfModules_sound _ h).2.2.2 _ (List.mem_singleton_self _)
    -- 178 is the position of `logic` in `verilogReserved`
    exact (hids "logic" (List.mem_singleton_self _)).2
      (List.mem_of_getElem? (show verilogReserved[178]? = some "logic" from rfl))
example : wfModules ⟨[], [⟨"T", ["x", "x"], []⟩]⟩ = false :=
  Bool.eq_false_iff.mpr fun h => by
    simpa using ((wfModules_sound _ h).2.2.2 _ (List.mem_singleton_self _)).2.2.1
/-- the hypotheses of `fullName_inj` are satisfiable, and needed: with a separator inside a value two different
parameter lists collide -/
example : NoSep "Bits32" := NoSep.of_not_mem (by decide +kernel)
example : fullName "C" [("a", "1__b_2"), ("b", "3")] = fullName "C" [("a", "1"), ("b", "2__b_3")] := by decide +kernel
/-- first-wins on a walk with a repeated name; the checked walk refuses it, and accepts equal bodies -/
example : translateAll [("A", 1), ("A", 2), ("T", 0)] = [("A", 1), ("T", 0)] := by decide +kernel
example : translateChecked [("A", 1), ("A", 2), ("T", 0)] = .error "A" := by rfl
example : translateChecked [("A", 1), ("A", 1), ("T", 0)] = .ok [("A", 1), ("T", 0)] := by rfl
/-- children are visited in `repr` order (`s.x[10]` before `s.x[2]`), whatever order they are given in -/
example : (Tree.node "s" "T" 0 [.node "s.x[2]" "B" 2 [], .node "s.x[10]" "A" 1 []]).post = [("A", 1), ("B", 2), ("T", 0)] := by
  decide +kernel

/-- well-formed names exist (a trailing `_` is fine), the hypotheses of `flatId_inj` / `flatIds_nodup` are satisfiable,
and the conclusion is not trivial: three different paths, three different identifiers -/
example : okName "in_" = true ∧ okName "type_" = true ∧ okName "a_0" = true ∧ okName "x1" = true := by decide +kernel
example : (∀ p ∈ [[Seg.name "a", .idx 0, .name "in_"], [.name "a", .idx 1, .name "in_"], [.name "a_0"]],
    ∀ s ∈ p, s.ok = true) ∧
    [[Seg.name "a", .idx 0, .name "in_"], [.name "a", .idx 1, .name "in_"], [.name "a_0"]].map flatId =
      ["a__0__in_", "a__1__in_", "a_0"] := by decide +kernel
example : flatCollisions [[.name "a", .name "b__c"], [.name "x"], [.name "a__b", .name "c"]] = ["a__b__c", "a__b__c"] := by
  decide +kernel
/-- a struct type in the scope of `structFullName_inj` (the memory request message of the stdlib has this shape) -/
example : flatStruct [("type_", .vec 4), ("opaque", .vec 8), ("data", .arr [2, 3] (.vec 32))] = true ∧ okName "MemReqMsg" = true := by
  decide +kernel
example : (DT.struct "Req" [("type_", .vec 4), ("data", .arr [2, 3] (.vec 32))]).fullName = "Req__type__4__data_32x2x3" := by
  decide +kernel

end PV.C13
