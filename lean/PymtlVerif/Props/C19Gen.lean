import PymtlVerif.Gen.ArbGen
import PymtlVerif.Proofs.Arb
import PymtlVerif.Proofs.Slice
/-!
# C19Gen — Model/Arb.lean IS what arbiters.py / registers.py say (generated = model), for every nreqs

`Gen/ArbGen.lean` is regenerated by `tools/py2lean_arb.py` from the Python source of `RoundRobinArbiter`,
`RoundRobinArbiterEn` (arbiters.py) and `Reg`, `RegEn`, `RegRst`, `RegEnRst` (registers.py) on every run of the check.  Every
`@update` / `@update_ff` block is a function `Sig → Sig` on a valuation of the component's signals (statements executed in
order, `for i in range(E)` as a fold over `List.range E`), parametric in `nreqs`.

For each block and the signal it writes, `gen_<block>_<signal>_eq` proves — for EVERY `nreqs`, by induction over the fold —
that the written bits are what `Model/Arb.lean` computes from the signals the block reads: its functions `reqsInt`, `prioInt`,
`kills`, `priorityEn`, `regIn`, `regEnRst` by name; for `comb_grants_int` and `comb_grants` the bodies of `grantsInt` and
`grantBit` / `grants` over the wires `kills` and `grants_int` (the model's functions recompute these wires where the blocks read
them; the model's `grants` itself appears in `Plain.settled_grants`).  `gen_settled_eq_model` composes
them: in any valuation where every block and connection has settled, `grants`, `priority_en` and the register after the
clock edge are exactly `Model/Arb.cycle`.  `namespace Plain` = `RoundRobinArbiter`: a loop block is the update of the one
signal it writes by a fold over that signal's value (`comb_kills_eq` and the like: frame condition and written value in one
equation), and the fold is read bit by bit by induction (`bit_bitsW`, `bit_killsW`);
`namespace En` = `RoundRobinArbiterEn`, whose blocks are shown to be those of `RoundRobinArbiter` on the valuation without
`en` (`En.toPlain`; only `comb_priority_en` differs), so that each theorem follows from its `Plain` namesake.  A change of a
loop bound, an index, a slice, an operator, the rotation, the enable or the reset value in the source changes the generated
file and breaks the corresponding theorem.

`2 ≤ nreqs` is needed exactly where the source needs it: the slice `in_[1:nreqs]` of the rotation (PyMTL rejects
nreqs = 1 there; the translator checks every index and slice for nreqs ≥ 2).  Everything else holds for every `nreqs`.
-/
namespace PV.C19Gen
open PV.Arb

theorem foldl_range_inv {α : Type} (f : α → Nat → α) (P : Nat → α → Prop) {a : α} (h0 : P 0 a)
    (hs : ∀ m b, P m b → P (m + 1) (f b m)) : ∀ m, P m ((List.range m).foldl f a)
  | 0 => h0
  | m + 1 => by
    rw [List.range_succ, List.foldl_append]
    exact hs m _ (foldl_range_inv f P h0 hs m)

theorem bit_setBit (x i : Nat) (b : Bool) (j : Nat) :
    bit (ArbGen.setBit x i b) j = if j = i then b else bit x j := by
  unfold ArbGen.setBit bit
  by_cases hb : x.testBit i = b
  · rw [if_pos (beq_iff_eq.mpr hb)]
    by_cases hj : j = i
    · rw [if_pos hj, hj, hb]
    · rw [if_neg hj]
  · rw [if_neg (mt beq_iff_eq.mp hb), Nat.testBit_xor, Nat.testBit_two_pow]
    by_cases hj : j = i
    · rw [if_pos hj, hj, decide_eq_true rfl, Bool.xor_true]
      exact (Bool.eq_not_of_ne hb).symm ▸ Bool.not_not b
    · rw [if_neg hj, decide_eq_false (Ne.symm hj), Bool.xor_false]

theorem bit_setSlice (x a b y i : Nat) (h : a ≤ b) :
    bit (ArbGen.setSlice x a b y) i = if a ≤ i ∧ i < b then bit y (i - a) else bit x i := by
  have hw : y % 2 ^ (b - a) < 2 ^ (b - a) := Nat.mod_lt _ (Nat.two_pow_pos _)
  have := PV.Bits.testBit_pokeRaw x a b (y % 2 ^ (b - a)) i h hw
  unfold PV.Bits.pokeRaw at this
  unfold ArbGen.setSlice bit
  rw [this]
  by_cases hc : a ≤ i ∧ i < b
  · have : i - a < b - a := by omega
    simp [hc, Nat.testBit_mod_two_pow, this]
  · simp [hc]

theorem bit_setSlice_halves (x n lo hi : Nat) {i : Nat} (h : i < 2 * n) :
    bit (ArbGen.setSlice (ArbGen.setSlice x 0 n lo) n (2 * n) hi) i = if i < n then bit lo i else bit hi (i - n) := by
  rw [bit_setSlice _ _ _ _ _ (Nat.le_mul_of_pos_left n Nat.two_pos), bit_setSlice _ _ _ _ _ (Nat.zero_le n)]
  by_cases hi : i < n
  · rw [if_neg fun h => Nat.not_le.mpr hi h.1, if_pos ⟨Nat.zero_le i, hi⟩, if_pos hi]; rfl
  · rw [if_pos ⟨Nat.le_of_not_lt hi, h⟩, if_neg hi]

theorem bit_getSlice (x a b i : Nat) :
    bit (ArbGen.getSlice x a b) i = (decide (i < b - a) && bit x (a + i)) := by
  unfold ArbGen.getSlice bit
  rw [Nat.testBit_mod_two_pow, Nat.testBit_shiftRight]

/-- the generated `bit` is the model's; the proofs below use that by definition -/
theorem gbit (x i : Nat) : ArbGen.bit x i = bit x i := rfl

/-- `for i in range(m): x[i] @= f i` -/
def bitsW (f : Nat → Bool) (m x : Nat) : Nat := (List.range m).foldl (fun x i => ArbGen.setBit x i (f i)) x

/-- `x[0] @= 1`, then `for i in range(m): x[i+1] @= r i if p i else x[i] | (~x[i] & r i)` -/
def killsW (pI rI : Nat → Bool) (m x : Nat) : Nat :=
  (List.range m).foldl (fun x i => ArbGen.setBit x (i + 1) (if pI i then rI i else (bit x i || (!bit x i && rI i))))
    (ArbGen.setBit x 0 true)

theorem bit_bitsW (f : Nat → Bool) (m x j : Nat) : bit (bitsW f m x) j = if j < m then f j else bit x j := by
  refine foldl_range_inv _ (fun m y => bit y j = if j < m then f j else bit x j) rfl (fun m y h => ?_) m
  rw [bit_setBit]
  by_cases hj : j = m
  · rw [if_pos hj, if_pos (hj ▸ Nat.lt_succ_self j), hj]
  · rw [if_neg hj, h]
    exact ite_congr (propext ⟨Nat.lt_succ_of_lt, fun h' => Nat.lt_of_le_of_ne (Nat.le_of_lt_succ h') hj⟩)
      (fun _ => rfl) fun _ => rfl

theorem bit_killsW (pI rI : Nat → Bool) (m x : Nat) : ∀ j, j ≤ m → bit (killsW pI rI m x) j = kills pI rI j := by
  refine foldl_range_inv _ (fun m y => ∀ j, j ≤ m → bit y j = kills pI rI j) (fun j hj => ?_) (fun m y h j hj => ?_) m
  · rw [Nat.le_zero.mp hj, bit_setBit]
    rfl
  · rw [bit_setBit]
    by_cases hjm : j = m + 1
    · rw [if_pos hjm, hjm, kills, h m (Nat.le_refl m)]
    · rw [if_neg hjm]
      exact h j (Nat.le_of_lt_succ (Nat.lt_of_le_of_ne hj hjm))

theorem gen_Reg_up_reg_out_eq (w : Nat) (v : ArbGen.Reg.Sig) : (ArbGen.Reg.up_reg w v).out = v.in_ := rfl

theorem gen_RegEn_up_regen_out_eq (w : Nat) (v : ArbGen.RegEn.Sig) :
    (ArbGen.RegEn.up_regen w v).out = if v.en then v.in_ else v.out := by
  unfold ArbGen.RegEn.up_regen
  cases v.en <;> rfl

theorem gen_RegRst_up_regrst_out_eq (w rv : Nat) (v : ArbGen.RegRst.Sig) :
    (ArbGen.RegRst.up_regrst w rv v).out = if v.reset then rv else v.in_ := by
  unfold ArbGen.RegRst.up_regrst
  cases v.reset <;> rfl

/-- `RegEnRst.up_regenrst` is the model's `regEnRst` with the reset value as a parameter (reset wins over enable) -/
theorem gen_RegEnRst_up_regenrst_out_eq (w rv : Nat) (v : ArbGen.RegEnRst.Sig) :
    (ArbGen.RegEnRst.up_regenrst w rv v).out = if v.reset then rv else if v.en then v.in_ else v.out := by
  unfold ArbGen.RegEnRst.up_regenrst
  cases v.reset <;> cases v.en <;> rfl

/-- only `out` changes at the clock edge -/
theorem gen_RegEnRst_frame (w rv : Nat) (v : ArbGen.RegEnRst.Sig) :
    (ArbGen.RegEnRst.up_regenrst w rv v).in_ = v.in_ ∧ (ArbGen.RegEnRst.up_regenrst w rv v).en = v.en ∧
    (ArbGen.RegEnRst.up_regenrst w rv v).reset = v.reset := by
  cases v with
  | mk r o i e => cases r <;> cases e <;> exact ⟨rfl, rfl, rfl⟩

namespace Plain
open ArbGen.RoundRobinArbiter

/-! every signal except the named one (frame conditions: a block changes only the signal it is the writer of) -/
def except_reqs_int (v : Sig) := (v.reset, v.reqs, v.grants, v.priority_en, v.kills, v.priority_int, v.grants_int, v.priority_reg_out, v.priority_reg_in_)
def except_priority_int (v : Sig) := (v.reset, v.reqs, v.grants, v.priority_en, v.kills, v.reqs_int, v.grants_int, v.priority_reg_out, v.priority_reg_in_)
def except_kills (v : Sig) := (v.reset, v.reqs, v.grants, v.priority_en, v.priority_int, v.reqs_int, v.grants_int, v.priority_reg_out, v.priority_reg_in_)
def except_grants_int (v : Sig) := (v.reset, v.reqs, v.grants, v.priority_en, v.kills, v.priority_int, v.reqs_int, v.priority_reg_out, v.priority_reg_in_)
def except_grants (v : Sig) := (v.reset, v.reqs, v.priority_en, v.kills, v.priority_int, v.reqs_int, v.grants_int, v.priority_reg_out, v.priority_reg_in_)
def except_priority_en (v : Sig) := (v.reset, v.reqs, v.grants, v.kills, v.priority_int, v.reqs_int, v.grants_int, v.priority_reg_out, v.priority_reg_in_)

theorem gen_comb_reqs_int_frame (n : Nat) (v : Sig) : except_reqs_int (comb_reqs_int n v) = except_reqs_int v := rfl
theorem gen_comb_priority_int_frame (n : Nat) (v : Sig) : except_priority_int (comb_priority_int n v) = except_priority_int v := rfl
theorem gen_comb_priority_en_frame (n : Nat) (v : Sig) : except_priority_en (comb_priority_en n v) = except_priority_en v := rfl

/-! a loop block updates the one signal it writes, by a fold over that signal's value: its frame condition and the
    value it writes are both read off this equation -/

theorem comb_kills_eq (n : Nat) (v : Sig) :
    comb_kills n v = { v with kills := killsW (bit v.priority_int) (bit v.reqs_int) (2 * n) v.kills } :=
  List.foldl_hom (fun x => ({ v with kills := x } : Sig)) fun x i =>
    (apply_ite (fun b => ({ v with kills := ArbGen.setBit x (i + 1) b } : Sig)) _ _ _).symm

theorem comb_grants_int_eq (n : Nat) (v : Sig) :
    comb_grants_int n v = { v with grants_int := bitsW (fun i => if bit v.priority_int i then bit v.reqs_int i
      else (!bit v.kills i && bit v.reqs_int i)) (2 * n) v.grants_int } :=
  List.foldl_hom (fun x => ({ v with grants_int := x } : Sig)) fun x i =>
    (apply_ite (fun b => ({ v with grants_int := ArbGen.setBit x i b } : Sig)) _ _ _).symm

theorem comb_grants_eq (n : Nat) (v : Sig) :
    comb_grants n v = { v with grants := bitsW (fun i => bit v.grants_int i || bit v.grants_int (i + n)) n v.grants } :=
  List.foldl_hom (fun x => ({ v with grants := x } : Sig)) fun _ _ => rfl

theorem gen_comb_kills_frame (n : Nat) (v : Sig) : except_kills (comb_kills n v) = except_kills v := by
  rw [comb_kills_eq]
  rfl

theorem gen_comb_grants_int_frame (n : Nat) (v : Sig) : except_grants_int (comb_grants_int n v) = except_grants_int v := by
  rw [comb_grants_int_eq]
  rfl

theorem gen_comb_grants_frame (n : Nat) (v : Sig) : except_grants (comb_grants n v) = except_grants v := by
  rw [comb_grants_eq]
  rfl

theorem gen_comb_reqs_int_reqs_int_eq (n : Nat) (v : Sig) (i : Nat) (hi : i < 2 * n) :
    bit (comb_reqs_int n v).reqs_int i = reqsInt n v.reqs i := by
  unfold reqsInt
  rw [if_pos hi]
  exact bit_setSlice_halves _ n _ _ hi

theorem gen_comb_priority_int_priority_int_eq (n : Nat) (v : Sig) (i : Nat) (hi : i < 2 * n) :
    bit (comb_priority_int n v).priority_int i = prioInt n v.priority_reg_out i :=
  (bit_setSlice_halves _ n _ _ hi).trans (ite_congr rfl (fun _ => rfl) fun _ => bit_zero _)

theorem gen_comb_kills_kills_eq (n : Nat) (v : Sig) (j : Nat) (hj : j ≤ 2 * n) :
    bit (comb_kills n v).kills j = kills (bit v.priority_int) (bit v.reqs_int) j := by
  rw [comb_kills_eq]
  exact bit_killsW _ _ _ _ j hj

theorem gen_comb_grants_int_grants_int_eq (n : Nat) (v : Sig) (i : Nat) (hi : i < 2 * n) :
    bit (comb_grants_int n v).grants_int i =
      (if bit v.priority_int i then bit v.reqs_int i else (!bit v.kills i && bit v.reqs_int i)) := by
  rw [comb_grants_int_eq]
  exact (bit_bitsW _ _ _ i).trans (if_pos hi)

theorem bit_comb_grants (n : Nat) (v : Sig) (k : Nat) : bit (comb_grants n v).grants k =
    if k < n then (bit v.grants_int k || bit v.grants_int (n + k)) else bit v.grants k := by
  rw [comb_grants_eq, Nat.add_comm]
  exact bit_bitsW _ _ _ k

/-- with the old value inside n bits the new value of `grants` is the packing of `grants_int[k] | grants_int[n+k]` -/
theorem gen_comb_grants_grants_eq (n : Nat) (v : Sig) (hw : v.grants < 2 ^ n) :
    (comb_grants n v).grants = pack n (fun k => bit v.grants_int k || bit v.grants_int (n + k)) := by
  apply bit_ext
  intro k
  rw [bit_pack, bit_comb_grants]
  by_cases hk : k < n
  · rw [if_pos hk, decide_eq_true hk]; rfl
  · rw [if_neg hk, decide_eq_false hk]
    exact PV.Bits.testBit_of_lt_two_pow hw (Nat.le_of_not_lt hk)

/-- the same without an assumption on the old value, bit by bit -/
theorem gen_comb_grants_grants_bits (n : Nat) (v : Sig) (k : Nat) (hk : k < n) :
    bit (comb_grants n v).grants k = (bit v.grants_int k || bit v.grants_int (n + k)) :=
  (bit_comb_grants n v k).trans (if_pos hk)

theorem gen_comb_priority_en_priority_en_eq (n : Nat) (v : Sig) (e : Bool) :
    (comb_priority_en n v).priority_en = priorityEn false v.grants e := rfl

/-- the slice connections into `priority_reg.in_` are the rotation `regIn` of the model -/
theorem gen_priority_reg_in__conn_eq (n : Nat) (hn : 2 ≤ n) (v : Sig) :
    priority_reg_in__conn n v = regIn n v.grants := by
  unfold priority_reg_in__conn regIn
  apply bit_ext
  intro i
  rw [bit_setSlice _ _ _ _ _ (Nat.zero_le 1), bit_setSlice _ _ _ _ _ (Nat.le_of_lt hn), bit_pack, bit_getSlice,
    bit_getSlice]
  by_cases h0 : i = 0
  · subst h0
    rw [if_pos ⟨Nat.le_refl 0, Nat.one_pos⟩, if_pos rfl, decide_eq_true (by omega : 0 - 0 < n - (n - 1)),
      decide_eq_true (Nat.zero_lt_of_lt hn)]
    rfl
  · rw [if_neg fun h => h0 (Nat.lt_one_iff.mp h.2), if_neg h0]
    by_cases hi : i < n
    · rw [if_pos ⟨Nat.pos_of_ne_zero h0, hi⟩, decide_eq_true hi, Nat.zero_add, Nat.sub_zero,
        decide_eq_true (Nat.sub_lt_sub_right (Nat.pos_of_ne_zero h0) hi)]
    · rw [if_neg fun h => hi h.2, decide_eq_false hi]
      exact bit_zero i

theorem gen_priority_reg_up_regenrst_out_eq (n : Nat) (v : Sig) :
    (priority_reg_up_regenrst n v).out = regEnRst v.reset v.priority_en v.priority_reg_in_ v.priority_reg_out :=
  gen_RegEnRst_up_regenrst_out_eq n 1 (priority_reg_sig v)

theorem gen_widths_eq (n : Nat) :
    width_reqs n = n ∧ width_grants n = n ∧ width_kills n = 2 * n + 1 ∧ width_priority_int n = 2 * n ∧
    width_reqs_int n = 2 * n ∧ width_grants_int n = 2 * n ∧ ArbGen.RegEnRst.width_out n 1 = n ∧ ArbGen.RegEnRst.width_in_ n 1 = n :=
  ⟨rfl, rfl, rfl, rfl, rfl, rfl, rfl, rfl⟩

/-- a valuation of the signals in which every combinational block and connection has settled: each block, run on the
    valuation, reproduces the signal it writes -/
def Settled (n : Nat) (v : Sig) : Prop :=
  v.reqs_int = (comb_reqs_int n v).reqs_int ∧ v.priority_int = (comb_priority_int n v).priority_int ∧
  v.kills = (comb_kills n v).kills ∧ v.grants_int = (comb_grants_int n v).grants_int ∧
  v.grants = (comb_grants n v).grants ∧ v.priority_en = (comb_priority_en n v).priority_en ∧
  v.priority_reg_in_ = priority_reg_in__conn n v

theorem settled_grants (n : Nat) (v : Sig) (h1 : v.reqs_int = (comb_reqs_int n v).reqs_int)
    (h2 : v.priority_int = (comb_priority_int n v).priority_int) (h3 : v.kills = (comb_kills n v).kills)
    (h4 : v.grants_int = (comb_grants_int n v).grants_int) (h5 : v.grants = (comb_grants n v).grants)
    (hw : v.grants < 2 ^ n) : v.grants = grants n v.reqs v.priority_reg_out := by
  have r1 : ∀ i, i < 2 * n → bit v.reqs_int i = reqsInt n v.reqs i :=
    fun i hi => h1 ▸ gen_comb_reqs_int_reqs_int_eq n v i hi
  have r2 : ∀ i, i < 2 * n → bit v.priority_int i = prioInt n v.priority_reg_out i :=
    fun i hi => h2 ▸ gen_comb_priority_int_priority_int_eq n v i hi
  have r3 : ∀ j, j ≤ 2 * n → bit v.kills j = kills (prioInt n v.priority_reg_out) (reqsInt n v.reqs) j :=
    fun j hj => (h3 ▸ gen_comb_kills_kills_eq n v j hj).trans
      (kills_congr (2 * n) (fun i hi => ⟨r2 i hi, r1 i hi⟩) j hj)
  have r4 : ∀ i, i < 2 * n → bit v.grants_int i = grantsInt (prioInt n v.priority_reg_out) (reqsInt n v.reqs) i := by
    intro i hi
    rw [h4, gen_comb_grants_int_grants_int_eq n v i hi, grantsInt, r1 i hi, r2 i hi, r3 i (Nat.le_of_lt hi)]
  rw [h5, gen_comb_grants_grants_eq n v hw]
  exact pack_congr n _ _ fun k hk => by
    rw [grantBit, r4 k (Nat.lt_of_lt_of_le hk (Nat.le_mul_of_pos_left n Nat.two_pos)),
      r4 (n + k) (Nat.two_mul n ▸ Nat.add_lt_add_left hk n)]

/-- generated = model, end to end: in every settled valuation of the generated component (grants within its n bits) the
    grants port, the priority_en wire and the register value after the clock edge are what `Model/Arb.cycle` computes from
    reqs, reset and the register value -/
theorem gen_settled_eq_model (n : Nat) (hn : 2 ≤ n) (v : Sig) (hs : Settled n v) (hw : v.grants < 2 ^ n) (e : Bool) :
    cycle false n v.priority_reg_out ⟨v.reset, e, v.reqs⟩ =
      ⟨v.priority_reg_out, v.grants, v.priority_en, (priority_reg_up_regenrst n v).out⟩ := by
  obtain ⟨h1, h2, h3, h4, h5, h6, h7⟩ := hs
  have r5 := settled_grants n v h1 h2 h3 h4 h5 hw
  have r6 : v.priority_en = priorityEn false v.grants e := h6
  have r7 : v.priority_reg_in_ = regIn n v.grants := h7.trans (gen_priority_reg_in__conn_eq n hn v)
  simp only [cycle, gen_priority_reg_up_regenrst_out_eq, ← r5, ← r6, ← r7]

end Plain

namespace En
open ArbGen.RoundRobinArbiterEn

/-! every signal except the named one and the input `en`, which no block writes: field for field the tuples of `Plain`,
    which the frame theorems of the three loops rely on (`En.except_x v` is `Plain.except_x (toPlain v)` by definition) -/
def except_reqs_int (v : Sig) := (v.reset, v.reqs, v.grants, v.priority_en, v.kills, v.priority_int, v.grants_int, v.priority_reg_out, v.priority_reg_in_)
def except_priority_int (v : Sig) := (v.reset, v.reqs, v.grants, v.priority_en, v.kills, v.reqs_int, v.grants_int, v.priority_reg_out, v.priority_reg_in_)
def except_kills (v : Sig) := (v.reset, v.reqs, v.grants, v.priority_en, v.priority_int, v.reqs_int, v.grants_int, v.priority_reg_out, v.priority_reg_in_)
def except_grants_int (v : Sig) := (v.reset, v.reqs, v.grants, v.priority_en, v.kills, v.priority_int, v.reqs_int, v.priority_reg_out, v.priority_reg_in_)
def except_grants (v : Sig) := (v.reset, v.reqs, v.priority_en, v.kills, v.priority_int, v.reqs_int, v.grants_int, v.priority_reg_out, v.priority_reg_in_)
def except_priority_en (v : Sig) := (v.reset, v.reqs, v.grants, v.kills, v.priority_int, v.reqs_int, v.grants_int, v.priority_reg_out, v.priority_reg_in_)

theorem gen_comb_reqs_int_frame (n : Nat) (v : Sig) : except_reqs_int (comb_reqs_int n v) = except_reqs_int v := rfl
theorem gen_comb_priority_int_frame (n : Nat) (v : Sig) : except_priority_int (comb_priority_int n v) = except_priority_int v := rfl
theorem gen_comb_priority_en_frame (n : Nat) (v : Sig) : except_priority_en (comb_priority_en n v) = except_priority_en v := rfl

/-- `RoundRobinArbiterEn` is `RoundRobinArbiter` with one more input, `en`, which only `comb_priority_en` reads:
    forgetting `en` turns every other block and connection of the one into the same block of the other, so what is
    proved about them in `Plain` holds here -/
def toPlain (v : Sig) : ArbGen.RoundRobinArbiter.Sig :=
  { reset := v.reset, reqs := v.reqs, grants := v.grants, priority_en := v.priority_en, kills := v.kills,
    priority_int := v.priority_int, reqs_int := v.reqs_int, grants_int := v.grants_int,
    priority_reg_out := v.priority_reg_out, priority_reg_in_ := v.priority_reg_in_ }

theorem toPlain_comb_kills (n : Nat) (v : Sig) :
    toPlain (comb_kills n v) = ArbGen.RoundRobinArbiter.comb_kills n (toPlain v) :=
  (List.foldl_hom toPlain fun _ _ => by
    unfold comb_kills_loop1 ArbGen.RoundRobinArbiter.comb_kills_loop1
    rw [apply_ite toPlain]
    rfl).symm

theorem toPlain_comb_grants_int (n : Nat) (v : Sig) :
    toPlain (comb_grants_int n v) = ArbGen.RoundRobinArbiter.comb_grants_int n (toPlain v) :=
  (List.foldl_hom toPlain fun _ _ => by
    unfold comb_grants_int_loop1 ArbGen.RoundRobinArbiter.comb_grants_int_loop1
    rw [apply_ite toPlain]
    rfl).symm

theorem toPlain_comb_grants (n : Nat) (v : Sig) :
    toPlain (comb_grants n v) = ArbGen.RoundRobinArbiter.comb_grants n (toPlain v) :=
  (List.foldl_hom toPlain fun _ _ => rfl).symm

theorem gen_comb_kills_frame (n : Nat) (v : Sig) : except_kills (comb_kills n v) = except_kills v :=
  (congrArg Plain.except_kills (toPlain_comb_kills n v)).trans (Plain.gen_comb_kills_frame n (toPlain v))

theorem gen_comb_grants_int_frame (n : Nat) (v : Sig) : except_grants_int (comb_grants_int n v) = except_grants_int v :=
  (congrArg Plain.except_grants_int (toPlain_comb_grants_int n v)).trans (Plain.gen_comb_grants_int_frame n (toPlain v))

theorem gen_comb_grants_frame (n : Nat) (v : Sig) : except_grants (comb_grants n v) = except_grants v :=
  (congrArg Plain.except_grants (toPlain_comb_grants n v)).trans (Plain.gen_comb_grants_frame n (toPlain v))

theorem gen_comb_reqs_int_reqs_int_eq (n : Nat) (v : Sig) (i : Nat) (hi : i < 2 * n) :
    bit (comb_reqs_int n v).reqs_int i = reqsInt n v.reqs i :=
  Plain.gen_comb_reqs_int_reqs_int_eq n (toPlain v) i hi

theorem gen_comb_priority_int_priority_int_eq (n : Nat) (v : Sig) (i : Nat) (hi : i < 2 * n) :
    bit (comb_priority_int n v).priority_int i = prioInt n v.priority_reg_out i :=
  Plain.gen_comb_priority_int_priority_int_eq n (toPlain v) i hi

theorem gen_comb_kills_kills_eq (n : Nat) (v : Sig) (j : Nat) (hj : j ≤ 2 * n) :
    bit (comb_kills n v).kills j = kills (bit v.priority_int) (bit v.reqs_int) j := by
  have := Plain.gen_comb_kills_kills_eq n (toPlain v) j hj
  rwa [← toPlain_comb_kills] at this

theorem gen_comb_grants_int_grants_int_eq (n : Nat) (v : Sig) (i : Nat) (hi : i < 2 * n) :
    bit (comb_grants_int n v).grants_int i =
      (if bit v.priority_int i then bit v.reqs_int i else (!bit v.kills i && bit v.reqs_int i)) := by
  have := Plain.gen_comb_grants_int_grants_int_eq n (toPlain v) i hi
  rwa [← toPlain_comb_grants_int] at this

theorem gen_comb_grants_grants_eq (n : Nat) (v : Sig) (hw : v.grants < 2 ^ n) :
    (comb_grants n v).grants = pack n (fun k => bit v.grants_int k || bit v.grants_int (n + k)) := by
  have := Plain.gen_comb_grants_grants_eq n (toPlain v) hw
  rwa [← toPlain_comb_grants] at this

theorem gen_comb_grants_grants_bits (n : Nat) (v : Sig) (k : Nat) (hk : k < n) :
    bit (comb_grants n v).grants k = (bit v.grants_int k || bit v.grants_int (n + k)) := by
  have := Plain.gen_comb_grants_grants_bits n (toPlain v) k hk
  rwa [← toPlain_comb_grants] at this

theorem gen_comb_priority_en_priority_en_eq (n : Nat) (v : Sig) :
    (comb_priority_en n v).priority_en = priorityEn true v.grants v.en := rfl

theorem gen_priority_reg_in__conn_eq (n : Nat) (hn : 2 ≤ n) (v : Sig) :
    priority_reg_in__conn n v = regIn n v.grants :=
  Plain.gen_priority_reg_in__conn_eq n hn (toPlain v)

theorem gen_priority_reg_up_regenrst_out_eq (n : Nat) (v : Sig) :
    (priority_reg_up_regenrst n v).out = regEnRst v.reset v.priority_en v.priority_reg_in_ v.priority_reg_out :=
  gen_RegEnRst_up_regenrst_out_eq n 1 (priority_reg_sig v)

theorem gen_widths_eq (n : Nat) :
    width_reqs n = n ∧ width_grants n = n ∧ width_kills n = 2 * n + 1 ∧ width_priority_int n = 2 * n ∧
    width_reqs_int n = 2 * n ∧ width_grants_int n = 2 * n ∧ ArbGen.RegEnRst.width_out n 1 = n ∧ ArbGen.RegEnRst.width_in_ n 1 = n :=
  ⟨rfl, rfl, rfl, rfl, rfl, rfl, rfl, rfl⟩

/-- a valuation of the signals in which every combinational block and connection has settled: each block, run on the
    valuation, reproduces the signal it writes -/
def Settled (n : Nat) (v : Sig) : Prop :=
  v.reqs_int = (comb_reqs_int n v).reqs_int ∧ v.priority_int = (comb_priority_int n v).priority_int ∧
  v.kills = (comb_kills n v).kills ∧ v.grants_int = (comb_grants_int n v).grants_int ∧
  v.grants = (comb_grants n v).grants ∧ v.priority_en = (comb_priority_en n v).priority_en ∧
  v.priority_reg_in_ = priority_reg_in__conn n v

/-- as `Plain.gen_settled_eq_model`, the input `en` of the valuation being the model's `en` -/
theorem gen_settled_eq_model (n : Nat) (hn : 2 ≤ n) (v : Sig) (hs : Settled n v) (hw : v.grants < 2 ^ n) :
    cycle true n v.priority_reg_out ⟨v.reset, v.en, v.reqs⟩ =
      ⟨v.priority_reg_out, v.grants, v.priority_en, (priority_reg_up_regenrst n v).out⟩ := by
  obtain ⟨h1, h2, h3, h4, h5, h6, h7⟩ := hs
  have r5 : v.grants = grants n v.reqs v.priority_reg_out :=
    Plain.settled_grants n (toPlain v) h1 h2 (h3.trans (congrArg (·.kills) (toPlain_comb_kills n v)))
      (h4.trans (congrArg (·.grants_int) (toPlain_comb_grants_int n v)))
      (h5.trans (congrArg (·.grants) (toPlain_comb_grants n v))) hw
  have r6 : v.priority_en = priorityEn true v.grants v.en := h6
  have r7 : v.priority_reg_in_ = regIn n v.grants := h7.trans (gen_priority_reg_in__conn_eq n hn v)
  simp only [cycle, gen_priority_reg_up_regenrst_out_eq, ← r5, ← r6, ← r7]

end En

end PV.C19Gen
