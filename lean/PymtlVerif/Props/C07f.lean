import PymtlVerif.Proofs.Flip
/-!
# C07f — `schedule_posedge_flip` flips every double-buffered signal exactly once

Theorems about `Model/Flip.lean` (the grouping loop of `SimpleSchedulePass.schedule_posedge_flip`), for every set of
registers in every component hierarchy:

* `grouping_perm`     — the signals of all groups together are a permutation of the double-buffered signals: none is
                        lost, none is flipped twice (`grouping_nodup`, `mem_grouping`);
* `grouping_prefix`   — every signal of a group lives in the group's component or below it, so addressing it relative
                        to the component (`x = s.a.b; x.r._flip()`, i.e. `repr(z)[len(repr(x))+1:]`) is meaningful;
* `grouping_settled`  — the loop leaves through its `done` exit before the fuel `weight + 1` runs out: every group has
                        at least two signals or sits at `top`; `grouping_fuel`: any larger fuel gives the same result;
* `grouping_nonempty` — no group is empty (`y[0]` never fails).
-/
namespace PV.C07f
open PV.Flip

/-- the signals flipped by the generated function are a permutation of the double-buffered signals -/
theorem grouping_perm (sigs : List Sig) : (flips (grouping sigs)).Perm sigs :=
  (iter_perm _ _).trans (initial_perm sigs)

/-- every double-buffered signal is flipped, and nothing else -/
theorem mem_grouping (sigs : List Sig) (z : Sig) : z ∈ flips (grouping sigs) ↔ z ∈ sigs :=
  (grouping_perm sigs).mem_iff

/-- no signal is flipped twice -/
theorem grouping_nodup (sigs : List Sig) (h : sigs.Nodup) : (flips (grouping sigs)).Nodup :=
  (grouping_perm sigs).nodup_iff.mpr h

/-- every signal is addressed relative to a component it lives in or below -/
theorem grouping_prefix (sigs : List Sig) : ∀ xy ∈ grouping sigs, ∀ z ∈ xy.2, xy.1 <+: z.host :=
  iter_inv (fun _ => round_prefix) _ (initial_prefix sigs)

/-- no group is empty -/
theorem grouping_nonempty (sigs : List Sig) : ∀ xy ∈ grouping sigs, xy.2 ≠ [] :=
  iter_inv (fun _ => round_nonEmpty) _ (initial_nonEmpty sigs)

/-- the loop really terminated: every group has at least two signals or sits at `top` -/
theorem grouping_settled (sigs : List Sig) : settledB (grouping sigs) = true :=
  (settledB_iff _).mpr (iter_settled _ (initial_nonEmpty sigs) (Nat.lt_succ_self _))

/-- the fuel is not what stops the loop -/
theorem grouping_fuel (sigs : List Sig) (n : Nat) (hn : weight (initial sigs) < n) :
    iter n (initial sigs) = grouping sigs :=
  iter_fuel_irrelevant _ _ (initial_nonEmpty sigs) hn (Nat.lt_succ_self _)

/-! ### non-vacuity: two registers in one grandchild stay grouped there, a lone register of a child moves to `top` -/
example :
    grouping [⟨[0, 1], 7⟩, ⟨[0, 1], 8⟩, ⟨[2], 9⟩, ⟨[], 1⟩]
      = [([0, 1], [⟨[0, 1], 7⟩, ⟨[0, 1], 8⟩]), ([], [⟨[2], 9⟩, ⟨[], 1⟩])] := by decide +kernel

example : settledB (initial [⟨[0, 1], 7⟩, ⟨[2], 9⟩]) = false := by decide +kernel

end PV.C07f
