import PymtlVerif.Proofs.TCTree
import PymtlVerif.Proofs.TCStmt
/-!
# C10 — type-checker widths are the real widths; accepted code has no width errors

Model: `Model/TC.lean` (the RTLIR behavioural type checker: visitor + enforcer), `Model/PyEval.lean`
(what the simulator computes: Python evaluation with `PythonBits` semantics), `Model/TCSpec.lean`
(which blocks are *clean*).  `checkE/checkS/checkBlock` return the annotated tree the real checker
leaves in `node.Type` / `node._is_explicit`; `evalPy/execS` return the Python value or the exception.

The real checker is unsound on three shapes: F12 of DESIGN.md §6 (arithmetic between int-valued terms), N1 and
N4 (F4, N2, N3, N5 are repaired in /repo and the model follows the repaired rules: `F4_rejected`, `N2_rejected`,
`N3_repaired`, `N5_rejected`).  The three are excluded by the hypothesis `issuesE Γ e = []` / `issuesS Γ s = []`.
Without it — every accepted block without a width-changing cast or a misaligned shift never raises a width error —
the statement is false: `F12_counterexample`, `F12_negative_counterexample`, `N1_counterexample`, `N4_counterexample`.
-/
namespace PV.C10
open PV.TC PV.Bits

/-- an integer literal's inferred width is the least number of bits (at least one) that holds it -/
theorem literal_min_width (v : Nat) :
    1 ≤ nbitsOf v ∧ v < 2 ^ nbitsOf v ∧ ∀ w, 1 ≤ w → v < 2 ^ w → nbitsOf v ≤ w :=
  ⟨nbitsOf_pos v, nbitsOf_fits v, fun w hw h => nbitsOf_least v w hw h⟩

/-- the same function on a non-negative Python int (`nbitsInt` is what both copies of
    `_get_nbits_from_value` compute on any int) -/
theorem literal_min_width_int (v : Nat) : nbitsInt (v : Int) = nbitsOf v := nbitsInt_natCast v

/-- on a negative constant `v < -1` the inferred width is the least `w` with `-2^w ≤ v` — one bit
    short of a two's-complement representation, and `Bits` operators reject negative ints anyway
    (part of finding F12) -/
theorem literal_min_width_neg (v : Int) (h : v < -1) :
    -(2 : Int) ^ nbitsInt v ≤ v ∧ ∀ w : Nat, -(2 : Int) ^ w ≤ v → nbitsInt v ≤ w := by
  have h1 : ¬ (-1 ≤ v ∧ v ≤ 1) := by omega
  have h2 : v < 0 := by omega
  have hv : v = -(v.natAbs : Int) := by omega
  have hn : 2 ≤ v.natAbs := by omega
  simp only [nbitsInt, h1, h2, ↓reduceIte]
  constructor
  · have := bitLen_fits (v.natAbs - 1)
    have h3 : v.natAbs ≤ 2 ^ bitLen (v.natAbs - 1) := by omega
    have h4 : ((v.natAbs : Nat) : Int) ≤ (2 : Int) ^ bitLen (v.natAbs - 1) := by exact_mod_cast h3
    omega
  · intro w hw
    apply bitLen_least
    have h4 : ((v.natAbs : Nat) : Int) ≤ (2 : Int) ^ w := by omega
    have h5 : v.natAbs ≤ 2 ^ w := by exact_mod_cast h4
    omega

/-- **width soundness.**  For an accepted, clean expression, in any simulator state that agrees with the
    checker's environment: if evaluation yields a `Bits`, its `nbits` is the static width (and the node is
    explicitly sized); if it yields a Python int, the int fits the static width and the term is not one
    the analysis calls hard. -/
theorem width_sound (Γ : Env) (ρ : Rho) (henv : EnvOK Γ ρ) (e : Expr) (t : AT)
    (h : checkE Γ e = .ok t) (hc : issuesE Γ e = []) :
    (∀ b, evalPy ρ e = .ok (.bits b) → b.n = t.ann.w ∧ t.ann.ex = true ∧ b.Wf) ∧
    (∀ k, evalPy ρ e = .ok (.int k) → 0 ≤ k ∧ k < 2 ^ t.ann.w ∧ hardE Γ e = false) := by
  have hs := (checkE_WT Γ e t h hc).sound henv
  constructor
  · intro b hb; rw [hb] at hs; exact ⟨hs.2.1, kindOf_ne_lit hs.1 (checkE_chk Γ e t h).hard_ex, hs.2.2⟩
  · intro k hk; rw [hk] at hs; exact ⟨hs.2.1, hs.2.2, kindOf_ne_bits hs.1⟩

/-- every sub-expression of an accepted expression is accepted on its own, in the same environment -/
theorem subexpr_accepted (Γ : Env) (e : Expr) (t : AT) (h : checkE Γ e = .ok t) :
    ∀ e' ∈ subs e, ∃ t', checkE Γ e' = .ok t' :=
  fun e' he' => (Chk.subs e (checkE_chk Γ e t h) e' he').imp fun _ => Chk.eq

/-- … and for every sub-expression in a value position a `Bits` result has the static width (conditions, indices and
    slice bounds that are plain integer expressions have no width) -/
theorem width_sound_subexpr (Γ : Env) (ρ : Rho) (henv : EnvOK Γ ρ) (e : Expr) (t : AT)
    (h : checkE Γ e = .ok t) (hc : issuesE Γ e = []) :
    ∀ e' ∈ vsubs e, ∃ t', checkE Γ e' = .ok t' ∧
      ∀ b, evalPy ρ e' = .ok (.bits b) → b.n = t'.ann.w := by
  intro e' he'
  obtain ⟨t', ht'⟩ := subexpr_accepted Γ e t h e' ((vsubs_sublist e).subset he')
  exact ⟨t', ht', fun b hb => ((width_sound Γ ρ henv e' t' ht' (vsubs_clean Γ e hc e' he')).1 b hb).1⟩

/-- **the annotations the checker leaves behind.**  `nodes e t` pairs every sub-expression with the
    annotation it carries in the final tree `t` (after all enforcements).  For an explicitly sized node that
    annotation is exactly the one the sub-expression gets when checked on its own — so by `width_sound`
    the width shown in `node.Type` of every explicit node is the run-time `nbits`. -/
theorem explicit_final_width (Γ : Env) (e : Expr) (t : AT) (h : checkE Γ e = .ok t) :
    ∀ p ∈ nodes e t, ∃ t', checkE Γ p.1 = .ok t' ∧ t'.ann.ex = p.2.ex ∧ t'.ann.val = p.2.val ∧
      (p.2.ex = true → t'.ann.w = p.2.w) := by
  intro p hp
  obtain ⟨t', h1, h2, h3, h4⟩ := (checkE_chk Γ e t h).nodes_sim t (Sim.refl t) p hp
  exact ⟨t', h1.eq, h2.symm, h3.symm, fun hex => (h4 (h2 ▸ hex)).symm⟩

/-- **no width error (expressions).**  `issuesE Γ e = []` bundles the property's own exclusions (no
    explicit width-changing cast, shift amounts of the shifted value's width) with the exclusion of the
    shapes on which the real checker is unsound (the `Issue`s of `Model/TCSpec.lean`). -/
theorem no_width_error (Γ : Env) (ρ : Rho) (henv : EnvOK Γ ρ) (e : Expr) (t : AT)
    (h : checkE Γ e = .ok t) (hc : issuesE Γ e = []) (er : PyErr) (he : evalPy ρ e = .error er) :
    er ≠ .width ∧ er ≠ .range := by
  have hs := (checkE_WT Γ e t h hc).sound henv
  rw [he] at hs
  exact PyErr.not_width hs

/-- **no width error (statements)**: assignments (`@=` to a signal, a bit, a constant slice or a
    `lo : lo + N` part selection with plain integer bounds), temporaries, `if`, `for` over constant ranges.  The temporaries and loop variables of the state agree with the
    checker's environment before, and the temporaries agree with the final environment afterwards. -/
theorem stmt_no_width_error (Γ Γ' : Env) (s : Stmt) (a : AS) (ρ : Rho)
    (h : checkS Γ s = .ok (Γ', a)) (hc : issuesS Γ s = []) (ht : TmpOK Γ' ρ) (hl : LvOK Γ ρ) :
    (∀ er, execS s ρ = .error er → er ≠ .width ∧ er ≠ .range) ∧
    (∀ ρ', execS s ρ = .ok ρ' → TmpOK Γ' ρ' ∧ ρ'.lvs = ρ.lvs) := by
  have hs := (checkS_clean s Γ Γ' a h hc).safe Γ' ρ (ExtT.refl _) ht hl
  constructor
  · intro er he; rw [he] at hs
    exact PyErr.not_width hs
  · intro ρ' he; rw [he] at hs; exact hs

/-- **no width error (whole update block)**: a block that passes generation + type check and is clean
    never raises a bitwidth / truncation error, whatever the signal values are. -/
theorem block_no_width_error (s : Stmt) (r : Env × AS) (h : checkBlock s = .ok r)
    (hc : issuesS Env.empty s = []) (sigs : List (Nat × Nat)) (er : PyErr)
    (he : execS s ⟨sigs, [], []⟩ = .error er) : er ≠ .width ∧ er ≠ .range := by
  obtain ⟨Γ', a⟩ := r
  unfold checkBlock at h
  split at h
  · cases h
  · exact (stmt_no_width_error Env.empty Γ' s a ⟨sigs, [], []⟩ h hc
      (fun t w ex v _ hv => by simp at hv) (fun i w hi => by simp [Env.empty] at hi)).1 er he

/-- two explicitly sized operands of different widths: every max-width operator (`+ - * & | ^ %`), every
    comparison and the if-expression are rejected -/
theorem explicit_mismatch_rejected (Γ : Env) (l r : Expr) (tl tr : AT)
    (hl : checkE Γ l = .ok tl) (hr : checkE Γ r = .ok tr)
    (hle : tl.ann.ex = true) (hre : tr.ann.ex = true) (hw : tl.ann.w ≠ tr.ann.w) :
    (∀ op : Op, op.isShift = false → checkE Γ (.bin op l r) = .error .type) ∧
    (∀ op : CmpOp, checkE Γ (.cmp op l r) = .error .type) ∧
    (∀ (c : Expr) (tc : AT), checkE Γ c = .ok tc → checkE Γ (.ite c l r) = .error .type) := by
  have hu : unify tl tr = .error .type := by simp [unify, hle, hre, hw]
  refine ⟨?_, ?_, ?_⟩
  · intro op hs; simp [checkE, hl, hr, binRule, hs, hu]
  · intro op; simp [checkE, hl, hr, cmpRule, hu]
  · intro c tc hc; simp [checkE, hl, hr, hc, iteRule, hle, hre, hw]

/-- an explicitly sized right-hand side whose width differs from the target's is rejected -/
theorem assign_mismatch_rejected (Γ : Env) (tgt e : Expr) (tt te : AT)
    (ht : checkE Γ tgt = .ok tt) (he : checkE Γ e = .ok te)
    (hex : te.ann.ex = true) (hw : te.ann.w ≠ tt.ann.w) :
    ∃ er, checkS Γ (.asg tgt e) = .error er := by
  cases hT : isTarget tgt with
  | false => exact ⟨.type, by simp [checkS, hT]⟩
  | true => exact ⟨.type, by simp [checkS, hT, ht, he, asgRule, hex, hw]⟩

/-- an implicitly sized right-hand side (a literal / constant) of an accepted assignment fits the target
    (F4, as repaired) -/
theorem implicit_rhs_fits (Γ Γ' : Env) (tgt e : Expr) (a : AS) (tt te : AT)
    (h : checkS Γ (.asg tgt e) = .ok (Γ', a)) (ht : checkE Γ tgt = .ok tt) (he : checkE Γ e = .ok te)
    (hex : te.ann.ex = false) : te.ann.w ≤ tt.ann.w := by
  obtain ⟨_, _, tt', te', h1, h2, hr⟩ := checkS_asg_inv h
  rw [ht] at h1; rw [he] at h2; cases h1; cases h2
  exact (asgRule_ok hr).1

/-- at run time every binary operator (shifts included), every comparison and `@=` on two `Bits` of different widths
    raise the width-mismatch `ValueError` -/
theorem mismatch_raises (a b : B) (hn : b.n ≠ a.n) :
    (∀ op : Op, pyBin op (.bits a) (.bits b) = .error .width) ∧
    (∀ op : CmpOp, pyCmp op (.bits a) (.bits b) = .error .width) ∧
    liftB (imatmul a (Val.bits b).opnd) = .error .width := by
  refine ⟨?_, ?_, ?_⟩
  · intro op; simp [pyBin, Val.opnd, binop, hn, liftR, PyErr.ofBits]
  · intro op; simp [pyCmp, Val.opnd, cmpop, hn, liftR, PyErr.ofBits]
  · simp [Val.opnd, imatmul, hn, liftB, PyErr.ofBits]

/-- `WT Γ e w k` (`Proofs/TCWT.lean`) is the declarative typing judgement "operand widths equal for
    max-width operators, literals re-sized to the context": an accepted, clean expression is well typed
    at its static width.  The judgement is sound on its own (`WT.sound`, `Proofs/TCSound.lean`); `width_sound` and
    `no_width_error` are this theorem followed by that one. -/
theorem check_implies_WT (Γ : Env) (e : Expr) (t : AT) (h : checkE Γ e = .ok t) (hc : issuesE Γ e = []) :
    WT Γ e t.ann.w (kindOf t.ann (hardE Γ e)) :=
  checkE_WT Γ e t h hc

/-- … and for statements: in particular the right-hand side of every assignment is well typed at the
    width of its target (`WTS`).  `WTS` alone does not exclude width errors (it does not say that a temporary keeps its
    recorded type); the judgement behind `stmt_no_width_error` is `CleanS` (`Proofs/TCStmt.lean`). -/
theorem check_implies_WT_stmt (Γ Γ' : Env) (s : Stmt) (a : AS) (h : checkS Γ s = .ok (Γ', a))
    (hc : issuesS Γ s = []) : WTS Γ s :=
  (checkS_clean s Γ Γ' a h hc).wts

/-! ## the unrestricted statement is false: counter-examples (each replayed on the real code by the check) -/

def raised (r : Except PyErr Rho) : Option PyErr :=
  match r with
  | .error e => some e
  | .ok _ => none

def accepted (s : Stmt) : Bool :=
  match checkBlock s with
  | .ok _ => true
  | .error _ => false

/-- F12: `for i in range(4): s.out @= s.a + (i + 1)` with 2-bit `a`, `out` -/
theorem F12_counterexample :
    accepted (.for_ 0 0 4 1 (.asg (.sig 0 2) (.bin .add (.sig 1 2) (.bin .add (.lv 0) (.num 1))))) = true ∧
    raised (execS (.for_ 0 0 4 1 (.asg (.sig 0 2) (.bin .add (.sig 1 2) (.bin .add (.lv 0) (.num 1)))))
      ⟨[], [], []⟩) = some .range := by decide +kernel

/-- F12, negative folded constant: `s.out @= s.a + (1 - 2)` (8 bits) -/
theorem F12_negative_counterexample :
    accepted (.asg (.sig 0 8) (.bin .add (.sig 1 8) (.bin .sub (.num 1) (.num 2)))) = true ∧
    raised (execS (.asg (.sig 0 8) (.bin .add (.sig 1 8) (.bin .sub (.num 1) (.num 2)))) ⟨[], [], []⟩)
      = some .range := by decide +kernel

def n1Block : Stmt :=
  .seq (.ifs (.sig 1 1) (.tasg 0 (.num 5)) (.tasg 0 (.sig 0 3)))
       (.asg (.sig 2 3) (.bin .add (.tmp 0) (.tmp 0)))

/-- N1: a temporary assigned a literal in one branch and a signal in the other is recorded as explicit;
    `t + t` is then typed 3 bits explicit while it is `5 + 5` at run time -/
theorem N1_counterexample :
    accepted n1Block = true ∧ raised (execS n1Block ⟨[(1, 1)], [], []⟩) = some .range := by decide +kernel

/-- N4: `s.out @= (s.a if s.c else 200) + (s.b if s.c else 100)` (8 bits): both operands are typed
    explicit, both are Python ints when `c` is 0 -/
theorem N4_counterexample :
    accepted (.asg (.sig 0 8) (.bin .add (.ite (.sig 3 1) (.sig 1 8) (.num 200)) (.ite (.sig 3 1) (.sig 2 8) (.num 100)))) = true ∧
    raised (execS (.asg (.sig 0 8) (.bin .add (.ite (.sig 3 1) (.sig 1 8) (.num 200)) (.ite (.sig 3 1) (.sig 2 8) (.num 100))))
      ⟨[], [], []⟩) = some .range := by decide +kernel

/-! ## shapes the repaired checker rejects -/

/-- F4 (fix: 4d9c041): `s.out @= 300` with a 4-bit `out` is rejected -/
theorem F4_rejected : accepted (.asg (.sig 0 4) (.num 300)) = false := by decide +kernel

/-- N2 (fix: c1db525): `s.out @= s.a + (1 if s.c else 200)` (4 bits) is rejected: the if-expression is as wide
    as its wider branch -/
theorem N2_rejected :
    accepted (.asg (.sig 0 4) (.bin .add (.sig 1 4) (.ite (.sig 2 1) (.num 1) (.num 200)))) = false := by
  decide +kernel

/-- N3 (fix: 075f6b8): `s.out3 @= Bits8( 3 ) + 1` is rejected (the sum is an 8-bit term) and
    `s.out8 @= s.a8 + (Bits8( 3 ) + 1)` is accepted and clean -/
theorem N3_repaired :
    accepted (.asg (.sig 0 3) (.bin .add (.cast 8 (.num 3)) (.num 1))) = false ∧
    accepted (.asg (.sig 0 8) (.bin .add (.sig 1 8) (.bin .add (.cast 8 (.num 3)) (.num 1)))) = true ∧
    issuesS Env.empty (.asg (.sig 0 8) (.bin .add (.sig 1 8) (.bin .add (.cast 8 (.num 3)) (.num 1)))) = [] := by
  decide +kernel

/-- N5: `s.out @= (s.a < s.b) if s.c else s.d` with 1-bit `out` and 8-bit `d` is rejected: a comparison
    (`rdt.Bool`) counts as a 1-bit vector in `visit_IfExp` -/
theorem N5_rejected :
    accepted (.asg (.sig 0 1) (.ite (.sig 3 1) (.cmp .lt (.sig 1 8) (.sig 2 8)) (.sig 4 8))) = false := by
  decide +kernel

/-! ## non-vacuity -/

example : accepted (.asg (.sig 0 8) (.bin .add (.sig 1 8) (.num 255))) = true ∧
    issuesS Env.empty (.asg (.sig 0 8) (.bin .add (.sig 1 8) (.num 255))) = [] := by decide +kernel
example : accepted (.for_ 0 0 8 1 (.asg (.idx 2 8 (.lv 0)) (.bin .band (.idx 0 8 (.lv 0)) (.idx 1 8 (.lv 0))))) = true ∧
    issuesS Env.empty (.for_ 0 0 8 1 (.asg (.idx 2 8 (.lv 0)) (.bin .band (.idx 0 8 (.lv 0)) (.idx 1 8 (.lv 0))))) = [] := by
  decide +kernel
/-- `for i in range(2): s.out[i*4 : i*4+4] @= s.a[i*4 : i*4+4]` is accepted and clean -/
example :
    accepted (.for_ 0 0 2 1 (.asg (.slc 1 8 (.bin .mul (.lv 0) (.num 4)) (.bin .add (.bin .mul (.lv 0) (.num 4)) (.num 4)))
      (.slc 0 8 (.bin .mul (.lv 0) (.num 4)) (.bin .add (.bin .mul (.lv 0) (.num 4)) (.num 4))))) = true ∧
    issuesS Env.empty (.for_ 0 0 2 1 (.asg (.slc 1 8 (.bin .mul (.lv 0) (.num 4)) (.bin .add (.bin .mul (.lv 0) (.num 4)) (.num 4)))
      (.slc 0 8 (.bin .mul (.lv 0) (.num 4)) (.bin .add (.bin .mul (.lv 0) (.num 4)) (.num 4))))) = [] := by
  decide +kernel
example : accepted (.asg (.sig 0 8) (.bin .add (.sig 1 8) (.sig 2 1))) = false := by decide +kernel
example : issuesS Env.empty (.asg (.sig 0 8) (.bin .add (.sig 1 8) (.bin .sub (.num 1) (.num 2)))) = [.implArith] := by
  decide +kernel
example : nbitsOf 255 = 8 ∧ nbitsOf 256 = 9 ∧ nbitsOf 0 = 1 ∧ nbitsOf (2 ^ 64) = 65 := by decide +kernel

end PV.C10
