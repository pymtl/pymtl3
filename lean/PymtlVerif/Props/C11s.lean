import PymtlVerif.Proofs.Scc
import PymtlVerif.Proofs.SccCheck
import PymtlVerif.Proofs.Rtl
/-!
# C11s — the SCC partition and the SCC-level schedule of the cyclic-capable schedulers (used by C01 / C02 / C11)

`DynamicSchedulePass`, `Mamba2020Pass` and `OpenLoopCLPass` accept cyclic block graphs: they partition the blocks with
Kosaraju's algorithm (`kosaraju_scc`) and sort the condensation topologically. Model: `Model/Scc.lean` (the code as it
is: iterative DFS with `(u, second_visit)` stack entries, BFS over `G_T` in reverse post-order, `G_new`, `InD` counts and
a worklist). Everything below holds for **every** finite graph `G` over the vertex list `V`, **every** iteration order
of `V` (dict order / `random.shuffle`), every order of the adjacency lists, every iteration order of the sets
`G_new[i]` (`gn'`), and every worklist discipline `pick` (`Q.pop()`, `Q.pop(0)`, Mamba's priority order, …).
The results: (a) the groups partition `V`; (b) each group is strongly connected; (c) the groups are maximal, i.e. the
strongly connected components, and the condensation `G_new` is acyclic; (d) the creation order of the groups and
`scc_schedule` are topological orders of the condensation; (e) corollaries used by C01 / C02 / C11.

`OpenLoopCLPass` is covered up to the creation order only: it sorts a `G_new` rebuilt from an edge set with the
`rdy -> method` edges Kosaraju never saw (`Model/OpenLoop.lean`, `gnewE`), which need not have the members of
`(kosaraju G GT V).gn` that the theorems from `scc_schedule_topological` on assume of `gn'`; there the assert
`len(scc_schedule) == len(SCCs)` can fail (`PV.C02o.assert_iff_leftover`).

Hypothesis `WF G GT V` = what `schedule_intra_cycle` guarantees by construction: the keys of `G` are distinct, every
edge has both ends in `V` (`if u in V and v in V`), `G_T` is the transpose (`wf_adjOf`: the `G[u].append(v);
G_T[v].append(u)` construction satisfies it).

No result depends on a loop running out of fuel: `fuel_sufficient`.
-/
namespace PV.C11s
open PV.Scc PV.Rtl

variable {G GT : Graph} {V : List Nat}

/-! ## a concrete graph for the non-vacuity examples:
`0 → 1 → 2 → 0` (a 3-cycle), `2 → 3`, `3 ⇄ 4` (a 2-cycle), `5 → 5` (self loop), `4 → 6` (`6` is a sink); keys shuffled -/
def exE : List (Nat × Nat) := [(0, 1), (1, 2), (2, 0), (2, 3), (3, 4), (4, 3), (5, 5), (4, 6)]
def exV : List Nat := [3, 0, 5, 1, 6, 4, 2]
def exG : Graph := adjOf exE
def exGT : Graph := adjTOf exE
theorem exWF : WF exG exGT exV := wf_adjOf exV exE (by decide +kernel) (by decide +kernel)
/-- what the model computes on it (creation order: the 3-cycle, then the 2-cycle, then `6`; the self loop first) -/
theorem exKos : kosaraju exG exGT exV =
    ⟨[6, 4, 3, 2, 1, 0, 5], [[5], [0, 2, 1], [3, 4], [6]], [(6, 3), (4, 2), (3, 2), (1, 1), (2, 1), (0, 1), (5, 0)],
      [[], [2], [3]]⟩ := by
  simp only [kosaraju, Kos.mk.injEq]; decide +kernel
example : (kosaraju exG exGT exV).po = [6, 4, 3, 2, 1, 0, 5] ∧
    (kosaraju exG exGT exV).sccs = [[5], [0, 2, 1], [3, 4], [6]] ∧
    (List.range 4).map (kosaraju exG exGT exV).gn = [[], [2], [3], []] ∧
    sccSchedule pickLast (kosaraju exG exGT exV).gn 4 = [1, 2, 3, 0] ∧
    sccSchedule pickFirst (kosaraju exG exGT exV).gn 4 = [0, 1, 2, 3] := by rw [exKos]; decide +kernel

/-- **no result depends on the fuel**: each of the three bounded loops ends by its own exit condition within the fuel
the model grants (`fuel1 G V` iterations per DFS root, `len(V)` per BFS, `len(SCCs)` for the sort), and any larger fuel
gives the same result -/
theorem fuel_sufficient (wf : WF G GT V) :
    (∀ F, fuel1 G V ≤ F → V.foldl (dfsRoot G F) ([], []) = phase1 G V) ∧
    (∀ F, V.length ≤ F →
      (postOrder G V).reverse.foldl (phase2Step GT F) ⟨[], [], []⟩ = phase2 GT V (postOrder G V).reverse) ∧
    (∀ (pick : List Nat → List Nat → Nat) (gn' : Graph),
      (∀ i, (gn' i).Nodup ∧ ∀ j, j ∈ gn' i ↔ j ∈ (kosaraju G GT V).gn i) →
      (topo pick gn' (kosaraju G GT V).sccs.length).done = true ∧
      ∀ F, (kosaraju G GT V).sccs.length ≤ F →
        iter T3.done (step3 pick gn') F (topoInit gn' (kosaraju G GT V).sccs.length) =
          topo pick gn' (kosaraju G GT V).sccs.length) := by
  refine ⟨phase1_fuel wf, ?_, ?_⟩
  · intro F hF
    exact phase2_fuel wf F hF _ _ fun r hr => ((postOrder_facts wf).2 r).mp (List.mem_reverse.mp hr)
  · intro pick gn' hsame
    have hd := (topo_spec (cond_kosaraju wf gn' hsame) pick).2.1
    refine ⟨hd, ?_⟩
    intro F hF
    obtain ⟨d, rfl⟩ := Nat.exists_eq_add_of_le hF
    exact iter_more _ _ _ _ _ hd

example : fuel1 exG exV = 16 ∧ (topo pickLast (kosaraju exG exGT exV).gn 4).done = true := by rw [exKos]; decide +kernel

/-- the post-order of phase 1 lists every vertex exactly once, and `v_SCC[x]` is defined for every vertex -/
theorem postorder_perm (wf : WF G GT V) :
    (postOrder G V).Nodup ∧ (∀ x, x ∈ postOrder G V ↔ x ∈ V) ∧
    ∀ x ∈ V, ∃ i, (kosaraju G GT V).vmap.lookup x = some i ∧ i < (kosaraju G GT V).sccs.length := by
  obtain ⟨h1, h2⟩ := postOrder_facts wf
  refine ⟨h1, h2, ?_⟩
  intro x hx
  have f := kosaraju_facts wf
  obtain ⟨i, hi⟩ := f.lookup_some x hx
  refine ⟨i, hi, ?_⟩
  have := f.vscc_lt hx
  unfold vscc at this; rw [hi] at this; exact this

/-- **(a)** the groups returned are non-empty, pairwise disjoint (and duplicate-free), and cover exactly the vertex list -/
theorem groups_partition (wf : WF G GT V) :
    (∀ g ∈ (kosaraju G GT V).sccs, g ≠ []) ∧ (kosaraju G GT V).sccs.flatten.Nodup ∧
    ∀ x, x ∈ (kosaraju G GT V).sccs.flatten ↔ x ∈ V :=
  (kosaraju_facts wf).partition wf

/-- `v_SCC` is the index of the group: `x ∈ SCCs[i] ↔ v_SCC[x] = i` -/
theorem vscc_is_group (wf : WF G GT V) {x i : Nat} {g : List Nat} (hx : x ∈ V) (hg : (kosaraju G GT V).sccs[i]? = some g) :
    x ∈ g ↔ vscc (kosaraju G GT V).vmap x = i :=
  (kosaraju_facts wf).mem_iff_vscc hx hg

example : (kosaraju exG exGT exV).sccs.flatten = [5, 0, 2, 1, 3, 4, 6] ∧ vscc (kosaraju exG exGT exV).vmap 1 = 1 := by rw [exKos]; decide

/-- **(b)** any two vertices of one group reach each other in `G`, by paths that stay inside the group (hence inside `V`) -/
theorem groups_strongly_connected (wf : WF G GT V) {g : List Nat} (hg : g ∈ (kosaraju G GT V).sccs)
    {x y : Nat} (hx : x ∈ g) (hy : y ∈ g) : RA G (fun z => z ∈ g) x y :=
  (kosaraju_facts wf).strongly hg hx hy

example : RA exG (fun z => z ∈ [0, 2, 1]) 1 0 :=
  groups_strongly_connected exWF (g := [0, 2, 1]) (by rw [exKos]; decide) (by decide) (by decide)

/-- **(c)** two vertices are in the same group *iff* they reach each other: the groups are exactly the strongly
connected components -/
theorem same_group_iff_mutual (wf : WF G GT V) {x y : Nat} (hx : x ∈ V) (hy : y ∈ V) :
    vscc (kosaraju G GT V).vmap x = vscc (kosaraju G GT V).vmap y ↔ (Reach G x y ∧ Reach G y x) :=
  (kosaraju_facts wf).vscc_eq_iff hx hy

/-- `G_new` is the condensation: `j ∈ G_new[i]` iff `i ≠ j` and some edge of `G` leads from group `i` to group `j`;
each `G_new[i]` is duplicate-free -/
theorem gnew_is_condensation (G GT : Graph) (V : List Nat) :
    (∀ i, ((kosaraju G GT V).gn i).Nodup) ∧
    ∀ i j, j ∈ (kosaraju G GT V).gn i ↔
      i ≠ j ∧ ∃ u ∈ V, ∃ v ∈ G u, vscc (kosaraju G GT V).vmap u = i ∧ vscc (kosaraju G GT V).vmap v = j :=
  gnew_spec G V _

/-- **(c)** the condensation `G_new` has no cycle: every path goes to a higher (or the same) index, and no edge can be
closed to a cycle -/
theorem condensation_acyclic (wf : WF G GT V) {i j : Nat} (h : j ∈ (kosaraju G GT V).gn i) :
    i < j ∧ j < (kosaraju G GT V).sccs.length ∧ ¬ Reach (kosaraju G GT V).gn j i := by
  obtain ⟨h1, h2⟩ := gnew_increasing wf h
  refine ⟨h1, h2, ?_⟩
  exact fun hr => Nat.not_le_of_lt h1 (reach_le (fun _ _ _ hj => gnew_increasing wf hj) hr h2)

example : 2 ∈ (kosaraju exG exGT exV).gn 1 ∧ vscc (kosaraju exG exGT exV).vmap 0 = vscc (kosaraju exG exGT exV).vmap 2 ∧
    vscc (kosaraju exG exGT exV).vmap 2 ≠ vscc (kosaraju exG exGT exV).vmap 3 := by rw [exKos]; decide

/-- **(d), creation order** (reverse post-order of `G`, BFS on `G_T`): for every edge `u → v` of `G` between two
different groups, the group of `u` was created BEFORE the group of `v` — the creation order is already a topological
order of the condensation, sources first -/
theorem creation_order (wf : WF G GT V) {u v : Nat} (he : v ∈ G u)
    (hne : vscc (kosaraju G GT V).vmap u ≠ vscc (kosaraju G GT V).vmap v) :
    vscc (kosaraju G GT V).vmap u < vscc (kosaraju G GT V).vmap v :=
  (kosaraju_facts wf).edge_order wf he hne

/-- **(d), `scc_schedule`**, for every worklist discipline `pick` and every iteration order `gn'` of the sets `G_new[i]`:
it contains every group index exactly once — so `assert len(scc_schedule) == len(SCCs)` can never fail — and every
condensation edge goes forward in it; `scc_pred[v] = u` only for a condensation edge `u → v`, with `u` scheduled earlier -/
theorem scc_schedule_topological (wf : WF G GT V) (pick : List Nat → List Nat → Nat) (gn' : Graph)
    (hsame : ∀ i, (gn' i).Nodup ∧ ∀ j, j ∈ gn' i ↔ j ∈ (kosaraju G GT V).gn i) :
    let n := (kosaraju G GT V).sccs.length
    let sched := sccSchedule pick gn' n
    sched.Nodup ∧ (∀ i, i ∈ sched ↔ i < n) ∧ sched.length = n ∧
    (∀ i j, j ∈ (kosaraju G GT V).gn i → ∃ pre post, sched = pre ++ i :: post ∧ j ∈ post) ∧
    (∀ v u, (topo pick gn' n).pred.lookup v = some (some u) →
      v ∈ (kosaraju G GT V).gn u ∧ ∃ pre post, sched = pre ++ u :: post ∧ v ∈ post) := by
  intro n sched
  obtain ⟨inv, _, hall⟩ := topo_spec (cond_kosaraju wf gn' hsame) pick
  have horder : ∀ i j, j ∈ (kosaraju G GT V).gn i → ∃ pre post, sched = pre ++ i :: post ∧ j ∈ post := fun i j hj =>
    have ⟨hij, hjn⟩ := gnew_increasing wf hj
    inv.edge_forward (Nat.lt_trans hij hjn) (((hsame i).2 j).mpr hj) (hall j hjn)
  refine ⟨inv.out_nodup, fun i => ⟨inv.lt i, hall i⟩, inv.length_eq_iff.mpr hall, horder, fun v u hl => ?_⟩
  have hv := ((hsame u).2 v).mp (inv.pred v u hl).2.1
  exact ⟨hv, horder u v hv⟩

/-- **(d), reuse of `PV.Kahn`**: `scc_schedule` is a run of Kahn's algorithm (`Model/Kahn.lean`, the model of
SimpleSchedulePass / HeuristicTopoPass) over the group indices and the condensation edges, for some tie-break oracle; hence
`PV.Kahn.kahn_sound` (no duplicates, every edge forward) holds of it literally -/
theorem scc_schedule_is_kahn_run (wf : WF G GT V) (pick : List Nat → List Nat → Nat) (gn' : Graph)
    (hsame : ∀ i, (gn' i).Nodup ∧ ∀ j, j ∈ gn' i ↔ j ∈ (kosaraju G GT V).gn i) :
    let n := (kosaraju G GT V).sccs.length
    ∃ pick', sccSchedule pick gn' n = PV.Kahn.kahn pick' (List.range n) (condEdgeList gn' n) n [] ∧
      (PV.Kahn.kahn pick' (List.range n) (condEdgeList gn' n) n []).Nodup ∧
      ∀ e ∈ condEdgeList gn' n, e.2 ∈ PV.Kahn.kahn pick' (List.range n) (condEdgeList gn' n) n [] →
        ∃ pre post, PV.Kahn.kahn pick' (List.range n) (condEdgeList gn' n) n [] = pre ++ e.1 :: post ∧ e.2 ∈ post := by
  intro n
  obtain ⟨pick', h⟩ := schedule_is_kahn_run (cond_kosaraju wf gn' hsame).wf pick
  exact ⟨pick', h, PV.Kahn.kahn_sound pick' (List.range n) (condEdgeList gn' n) n⟩

example : sccSchedule pickLast (kosaraju exG exGT exV).gn 4 =
    PV.Kahn.kahn (followPick [1, 2, 3, 0]) (List.range 4) (condEdgeList (kosaraju exG exGT exV).gn 4) 4 [] := by rw [exKos]; decide +kernel

example : sccSchedule pickLast (kosaraju exG exGT exV).gn 4 = [1, 2, 3, 0] ∧
    (topo pickLast (kosaraju exG exGT exV).gn 4).pred.lookup 3 = some (some 2) := by rw [exKos]; decide +kernel

/-- **(e)** a group of size 1 without a self edge is not on any cycle (it is run once, as a plain block) -/
theorem singleton_not_on_cycle (wf : WF G GT V) {u : Nat} (hg : [u] ∈ (kosaraju G GT V).sccs) (hself : u ∉ G u) :
    ¬ ∃ v ∈ G u, Reach G v u := by
  rintro ⟨v, hv, hr⟩
  obtain ⟨r, _, h⟩ := (kosaraju_facts wf).comp _ hg
  have : v ∈ [u] := (h v).mpr (Mutual.trans ⟨hr, Reach.edge hv⟩ ((h u).mp (List.mem_singleton_self u)))
  rw [List.mem_singleton.mp this] at hv
  exact hself hv

example : [6] ∈ (kosaraju exG exGT exV).sccs ∧ 6 ∉ exG 6 ∧ [5] ∈ (kosaraju exG exGT exV).sccs ∧ 5 ∈ exG 5 := by rw [exKos]; decide

/-- **(e)** expanding `scc_schedule` — each group in any internal order `perm` — gives a block order in which every edge
between two different groups goes forward -/
theorem expanded_schedule_order (wf : WF G GT V) (pick : List Nat → List Nat → Nat) (gn' : Graph)
    (hsame : ∀ i, (gn' i).Nodup ∧ ∀ j, j ∈ gn' i ↔ j ∈ (kosaraju G GT V).gn i)
    (perm : List Nat → List Nat) (hperm : ∀ g x, x ∈ perm g ↔ x ∈ g) {u v : Nat} (he : v ∈ G u)
    (hne : vscc (kosaraju G GT V).vmap u ≠ vscc (kosaraju G GT V).vmap v) :
    ∃ pre post,
      (sccSchedule pick gn' (kosaraju G GT V).sccs.length).flatMap (fun i => perm ((kosaraju G GT V).sccs.getD i [])) =
        pre ++ u :: post ∧ v ∈ post := by
  have f := kosaraju_facts wf
  have huV := wf.src u v he
  have hvV := wf.dst u v he
  have hedge : vscc (kosaraju G GT V).vmap v ∈ (kosaraju G GT V).gn (vscc (kosaraju G GT V).vmap u) :=
    ((gnew_spec G V _).2 _ _).mpr ⟨hne, u, huV, v, he, rfl, rfl⟩
  exact expand_order ((hperm _ u).mpr (f.mem_getD_vscc huV)) ((hperm _ v).mpr (f.mem_getD_vscc hvV))
    ((scc_schedule_topological wf pick gn' hsame).2.2.2.1 _ _ hedge)

example : expand (kosaraju exG exGT exV).sccs (sccSchedule pickLast (kosaraju exG exGT exV).gn 4) = [0, 2, 1, 3, 4, 6, 5] := by
  rw [exKos]; decide +kernel

/-- the schedule entry of a group: a plain block for a singleton, an SCC super-block (with some watch list) otherwise -/
def entryOf (blk : Nat → Blk) (w : List Rng) (g : List Nat) : Entry :=
  match g with
  | [b] => .blk (blk b)
  | _ => .scc (g.map blk) w

theorem entryOf_blocks (blk : Nat → Blk) (w : List Rng) (g : List Nat) : (entryOf blk w g).blocks = g.map blk := by
  unfold entryOf
  split <;> simp [Entry.blocks]

/-- **(e)** the "entries topological" hypothesis that `PV.C11.whole_schedule` checks on every real schedule holds for
the schedule the model builds: if the block graph `G` has an edge `a → b` whenever block `a` writes a bit block `b`
reads (`GenDAGPass`: writer before reader), then the entries obtained by expanding `scc_schedule` satisfy `entriesTopoB` -/
theorem entries_topological (wf : WF G GT V) (blk : Nat → Blk) (watch : Nat → List Rng)
    (hdep : ∀ a ∈ V, ∀ b ∈ V, a ≠ b → rngsOverlap (blk a).writes (blk b).reads = true → b ∈ G a)
    (pick : List Nat → List Nat → Nat) (gn' : Graph)
    (hsame : ∀ i, (gn' i).Nodup ∧ ∀ j, j ∈ gn' i ↔ j ∈ (kosaraju G GT V).gn i)
    (perm : List Nat → List Nat) (hperm : ∀ g x, x ∈ perm g ↔ x ∈ g) :
    entriesTopoB ((sccSchedule pick gn' (kosaraju G GT V).sccs.length).map
      (fun i => entryOf blk (watch i) (perm ((kosaraju G GT V).sccs.getD i [])))) = true := by
  have f := kosaraju_facts wf
  have hpw := (topo_spec (cond_kosaraju wf gn' hsame) pick).1.pairwise
  unfold entriesTopoB
  rw [pairwiseB_iff, List.pairwise_map]
  refine hpw.imp ?_
  intro i j ⟨hij, hnot⟩
  rw [Bool.not_eq_true', Bool.eq_false_iff]
  intro hov
  -- an overlap is a write of some `b` in group `j` read by some `a` in group `i`: an edge `j → i` of `G_new`
  unfold Entry.reads Entry.writes at hov
  rw [entryOf_blocks, entryOf_blocks, List.flatMap_map, List.flatMap_map] at hov
  obtain ⟨a, ha, b, hb, hab⟩ := rngsOverlap_flatMap hov
  obtain ⟨haV, hai⟩ := f.of_mem_getD wf ((hperm _ a).mp ha)
  obtain ⟨hbV, hbj⟩ := f.of_mem_getD wf ((hperm _ b).mp hb)
  have hne : b ≠ a := fun h => hij (hai.symm.trans (h ▸ hbj))
  rw [rngsOverlap_comm] at hab
  exact hnot (((hsame j).2 i).mpr
    (((gnew_spec G V _).2 j i).mpr ⟨fun h => hij h.symm, b, hbV, a, hdep b hbV a haV hne hab, hbj, hai⟩))

/-- non-vacuity: three blocks `x = y | in`, `y = x`, `out = y` (a true loop feeding an output): entries `[scc {0,1}, blk 2]` -/
def exBlk : Nat → Blk
  | 0 => ⟨0, [⟨⟨1, 0, 4⟩, .bin .or 4 (.rd ⟨2, 0, 4⟩) (.rd ⟨0, 0, 4⟩)⟩]⟩
  | 1 => ⟨1, [⟨⟨2, 0, 4⟩, .rd ⟨1, 0, 4⟩⟩]⟩
  | _ => ⟨2, [⟨⟨3, 0, 4⟩, .rd ⟨2, 0, 4⟩⟩]⟩
def exE2 : List (Nat × Nat) := [(0, 1), (1, 0), (1, 2)]
example : (kosaraju (adjOf exE2) (adjTOf exE2) [2, 1, 0]).sccs = [[1, 0], [2]] ∧
    entriesTopoB ((sccSchedule pickLast (kosaraju (adjOf exE2) (adjTOf exE2) [2, 1, 0]).gn 2).map
      (fun i => entryOf exBlk [] ((kosaraju (adjOf exE2) (adjTOf exE2) [2, 1, 0]).sccs.getD i []))) = true ∧
    (∀ a ∈ [2, 1, 0], ∀ b ∈ [2, 1, 0], a ≠ b → rngsOverlap (exBlk a).writes (exBlk b).reads = true → b ∈ adjOf exE2 a) := by
  decide +kernel

/-- **soundness of `scc check`** (evaluated by the correspondence check on the partition and group order read back from
the real schedules of DynamicSchedulePass, Mamba2020Pass and OpenLoopCLPass): if the checkers accept, two vertices are in
the same group iff they reach each other, `order` lists every group once, and every edge between groups goes forward -/
theorem check_sound (V : List Nat) (E : List (Nat × Nat)) (groups : List (List Nat)) (order : List Nat)
    (hp : partitionB V groups = true) (hs : groups.all (stronglyB (adjOf E) (adjTOf E)) = true)
    (ho : orderPermB groups order = true) (ht : orderTopoB E groups order = true) :
    (∀ x ∈ V, ∀ y ∈ V, groupOf groups x = groupOf groups y ↔ (Reach (adjOf E) x y ∧ Reach (adjOf E) y x)) ∧
    (∀ i, i < groups.length → i ∈ order) ∧ order.Nodup ∧
    (∀ e ∈ E, groupOf groups e.1 ≠ groupOf groups e.2 →
      order.idxOf (groupOf groups e.1) < order.idxOf (groupOf groups e.2)) := by
  simp only [partitionB, Bool.and_eq_true, List.all_eq_true, decide_eq_true_eq] at hp
  obtain ⟨⟨⟨_, _⟩, hcover⟩, _⟩ := hp
  simp only [orderPermB, Bool.and_eq_true, List.all_eq_true, decide_eq_true_eq, List.mem_range] at ho
  obtain ⟨⟨⟨hnd, _⟩, _⟩, hall⟩ := ho
  simp only [orderTopoB, List.all_eq_true, Bool.or_eq_true, beq_iff_eq, decide_eq_true_eq] at ht
  have hedge : ∀ e ∈ E, groupOf groups e.1 ≠ groupOf groups e.2 →
      order.idxOf (groupOf groups e.1) < order.idxOf (groupOf groups e.2) :=
    fun e he hne => (ht e he).resolve_left hne
  refine ⟨?_, hall, hnd, hedge⟩
  -- positions never decrease along a path
  have hmono : ∀ x y, Reach (adjOf E) x y → order.idxOf (groupOf groups x) ≤ order.idxOf (groupOf groups y) := fun x y h =>
    RA.closed (S := fun z => order.idxOf (groupOf groups x) ≤ order.idxOf (groupOf groups z)) (fun a ha b he _ => by
      by_cases heq : groupOf groups a = groupOf groups b
      · exact heq ▸ ha
      · exact Nat.le_trans ha (Nat.le_of_lt (hedge (a, b) (mem_adjOf.mp he) heq))) h (Nat.le_refl _)
  intro x hx y hy
  obtain ⟨gx, hgx, hxg⟩ := groupOf_spec (hcover x hx)
  obtain ⟨gy, hgy, hyg⟩ := groupOf_spec (hcover y hy)
  constructor
  · intro heq
    rw [heq, hgy] at hgx
    cases hgx
    have hsg := stronglyB_sound E _ (List.all_eq_true.mp hs _ (List.mem_of_getElem? hgy))
    exact ⟨hsg x hxg y hyg, hsg y hyg x hxg⟩
  · intro hm
    exact idxOf_inj (hall _ (List.getElem?_eq_some_iff.mp hgx).1) (hall _ (List.getElem?_eq_some_iff.mp hgy).1)
      (Nat.le_antisymm (hmono x y hm.1) (hmono y x hm.2))

/-- the checkers accept what the model computes on the example, and reject a partition that splits the 3-cycle, one that
merges two components, and a backward order -/
example : partitionB exV [[5], [0, 2, 1], [3, 4], [6]] = true ∧
    [[5], [0, 2, 1], [3, 4], [6]].all (stronglyB exG exGT) = true ∧ acyclicB exE [[5], [0, 2, 1], [3, 4], [6]] = true ∧
    orderPermB [[5], [0, 2, 1], [3, 4], [6]] [1, 2, 3, 0] = true ∧ orderTopoB exE [[5], [0, 2, 1], [3, 4], [6]] [1, 2, 3, 0] = true ∧
    orderTopoB exE [[5], [0, 2], [1], [3, 4], [6]] [0, 1, 2, 3, 4] = false ∧ acyclicB exE [[5], [0, 2], [1], [3, 4], [6]] = false ∧
    [[5], [0, 2, 1, 3, 4], [6]].all (stronglyB exG exGT) = false ∧
    orderTopoB exE [[5], [0, 2, 1], [3, 4], [6]] [2, 1, 3, 0] = false := by decide +kernel

end PV.C11s
