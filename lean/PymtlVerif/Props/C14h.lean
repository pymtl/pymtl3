import PymtlVerif.Proofs.HierHook
/-!
# C14 (hook) — names given by `__setattr_for_elaborate__` under attribute assignments and `+=`

`Props/C14.lean` speaks about the hierarchy of a finished construction description.  The theorems here
are about the mechanism that produces it — `Model/HierHook.lean`: the hook `assign` as an operation on
the naming state, `iadd` (`s.x += […]`: in-place extension + assignment of the same list; since
fix 0c15daa the hook names the new elements), and list methods that change a list behind the hook's back (`HSt.mutate`).

`HSteps root (HSt.init root) st`: `st` is reached from the state `elaborate()` starts with by any
number of statements `s.a = v` (new attribute name; `v` an object, a nested list, an existing list of the
design, anything else) and `s.a += extra`, with owners anywhere in the design, in any order.
`HReach st root (.obj o)`: `o` is part of the design (`_collect_all_single`).
`hresolve st root n`: `eval( n, {'s': top} )`.
-/
namespace PV.C14h
open PV.Hier

/-- **The hook's breadth-first walk visits exactly the `NamedObject`s of the (nested) list, each with
its index path** — for every nesting shape, `None` holes and other non-hardware elements included. -/
theorem walk_indices (v : HVal) (u : Nat) (ix : List Nat) :
    (u, ix) ∈ visited v ↔ hgetPath v ix = some (.obj u) :=
  mem_visited

/-- **After any sequence of attribute assignments and `+=` through the hook, every object of the
design has a hierarchical name and the name evaluates back to that very object**
(`eval( repr(o) ) is o`), for lists of any nesting, any number of `+=` on any attribute of any object,
lists bound under a second attribute name and extended through either name. -/
theorem hook_names_resolve {root : Nat} {st : HSt} (h : HSteps root (HSt.init root) st)
    {o : Nat} (ho : HReach st root (.obj o)) :
    ∃ d, st.dsl o = some d ∧ hresolve st root d.full = some (.obj o) :=
  h.inv (hinv_init root) o ho

/-- **Names stay injective**: two objects of the design with the same full name are the same object. -/
theorem hook_names_injective {root : Nat} {st : HSt} (h : HSteps root (HSt.init root) st)
    {o₁ o₂ : Nat} {d₁ d₂ : Dsl} (h₁ : HReach st root (.obj o₁)) (h₂ : HReach st root (.obj o₂))
    (e₁ : st.dsl o₁ = some d₁) (e₂ : st.dsl o₂ = some d₂) (hn : d₁.full = d₂.full) : o₁ = o₂ := by
  obtain ⟨d, hd, hr⟩ := hook_names_resolve h h₁
  obtain ⟨d', hd', hr'⟩ := hook_names_resolve h h₂
  rw [e₁] at hd; rw [e₂] at hd'; cases hd; cases hd'
  rw [hn, hr'] at hr
  cases hr; rfl

/-- the statement re-binds only leaves: an object whose record changes had no named children
(the boundary of known finding C14-rebind-object-with-descendants) -/
def RebindLeaf (st st' : HSt) : Prop :=
  ∀ u d, st.dsl u = some d → st'.dsl u ≠ some d → ∀ o d', st.dsl o = some d' → d'.parent ≠ some u

/-- histories (`HSteps`) every statement of which re-binds only leaves -/
inductive HStepsL (root : Nat) : HSt → HSt → Prop where
  | refl (st : HSt) : HStepsL root st st
  | tail {st st' st'' : HSt} : HStepsL root st st' → HStep root st' st'' → RebindLeaf st' st'' → HStepsL root st st''

theorem HStepsL.steps {root : Nat} {st st' : HSt} (h : HStepsL root st st') : HSteps root st st' := by
  induction h with
  | refl => exact .refl _
  | tail _ hs _ ih => exact .tail ih hs

/-- **Parent / level / field name / indices are consistent with the name**: the top is `s` at level 0
without a parent; every other object of the design has a parent that is in the design, whose full name
followed by `.name[i]…[j]` (`_my_name`, `_my_indices`) is the object's full name and whose level is one
less — as long as objects that are bound again have no named children. -/
theorem hook_metadata {root : Nat} {st : HSt} (h : HStepsL root (HSt.init root) st)
    {o : Nat} {d : Dsl} (ho : HReach st root (.obj o)) (hd : st.dsl o = some d) :
    (o = root ∧ d = ⟨[.root], none, 0, "s", []⟩) ∨
    (∃ p pd, d.parent = some p ∧ st.dsl p = some pd ∧ HReach st root (.obj p) ∧
      d.full = pd.full ++ d.my ∧ d.level = pd.level + 1) := by
  induction h generalizing o d with
  | refl =>
    have := reach_init ho
    cases this
    left
    refine ⟨rfl, ?_⟩
    simp [HSt.init] at hd
    exact hd.symm
  | @tail st' st'' hsteps hstep hleaf ih =>
    have hs := step_summary (hsteps.steps.inv (hinv_init root)) hstep
    obtain ⟨s, sd, a, hsd, hsd', hsr, hrec⟩ := hs.records
    rcases hrec o with heq | ⟨ix, hdo, _⟩
    · rcases hs.news o ho with hold | ⟨hnone, hsome⟩
      · have hd' : st'.dsl o = some d := by rw [← heq]; exact hd
        rcases ih hold hd' with hroot | ⟨p, pd, hp, hpd, hpr, hfull, hlev⟩
        · exact Or.inl hroot
        · right
          refine ⟨p, pd, hp, ?_, hs.keeps p hpr, hfull, hlev⟩
          -- had the statement rewritten the parent's record, `RebindLeaf` would deny it the named child `o`
          by_cases hne : st''.dsl p = some pd
          · exact hne
          · exact absurd hp (hleaf p pd hpd hne o d hd')
      · rw [heq, hnone] at hsome; cases hsome
    · right
      rw [hd] at hdo
      cases hdo
      exact ⟨s, sd, rfl, hsd', hsr, rfl, rfl⟩

/-- **What `s.a += extra` (since fix 0c15daa) does to an existing hardware list field**: every object that had
a name keeps its record, and every object of the extended list that had none is named after one of its
positions in the extended list (`s.a[n]`, `s.a[n][j]`, …). -/
theorem iadd_names_unnamed_elements {st st' : HSt} {s : Nat} {a : String} {sd : Dsl} {extra : List HVal}
    (hp : isPublic a = true) (hsd : st.dsl s = some sd) (hf : (st.fields s).contains a = true)
    (h : iadd st s a extra = .ok st') :
    ∃ v, (st'.attrs s).lookup a = some v ∧
      (∀ o d, st.dsl o = some d → st'.dsl o = some d) ∧
      (∀ u ix, hgetPath v ix = some (.obj u) → st.dsl u = none → u ≠ s →
        (∀ w jx, hgetPath v jx = some (.obj w) → w ≠ s) →
        ∃ jx, hgetPath v jx = some (.obj u) ∧ st'.dsl u = some (mkDsl sd s a jx)) := by
  obtain ⟨id, xs, _, -, rfl, -, -, hok⟩ := iadd_ok h
  rcases assign_spec hp (st := st.mutate id (· ++ extra)) hsd hok with
    ⟨-, u, hu⟩ | ⟨ext, st0, occ, -, (hd : st0.dsl = st.dsl), rfl, hocc, (hext : _ ∨ ext = (st.fields s).contains a)⟩
  · cases hu
  refine ⟨_, lookup_setAttr_self .., fun o d ho => ?_, fun u ix hix hnone _ hall => ?_⟩
  · show (nameWalk s a ext st0 occ).dsl o = some d
    have ho' : st0.dsl o = some d := (congrFun hd o).trans ho
    rcases hext with rfl | rfl
    · exact ho'
    · -- the field exists, so only elements without a name are named
      rw [hf]; exact nameWalk_keeps s a occ st0 ho'
  · obtain ⟨-, h2, h3⟩ := nameWalk_spec s a ext occ st0 (hd ▸ hsd)
      fun p hp => hall p.1 p.2 ((hocc p.1 p.2).1 hp)
    rcases h2 u with h | ⟨jx, hm, h⟩
    · have := h3 u (.inr ⟨ix, (hocc u ix).2 hix⟩)
      rw [h, hd, hnone] at this; cases this
    · exact ⟨jx, (hocc u jx).1 hm, h⟩

/-! ## the model of known finding C14-list-mutated-in-place -/

/-- **A list mutated behind the hook's back leaves an object in the design without a name.**
Whatever the state, if the list object `id` is part of the design and one of its methods that removes
nothing (`append`, `extend`, `insert`, `__iadd__` on an inner list) puts a new object `u` into it, then
`u` is part of the design (`_collect_all_single` finds it) and has no hierarchical name: the property
"every object of the design has a name that evaluates back to it" fails. -/
theorem mutated_behind_hook_unnamed {st : HSt} {root id : Nat} {xs : List HVal} {u : Nat}
    (f : List HVal → List HVal) (hkeep : ∀ l x, x ∈ l → x ∈ f l) (hput : ∀ l, .obj u ∈ f l)
    (hl : HReach st root (.lst id xs)) (hfresh : st.dsl u = none) :
    HReach (st.mutate id f) root (.obj u) ∧ (st.mutate id f).dsl u = none ∧ ¬ HInv (st.mutate id f) root := by
  have h1 := reach_mutate_fwd id f hkeep hl
  rw [mut_lst] at h1
  simp only [if_true] at h1
  have hr : HReach (st.mutate id f) root (.obj u) := .elem h1 (hput _)
  refine ⟨hr, hfresh, fun hinv => ?_⟩
  obtain ⟨d, hd, _⟩ := hinv u hr
  rw [mutate_dsl, hfresh] at hd; cases hd

/-- `s.l.append( u )` -/
theorem append_behind_hook_unnamed {st : HSt} {root id : Nat} {xs : List HVal} {u : Nat}
    (hl : HReach st root (.lst id xs)) (hfresh : st.dsl u = none) :
    HReach (st.mutate id (· ++ [.obj u])) root (.obj u) ∧ ¬ HInv (st.mutate id (· ++ [.obj u])) root := by
  have := mutated_behind_hook_unnamed (· ++ [.obj u]) (fun l x hx => List.mem_append_left _ hx)
    (fun l => by simp) hl hfresh
  exact ⟨this.1, this.2.2⟩

/-- `s.l.insert( k, u )` -/
theorem insert_behind_hook_unnamed {st : HSt} {root id : Nat} {xs : List HVal} {u : Nat} (k : Nat)
    (hl : HReach st root (.lst id xs)) (hfresh : st.dsl u = none) :
    HReach (st.mutate id (pyInsert k (.obj u))) root (.obj u) ∧ ¬ HInv (st.mutate id (pyInsert k (.obj u))) root := by
  have := mutated_behind_hook_unnamed (pyInsert k (.obj u))
    (fun l x hx => by
      simp only [pyInsert, List.mem_append, List.mem_cons]
      rcases List.mem_append.1 (by rw [List.take_append_drop k l]; exact hx : x ∈ l.take k ++ l.drop k) with h | h
      · exact Or.inl h
      · exact Or.inr (Or.inr h))
    (fun l => by simp [pyInsert]) hl hfresh
  exact ⟨this.1, this.2.2⟩

/-! ## concrete histories (non-vacuity, and the shapes of the known finding) -/

/-- a property of the objects of a value is checked on the hook's own walk -/
theorem objs_of_visited {v : HVal} {P : Nat → Prop} (h : ∀ p ∈ visited v, P p.1)
    (u : Nat) (ix : List Nat) (hp : hgetPath v ix = some (.obj u)) : P u :=
  h _ (mem_visited.2 hp)

/-- a value all of whose objects are new (no record, no attributes) and not the owner may be stored on it -/
theorem placeable_fresh {v : HVal} {st : HSt} {root s : Nat}
    (h : ∀ p ∈ visited v, p.1 ≠ s ∧ st.dsl p.1 = none ∧ (st.attrs p.1).isEmpty = true) (u : Nat) (ix : List Nat)
    (hp : hgetPath v ix = some (.obj u)) : Placeable st root s u :=
  (h _ (mem_visited.2 hp)).imp_right fun h => .inr (h.imp_right List.isEmpty_iff.1)

/-- a statement that changes no record of a named object re-binds nothing -/
theorem rebindLeaf_of_keeps {st st' : HSt} (h : ∀ o d, st.dsl o = some d → st'.dsl o = some d) : RebindLeaf st st' :=
  fun u d hu hne => absurd (h u d hu) hne

/-- run a history; `none` if a statement raises -/
def after (ops : List (HSt → Except HErr HSt)) : Option HSt :=
  ops.foldl (fun acc op => acc.bind fun st => match op st with | .ok st' => some st' | .error _ => none)
    (some (HSt.init 0))

def nameOf (r : Option HSt) (o : Nat) : Option Name := r.bind fun st => (st.dsl o).map (·.full)
def evalTo (r : Option HSt) (n : Name) : Option Nat :=
  r.bind fun st => match hresolve st 0 n with | some (.obj o) => some o | _ => none

/-- `s.l = [ o1, o2 ]` -/
def bindL (st : HSt) : Except HErr HSt := assign st 0 "l" (.lst 100 [.obj 1, .obj 2])
/-- `s.k = s.l` -/
def aliasK (st : HSt) : Except HErr HSt :=
  match (st.attrs 0).lookup "l" with | some v => assign st 0 "k" v | none => .error .attributeError

/-- `s.l = [o1, o2]; s.l += [o3]; s.l += [[o4], o5]` names `s.l[2]`, `s.l[3][0]`, `s.l[4]` -/
example : let r := after [bindL, (iadd · 0 "l" [.obj 3]), (iadd · 0 "l" [.lst 101 [.obj 4], .obj 5])]
    nameOf r 3 = some [.root, .attr "l", .idx 2] ∧ nameOf r 4 = some [.root, .attr "l", .idx 3, .idx 0] ∧
    nameOf r 5 = some [.root, .attr "l", .idx 4] ∧ nameOf r 1 = some [.root, .attr "l", .idx 0] ∧
    evalTo r [.root, .attr "l", .idx 3, .idx 0] = some 4 := by decide +kernel

/-- the list bound under a second name, then extended through the first: the old elements are named by
their last binding `s.k[i]`, the new element `s.l[2]`; both names evaluate to their objects (one list) -/
example : let r := after [bindL, aliasK, (iadd · 0 "l" [.obj 3])]
    nameOf r 1 = some [.root, .attr "k", .idx 0] ∧ nameOf r 3 = some [.root, .attr "l", .idx 2] ∧
    evalTo r [.root, .attr "k", .idx 2] = some 3 ∧ evalTo r [.root, .attr "l", .idx 2] = some 3 := by decide +kernel

/-- the state after `s.l = [o1, o2]` -/
def exSt1 : HSt :=
  setAttr (nameWalk 0 "l" false (addField (HSt.init 0) 0 "l") (visited (.lst 100 ([1, 2].map .obj)))) 0 "l"
    (.lst 100 ([1, 2].map .obj))

theorem exStep1 : HStep 0 (HSt.init 0) exSt1 :=
  .bind (s := 0) (a := "l") (v := .lst 100 ([1, 2].map .obj)) .root (by decide) rfl
    (placeable_fresh (by decide)) rfl

theorem exReach1 : HReach exSt1 0 (.lst 100 [.obj 1, .obj 2]) := .attr (a := "l") .root (by decide) rfl

/-- `s.l = [o1, o2]; s.l += [o3]` is a history in the sense of the theorems, `o3` is in the design and
is named `s.l[2]`: the hypotheses are satisfiable -/
example : ∃ st, HStepsL 0 (HSt.init 0) st ∧ HReach st 0 (.obj 3) ∧
    (st.dsl 3).map (·.full) = some [.root, .attr "l", .idx 2] ∧
    (st.dsl 1).map (·.full) = some [.root, .attr "l", .idx 0] := by
  have l1 : RebindLeaf (HSt.init 0) exSt1 := rebindLeaf_of_keeps fun o d ho => by
    by_cases h0 : o = 0
    · subst h0; exact ho
    · have : (HSt.init 0).dsl o = none := if_neg h0
      rw [this] at ho; cases ho
  obtain ⟨st2, h2⟩ : ∃ st2, iadd exSt1 0 "l" [.obj 3] = .ok st2 := ⟨_, rfl⟩
  have s2 : HStep 0 exSt1 st2 :=
    .iadd (s := 0) (a := "l") (extra := [.obj 3]) (.root) (by decide)
      (fun e he => by cases List.mem_singleton.1 he; exact placeable_fresh (by decide))
      (fun w u ix hw => by
        cases (hw : some (HVal.lst 100 ([1, 2].map .obj)) = some w)
        exact objs_of_visited (P := (· ≠ 0)) (by decide) u ix) h2
  obtain ⟨_, -, hkeep, -⟩ :=
    iadd_names_unnamed_elements (s := 0) (a := "l") (sd := ⟨[.root], none, 0, "s", []⟩) (by decide) rfl rfl h2
  have l2 := rebindLeaf_of_keeps hkeep
  cases h2
  refine ⟨_, .tail (.tail (.refl _) exStep1 l1) s2 l2, ?_, by decide +kernel, by decide +kernel⟩
  exact .elem (id := 100) (xs := [.obj 1, .obj 2, .obj 3]) (.attr (a := "l") .root (by decide) rfl)
    (.tail _ (.tail _ (.head _)))

/-- the hypotheses of the counter-example theorem are satisfiable: after `s.l = [o1, o2]` the list is in
the design, `o3` is new; `s.l.append( o3 )` / `s.l.insert( 0, o3 )` leave it in the design without a name -/
example : HSteps 0 (HSt.init 0) exSt1 ∧
    HReach (exSt1.mutate 100 (· ++ [.obj 3])) 0 (.obj 3) ∧ ¬ HInv (exSt1.mutate 100 (· ++ [.obj 3])) 0 ∧
    HReach (exSt1.mutate 100 (pyInsert 0 (.obj 3))) 0 (.obj 3) :=
  ⟨.tail (.refl _) exStep1, (append_behind_hook_unnamed exReach1 rfl).1, (append_behind_hook_unnamed exReach1 rfl).2,
    (insert_behind_hook_unnamed 0 exReach1 rfl).1⟩

/-- **`s.l = [o1, o2]; s.l.append( o3 )`**: `o3` is in the list the design is collected from and has no
name (`repr` is the default object repr) -/
example : let r := after [bindL, fun st => .ok (st.mutate 100 (· ++ [.obj 3]))]
    nameOf r 3 = none ∧ evalTo r [.root, .attr "l", .idx 2] = some 3 := by decide +kernel

/-- **`s.l = [o1, o2]; s.l.insert( 0, o3 )`**: besides `o3` being unnamed, the elements named earlier
have moved: `eval( repr(o1) )` is `o3`, `eval( repr(o2) )` is `o1` -/
example : let r := after [bindL, fun st => .ok (st.mutate 100 (pyInsert 0 (.obj 3)))]
    nameOf r 3 = none ∧ nameOf r 1 = some [.root, .attr "l", .idx 0] ∧
    evalTo r [.root, .attr "l", .idx 0] = some 3 ∧
    nameOf r 2 = some [.root, .attr "l", .idx 1] ∧ evalTo r [.root, .attr "l", .idx 1] = some 1 := by decide +kernel

/-- **`s.l = [o1, o2]; s.l.insert( 0, o3 ); s.l += []`**: `+=` names the unnamed `o3` after
its position, `s.l[0]` — the name `o1` still carries: two objects of the design with one name -/
example : let r := after [bindL, fun st => .ok (st.mutate 100 (pyInsert 0 (.obj 3))), (iadd · 0 "l" [])]
    nameOf r 3 = some [.root, .attr "l", .idx 0] ∧ nameOf r 1 = some [.root, .attr "l", .idx 0] := by decide +kernel

/-- **`s.l = [o1, o2]; s.l.pop( 0 ); s.l += [o3]`**: `o3` is named `s.l[1]`, the name `o2` (now at index
0) carries -/
example : let r := after [bindL, fun st => .ok (st.mutate 100 (·.eraseIdx 0)), (iadd · 0 "l" [.obj 3])]
    nameOf r 3 = some [.root, .attr "l", .idx 1] ∧ nameOf r 2 = some [.root, .attr "l", .idx 1] ∧
    evalTo r [.root, .attr "l", .idx 1] = some 3 := by decide +kernel

/-- **`s.l = [o1, o2]; s.l[1] = o3`**: slot assignment; `o3` unnamed, `repr(o2)` evaluates to `o3` -/
example : let r := after [bindL, fun st => .ok (st.mutate 100 (·.set 1 (.obj 3)))]
    nameOf r 3 = none ∧ evalTo r [.root, .attr "l", .idx 1] = some 3 := by decide +kernel

end PV.C14h
