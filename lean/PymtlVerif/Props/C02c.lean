import PymtlVerif.Proofs.CallGraph
/-!
# C02c — the read / write set of a block contains everything the block can touch through `@s.func` helpers

Theorems about `Model/CallGraph.lean` (the `dfs( u, stk )` expansion in `ComponentLevel2._collect_vars`), for every
function table (call graph), every block and every list of blocks.  `Reach T u f`: `f` is reached from `u` through
zero or more calls; `ReachFrom T b.calls f`: from one of the block's calls; `ReachPlus T f f`: `f` is on a call cycle.

* `expand_exact`            — when the expansion succeeds, the expanded reads are exactly the own reads plus the reads
                              of every reachable function; the same for the writes;
* `expand_error_iff_cycle`  — the expansion raises (`InvalidFuncCallError`) iff a function reachable from the block's
                              calls lies on a call cycle; `fuel_suffices`: the fuel `F + 1` is never exhausted, and
                              `fuel_irrelevant`: any larger fuel gives the same result;
* `fold_entry_eq`           — in the real loop (both `update`s, then `for blk, calls in upblk_calls.items()` accumulating
                              into the dicts of `top`), started from ANY earlier state, the entry of every block is the
                              per-block function `expand` of that block alone; `fold_error_iff`; `expand_local`: the same
                              block gets the same sets whatever surrounds it; `fold_perm`: in every order of the blocks;
                              `collectAll_entry_eq`: the same over all components of a design;
* `ff_marks_exact`          — the signals `expand` marks for the blocks of a list, block by block (`marksOf`), are exactly
                              the top-level signals of the objects written by functions reachable from its `update_ff`
                              blocks; `fold_marks_exact`: the same for what the loop adds to the `needs_double_buffer`
                              marks of `top`.
-/
namespace PV.C02c
open PV.CallGraph

/-- the expanded sets are the own sets plus those of every function reachable from the block's calls -/
theorem expand_exact {T : Table} {b : Blk} {e : Expanded} (h : expand T b = .ok e) (x : Nat) :
    (x ∈ e.reads ↔ x ∈ b.reads ∨ ∃ f, ReachFrom T b.calls f ∧ x ∈ T.reads f) ∧
    (x ∈ e.writes ↔ x ∈ b.writes ∨ ∃ f, ReachFrom T b.calls f ∧ x ∈ T.writes f) := by
  obtain ⟨vis, hv, rfl⟩ := expand_ok_inv h
  exact ⟨by simp only [expandWith, List.mem_append, visit_flatMap hv lt_of_mem_reads],
    by simp only [expandWith, List.mem_append, visit_flatMap hv lt_of_mem_writes]⟩

/-- non-vacuity, a diamond: `fx` calls `fy` and `fz` (the example of the code's comment) and, here, both call `fw`: the block
gets the reads and writes of all four -/
def diamond : Table :=
  { funcs := [⟨[10], [20], [1, 2]⟩, ⟨[11], [21], [3]⟩, ⟨[12], [22], [3]⟩, ⟨[13], [23], []⟩] }

example : expand diamond ⟨false, [1], [2], [0]⟩ =
    .ok ⟨[1, 10, 11, 13, 12, 13], [2, 20, 21, 23, 22, 23], []⟩ := by rfl
example : ReachFrom diamond [0] 3 := ⟨0, by simp, .step (v := 1) (by decide) (.step (v := 3) (by decide) (.refl 3))⟩

/-- the fuel `F + 1` is never exhausted -/
theorem fuel_suffices (T : Table) (b : Blk) : expand T b ≠ .error .fuel := by
  intro h
  exact visit_ne_fuel (expand_err_inv h)

/-- the only error is the call cycle -/
theorem expand_error_cycle {T : Table} {b : Blk} {err : Err} (h : expand T b = .error err) : err = .cycle :=
  visit_err_cycle (expand_err_inv h)

/-- the expansion raises iff some function reachable from the block's calls lies on a call cycle -/
theorem expand_error_iff_cycle (T : Table) (b : Blk) :
    expand T b = .error .cycle ↔ ∃ f, ReachFrom T b.calls f ∧ ReachPlus T f f := by
  rw [← visit_err_iff]
  constructor
  · intro h; exact ⟨_, expand_err_inv h⟩
  · rintro ⟨e, h⟩
    have := visit_err_cycle h
    subst this
    simp [expand, h]

/-- hence: it succeeds iff the reachable part of the call graph is acyclic -/
theorem expand_ok_iff_acyclic (T : Table) (b : Blk) :
    (∃ e, expand T b = .ok e) ↔ ∀ f, ReachFrom T b.calls f → ¬ ReachPlus T f f := by
  constructor
  · rintro ⟨e, h⟩ f hf hc
    have := (expand_error_iff_cycle T b).mpr ⟨f, hf, hc⟩
    rw [h] at this
    cases this
  · intro hall
    cases h : expand T b with
    | ok e => exact ⟨e, rfl⟩
    | error err =>
      exfalso
      have := expand_error_cycle h
      subst this
      obtain ⟨f, hf, hc⟩ := (expand_error_iff_cycle T b).mp h
      exact hall f hf hc

/-- any larger fuel gives the same result: the fuel is not part of the meaning -/
theorem fuel_irrelevant (T : Table) (roots : List Nat) (k : Nat) :
    callsLoop (dfs T (T.F + 1 + k)) [] roots = visit T roots :=
  callsLoop_dfs_stable (T.F + 1 + k) (T.F + 1) List.nodup_nil nofun (Nat.le_add_right _ k) (Nat.le_refl _) roots

/-- non-vacuity: a 2-cycle `f0 ⇄ f1` behind a helper, and a self-call -/
def twoCycle : Table := { funcs := [⟨[], [], [1]⟩, ⟨[], [], [2]⟩, ⟨[], [], [1]⟩] }

example : expand twoCycle ⟨false, [], [], [0]⟩ = .error .cycle := by rfl
example : ReachPlus twoCycle 1 1 := ⟨2, by decide, .step (v := 1) (by decide) (.refl 1)⟩
example : expand { funcs := [⟨[], [], [0]⟩] } ⟨false, [], [], [0]⟩ = .error .cycle := by rfl
/-- a block that does not reach the cycle is not affected by it -/
example : expand { funcs := [⟨[], [], [1]⟩, ⟨[], [], [0]⟩, ⟨[5], [6], []⟩] } ⟨false, [], [], [2]⟩ = .ok ⟨[5], [6], []⟩ := by
  rfl
/-- a callee that is not a function of the component (`u not in func_reads`) contributes nothing -/
example : expand diamond ⟨false, [1], [2], [9]⟩ = .ok ⟨[1], [2], []⟩ := by rfl

/-- The real loop, started from any state `st0` (whatever earlier components / blocks have left in the dicts of `top`):
the entry of every block is `expand` of that block and the function table only. -/
theorem fold_entry_eq {T : Table} {st0 st : State} {blocks : List (Nat × Blk)}
    (h : collect T st0 blocks = .ok st) (hk : (keys blocks).Nodup) :
    ∀ kb ∈ blocks, ∃ e, expand T kb.2 = .ok e ∧ st.reads.get kb.1 = e.reads ∧ st.writes.get kb.1 = e.writes := by
  intro kb hkb
  obtain ⟨vis, hv, h1⟩ := (loop_spec blocks _ st h).1 hk kb hkb
  exact ⟨_, expand_ok_of_visit hv, Prod.mk.inj (h1.trans (congrArg (T.adds · vis) (enter_get blocks st0 hk kb hkb)))⟩

/-- entries of other blocks (of other components) are left alone -/
theorem fold_other_keys {T : Table} {st0 st : State} {blocks : List (Nat × Blk)}
    (h : collect T st0 blocks = .ok st) (k : Nat) (hnot : k ∉ keys blocks) :
    st.reads.get k = st0.reads.get k ∧ st.writes.get k = st0.writes.get k :=
  Prod.mk.inj (((loop_spec blocks _ st h).2.1 k hnot).trans (enter_notin blocks st0 k hnot))

/-- the loop raises iff some block does -/
theorem fold_error_iff (T : Table) (st0 : State) (blocks : List (Nat × Blk)) :
    collect T st0 blocks = .error .cycle ↔ ∃ kb ∈ blocks, expand T kb.2 = .error .cycle := by
  rcases loop_cases blocks (blocks.foldl State.enter st0) with ⟨st, h, hall⟩ | ⟨e, h, kb, hkb, he⟩
  · rw [collect, h]
    exact ⟨nofun, fun ⟨kb, hkb, he⟩ => let ⟨_, he'⟩ := hall kb hkb; nomatch he.symm.trans he'⟩
  · cases expand_error_cycle he
    exact ⟨fun _ => ⟨kb, hkb, he⟩, fun _ => h⟩

theorem fold_ok_iff (T : Table) (st0 : State) (blocks : List (Nat × Blk)) :
    (∃ st, collect T st0 blocks = .ok st) ↔ ∀ kb ∈ blocks, ∃ e, expand T kb.2 = .ok e := by
  rcases loop_cases blocks (blocks.foldl State.enter st0) with ⟨st, h, hall⟩ | ⟨e, h, kb, hkb, he⟩
  · exact ⟨fun _ => hall, fun _ => ⟨st, h⟩⟩
  · rw [collect, h]
    exact ⟨nofun, fun hall => let ⟨_, he'⟩ := hall kb hkb; nomatch he.symm.trans he'⟩

/-- The result for one block depends on that block and the function table only: whatever blocks come before and
after it, and whatever state the loop starts from, its entry is the one the block gets when it is expanded alone from
the empty state.  (This is what a `visited` memo shared between blocks breaks.) -/
theorem expand_local {T : Table} {st0 st : State} {pre post : List (Nat × Blk)} {kb : Nat × Blk}
    (h : collect T st0 (pre ++ kb :: post) = .ok st) (hk : (keys (pre ++ kb :: post)).Nodup) :
    ∃ st1, collect T {} [kb] = .ok st1 ∧
      st.reads.get kb.1 = st1.reads.get kb.1 ∧ st.writes.get kb.1 = st1.writes.get kb.1 := by
  obtain ⟨e, he, h1, h2⟩ := fold_entry_eq h hk kb (by simp)
  obtain ⟨st1, hst1⟩ := (fold_ok_iff T {} [kb]).mpr (by intro kb' hkb'; simp at hkb'; subst hkb'; exact ⟨e, he⟩)
  obtain ⟨e', he', h1', h2'⟩ := fold_entry_eq hst1 (by simp [keys]) kb (by simp)
  rw [he] at he'
  cases he'
  exact ⟨st1, hst1, by rw [h1, h1'], by rw [h2, h2']⟩

/-- every order of the blocks (and any two starting states) gives every block the same sets -/
theorem fold_perm {T : Table} {st0 st0' st : State} {blocks blocks' : List (Nat × Blk)}
    (hp : blocks.Perm blocks') (hk : (keys blocks).Nodup) (h : collect T st0 blocks = .ok st) :
    ∃ st', collect T st0' blocks' = .ok st' ∧
      ∀ kb ∈ blocks, st'.reads.get kb.1 = st.reads.get kb.1 ∧ st'.writes.get kb.1 = st.writes.get kb.1 := by
  have hk' : (keys blocks').Nodup := (hp.map Prod.fst).nodup_iff.mp hk
  have hall := (fold_ok_iff T st0 blocks).mp ⟨st, h⟩
  obtain ⟨st', hst'⟩ := (fold_ok_iff T st0' blocks').mpr (fun kb hkb => hall kb (hp.mem_iff.mpr hkb))
  refine ⟨st', hst', ?_⟩
  intro kb hkb
  obtain ⟨e, he, h1, h2⟩ := fold_entry_eq h hk kb hkb
  obtain ⟨e', he', h1', h2'⟩ := fold_entry_eq hst' hk' kb (hp.mem_iff.mp hkb)
  rw [he] at he'
  cases he'
  exact ⟨by rw [h1, h1'], by rw [h2, h2']⟩

/-- … and raises in the same cases -/
theorem fold_perm_error {T : Table} {st0 st0' : State} {blocks blocks' : List (Nat × Blk)} (hp : blocks.Perm blocks') :
    collect T st0 blocks = .error .cycle ↔ collect T st0' blocks' = .error .cycle := by
  rw [fold_error_iff, fold_error_iff]
  constructor
  · rintro ⟨kb, hkb, he⟩; exact ⟨kb, hp.mem_iff.mp hkb, he⟩
  · rintro ⟨kb, hkb, he⟩; exact ⟨kb, hp.mem_iff.mpr hkb, he⟩

theorem collectAll_other_keys (k : Nat) : ∀ (comps : List (Table × List (Nat × Blk))) (st0 st : State),
    collectAll st0 comps = .ok st → k ∉ comps.flatMap (fun c => keys c.2) →
    st.reads.get k = st0.reads.get k ∧ st.writes.get k = st0.writes.get k := by
  intro comps
  induction comps with
  | nil => intro st0 st h _; cases h; exact ⟨rfl, rfl⟩
  | cons c rest ih =>
    intro st0 st h hnot
    unfold collectAll at h
    split at h
    · cases h
    · next st1 h1 =>
      rw [List.flatMap_cons] at hnot
      obtain ⟨a1, a2⟩ := fold_other_keys h1 k fun hm => hnot (List.mem_append_left _ hm)
      obtain ⟨b1, b2⟩ := ih st1 st h fun hm => hnot (List.mem_append_right _ hm)
      exact ⟨b1.trans a1, b2.trans a2⟩

/-- all components of a design: block keys are distinct over the whole design ("different update blocks will always
have different ids"); the entry of every block of every component is `expand` with the table of ITS component -/
theorem collectAll_entry_eq : ∀ (comps : List (Table × List (Nat × Blk))) (st0 st : State),
    collectAll st0 comps = .ok st → (comps.flatMap (fun c => keys c.2)).Nodup →
    ∀ c ∈ comps, ∀ kb ∈ c.2, ∃ e, expand c.1 kb.2 = .ok e ∧ st.reads.get kb.1 = e.reads ∧ st.writes.get kb.1 = e.writes := by
  intro comps
  induction comps with
  | nil => intro st0 st _ _ c hc; cases hc
  | cons c0 rest ih =>
    intro st0 st h hnd c hc kb hkb
    unfold collectAll at h
    split at h
    · cases h
    · next st1 h1 =>
      rw [List.flatMap_cons] at hnd
      obtain ⟨hnd0, hndr, hdisj⟩ := List.nodup_append.mp hnd
      rcases List.mem_cons.mp hc with rfl | hc
      · obtain ⟨e, he, h2, h3⟩ := fold_entry_eq h1 hnd0 kb hkb
        obtain ⟨r1, r2⟩ := collectAll_other_keys kb.1 rest st1 st h
          fun hm => hdisj _ (List.mem_map_of_mem hkb) _ hm rfl
        exact ⟨e, he, r1.trans h2, r2.trans h3⟩
      · exact ih st1 st h hndr c hc kb hkb

/-- non-vacuity: two blocks sharing the helper `f0` (which calls `f1`), in both orders, after an unrelated block -/
def shared : Table := { funcs := [⟨[10], [20], [1]⟩, ⟨[11], [21], []⟩] }
def blkA : Blk := ⟨false, [1], [2], [0]⟩
def blkB : Blk := ⟨true, [3], [4], [0]⟩

example : (collect shared {} [(0, blkA), (1, blkB)]).map (fun st => (st.reads, st.writes, st.marks)) =
    .ok ([(0, [1, 10, 11]), (1, [3, 10, 11])], [(0, [2, 20, 21]), (1, [4, 20, 21])], [20, 21]) := by rfl
example : (collect shared {} [(1, blkB), (0, blkA)]).map (fun st => (st.reads.get 0, st.reads.get 1)) =
    .ok ([1, 10, 11], [3, 10, 11]) := by rfl
example : (collect shared { reads := [(0, [99]), (7, [5])], writes := [(1, [98])] } [(1, blkB), (0, blkA)]).map
    (fun st => (st.reads.get 0, st.writes.get 1, st.reads.get 7)) = .ok ([1, 10, 11], [4, 20, 21], [5]) := by rfl

/-- one block marks exactly the top-level signals of the objects written by the functions it reaches, and only if it
is an `update_ff` block -/
theorem ff_marks_block {T : Table} {b : Blk} {e : Expanded} (h : expand T b = .ok e) (s : Nat) :
    s ∈ e.marks ↔ b.isff = true ∧ ∃ f, ReachFrom T b.calls f ∧ ∃ x ∈ T.writes f, T.top x = s := by
  obtain ⟨vis, hv, rfl⟩ := expand_ok_inv h
  simp only [expandWith, List.mem_ite_nil_right, List.mem_map, visit_flatMap hv lt_of_mem_writes]
  exact and_congr_right fun _ =>
    ⟨fun ⟨x, ⟨f, hf, hx⟩, hs⟩ => ⟨f, hf, x, hx, hs⟩, fun ⟨f, hf, x, hx, hs⟩ => ⟨x, ⟨f, hf, hx⟩, hs⟩⟩

/-- the signals the expansion of a list of blocks marks = top-level signals of the writes of the functions reachable
from its `update_ff` blocks -/
theorem ff_marks_exact {T : Table} {blocks : List Blk} (hall : ∀ b ∈ blocks, ∃ e, expand T b = .ok e) (s : Nat) :
    s ∈ blocks.flatMap (marksOf T) ↔
      ∃ b ∈ blocks, b.isff = true ∧ ∃ f, ReachFrom T b.calls f ∧ ∃ x ∈ T.writes f, T.top x = s := by
  rw [List.mem_flatMap]
  refine exists_congr fun b => and_congr_right fun hb => ?_
  obtain ⟨e, he⟩ := hall b hb
  rw [marksOf_ok he]
  exact ff_marks_block he s

/-- the same for the accumulating loop: what it adds to the marks -/
theorem fold_marks_exact {T : Table} {st0 st : State} {blocks : List (Nat × Blk)}
    (h : collect T st0 blocks = .ok st) (hk : (keys blocks).Nodup) (s : Nat) :
    s ∈ st.marks ↔ s ∈ st0.marks ∨
      ∃ kb ∈ blocks, kb.2.isff = true ∧ ∃ f, ReachFrom T kb.2.calls f ∧ ∃ x ∈ T.writes f, T.top x = s := by
  obtain ⟨_, _, l3⟩ := loop_spec blocks _ st h
  rw [l3, enter_marks, List.mem_append, List.mem_flatMap]
  refine or_congr_right (exists_congr fun kb => and_congr_right fun hkb => ?_)
  obtain ⟨e, he⟩ := (fold_ok_iff T st0 blocks).mp ⟨st, h⟩ kb hkb
  rw [marksOf_ok he]
  exact ff_marks_block he s

/-- non-vacuity: the `update_ff` block marks the (top-level signals of the) writes of `f0` and `f1`, the `update` block
that shares the helper marks nothing; a slice (object 21 of signal 5) marks its signal -/
example : marksOf shared blkB = [20, 21] ∧ marksOf shared blkA = [] := by decide +kernel
example : marksOf { shared with tops := (List.range 21) ++ [5] } blkB = [20, 5] := by decide +kernel

end PV.C02c
