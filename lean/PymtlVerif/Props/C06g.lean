import PymtlVerif.Proofs.BStructProgHeap
import PymtlVerif.Props.C06
/-!
# C06g — the *generated programs* of a bitstruct class compute the model functions, for every type

`Model/BStructProg.lean` defines an IR of the method bodies `bitstructs.py` generates as source text, an
evaluation semantics for it, and `progOf m T`: the program the generator emits for method `m` of a class
with field list `T`. The correspondence check parses the real generated source of every method of every
class into the IR and compares it with `progOf` (syntactic equality). The theorems here say what that
equality buys: for **every** well-formed type `T` (any nesting, any list dimensions) and **every** value /
heap, evaluating `progOf m T` is the function of `Model/BitStruct.lean` about which `Props/C06.lean` is
proved (the clone program: meets the specification proved of it) — so `from_to`, `to_from`, `eq_iff_packed`, `clone_spec`, `assign_no_alias`, … hold of any class whose
generated programs are the canonical ones (the `…_transfer` theorems spell three of them out).  `__str__` / `__repr__` have a
program (`Prog.str`: the fields interpolated, in order) that is compared like the others and no semantics here: nothing is
proved of them.

Calls to a *nested* class's generated method (`self.p @= other.p`, `self.p.clone()`, `_type2( … )`, …) are
given the meaning the model assigns to the nested type; the theorems are therefore per class. Where the program evaluates to the
model function itself (to_bits, from_bits, `==`, hash, `@=`, `<<=`, `_flip`) induction over the nesting depth (every nested class is a
class of its own, checked the same way) closes the argument. For clone / `__deepcopy__` it does not: the program of a class is
`newI` after the model's `clone` (`evalClone_eq`: every Bits field is copied once more), `clone_prog` proves the specification for a
class whose nested `.clone()` calls are the model's `clone`, and nothing is proved of nested calls that only meet that specification.
`WF T`: structs are `.pair` chains ending in `.unit`, every leaf at least one bit wide.
-/
namespace PV.C06g
open PV.BitStruct PV.BStructProg
open PV.Bits (B Reg)

/-- `to_bits`: the generated `concat( self.a, self.l[1], self.l[0], self.p.x, … )` is `toBitsPy` -/
theorem to_bits_prog {T : Ty} (hw : WF T) :
    ∃ ps, progOf .toBits T = .toBits ps ∧ ∀ v, HasTy v T → evalToBits ps v = some (toBitsPy v) :=
  ⟨_, rfl, fun _ h => evalToBits_canonical hw h⟩

/-- `from_bits`: the generated `cls( other[lo:hi], [ … ], _typeN( … ) )` is `fromBitsPy`, for every Bits operand
(the width assertion included) -/
theorem from_bits_prog {T : Ty} (hw : WF T) (hc : Chain T) :
    ∃ a, progOf .fromBits T = .fromBits a ∧ ∀ other : B, evalFromBits T a other = fromBitsPy T other :=
  ⟨_, rfl, fun other => evalFromBits_canonical hw hc other⟩

/-- so the round trips of `Props/C06.lean` hold of the generated programs -/
theorem roundtrip_transfer {T : Ty} (hw : WF T) (hc : Chain T) (h1 : 1 ≤ T.width) (h2 : T.width < 1024) :
    ∃ ps a, progOf .toBits T = .toBits ps ∧ progOf .fromBits T = .fromBits a ∧
      (∀ v, HasTy v T → ∃ b, evalToBits ps v = some (.ok b) ∧ b.n = T.width ∧ evalFromBits T a b = .ok v) ∧
      (∀ b, b < 2 ^ T.width → ∃ v, evalFromBits T a ⟨nbitsPy T, b⟩ = .ok v ∧ HasTy v T ∧
        evalToBits ps v = some (.ok ⟨nbitsPy T, b⟩)) := by
  refine ⟨_, _, rfl, rfl, ?_, ?_⟩
  · intro v hv
    exact ⟨⟨T.width, _⟩, by rw [evalToBits_canonical hw hv, (toBitsPy_eq hv).1 ⟨h1, h2⟩], rfl,
      by rw [evalFromBits_canonical hw hc, fromBitsPy_toBits hv]⟩
  · intro b hb
    obtain ⟨v, e1, hv, e2⟩ := PV.C06.to_from T b hb h1 h2
    exact ⟨v, by rw [evalFromBits_canonical hw hc, e1], hv, by rw [evalToBits_canonical hw hv, e2]⟩

/-- `__eq__`: the generated tuple comparison is `eqCls`; between instances of one class it decides equality
of the values -/
theorem eq_prog {T : Ty} (hw : WF T) (hc : Chain T) :
    ∃ l r, progOf .eq T = .eq l r ∧ ∀ v w, HasTy v T → HasTy w T →
      (∀ sc, evalEq l r sc v w = some (eqCls sc v w)) ∧ evalEq l r true v w = some (decide (v = w)) := by
  refine ⟨_, _, rfl, ?_⟩
  intro v w hv hw'
  refine ⟨fun sc => evalEq_canonical hw hc sc hv hw', ?_⟩
  rw [evalEq_canonical hw hc true hv hw', ← eqPy_eq_decide]; rfl

/-- `__hash__`: the generated `hash(( self.a, (self.l[0], self.l[1],), self.p, ))` is `hashV` of the value, and the
hashed tuple determines the value (two instances of the class hash the same tuple iff they are equal) -/
theorem hash_prog {T : Ty} (hw : WF T) (hc : Chain T) :
    ∃ e, progOf .hash T = .hash e ∧
      (∀ {α : Type} (hb : Nat → Nat → α) (ht : List α → α) v, HasTy v T → evalHash hb ht e v = some (hashV hb ht v)) ∧
      (∀ v w, HasTy v T → HasTy w T → (evalV ⟨v, v, default⟩ e = evalV ⟨w, w, default⟩ e ↔ v = w)) := by
  refine ⟨_, rfl, ?_, ?_⟩
  · intro α hb ht v hv
    show (evalV _ (hashArgs T 0)).map _ = _
    rw [hashArgs_eval (.of hc hw) hv v 0 (Tail.refl v)]
    exact congrArg some (hashV_chainV hb ht hv (.of hc hw))
  · intro v w hv hw'
    show evalV _ (hashArgs T 0) = evalV _ (hashArgs T 0) ↔ _
    rw [hashArgs_eval (.of hc hw) hv v 0 (Tail.refl v), hashArgs_eval (.of hc hw) hw' w 0 (Tail.refl w)]
    exact ⟨fun e => chainV_inj (.of hc hw) hv hw' (Option.some.inj e), fun e => by rw [e]⟩

/-- the clone program (and the identical `__deepcopy__` program): the copy reads like the source, all its
leaf objects are new, pairwise distinct and without `_next`; nothing that existed is modified, no leaf is
shared with any instance that existed — the source included -/
theorem clone_prog {T : Ty} (hw : WF T) (hc : Chain T) :
    ∃ a, progOf .clone T = .clone a ∧ progOf .deepcopy T = .clone a ∧
      ∀ (h : Heap) (self : Inst), HasTy (read h self) T → InHeap h self →
        ∃ h' i', evalClone T a h self = some (h', i') ∧ read h' i' = read h self ∧
          (∀ c ∈ cells i', h.size ≤ c ∧ c < h'.size) ∧ (cells i').Nodup ∧
          (∀ c, c < h.size → h'.cell c = h.cell c) ∧ (∀ c ∈ cells i', (h'.cell c).next = none) ∧
          (∀ j, InHeap h j → Disj i' j ∧ read h' j = read h j) := by
  refine ⟨_, rfl, rfl, ?_⟩
  intro h self ht hin
  obtain ⟨h', i', e, r, f⟩ := evalClone_spec (.of hc hw) h self ht hin
  exact ⟨h', i', e, r, f.range, f.nodup, f.old, f.next_none, fun j hj => ⟨f.disj hj, f.read_old hj⟩⟩

/-- hence copy and source are independent under later writes (as `PV.C06.clone_independent`) -/
theorem clone_transfer {T : Ty} (hw : WF T) (hc : Chain T) (h : Heap) (self : Inst)
    (ht : HasTy (read h self) T) (hin : InHeap h self) :
    ∃ a h' i', progOf .clone T = .clone a ∧ evalClone T a h self = some (h', i') ∧
      (∀ c ∈ cells i', ∀ r, read (h'.upd c r) self = read h self) ∧
      (∀ c ∈ cells self, ∀ r, read (h'.upd c r) i' = read h self) := by
  obtain ⟨h', i', e, r, f⟩ := evalClone_spec (.of hc hw) h self ht hin
  exact ⟨_, h', i', rfl, e, (f.disj hin).independent r (f.read_old hin)⟩

/-- `__imatmul__` / `__ilshift__`: the generated statement lists `self.a @= other.a; self.l[0] @= other.l[0]; …`
(with the cross-class prologue) are the model's `imatmul` / `ilshift`, on every heap — aliased operands included -/
theorem aug_prog {T : Ty} (hw : WF T) (hc : Chain T) :
    ∃ st, progOf .imatmul T = .aug false st ∧ progOf .ilshift T = .aug true st ∧
      ∀ (sc : Bool) (h : Heap) (dst src : Inst), IShape dst T → (sc = true → IShape src T) →
        evalAug false T st sc h dst src = imatmul T sc h dst src ∧
        evalAug true T st sc h dst src = ilshift T sc h dst src := by
  refine ⟨_, rfl, rfl, ?_⟩
  intro sc h dst src hd hs
  have run : ∀ (op : Heap → Nat → Nat → Except Err Heap) (h : Heap) (s : Inst), IShape s T →
      runAug op ⟨dst, s⟩ h ((fieldElemPaths T 0).map fun p => (p, p)) = zipWithM op h dst s :=
    fun op h s hs' => aug_fields op dst s (.of hc hw) 0 h dst s hd hs' (Tail.refl dst) (Tail.refl s)
  cases sc with
  | true =>
    simp only [evalAug, imatmul, ilshift, imatmulSame, ilshiftSame, ↓reduceIte, Bool.false_eq_true]
    exact ⟨run _ h src (hs rfl), run _ h src (hs rfl)⟩
  | false =>
    simp only [evalAug, imatmul, ilshift, imatmulSame, ilshiftSame, ↓reduceIte, Bool.false_eq_true]
    cases e : convert T h src with
    | error x => exact ⟨rfl, rfl⟩
    | ok r =>
      obtain ⟨h1, tmp⟩ := r
      have := ishape_convert e
      exact ⟨run _ h1 tmp this, run _ h1 tmp this⟩

/-- `_flip`: the generated `self.a._flip(); self.l[0]._flip(); …` is the model's `flip` -/
theorem flip_prog {T : Ty} (hw : WF T) (hc : Chain T) :
    ∃ ps, progOf .flip T = .flip ps ∧ ∀ (h : Heap) (self : Inst), IShape self T → runFlip self h ps = flip h self :=
  ⟨_, rfl, fun h self hs => flip_fields self (.of hc hw) h hs⟩

/-- so `dst @= src` through the generated program copies every leaf into `dst`'s own objects (`PV.C06.assign_no_alias`),
and `<<=` then `_flip` delivers the old source value (`PV.C06.nb_assign_then_flip`) -/
theorem assign_transfer {T : Ty} (hw : WF T) (hc : Chain T) (h : Heap) (dst src : Inst)
    (hd : HasTy (read h dst) T) (hs : HasTy (read h src) T) (nd : (cells dst).Nodup) (dj : Disj dst src) :
    ∃ st ps, progOf .imatmul T = .aug false st ∧ progOf .ilshift T = .aug true st ∧ progOf .flip T = .flip ps ∧
      (∃ h', evalAug false T st true h dst src = .ok h' ∧ read h' dst = read h src ∧ read h' src = read h src ∧
        (∀ c ∈ cells dst, ∀ r, read (h'.upd c r) src = read h src) ∧
        (∀ c ∈ cells src, ∀ r, read (h'.upd c r) dst = read h src)) ∧
      (∃ h' h3, evalAug true T st true h dst src = .ok h' ∧ read h' dst = read h dst ∧
        runFlip dst h' ps = .ok h3 ∧ read h3 dst = read h src ∧ read h3 src = read h src) := by
  obtain ⟨st, e1, e2, sp⟩ := aug_prog hw hc
  obtain ⟨ps, e3, fp⟩ := flip_prog hw hc
  have sd := ishape_of_hasTy h dst T hd
  have ss := ishape_of_hasTy h src T hs
  obtain ⟨a1, a2⟩ := sp true h dst src sd (fun _ => ss)
  refine ⟨st, ps, e1, e2, e3, ?_, ?_⟩
  · obtain ⟨h', e, r1, r2, _, _, w1, w2⟩ := PV.C06.assign_no_alias T h dst src hd hs nd dj
    exact ⟨h', by rw [a1, e], r1, r2, w1, w2⟩
  · obtain ⟨h', h3, e, r1, e3', r3, r4⟩ := PV.C06.nb_assign_then_flip T h dst src hd hs nd dj
    exact ⟨h', h3, by rw [a2, e], r1, by rw [fp h' dst sd, e3'], r3, r4⟩

/-- the `__init__` program: called with every argument it is `newI` — the meaning `C( … )` has inside the clone and
`from_bits` programs (a Bits field is re-wrapped in a new object, a list / struct argument is kept); called
without arguments it builds the zero value with a new object for every leaf: pairwise distinct, none shared
with anything that existed (what `[row] * n` in the default expression would break) -/
theorem init_prog {T : Ty} (hw : WF T) (hc : Chain T) :
    ∃ st, progOf .init T = .init st ∧
      (∀ (args : List (Option Inst)) (h : Heap) (c : Inst), IShape c T → ArgsAt args c 0 →
        evalInit args h 0 st = newI h T (chainI c)) ∧
      (∀ (args : List (Option Inst)) (h : Heap), (∀ j, j < nFields T → args[j]? = some none) →
        ∃ h' i', evalInit args h 0 st = some (h', i') ∧ read h' i' = zeroV T ∧ (cells i').Nodup ∧
          (∀ c ∈ cells i', h.size ≤ c ∧ c < h'.size) ∧ (∀ c, c < h.size → h'.cell c = h.cell c) ∧
          (∀ j, InHeap h j → Disj i' j)) := by
  refine ⟨_, rfl, fun args h c hs ha => init_given args (.of hc hw) 0 h c hs ha, ?_⟩
  intro args h ha
  obtain ⟨f, r⟩ := build_spec h (zeroV T)
  exact ⟨_, _, init_default args (.of hc hw) 0 h fun j hj => (Nat.zero_add j).symm ▸ ha j hj,
    r, f.nodup, f.range, f.old, fun j hj => f.disj hj⟩

/-! ## non-vacuity -/

/-- `struct { a:Bits4; l:[Bits2]*2; c:Bits1 }` (the example of `Props/C06.lean`) -/
abbrev exT : Ty := PV.C06.exT
abbrev exV : Val := PV.C06.exV

theorem exT_wf : WF exT ∧ Chain exT := by simp [exT, PV.C06.exT, WF, Chain]

/-- `struct { p: struct{x:Bits4; y:Bits4}; m: [[Bits2]*3]*2 }` -/
def exN : Ty := .pair (.pair (.bits 4) (.pair (.bits 4) .unit)) (.pair (.arr 2 (.arr 3 (.bits 2))) .unit)

example : progOf .toBits exT = .toBits [[.fld 0], [.fld 1, .idx 1], [.fld 1, .idx 0], [.fld 2]] := rfl
example : progOf .toBits exN = .toBits [[.fld 0, .fld 0], [.fld 0, .fld 1], [.fld 1, .idx 1, .idx 2], [.fld 1, .idx 1, .idx 1],
    [.fld 1, .idx 1, .idx 0], [.fld 1, .idx 0, .idx 2], [.fld 1, .idx 0, .idx 1], [.fld 1, .idx 0, .idx 0]] := rfl
example : progOf .fromBits exT =
    .fromBits (.cons (.slice 5 9) (.cons (.cons (.slice 1 3) (.cons (.slice 3 5) .nil)) (.cons (.slice 0 1) .nil))) := rfl
example : evalToBits (tbPaths exT 0 []) exV = some (.ok ⟨9, 0b101010011⟩) := rfl
example : evalFromBits exT (fbExpr.fbArgs exT 9).1 ⟨9, 0b101010011⟩ = .ok exV := rfl
example : progOf .imatmul exT = .aug false [([.fld 0], [.fld 0]), ([.fld 1, .idx 0], [.fld 1, .idx 0]),
    ([.fld 1, .idx 1], [.fld 1, .idx 1]), ([.fld 2], [.fld 2])] := rfl
example : progOf .hash exT = .hash (.tup (.cons (.self [.fld 0]) (.cons (.tup (.cons (.self [.fld 1, .idx 0])
    (.cons (.self [.fld 1, .idx 1]) .nil))) (.cons (.self [.fld 2]) .nil)))) := rfl
example : progOf .init exT = .init [⟨0, .wrap 4 0⟩,
    ⟨1, .orDflt 1 (.cons (.dflt (.bits 2)) (.cons (.dflt (.bits 2)) .nil))⟩, ⟨2, .wrap 1 2⟩] := rfl

/-- the default expression `[[_type_m(), _type_m(), _type_m()]] * 2` (seeded change C06-4 / C06-12) is a program of the IR,
is not the canonical one, and evaluates to an instance whose two rows are the same three objects -/
def seededInit : List InitStmt :=
  [⟨0, .orDflt 0 (.dflt (.pair (.bits 4) (.pair (.bits 4) .unit)))⟩,
   ⟨1, .orDflt 1 (.rep (.cons (.cons (.dflt (.bits 2)) (.cons (.dflt (.bits 2)) (.cons (.dflt (.bits 2)) .nil))) .nil) 2)⟩]

example : progOf .init exN ≠ .init seededInit := by decide
example : (evalInit [none, none] Heap.empty 0 seededInit).map (fun r => cells r.2) = some [0, 1, 2, 3, 4, 2, 3, 4] :=
  rfl
example : (evalInit [none, none] Heap.empty 0 (initStmts exN 0)).map (fun r => cells r.2) = some [0, 1, 2, 3, 4, 5, 6, 7] :=
  by decide +kernel

/-- the clone program that passes a list's Bits elements on without `.clone()` (seeded change C06-2): the copy's list
elements are the source's objects -/
example : (evalClone exT (.cons (.self [.fld 0]) (.cons (.cons (.self [.fld 1, .idx 0]) (.cons (.self [.fld 1, .idx 1]) .nil))
      (.cons (.self [.fld 2]) .nil))) (build Heap.empty exV).1 (build Heap.empty exV).2).map (fun r => cells r.2)
    = some [4, 1, 2, 5] := by decide +kernel
example : (evalClone exT (cloneArgs exT 0) (build Heap.empty exV).1 (build Heap.empty exV).2).map (fun r => cells r.2)
    = some [8, 5, 6, 9] := by decide +kernel

end PV.C06g
