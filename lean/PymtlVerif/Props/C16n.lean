import PymtlVerif.Props.C16
import PymtlVerif.Proofs.VCDNets
/-!
# C16 (net table) — which nets the VCD pass dumps, which one it toggles as the clock, which symbol a signal gets

Theorems about the part of `VcdGenerationPass.make_vcd_func` that runs before the first value line is written
(`Model/VCD.lean`: `trimLoop` = the loop over `top.get_all_value_nets()`, `declareAll` = `recurse_models`,
`netTable` = both). The input is the list of value nets **in whatever order the DSL enumerates them** (it follows
set iteration order and differs between two instances of one design), every member tagged whole signal / `s.clk`
/ slice-bit-field / constant, and the list of signals in `$var` order.

* `kept_nets`, `dropped_net_irrelevant`: the nets that are dumped are the input nets restricted to their whole
  signals, empty ones left out, order kept; a net made only of slices / bits / fields / constants has no effect on
  anything the pass computes.
* `clock_index`, `clock_index_skips_dropped`, `clock_unique`: wherever the net with `s.clk` stands in the input and
  however many nets before it are dropped, `vcd_clock_net_idx` is the position of that net **among the kept nets**,
  and no other kept net contains `s.clk`. `no_clock_net` + `table`: in a design whose `s.clk` is in no value net (no
  child components) the declaration walk appends the clock net.
* `table`, `every_signal_one_symbol`, `symbol_of_own_net`, `same_symbol_iff_same_net`, `symbol_text_iff_same_net`,
  `dropped_nets_no_symbol`: every declared signal gets exactly one `$var` line; its symbol is the symbol of a net
  that contains it; when the kept nets are pairwise disjoint (as value nets are), two signals have the same symbol
  exactly when they are in the same net; the nets (= symbols in use) are the kept nets followed by one net per
  signal that is in no kept net — nothing else.
* `table_replay_dump`, `table_replay_signal`: composition with `PV.C16.replay_dump` — the `Design` built from the
  table satisfies the side condition `clk < #nets` of the replay theorems, hence reading the dump gives back the
  sampled trace, per net and per declared signal.
-/
namespace PV.C16n
open PV.Bits PV.VCD PV.C16

/-- the loop keeps, in input order, the whole signals of every net and skips nets of which nothing is left -/
theorem kept_nets (nets k : List (List Member)) (c : Option Nat) (h : trimLoop nets [] none = some (k, c)) :
    k = keptOf nets := by
  rw [trimLoop_nil] at h
  split at h
  · exact (Prod.mk.inj (Option.some.inj h)).1.symm
  · cases h

/-- **clock index.** `s.clk` occurs once, in `net`; `pre` / `post` (any nets, any number of them dropped) come
    before / after it: the loop ends with `vcd_clock_net_idx` = the number of *kept* nets of `pre`, the kept net at
    that index is `net` restricted to its whole signals, and it contains `s.clk` -/
theorem clock_index (pre : List (List Member)) (net : List Member) (post : List (List Member))
    (hpre : ∀ n ∈ pre, Member.clk ∉ n) (hpost : ∀ n ∈ post, Member.clk ∉ n) (hnet : net.count Member.clk = 1) :
    trimLoop (pre ++ net :: post) [] none = some (keptOf (pre ++ net :: post), some (keptOf pre).length) ∧
    (keptOf (pre ++ net :: post))[(keptOf pre).length]? = some (net.filter Member.top) ∧
    Member.clk ∈ net.filter Member.top := by
  have hmem : Member.clk ∈ net := List.count_pos_iff.mp (hnet ▸ Nat.one_pos)
  have hidx := clkIdx_split pre net post hpre hmem
  refine ⟨?_, ?_, List.mem_filter.mpr ⟨hmem, rfl⟩⟩
  · rw [trimLoop_nil, hidx, List.flatten_append, List.flatten_cons, List.count_append, List.count_append,
      count_clk_flatten hpre, count_clk_flatten hpost, hnet]
    rfl
  · rw [keptOf_append, keptOf_cons, if_neg (filter_top_ne_nil hmem), List.getElem?_append_right (Nat.le_refl _),
      Nat.sub_self]
    rfl

/-- the index counts kept nets only: it is the input position minus the number of dropped nets before it -/
theorem clock_index_skips_dropped (pre : List (List Member)) :
    (keptOf pre).length + (pre.filter (fun n => n.all (fun x => !x.top))).length = pre.length := by
  induction pre with
  | nil => rfl
  | cons n ns ih =>
    have hall : n.all (fun x => !x.top) = decide (n.filter Member.top = []) := by
      rw [Bool.eq_iff_iff]; simp [List.filter_eq_nil_iff]
    rw [keptOf_cons, List.filter_cons, hall]
    by_cases h : n.filter Member.top = []
    · rw [if_pos h, decide_eq_true h, if_pos rfl, List.length_cons, ← Nat.add_assoc, ih, List.length_cons]
    · rw [if_neg h, decide_eq_false h, if_neg Bool.false_ne_true, List.length_cons, Nat.add_right_comm, ih,
        List.length_cons]

/-- no other kept net contains `s.clk` -/
theorem clock_unique (pre : List (List Member)) (net : List Member) (post : List (List Member))
    (hpre : ∀ n ∈ pre, Member.clk ∉ n) (hpost : ∀ n ∈ post, Member.clk ∉ n)
    (j : Nat) (n : List Member) (hj : (keptOf (pre ++ net :: post))[j]? = some n) (hc : Member.clk ∈ n) :
    j = (keptOf pre).length := by
  rw [keptOf_append] at hj
  rcases Nat.lt_or_ge j (keptOf pre).length with h | h
  · rw [List.getElem?_append_left h] at hj
    exact absurd hc (keptOf_noclk hpre n (List.mem_of_getElem? hj))
  · rw [List.getElem?_append_right h] at hj
    cases hk : j - (keptOf pre).length with
    | zero => exact Nat.le_antisymm (Nat.le_of_sub_eq_zero hk) h
    | succ k =>
      rw [hk, keptOf_cons] at hj
      have : n ∈ keptOf post := by
        by_cases he : net.filter Member.top = []
        · simp only [he, if_true] at hj; exact List.mem_of_getElem? hj
        · simp only [he, if_false, List.getElem?_cons_succ] at hj; exact List.mem_of_getElem? hj
      exact absurd hc (keptOf_noclk hpost n this)

/-- a design whose `s.clk` is in no value net: the loop leaves `vcd_clock_net_idx` unset (the declaration walk sets it) -/
theorem no_clock_net (nets : List (List Member)) (h : ∀ n ∈ nets, Member.clk ∉ n) :
    trimLoop nets [] none = some (keptOf nets, none) := by
  rw [trimLoop_nil, count_clk_flatten h, clkIdx_noclk h]; rfl

/-- a net without a whole signal (only bits / slices / struct fields / constants), anywhere in the input, changes
    nothing: not the kept nets, not the clock index, not a single `$var` line -/
theorem dropped_net_irrelevant (pre : List (List Member)) (d : List Member) (post : List (List Member))
    (decl : List Member) (hd : ∀ x ∈ d, x.top = false) :
    netTable (pre ++ d :: post) decl = netTable (pre ++ post) decl := by
  -- the loop sees the nets only through `keptOf` and the number of `s.clk`; `d` adds to neither
  have hf : d.filter Member.top = [] := List.filter_eq_nil_iff.mpr fun x hx h => Bool.false_ne_true ((hd x hx).symm.trans h)
  have hc : d.count Member.clk = 0 := List.count_eq_zero.mpr fun h => nomatch hd _ h
  have hk : keptOf (pre ++ d :: post) = keptOf (pre ++ post) := by
    rw [keptOf_append, keptOf_cons, if_pos hf, keptOf_append]
  unfold netTable
  rw [trimLoop_nil, trimLoop_nil, hk, List.flatten_append, List.flatten_cons, List.count_append, List.count_append, hc,
    Nat.zero_add, ← List.count_append, ← List.flatten_append]

/-- the nets the declaration walk appends: declared signals that are in no kept net, one net each -/
def ownNets (nets : List (List Member)) (decl : List Member) : List (List Member) :=
  (decl.filter (fun x => decide (x ∉ (keptOf nets).flatten))).map (fun x => [x])

/-- what `table` says of the table `t` the pass builds and of its clock index `i` -/
structure TableSpec (nets : List (List Member)) (decl : List Member) (t : NetTab) (i : Nat) : Prop where
  /-- the nets are the kept nets followed by the signals that are in no kept net -/
  nets_eq : t.nets = keptOf nets ++ ownNets nets decl
  /-- the `$var` lines are the declared signals in order -/
  vars_eq : t.vars.map (·.1) = decl
  /-- each with the number of a net that contains it -/
  var_in : ∀ p ∈ t.vars, InNet t.nets p.2 p.1
  clk_eq : t.clk = some i
  /-- the clock index points at a net that contains `s.clk` -/
  clk_in : InNet t.nets i .clk
  /-- if `s.clk` is in an input net, it is the index of `clock_index` -/
  clk_idx : ∀ pre net post, nets = pre ++ net :: post → (∀ n ∈ pre, Member.clk ∉ n) → (∀ n ∈ post, Member.clk ∉ n) →
    net.count Member.clk = 1 → i = (keptOf pre).length

/-- **the table.** At most one `s.clk` among all members of all nets, every signal declared once, `s.clk` among
    them: the pass does not raise, and its table is as `TableSpec` says -/
theorem table (nets : List (List Member)) (decl : List Member)
    (hclk : nets.flatten.count Member.clk ≤ 1) (hnd : decl.Nodup) (hdecl : Member.clk ∈ decl) :
    ∃ t i, netTable nets decl = some t ∧ TableSpec nets decl t i := by
  have hloop := (trimLoop_nil nets).trans (if_pos hclk)
  generalize hc : clkIdx (keptOf nets) = c at hloop
  let m0 : Member → Option Nat := dictGet (initMap (keptOf nets))
  have hcnone : m0 Member.clk = none → c = none := fun hm => hc.symm.trans ((clkIdx_eq_none_iff _).mpr hm)
  obtain ⟨t, vs, h1, h2, h3, h4, h5, h6, h7⟩ :=
    declareAll_spec m0 decl { nets := keptOf nets, clk := c, smap := initMap (keptOf nets), vars := [] } hnd
      (fun _ _ => rfl) (fun x _ j hj => initMap_some _ x j hj) fun _ => hcnone
  rw [List.nil_append] at h3
  subst h3
  have hclock : ∃ i, t.clk = some i ∧ InNet t.nets i .clk ∧ ∀ k, c = some k → i = k := by
    by_cases hm : m0 Member.clk = none
    · -- `s.clk` is in no value net: the walk appends the clock net
      exact let ⟨i, hi, hiv⟩ := h7 hdecl hm; ⟨i, hi, h5 _ hiv, fun k hk => nomatch (hcnone hm).symm.trans hk⟩
    · -- the loop has found it
      cases c with
      | none => exact absurd ((clkIdx_eq_none_iff _).mp hc) hm
      | some i =>
        exact ⟨i, h6 i rfl, h2 ▸ (clkIdx_some hc).append _, fun k hk => Option.some.inj hk⟩
  obtain ⟨i, hi, hn, hic⟩ := hclock
  refine ⟨t, i, by rw [netTable, hloop]; exact h1,
    { nets_eq := by rw [h2, ownNets, List.filter_congr fun x _ => initMap_isNone _ x], vars_eq := h4, var_in := h5,
      clk_eq := hi, clk_in := hn, clk_idx := ?_ }⟩
  intro pre net post e hpre _ hnet
  exact hic _ (hc.symm.trans (e ▸ clkIdx_split pre net post hpre (List.count_pos_iff.mp (hnet ▸ Nat.one_pos))))

/-- every declared signal gets exactly one `$var` line (one symbol), in declaration order -/
theorem every_signal_one_symbol (nets : List (List Member)) (decl : List Member)
    (hclk : nets.flatten.count Member.clk ≤ 1) (hnd : decl.Nodup) (hdecl : Member.clk ∈ decl) :
    ∃ t, netTable nets decl = some t ∧ t.vars.map (·.1) = decl ∧ (t.vars.map (·.1)).Nodup := by
  obtain ⟨t, _, h1, T⟩ := table nets decl hclk hnd hdecl
  exact ⟨t, h1, T.vars_eq, T.vars_eq ▸ hnd⟩

/-- the symbol of a declared signal is the symbol of a net that contains the signal -/
theorem symbol_of_own_net (nets : List (List Member)) (decl : List Member) (t : NetTab)
    (hclk : nets.flatten.count Member.clk ≤ 1) (hnd : decl.Nodup) (hdecl : Member.clk ∈ decl)
    (ht : netTable nets decl = some t) (x : Member) (j : Nat) (hp : (x, j) ∈ t.vars) :
    ∃ n, t.nets[j]? = some n ∧ x ∈ n := by
  obtain ⟨t', _, h1, T⟩ := table nets decl hclk hnd hdecl
  rw [ht] at h1; cases h1
  exact T.var_in (x, j) hp

/-- the final nets are pairwise disjoint when the kept nets are (a whole signal is in one value net) -/
theorem table_nets_disjoint (nets : List (List Member)) (decl : List Member) (hnd : decl.Nodup)
    (hdis : (keptOf nets).flatten.Nodup) : (keptOf nets ++ ownNets nets decl).flatten.Nodup := by
  rw [List.flatten_append, ownNets, ← List.flatMap_def, List.flatMap_singleton', List.nodup_append]
  refine ⟨hdis, hnd.filter _, ?_⟩
  intro a ha b hb e
  subst e
  have := (List.mem_filter.mp hb).2
  simp only [decide_eq_true_eq] at this
  exact this ha

/-- when the kept nets are pairwise disjoint (`hdis`: a whole signal is in one value net), two declared signals have the
    same symbol number exactly when one net contains both: signals of different nets get different symbols, signals
    sharing a net share its symbol -/
theorem same_symbol_iff_same_net (nets : List (List Member)) (decl : List Member) (t : NetTab)
    (hclk : nets.flatten.count Member.clk ≤ 1) (hnd : decl.Nodup) (hdecl : Member.clk ∈ decl)
    (hdis : (keptOf nets).flatten.Nodup) (ht : netTable nets decl = some t)
    (x y : Member) (j k : Nat) (hx : (x, j) ∈ t.vars) (hy : (y, k) ∈ t.vars) :
    j = k ↔ ∃ n ∈ t.nets, x ∈ n ∧ y ∈ n := by
  obtain ⟨t', _, h1, T⟩ := table nets decl hclk hnd hdecl
  rw [ht] at h1; cases h1
  obtain ⟨nx, hnx, hxn⟩ := T.var_in (x, j) hx
  obtain ⟨ny, hny, hyn⟩ := T.var_in (y, k) hy
  have hdj : t.nets.flatten.Nodup := T.nets_eq ▸ table_nets_disjoint nets decl hnd hdis
  constructor
  · intro e
    subst e
    rw [hnx] at hny; cases hny
    exact ⟨nx, List.mem_of_getElem? hnx, hxn, hyn⟩
  · rintro ⟨n, hn, hxn', hyn'⟩
    obtain ⟨i, hi⟩ := List.getElem?_of_mem hn
    exact (flatten_nodup_idx t.nets hdj j i nx n x hnx hi hxn hxn').trans
      (flatten_nodup_idx t.nets hdj k i ny n y hny hi hyn hyn').symm

/-- the same, for the identifier codes written into the file -/
theorem symbol_text_iff_same_net (nets : List (List Member)) (decl : List Member) (t : NetTab)
    (hclk : nets.flatten.count Member.clk ≤ 1) (hnd : decl.Nodup) (hdecl : Member.clk ∈ decl)
    (hdis : (keptOf nets).flatten.Nodup) (ht : netTable nets decl = some t)
    (x y : Member) (j k : Nat) (hx : (x, j) ∈ t.vars) (hy : (y, k) ∈ t.vars) :
    symbol j = symbol k ↔ ∃ n ∈ t.nets, x ∈ n ∧ y ∈ n := by
  rw [← same_symbol_iff_same_net nets decl t hclk hnd hdecl hdis ht x y j k hx hy]
  exact ⟨symbol_inj j k, fun e => e ▸ rfl⟩

/-- dropped nets contribute no symbol: the number of nets (= identifier codes handed out, = header value lines) is
    the number of kept nets plus the number of declared signals that are in no kept net, and every `$var` line uses
    one of these numbers -/
theorem dropped_nets_no_symbol (nets : List (List Member)) (decl : List Member) (t : NetTab)
    (hclk : nets.flatten.count Member.clk ≤ 1) (hnd : decl.Nodup) (hdecl : Member.clk ∈ decl)
    (ht : netTable nets decl = some t) :
    t.nets.length = (keptOf nets).length + (decl.filter (fun x => decide (x ∉ (keptOf nets).flatten))).length ∧
    ∀ p ∈ t.vars, p.2 < t.nets.length := by
  obtain ⟨t', _, h1, T⟩ := table nets decl hclk hnd hdecl
  rw [ht] at h1; cases h1
  exact ⟨by rw [T.nets_eq, List.length_append, ownNets, List.length_map], fun p hp => (T.var_in p hp).lt⟩

/-- **end to end, per net.** For every enumeration order of the value nets the table yields a `Design` whose clock
    index is inside the net list and points at the net of `s.clk`; reading the dump of any trace over that design
    gives the trace back (all-zero defaults, as in pymtl3) -/
theorem table_replay_dump (nets : List (List Member)) (decl : List Member) (w : Member → Nat)
    (hclk : nets.flatten.count Member.clk ≤ 1) (hnd : decl.Nodup) (hdecl : Member.clk ∈ decl) :
    ∃ t d, netTable nets decl = some t ∧ t.design w = some d ∧ d.clk < d.widths.length ∧
      (∃ n, t.nets[d.clk]? = some n ∧ Member.clk ∈ n) ∧
      ∀ tr : List (List Nat), (∀ row ∈ tr, RowOk d row) →
        replay (dataDecls d) (dump d (List.replicate d.widths.length 0) tr) tr.length
          = tr.map (fun row => row.map some) := by
  obtain ⟨t, i, h1, T⟩ := table nets decl hclk hnd hdecl
  obtain ⟨d, h2, hk, hn, _⟩ := table_design w t i T.clk_eq T.clk_in T.var_in
  exact ⟨t, d, h1, h2, hk, hn, fun tr hr => replay_dump_zero_init d tr hk hr⟩

/-- **end to end, per signal.** Every declared signal that is not on the clock net reads back, in every cycle, the
    value sampled for the net the table put it on -/
theorem table_replay_signal (nets : List (List Member)) (decl : List Member) (w : Member → Nat)
    (hclk : nets.flatten.count Member.clk ≤ 1) (hnd : decl.Nodup) (hdecl : Member.clk ∈ decl) :
    ∃ t d, netTable nets decl = some t ∧ t.design w = some d ∧ d.sigs.length = decl.length ∧
      ∀ tr : List (List Nat), (∀ row ∈ tr, RowOk d row) →
        ∀ (a : Nat) (ha : a < d.sigs.length), d.sigs[a] ≠ d.clk → ∀ (c : Nat) (hc : c < tr.length),
          ∃ v, tr[c][dataPos d d.sigs[a]]? = some v ∧
            (replay (decls d) (dump d (List.replicate d.widths.length 0) tr) tr.length)[c]?.bind (·[a]?) = some (some v) := by
  obtain ⟨t, i, h1, T⟩ := table nets decl hclk hnd hdecl
  obtain ⟨d, h2, hk, _, hl, hs⟩ := table_design w t i T.clk_eq T.clk_in T.var_in
  exact ⟨t, d, h1, h2, hl.trans (T.vars_eq ▸ (List.length_map _).symm), fun tr hr a ha hne c hc => replay_signal d _ tr hk
    List.length_replicate (quirkSafe_replicate d 0) hr a ha hne (hs _ (List.getElem_mem ha)) c hc⟩

/-! ## non-vacuity -/

/-- a design in the shape of seed C16-13's demo: two bit-to-bit nets and a constant-tied slice are enumerated before
    the clock net, one slice-to-slice net after it -/
def exNets : List (List Member) :=
  [ [.slice 4, .slice 3], [.whole 1, .whole 2], [.const, .slice 4], [.slice 3, .slice 4],
    [.whole 6, .clk], [.slice 4, .slice 3], [.whole 7, .slice 1, .whole 8] ]
def exDecl : List Member := [.whole 1, .clk, .whole 4, .whole 7, .whole 2, .whole 3, .whole 6, .whole 8]

example : keptOf exNets = [[.whole 1, .whole 2], [.whole 6, .clk], [.whole 7, .whole 8]] := by decide
example : trimLoop exNets [] none = some (keptOf exNets, some 1) := by decide
/-- position 4 in the input, 3 dropped nets before it: index 1 -/
example : (keptOf (exNets.take 4)).length = 1 ∧ ((exNets.take 4).filter (fun n => n.all (fun x => !x.top))).length = 3 := by decide
example : (netTable exNets exDecl).map (·.vars)
    = some [(.whole 1, 0), (.clk, 1), (.whole 4, 3), (.whole 7, 2), (.whole 2, 0), (.whole 3, 4), (.whole 6, 1), (.whole 8, 2)] := by
  decide +kernel
example : (netTable exNets exDecl).map (·.nets)
    = some [[.whole 1, .whole 2], [.whole 6, .clk], [.whole 7, .whole 8], [.whole 4], [.whole 3]] := by decide +kernel
example : (netTable exNets exDecl).bind (·.clk) = some 1 := by decide +kernel
example : exNets.flatten.count Member.clk ≤ 1 ∧ exDecl.Nodup ∧ Member.clk ∈ exDecl ∧ (keptOf exNets).flatten.Nodup := by decide +kernel
/-- the same nets in another order give the same partition, other numbers -/
example : (netTable exNets.reverse exDecl).bind (·.clk) = some 1 ∧
    (netTable (exNets.rotateLeft 4) exDecl).bind (·.clk) = some 0 := by decide +kernel
/-- removing the dropped nets changes nothing (`dropped_net_irrelevant`) -/
example : netTable exNets exDecl = netTable [[.whole 1, .whole 2], [.whole 6, .clk], [.whole 7, .slice 1, .whole 8]] exDecl := rfl
/-- a flat design: `s.clk` is in no value net and becomes the clock net when it is declared (`no_clock_net`, `table`) -/
example : (netTable [[.slice 1, .const], [.whole 1, .whole 2]] [.whole 2, .clk, .whole 1]).map (fun t => (t.nets, t.clk, t.vars))
    = some ([[.whole 1, .whole 2], [.clk]], some 1, [(.whole 2, 0), (.clk, 1), (.whole 1, 0)]) := by decide +kernel
/-- two `s.clk` members trip the assertion of the loop (why `table` asks for at most one) -/
example : netTable [[.clk, .whole 1], [.clk]] [.clk, .whole 1] = none := by decide
/-- what the index would be if it were the position in the input list (seed C16-13): 4, past the last kept net -/
example : exNets[4]? = some [.whole 6, .clk] ∧ (keptOf exNets).length = 3 := by decide
/-- the composed statement on the example: the design of the table replays a trace (clock net in the middle) -/
example :
    ((netTable exNets exDecl).bind (·.design (fun _ => 2))).map
      (fun d => replay (dataDecls d) (dump d (List.replicate d.widths.length 0) [[1, 2, 3, 0], [1, 0, 3, 2]]) 2)
      = some [[some 1, some 2, some 3, some 0], [some 1, some 0, some 3, some 2]] := by decide +kernel

end PV.C16n
