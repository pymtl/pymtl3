import PymtlVerif.Props.C09Gen
import PymtlVerif.Model.Rtl
/-!
# C02Gen — the slice-overlap test generated from the current Python source equals `Rng.overlap` of the model

`Gen/OverlapGen.lean` is regenerated by `tools/py2lean_overlap.py` from `_overlap` / `Signal.slice_overlap` of
`pymtl3/dsl/Connectable.py` before every build of this file.

Correspondence of the arguments: a slice `sig[lo:hi]` of the signal with identity `s` is the range
`⟨s, lo, hi - lo⟩ : Rng` (`lo` first bit, `hi - lo` bits); an int index `i` is the one-bit range `⟨s, i, 1⟩`.
Hypothesis `lo < hi`: `Signal.__getitem__` asserts `0 ≤ start < stop ≤ nbits` for every slice it creates, so
every `_dsl.slice` is non-empty (for an empty slice the Python test and `Rng.overlap` differ: Python only compares
the ends).  `_overlap` itself does not look at the signals; `slice_overlap` asserts that both are slices of one parent.
-/
namespace PV.C02Gen
open PV.Bits PV.Rtl

/-- two ranges of one signal overlap when each starts before the other ends: the arithmetic the generated tests are compared with -/
theorem overlap_same_sig (s l1 w1 l2 w2 : Nat) :
    Rng.overlap ⟨s, l1, w1⟩ ⟨s, l2, w2⟩ = decide (l1 < l2 + w2 ∧ l2 < l1 + w1) := by
  simp only [Rng.overlap, beq_self_eq_true, Bool.true_and, Bool.decide_and]

/-- The two models of `_overlap` agree on non-empty slices of one signal. `Nets.overlap` is the Python text: it compares
one pair of ends, chosen by the order of the starts; on non-empty slices the other comparison then holds anyway. -/
theorem nets_overlap_eq_rng (s lo1 hi1 lo2 hi2 : Nat) (h1 : lo1 < hi1) (h2 : lo2 < hi2) :
    Nets.overlap (lo1, hi1) (lo2, hi2) = Rng.overlap ⟨s, lo1, hi1 - lo1⟩ ⟨s, lo2, hi2 - lo2⟩ := by
  rw [overlap_same_sig, Nets.overlap]
  split
  · exact decide_eq_decide.mpr (by omega)
  · exact decide_eq_decide.mpr (by omega)

/-- `_overlap(slice(lo1, hi1), slice(lo2, hi2))` on two non-empty slices of one signal is `Rng.overlap` -/
theorem gen_overlap_eq (s lo1 hi1 lo2 hi2 : Nat) (h1 : lo1 < hi1) (h2 : lo2 < hi2) :
    OverlapGen.overlap_ss (some (lo1 : Int)) (some (hi1 : Int)) none (some (lo2 : Int)) (some (hi2 : Int)) none
      = .ok (Rng.overlap ⟨s, lo1, hi1 - lo1⟩ ⟨s, lo2, hi2 - lo2⟩) :=
  (C09Gen.gen_overlap_eq_nets lo1 hi1 lo2 hi2).trans (congrArg _ (nets_overlap_eq_rng s lo1 hi1 lo2 hi2 h1 h2))

/-- a missing lower bound is the TypeError Python raises (`None <= int`), whatever the other bounds and the steps -/
theorem gen_overlap_none (lo1 hi1 lo2 hi2 : Bound) (st1 st2 : Bound) (h : lo1 = none ∨ lo2 = none) :
    OverlapGen.overlap_ss lo1 hi1 st1 lo2 hi2 st2 = .error .type := by
  unfold OverlapGen.overlap_ss
  cases lo1 <;> cases lo2 <;> simp at h ⊢

/-- slice against an int index `i` (the one-bit range `⟨s, i, 1⟩`) -/
theorem gen_overlap_si_eq (s lo hi i : Nat) :
    OverlapGen.overlap_si (some (lo : Int)) (some (hi : Int)) none (i : Int)
      = .ok (Rng.overlap ⟨s, lo, hi - lo⟩ ⟨s, i, 1⟩) := by
  rw [overlap_same_sig]
  exact congrArg _ (decide_eq_decide.mpr (by omega))

theorem gen_overlap_is_eq (s lo hi i : Nat) :
    OverlapGen.overlap_is (i : Int) (some (lo : Int)) (some (hi : Int)) none
      = .ok (Rng.overlap ⟨s, i, 1⟩ ⟨s, lo, hi - lo⟩) := by
  rw [overlap_same_sig]
  exact congrArg _ (decide_eq_decide.mpr (by omega))

theorem gen_overlap_ii_eq (s i j : Nat) :
    OverlapGen.overlap_ii (i : Int) (j : Int) = .ok (Rng.overlap ⟨s, i, 1⟩ ⟨s, j, 1⟩) := by
  rw [overlap_same_sig]
  exact congrArg _ (decide_eq_decide.mpr (by omega))

/-- `Signal.slice_overlap`: AssertionError unless both signals are slices of one parent; then `Rng.overlap` -/
theorem gen_slice_overlap_eq (p q lo1 hi1 lo2 hi2 : Nat) (h1 : lo1 < hi1) (h2 : lo2 < hi2) :
    OverlapGen.slice_overlap p (some (lo1 : Int)) (some (hi1 : Int)) none q (some (lo2 : Int)) (some (hi2 : Int)) none
      = if q = p then .ok (Rng.overlap ⟨p, lo1, hi1 - lo1⟩ ⟨q, lo2, hi2 - lo2⟩) else .error .assert := by
  unfold OverlapGen.slice_overlap
  by_cases h : q = p
  · subst h; simp [gen_overlap_eq q lo1 hi1 lo2 hi2 h1 h2]
  · simp [h]

end PV.C02Gen
