import PymtlVerif.Gen.PipeGen
import PymtlVerif.Proofs.Pipe
/-!
# C20pGen — Model/Pipe.lean's control and datapath-select logic IS what the source says (generated = model)

`Gen/PipeGen.lean` is regenerated by `tools/py2lean_pipe.py` from the Python source of ProcCtrl, ProcDpath, DropUnitRTL,
ImmGenRTL, AluRTL, DecodeInstType, the stdlib Mux / Adder / Incrementer / RegEnRst as instantiated, and ProcRTL's
connections, on every run of the check.  One generated definition per signal an `@update` block writes (a function of a
valuation `Sig` of the component's signals), one `_next` definition per register an `@update_ff` block writes.

`ctrlSig s i`, `dpathSig s i`, `dropSig s i` (below, hand-written: the NAMING tie) give every Python signal its term of
`Model/Pipe.lean`.  The theorems `gen_*_eq` say that this valuation satisfies EVERY generated equation: for a
combinational signal `x`, `<block>_x (ctrlSig s i) = (ctrlSig s i).x`; for a register `r`, `<block>_r_next (ctrlSig s i) =
(next s i).<field of r>`; for a component instance, the class's equation applied to the nets it is connected to gives the
model's wire; every `//=` between named signals connects equal terms; the signals nothing drives are exactly the three the
model takes as constant 0.  A change of an equation, a constant, a table row, a mux input order or a connection in the source
changes the generated file and breaks the corresponding `gen_*_eq`, whether or not any generated program exercises it.
Not covered (hand-transcribed only): the queues (BypassQueue2RTL, BypassQueue1EntryRTL), RegisterFile, and the ports of
ctrl / dpath / drop unit that ProcRTL connects to queues and interfaces (listed by name in `PipeGen.Top.envPorts`).
-/
namespace PV.C20pGen
open PV.Pipe PV.PipeGen

/-- the `Bits20` the Python packs a control-table row into: `concat( val, br, rs1_en, imm_type, op2_sel, rs2_en, alu_fn,
dmemreq_type, wb_result_sel, rf_wen, csrr, csrw )` -/
def csBits (c : CS) : Nat :=
  ((((((((((b2n c.inst_val * 2 + b2n c.br_type) * 2 + b2n c.rs1_en) * 8 + c.imm_type) * 4 + c.op2_sel) * 2 + b2n c.rs2_en) * 16
    + c.alu_fn) * 4 + c.dmemreq_type) * 4 + c.wb_result_sel) * 2 + b2n c.rf_wen_pending) * 2 + b2n c.csrr) * 2 + b2n c.csrw

def ctrlSig (s : State) (i : EnvIn) : Ctrl.Sig where
  reset := i.reset
  imemreq_en := imemreq_en s i
  imemreq_rdy := imemreq_rdy s
  imemresp_en := imemresp_en s i
  imemresp_rdy := imemresp_rdy s i
  imemresp_drop := imemresp_drop s i
  dmemreq_en := dmemreq_en s i
  dmemreq_rdy := i.dmem_req_rdy
  dmemreq_type := dmemreq_type s
  dmemresp_en := dmemresp_en s i
  dmemresp_rdy := dmemresp_rdy s i
  mngr2proc_en := mngr2proc_en s i
  mngr2proc_rdy := mngr2proc_rdy s i
  proc2mngr_en := proc2mngr_en s i
  proc2mngr_rdy := i.proc2mngr_rdy
  xcelreq_rdy := i.xcel_req_rdy
  xcelreq_en := xcelreq_en s i
  xcelreq_type := s.cx.xcelreq_type
  xcelresp_rdy := xcelresp_rdy s i
  xcelresp_en := xcelresp_en s i
  reg_en_F := reg_en_F s i
  pc_sel_F := pc_sel_F s
  reg_en_D := reg_en_D s i
  op1_byp_sel_D := op1_byp_sel_D s
  op2_byp_sel_D := op2_byp_sel_D s
  op2_sel_D := (cs s).op2_sel
  imm_type_D := (cs s).imm_type
  reg_en_X := reg_en_X s i
  alu_fn_X := s.cx.alu_fn
  reg_en_M := reg_en_M s i
  wb_result_sel_M := s.cm.wb_result_sel
  reg_en_W := reg_en_W s i
  rf_waddr_W := s.cw.rf_waddr
  rf_wen_W := rf_wen_W s
  inst_D := s.inst_D
  ne_X := ne_X s
  commit_inst := commit_inst s i
  val_F := s.val_F
  val_D := s.val_D
  val_X := s.val_X
  val_M := s.val_M
  val_W := s.val_W
  ostall_F := ostall_F s i
  ostall_D := ostall_D s i
  ostall_X := ostall_X s i
  ostall_M := ostall_M s i
  ostall_W := ostall_W s i
  stall_F := stall_F s i
  stall_D := stall_D s i
  stall_X := stall_X s i
  stall_M := stall_M s i
  stall_W := stall_W s i
  osquash_D := osquash_D
  osquash_X := osquash_X s i
  squash_F := squash_F s i
  squash_D := squash_D s i
  pc_redirect_X := pc_redirect_X s
  next_val_F := next_val_F s i
  inst_val_D := (cs s).inst_val
  br_type_D := (cs s).br_type
  rs1_en_D := (cs s).rs1_en
  rs2_en_D := (cs s).rs2_en
  alu_fn_D := (cs s).alu_fn
  dmemreq_type_D := (cs s).dmemreq_type
  rf_wen_pending_D := (cs s).rf_wen_pending
  rf_waddr_sel_D := 0
  csrw_D := (cs s).csrw
  csrr_D := (cs s).csrr
  proc2mngr_en_D := proc2mngr_en_D s
  mngr2proc_D := mngr2proc_D s
  wb_result_sel_D := (cs s).wb_result_sel
  xcelreq_D := xcelreq_D s
  rf_waddr_D := rf_waddr_D s
  xcelreq_type_D := xcelreq_type_D s
  cs := csBits (cs s)
  rf_waddr_X := s.cx.rf_waddr
  rf_waddr_M := s.cm.rf_waddr
  ostall_ld_X_rs1_D := ostall_ld_X_rs1_D s
  ostall_ld_X_rs2_D := ostall_ld_X_rs2_D s
  ostall_xcel_X_rs1_D := ostall_xcel_X_rs1_D s
  ostall_xcel_X_rs2_D := ostall_xcel_X_rs2_D s
  ostall_hazard_D := ostall_hazard_D s
  ostall_mngr_D := ostall_mngr_D s i
  next_val_D := next_val_D s i
  inst_type_X := s.cx.inst_type
  rf_wen_pending_X := s.cx.rf_wen_pending
  proc2mngr_en_X := s.cx.proc2mngr_en
  dmemreq_type_X := s.cx.dmemreq_type
  wb_result_sel_X := s.cx.wb_result_sel
  br_type_X := s.cx.br_type
  xcelreq_X := s.cx.xcelreq
  xcelreq_type_X := s.cx.xcelreq_type
  ostall_dmem_X := ostall_dmem_X s i
  ostall_xcel_X := ostall_xcel_X s i
  next_val_X := next_val_X s i
  inst_type_M := s.cm.inst_type
  rf_wen_pending_M := s.cm.rf_wen_pending
  proc2mngr_en_M := s.cm.proc2mngr_en
  dmemreq_type_M := s.cm.dmemreq_type
  xcelreq_M := s.cm.xcelreq
  ostall_xcel_M := ostall_xcel_M s i
  ostall_dmem_M := ostall_dmem_M s i
  next_val_M := next_val_M s i
  inst_type_W := s.cw.inst_type
  proc2mngr_en_W := s.cw.proc2mngr_en
  rf_wen_pending_W := s.cw.rf_wen_pending
  ostall_proc2mngr_W := false
  inst_type_decoder_D_out := inst_type_D s

def dpathSig (s : State) (i : EnvIn) : Dpath.Sig where
  reset := i.reset
  imemreq_addr := imemreq_addr s
  imemresp_data := imemresp_data s i
  dmemreq_addr := alu_out_X s
  dmemreq_data := s.store_X
  dmemresp_data := dmemresp_data s i
  mngr2proc_data := mngr2proc_data s i
  proc2mngr_data := s.wb_result_W
  xcelreq_addr := s.op2_X % 32
  xcelreq_data := s.op1_X
  xcelresp_data := xcelresp_data s i
  reg_en_F := reg_en_F s i
  pc_sel_F := pc_sel_F s
  reg_en_D := reg_en_D s i
  op1_byp_sel_D := op1_byp_sel_D s
  op2_byp_sel_D := op2_byp_sel_D s
  op2_sel_D := (cs s).op2_sel
  imm_type_D := (cs s).imm_type
  reg_en_X := reg_en_X s i
  alu_fn_X := s.cx.alu_fn
  reg_en_M := reg_en_M s i
  wb_result_sel_M := s.cm.wb_result_sel
  reg_en_W := reg_en_W s i
  rf_waddr_W := s.cw.rf_waddr
  rf_wen_W := rf_wen_W s
  inst_D := s.inst_D
  ne_X := ne_X s
  pc_F := s.pc_F
  pc_plus4_F := pc_plus4_F s
  br_target_X := s.br_target_X
  rf_rdata0_D := rf_rdata0_D s
  rf_rdata1_D := rf_rdata1_D s
  rf_wdata_W := s.wb_result_W
  bypass_X := bypass_X s
  bypass_M := bypass_M s i
  bypass_W := bypass_W s
  pc_reg_D_out := s.pc_D
  immgen_D_imm := imm_D s
  op1_byp_mux_D_out := op1_byp_D s i
  op2_byp_mux_D_out := op2_byp_D s i
  op2_sel_mux_D_out := op2_D s i
  pc_plus_imm_D_out := pc_plus_imm_D s
  op2_reg_X_out := s.op2_X
  ex_result_reg_M_out := s.ex_result_M

def dropSig (s : State) (i : EnvIn) : DropUnit_32.Sig where
  reset := i.reset
  drop := imemresp_drop s i
  in__en := drop_in_en s i
  in__rdy := drop_in_rdy s i
  in__ret := imemresp_data s i
  out_en := imemresp_en s i
  out_rdy := imemresp_rdy s i
  out_ret := imemresp_data s i
  snoop_state := s.drop_wait

/-- DecodeInstType.comb_logic -/
theorem gen_Decode_comb_logic_out_eq (v : Decode.Sig) : Decode.comb_logic_out v = decodeInstType v.in_ := by
  simp only [Decode.comb_logic_out, decodeInstType, opcode, funct3, funct7, beq_iff_eq, Nat.pow_zero, Nat.div_one,
    NOP, ADD, SLL, AND, SRL, ADDI, SW, LW, BNE, CSRW, CSRRX, CSRR, ZERO]
  rfl

/-- AluRTL.comb_logic -/
theorem gen_Alu_comb_logic_out_eq (v : Alu_32.Sig) : Alu_32.comb_logic_out v = alu v.fn v.in0 v.in1 := by
  simp only [Alu_32.comb_logic_out, alu, beq_iff_eq, Nat.pow_zero, Nat.div_one, TinyRV0.W32]
theorem gen_Alu_comb_logic_ops_ne_eq (v : Alu_32.Sig) : Alu_32.comb_logic_ops_ne v = (v.in0 != v.in1) := by rfl

/-- `concat( sext(inst[31], 20), inst[7], inst[25:31], inst[8:12], b1(0) )` is the model's sum of shifted fields -/
theorem immB_concat {a b c d : Nat} (ha : a < 2) :
    ((((sext 1 20 a) * 2^1 + b) * 2^6 + c) * 2^4 + d) * 2^1 + 0 =
      (if a = 1 then 1048575 else 0) * 4096 + b * 2048 + c * 32 + d * 2 := by
  unfold sext; split <;> split <;> omega

/-- ImmGenRTL.up_immgen -/
theorem gen_ImmGen_up_immgen_imm_eq (v : ImmGen.Sig) : ImmGen.up_immgen_imm v = immgen v.imm_type v.inst := by
  simp only [ImmGen.up_immgen_imm, immgen, beq_iff_eq]
  -- the same `if` chain on both sides; the I and S branches agree by computation of the constants
  exact ite_congr rfl (fun _ => rfl) fun _ => ite_congr rfl (fun _ => immB_concat (Nat.mod_lt _ (by decide))) fun _ => rfl

/-- the generated `Bits20` of each instruction type is the packed row of `csTable` -/
theorem cs_row_eq (v : Ctrl.Sig) : Ctrl.comb_control_table_D_cs v = csBits (csTable v.inst_type_decoder_D_out) := by
  simp only [Ctrl.comb_control_table_D_cs, csTable, beq_iff_eq, apply_ite csBits]
  rfl

/-- the Python slice `b[k:k+w]`, and the test `b[k]` of one bit -/
def slice (b k w : Nat) : Nat := b / 2^k % 2^w
def bitAt (b k : Nat) : Bool := slice b k 1 == 1

/-- the slices `comb_control_table_D` takes out of the packed row, as a row again -/
def csOfBits (b : Nat) : CS :=
  ⟨bitAt b 19, bitAt b 18, bitAt b 17, slice b 14 3, slice b 12 2, bitAt b 11, slice b 7 4, slice b 5 2, slice b 3 2,
    bitAt b 2, bitAt b 1, bitAt b 0⟩

/-- slicing the packed row gives back the model's columns, for every row of the table -/
theorem csBits_fields (t : Nat) : csOfBits (csBits (csTable t)) = csTable t :=
  csTable_forall (P := fun c => csOfBits (csBits c) = c) (by decide) t

theorem ite_le {c : Prop} [Decidable c] {a b n : Nat} (ha : a ≤ n) (hb : b ≤ n) : (if c then a else b) ≤ n := by
  split <;> assumption

/-- the bypass select is one of the four mux inputs -/
theorem byp_sel_le (s : State) (en : Bool) (r : Nat) : byp_sel s en r ≤ 3 :=
  ite_le (ite_le (by decide) (ite_le (by decide) (ite_le (by decide) (by decide)))) (by decide)

/-- on a select in range, the four-input `Mux` (0 on a fifth select) is the model's bypass mux (W on any other) -/
theorem mux4_le {sel a b c d : Nat} (h : sel ≤ 3) :
    (if sel = 0 then a else if sel = 1 then b else if sel = 2 then c else if sel = 3 then d else 0) =
      if sel = 0 then a else if sel = 1 then b else if sel = 2 then c else d :=
  ite_congr rfl (fun _ => rfl) fun _ => ite_congr rfl (fun _ => rfl) fun _ => ite_congr rfl (fun _ => rfl) fun _ =>
    if_pos (by omega)

/-! ## ProcCtrl: every `@update` equation holds of the model's valuation -/

theorem gen_comb_reg_en_F_reg_en_F_eq (s : State) (i : EnvIn) : Ctrl.comb_reg_en_F_reg_en_F (ctrlSig s i) = (ctrlSig s i).reg_en_F := by rfl
theorem gen_reg_F_val_F_next_eq (s : State) (i : EnvIn) : Ctrl.reg_F_val_F_next (ctrlSig s i) = (next s i).val_F := by rfl
theorem gen_comb_PC_sel_F_pc_sel_F_eq (s : State) (i : EnvIn) : Ctrl.comb_PC_sel_F_pc_sel_F (ctrlSig s i) = (ctrlSig s i).pc_sel_F := by
  simp only [Ctrl.comb_PC_sel_F_pc_sel_F, ctrlSig, pc_sel_F]
  rcases Bool.eq_false_or_eq_true (pc_redirect_X s) with h | h <;> simp [h]
theorem gen_comb_F_squash_squash_F_eq (s : State) (i : EnvIn) : Ctrl.comb_F_squash_squash_F (ctrlSig s i) = (ctrlSig s i).squash_F := by rfl
theorem gen_comb_F_squash_imemresp_drop_eq (s : State) (i : EnvIn) : Ctrl.comb_F_squash_imemresp_drop (ctrlSig s i) = (ctrlSig s i).imemresp_drop := by rfl
theorem gen_comb_F_ostall_F_eq (s : State) (i : EnvIn) : Ctrl.comb_F_ostall_F (ctrlSig s i) = (ctrlSig s i).ostall_F := by rfl
theorem gen_comb_F_stall_F_eq (s : State) (i : EnvIn) : Ctrl.comb_F_stall_F (ctrlSig s i) = (ctrlSig s i).stall_F := by rfl
theorem gen_comb_F_imemreq_en_eq (s : State) (i : EnvIn) : Ctrl.comb_F_imemreq_en (ctrlSig s i) = (ctrlSig s i).imemreq_en := by rfl
theorem gen_comb_F_imemresp_en_eq (s : State) (i : EnvIn) : Ctrl.comb_F_imemresp_en (ctrlSig s i) = (ctrlSig s i).imemresp_en := by rfl
theorem gen_comb_F_next_val_F_eq (s : State) (i : EnvIn) : Ctrl.comb_F_next_val_F (ctrlSig s i) = (ctrlSig s i).next_val_F := by rfl
theorem gen_comb_reg_en_D_reg_en_D_eq (s : State) (i : EnvIn) : Ctrl.comb_reg_en_D_reg_en_D (ctrlSig s i) = (ctrlSig s i).reg_en_D := by rfl
theorem gen_reg_D_val_D_next_eq (s : State) (i : EnvIn) : Ctrl.reg_D_val_D_next (ctrlSig s i) = (next s i).val_D := by rfl
theorem gen_comb_control_table_D_cs_eq (s : State) (i : EnvIn) : Ctrl.comb_control_table_D_cs (ctrlSig s i) = (ctrlSig s i).cs := cs_row_eq (ctrlSig s i)
theorem gen_comb_control_table_D_inst_val_D_eq (s : State) (i : EnvIn) : Ctrl.comb_control_table_D_inst_val_D (ctrlSig s i) = (ctrlSig s i).inst_val_D := congrArg CS.inst_val (csBits_fields (inst_type_D s))
theorem gen_comb_control_table_D_br_type_D_eq (s : State) (i : EnvIn) : Ctrl.comb_control_table_D_br_type_D (ctrlSig s i) = (ctrlSig s i).br_type_D := congrArg CS.br_type (csBits_fields (inst_type_D s))
theorem gen_comb_control_table_D_rs1_en_D_eq (s : State) (i : EnvIn) : Ctrl.comb_control_table_D_rs1_en_D (ctrlSig s i) = (ctrlSig s i).rs1_en_D := congrArg CS.rs1_en (csBits_fields (inst_type_D s))
theorem gen_comb_control_table_D_imm_type_D_eq (s : State) (i : EnvIn) : Ctrl.comb_control_table_D_imm_type_D (ctrlSig s i) = (ctrlSig s i).imm_type_D := congrArg CS.imm_type (csBits_fields (inst_type_D s))
theorem gen_comb_control_table_D_op2_sel_D_eq (s : State) (i : EnvIn) : Ctrl.comb_control_table_D_op2_sel_D (ctrlSig s i) = (ctrlSig s i).op2_sel_D := congrArg CS.op2_sel (csBits_fields (inst_type_D s))
theorem gen_comb_control_table_D_rs2_en_D_eq (s : State) (i : EnvIn) : Ctrl.comb_control_table_D_rs2_en_D (ctrlSig s i) = (ctrlSig s i).rs2_en_D := congrArg CS.rs2_en (csBits_fields (inst_type_D s))
theorem gen_comb_control_table_D_alu_fn_D_eq (s : State) (i : EnvIn) : Ctrl.comb_control_table_D_alu_fn_D (ctrlSig s i) = (ctrlSig s i).alu_fn_D := congrArg CS.alu_fn (csBits_fields (inst_type_D s))
theorem gen_comb_control_table_D_dmemreq_type_D_eq (s : State) (i : EnvIn) : Ctrl.comb_control_table_D_dmemreq_type_D (ctrlSig s i) = (ctrlSig s i).dmemreq_type_D := congrArg CS.dmemreq_type (csBits_fields (inst_type_D s))
theorem gen_comb_control_table_D_wb_result_sel_D_eq (s : State) (i : EnvIn) : Ctrl.comb_control_table_D_wb_result_sel_D (ctrlSig s i) = (ctrlSig s i).wb_result_sel_D := congrArg CS.wb_result_sel (csBits_fields (inst_type_D s))
theorem gen_comb_control_table_D_rf_wen_pending_D_eq (s : State) (i : EnvIn) : Ctrl.comb_control_table_D_rf_wen_pending_D (ctrlSig s i) = (ctrlSig s i).rf_wen_pending_D := congrArg CS.rf_wen_pending (csBits_fields (inst_type_D s))
theorem gen_comb_control_table_D_csrr_D_eq (s : State) (i : EnvIn) : Ctrl.comb_control_table_D_csrr_D (ctrlSig s i) = (ctrlSig s i).csrr_D := congrArg CS.csrr (csBits_fields (inst_type_D s))
theorem gen_comb_control_table_D_csrw_D_eq (s : State) (i : EnvIn) : Ctrl.comb_control_table_D_csrw_D (ctrlSig s i) = (ctrlSig s i).csrw_D := congrArg CS.csrw (csBits_fields (inst_type_D s))
theorem gen_comb_control_table_D_rf_waddr_D_eq (s : State) (i : EnvIn) : Ctrl.comb_control_table_D_rf_waddr_D (ctrlSig s i) = (ctrlSig s i).rf_waddr_D := by rfl
theorem gen_comb_control_table_D_proc2mngr_en_D_eq (s : State) (i : EnvIn) : Ctrl.comb_control_table_D_proc2mngr_en_D (ctrlSig s i) = (ctrlSig s i).proc2mngr_en_D := by rfl
theorem gen_comb_control_table_D_mngr2proc_D_eq (s : State) (i : EnvIn) : Ctrl.comb_control_table_D_mngr2proc_D (ctrlSig s i) = (ctrlSig s i).mngr2proc_D := by rfl
theorem gen_comb_control_table_D_xcelreq_type_D_eq (s : State) (i : EnvIn) : Ctrl.comb_control_table_D_xcelreq_type_D (ctrlSig s i) = (ctrlSig s i).xcelreq_type_D := by rfl
theorem gen_comb_control_table_D_xcelreq_D_eq (s : State) (i : EnvIn) : Ctrl.comb_control_table_D_xcelreq_D (ctrlSig s i) = (ctrlSig s i).xcelreq_D := by rfl
theorem gen_comb_bypass_D_op1_byp_sel_D_eq (s : State) (i : EnvIn) : Ctrl.comb_bypass_D_op1_byp_sel_D (ctrlSig s i) = (ctrlSig s i).op1_byp_sel_D := by rfl
theorem gen_comb_bypass_D_op2_byp_sel_D_eq (s : State) (i : EnvIn) : Ctrl.comb_bypass_D_op2_byp_sel_D (ctrlSig s i) = (ctrlSig s i).op2_byp_sel_D := by rfl
theorem gen_comb_hazard_D_ostall_ld_X_rs1_D_eq (s : State) (i : EnvIn) : Ctrl.comb_hazard_D_ostall_ld_X_rs1_D (ctrlSig s i) = (ctrlSig s i).ostall_ld_X_rs1_D := by rfl
theorem gen_comb_hazard_D_ostall_ld_X_rs2_D_eq (s : State) (i : EnvIn) : Ctrl.comb_hazard_D_ostall_ld_X_rs2_D (ctrlSig s i) = (ctrlSig s i).ostall_ld_X_rs2_D := by rfl
theorem gen_comb_hazard_D_ostall_xcel_X_rs1_D_eq (s : State) (i : EnvIn) : Ctrl.comb_hazard_D_ostall_xcel_X_rs1_D (ctrlSig s i) = (ctrlSig s i).ostall_xcel_X_rs1_D := by rfl
theorem gen_comb_hazard_D_ostall_xcel_X_rs2_D_eq (s : State) (i : EnvIn) : Ctrl.comb_hazard_D_ostall_xcel_X_rs2_D (ctrlSig s i) = (ctrlSig s i).ostall_xcel_X_rs2_D := by rfl
theorem gen_comb_hazard_D_ostall_hazard_D_eq (s : State) (i : EnvIn) : Ctrl.comb_hazard_D_ostall_hazard_D (ctrlSig s i) = (ctrlSig s i).ostall_hazard_D := by rfl
theorem gen_comb_D_ostall_mngr_D_eq (s : State) (i : EnvIn) : Ctrl.comb_D_ostall_mngr_D (ctrlSig s i) = (ctrlSig s i).ostall_mngr_D := by rfl
theorem gen_comb_D_ostall_D_eq (s : State) (i : EnvIn) : Ctrl.comb_D_ostall_D (ctrlSig s i) = (ctrlSig s i).ostall_D := by rfl
theorem gen_comb_D_stall_D_eq (s : State) (i : EnvIn) : Ctrl.comb_D_stall_D (ctrlSig s i) = (ctrlSig s i).stall_D := by rfl
theorem gen_comb_D_squash_D_eq (s : State) (i : EnvIn) : Ctrl.comb_D_squash_D (ctrlSig s i) = (ctrlSig s i).squash_D := by rfl
theorem gen_comb_D_next_val_D_eq (s : State) (i : EnvIn) : Ctrl.comb_D_next_val_D (ctrlSig s i) = (ctrlSig s i).next_val_D := by rfl
theorem gen_comb_D_mngr2proc_en_eq (s : State) (i : EnvIn) : Ctrl.comb_D_mngr2proc_en (ctrlSig s i) = (ctrlSig s i).mngr2proc_en := by rfl
theorem gen_comb_reg_en_X_reg_en_X_eq (s : State) (i : EnvIn) : Ctrl.comb_reg_en_X_reg_en_X (ctrlSig s i) = (ctrlSig s i).reg_en_X := by rfl
theorem gen_reg_X_val_X_next_eq (s : State) (i : EnvIn) : Ctrl.reg_X_val_X_next (ctrlSig s i) = (next s i).val_X := by rfl
theorem gen_reg_X_rf_wen_pending_X_next_eq (s : State) (i : EnvIn) : Ctrl.reg_X_rf_wen_pending_X_next (ctrlSig s i) = (next s i).cx.rf_wen_pending :=
  reg_proj CtlX.rf_wen_pending i.reset (reg_en_X s i) (ctlX_next s) s.cx
theorem gen_reg_X_inst_type_X_next_eq (s : State) (i : EnvIn) : Ctrl.reg_X_inst_type_X_next (ctrlSig s i) = (next s i).cx.inst_type :=
  reg_proj CtlX.inst_type i.reset (reg_en_X s i) (ctlX_next s) s.cx
theorem gen_reg_X_alu_fn_X_next_eq (s : State) (i : EnvIn) : Ctrl.reg_X_alu_fn_X_next (ctrlSig s i) = (next s i).cx.alu_fn :=
  reg_proj CtlX.alu_fn i.reset (reg_en_X s i) (ctlX_next s) s.cx
theorem gen_reg_X_rf_waddr_X_next_eq (s : State) (i : EnvIn) : Ctrl.reg_X_rf_waddr_X_next (ctrlSig s i) = (next s i).cx.rf_waddr :=
  reg_proj CtlX.rf_waddr i.reset (reg_en_X s i) (ctlX_next s) s.cx
theorem gen_reg_X_proc2mngr_en_X_next_eq (s : State) (i : EnvIn) : Ctrl.reg_X_proc2mngr_en_X_next (ctrlSig s i) = (next s i).cx.proc2mngr_en :=
  reg_proj CtlX.proc2mngr_en i.reset (reg_en_X s i) (ctlX_next s) s.cx
theorem gen_reg_X_dmemreq_type_X_next_eq (s : State) (i : EnvIn) : Ctrl.reg_X_dmemreq_type_X_next (ctrlSig s i) = (next s i).cx.dmemreq_type :=
  reg_proj CtlX.dmemreq_type i.reset (reg_en_X s i) (ctlX_next s) s.cx
theorem gen_reg_X_wb_result_sel_X_next_eq (s : State) (i : EnvIn) : Ctrl.reg_X_wb_result_sel_X_next (ctrlSig s i) = (next s i).cx.wb_result_sel :=
  reg_proj CtlX.wb_result_sel i.reset (reg_en_X s i) (ctlX_next s) s.cx
theorem gen_reg_X_br_type_X_next_eq (s : State) (i : EnvIn) : Ctrl.reg_X_br_type_X_next (ctrlSig s i) = (next s i).cx.br_type :=
  reg_proj CtlX.br_type i.reset (reg_en_X s i) (ctlX_next s) s.cx
theorem gen_reg_X_xcelreq_X_next_eq (s : State) (i : EnvIn) : Ctrl.reg_X_xcelreq_X_next (ctrlSig s i) = (next s i).cx.xcelreq :=
  reg_proj CtlX.xcelreq i.reset (reg_en_X s i) (ctlX_next s) s.cx
theorem gen_reg_X_xcelreq_type_X_next_eq (s : State) (i : EnvIn) : Ctrl.reg_X_xcelreq_type_X_next (ctrlSig s i) = (next s i).cx.xcelreq_type :=
  reg_proj CtlX.xcelreq_type i.reset (reg_en_X s i) (ctlX_next s) s.cx
theorem gen_comb_br_X_pc_redirect_X_eq (s : State) (i : EnvIn) : Ctrl.comb_br_X_pc_redirect_X (ctrlSig s i) = (ctrlSig s i).pc_redirect_X := by rfl
theorem gen_comb_X_ostall_dmem_X_eq (s : State) (i : EnvIn) : Ctrl.comb_X_ostall_dmem_X (ctrlSig s i) = (ctrlSig s i).ostall_dmem_X := by rfl
theorem gen_comb_X_ostall_xcel_X_eq (s : State) (i : EnvIn) : Ctrl.comb_X_ostall_xcel_X (ctrlSig s i) = (ctrlSig s i).ostall_xcel_X := by rfl
theorem gen_comb_X_ostall_X_eq (s : State) (i : EnvIn) : Ctrl.comb_X_ostall_X (ctrlSig s i) = (ctrlSig s i).ostall_X := by rfl
theorem gen_comb_X_stall_X_eq (s : State) (i : EnvIn) : Ctrl.comb_X_stall_X (ctrlSig s i) = (ctrlSig s i).stall_X := by rfl
theorem gen_comb_X_osquash_X_eq (s : State) (i : EnvIn) : Ctrl.comb_X_osquash_X (ctrlSig s i) = (ctrlSig s i).osquash_X := by rfl
theorem gen_comb_X_dmemreq_en_eq (s : State) (i : EnvIn) : Ctrl.comb_X_dmemreq_en (ctrlSig s i) = (ctrlSig s i).dmemreq_en := by rfl
theorem gen_comb_X_dmemreq_type_eq (s : State) (i : EnvIn) : Ctrl.comb_X_dmemreq_type (ctrlSig s i) = (ctrlSig s i).dmemreq_type := by
  simp only [Ctrl.comb_X_dmemreq_type, ctrlSig, dmemreq_type, b2n, st]
  by_cases h : s.cx.dmemreq_type = 2 <;> simp [h]
theorem gen_comb_X_xcelreq_en_eq (s : State) (i : EnvIn) : Ctrl.comb_X_xcelreq_en (ctrlSig s i) = (ctrlSig s i).xcelreq_en := by rfl
theorem gen_comb_X_xcelreq_type_eq (s : State) (i : EnvIn) : Ctrl.comb_X_xcelreq_type (ctrlSig s i) = (ctrlSig s i).xcelreq_type := by rfl
theorem gen_comb_X_next_val_X_eq (s : State) (i : EnvIn) : Ctrl.comb_X_next_val_X (ctrlSig s i) = (ctrlSig s i).next_val_X := by rfl
theorem gen_comb_reg_en_M_reg_en_M_eq (s : State) (i : EnvIn) : Ctrl.comb_reg_en_M_reg_en_M (ctrlSig s i) = (ctrlSig s i).reg_en_M := by rfl
theorem gen_reg_M_val_M_next_eq (s : State) (i : EnvIn) : Ctrl.reg_M_val_M_next (ctrlSig s i) = (next s i).val_M := by rfl
theorem gen_reg_M_rf_wen_pending_M_next_eq (s : State) (i : EnvIn) : Ctrl.reg_M_rf_wen_pending_M_next (ctrlSig s i) = (next s i).cm.rf_wen_pending :=
  reg_proj CtlM.rf_wen_pending i.reset (reg_en_M s i) (ctlM_next s) s.cm
theorem gen_reg_M_inst_type_M_next_eq (s : State) (i : EnvIn) : Ctrl.reg_M_inst_type_M_next (ctrlSig s i) = (next s i).cm.inst_type :=
  reg_proj CtlM.inst_type i.reset (reg_en_M s i) (ctlM_next s) s.cm
theorem gen_reg_M_rf_waddr_M_next_eq (s : State) (i : EnvIn) : Ctrl.reg_M_rf_waddr_M_next (ctrlSig s i) = (next s i).cm.rf_waddr :=
  reg_proj CtlM.rf_waddr i.reset (reg_en_M s i) (ctlM_next s) s.cm
theorem gen_reg_M_proc2mngr_en_M_next_eq (s : State) (i : EnvIn) : Ctrl.reg_M_proc2mngr_en_M_next (ctrlSig s i) = (next s i).cm.proc2mngr_en :=
  reg_proj CtlM.proc2mngr_en i.reset (reg_en_M s i) (ctlM_next s) s.cm
theorem gen_reg_M_dmemreq_type_M_next_eq (s : State) (i : EnvIn) : Ctrl.reg_M_dmemreq_type_M_next (ctrlSig s i) = (next s i).cm.dmemreq_type :=
  reg_proj CtlM.dmemreq_type i.reset (reg_en_M s i) (ctlM_next s) s.cm
theorem gen_reg_M_wb_result_sel_M_next_eq (s : State) (i : EnvIn) : Ctrl.reg_M_wb_result_sel_M_next (ctrlSig s i) = (next s i).cm.wb_result_sel :=
  reg_proj CtlM.wb_result_sel i.reset (reg_en_M s i) (ctlM_next s) s.cm
theorem gen_reg_M_xcelreq_M_next_eq (s : State) (i : EnvIn) : Ctrl.reg_M_xcelreq_M_next (ctrlSig s i) = (next s i).cm.xcelreq :=
  reg_proj CtlM.xcelreq i.reset (reg_en_M s i) (ctlM_next s) s.cm
theorem gen_comb_M_ostall_xcel_M_eq (s : State) (i : EnvIn) : Ctrl.comb_M_ostall_xcel_M (ctrlSig s i) = (ctrlSig s i).ostall_xcel_M := by rfl
theorem gen_comb_M_ostall_dmem_M_eq (s : State) (i : EnvIn) : Ctrl.comb_M_ostall_dmem_M (ctrlSig s i) = (ctrlSig s i).ostall_dmem_M := by rfl
theorem gen_comb_M_ostall_M_eq (s : State) (i : EnvIn) : Ctrl.comb_M_ostall_M (ctrlSig s i) = (ctrlSig s i).ostall_M := by rfl
theorem gen_comb_M_stall_M_eq (s : State) (i : EnvIn) : Ctrl.comb_M_stall_M (ctrlSig s i) = (ctrlSig s i).stall_M := by rfl
theorem gen_comb_M_dmemresp_en_eq (s : State) (i : EnvIn) : Ctrl.comb_M_dmemresp_en (ctrlSig s i) = (ctrlSig s i).dmemresp_en := by rfl
theorem gen_comb_M_xcelresp_en_eq (s : State) (i : EnvIn) : Ctrl.comb_M_xcelresp_en (ctrlSig s i) = (ctrlSig s i).xcelresp_en := by rfl
theorem gen_comb_M_next_val_M_eq (s : State) (i : EnvIn) : Ctrl.comb_M_next_val_M (ctrlSig s i) = (ctrlSig s i).next_val_M := by rfl
theorem gen_comb_reg_en_W_reg_en_W_eq (s : State) (i : EnvIn) : Ctrl.comb_reg_en_W_reg_en_W (ctrlSig s i) = (ctrlSig s i).reg_en_W := by rfl
theorem gen_reg_W_val_W_next_eq (s : State) (i : EnvIn) : Ctrl.reg_W_val_W_next (ctrlSig s i) = (next s i).val_W := by rfl
theorem gen_reg_W_rf_wen_pending_W_next_eq (s : State) (i : EnvIn) : Ctrl.reg_W_rf_wen_pending_W_next (ctrlSig s i) = (next s i).cw.rf_wen_pending :=
  reg_proj CtlW.rf_wen_pending i.reset (reg_en_W s i) (ctlW_next s) s.cw
theorem gen_reg_W_inst_type_W_next_eq (s : State) (i : EnvIn) : Ctrl.reg_W_inst_type_W_next (ctrlSig s i) = (next s i).cw.inst_type :=
  reg_proj CtlW.inst_type i.reset (reg_en_W s i) (ctlW_next s) s.cw
theorem gen_reg_W_rf_waddr_W_next_eq (s : State) (i : EnvIn) : Ctrl.reg_W_rf_waddr_W_next (ctrlSig s i) = (next s i).cw.rf_waddr :=
  reg_proj CtlW.rf_waddr i.reset (reg_en_W s i) (ctlW_next s) s.cw
theorem gen_reg_W_proc2mngr_en_W_next_eq (s : State) (i : EnvIn) : Ctrl.reg_W_proc2mngr_en_W_next (ctrlSig s i) = (next s i).cw.proc2mngr_en :=
  reg_proj CtlW.proc2mngr_en i.reset (reg_en_W s i) (ctlW_next s) s.cw
theorem gen_comb_W_rf_wen_W_eq (s : State) (i : EnvIn) : Ctrl.comb_W_rf_wen_W (ctrlSig s i) = (ctrlSig s i).rf_wen_W := by rfl
theorem gen_comb_W_ostall_W_eq (s : State) (i : EnvIn) : Ctrl.comb_W_ostall_W (ctrlSig s i) = (ctrlSig s i).ostall_W := by rfl
theorem gen_comb_W_stall_W_eq (s : State) (i : EnvIn) : Ctrl.comb_W_stall_W (ctrlSig s i) = (ctrlSig s i).stall_W := by rfl
theorem gen_comb_W_proc2mngr_en_eq (s : State) (i : EnvIn) : Ctrl.comb_W_proc2mngr_en (ctrlSig s i) = (ctrlSig s i).proc2mngr_en := by rfl
theorem gen_comb_W_commit_inst_eq (s : State) (i : EnvIn) : Ctrl.comb_W_commit_inst (ctrlSig s i) = (ctrlSig s i).commit_inst := by rfl
theorem gen_inst_type_decoder_D_out_eq (s : State) (i : EnvIn) : Ctrl.inst_type_decoder_D_out (ctrlSig s i) = (ctrlSig s i).inst_type_decoder_D_out := gen_Decode_comb_logic_out_eq _

/-! ## ProcDpath: every component instance computes the model's wire from the nets it is connected to -/

theorem gen_dpath_pc_incr_F_out_eq (s : State) (i : EnvIn) : Dpath.pc_incr_F_out (dpathSig s i) = (dpathSig s i).pc_plus4_F := by rfl
theorem gen_dpath_pc_sel_mux_F_out_eq (s : State) (i : EnvIn) : Dpath.pc_sel_mux_F_out (dpathSig s i) = (dpathSig s i).imemreq_addr := by
  simp only [Dpath.pc_sel_mux_F_out, Dpath.pc_sel_mux_F_sig, Mux_32_2.up_mux_out, dpathSig, imemreq_addr, b2n]
  rcases Bool.eq_false_or_eq_true (pc_sel_F s) with h | h <;> simp [h]
theorem gen_dpath_pc_reg_F_out_next_eq (s : State) (i : EnvIn) : Dpath.pc_reg_F_out_next (dpathSig s i) = (next s i).pc_F := by rfl
theorem gen_dpath_pc_reg_D_out_next_eq (s : State) (i : EnvIn) : Dpath.pc_reg_D_out_next (dpathSig s i) = (next s i).pc_D := by rfl
theorem gen_dpath_inst_D_reg_out_next_eq (s : State) (i : EnvIn) : Dpath.inst_D_reg_out_next (dpathSig s i) = (next s i).inst_D := by rfl
theorem gen_dpath_immgen_D_imm_eq (s : State) (i : EnvIn) : Dpath.immgen_D_imm (dpathSig s i) = (dpathSig s i).immgen_D_imm := gen_ImmGen_up_immgen_imm_eq _
theorem gen_dpath_op1_byp_mux_D_out_eq (s : State) (i : EnvIn) : Dpath.op1_byp_mux_D_out (dpathSig s i) = (dpathSig s i).op1_byp_mux_D_out :=
  mux4_le (byp_sel_le s _ _)
theorem gen_dpath_op2_byp_mux_D_out_eq (s : State) (i : EnvIn) : Dpath.op2_byp_mux_D_out (dpathSig s i) = (dpathSig s i).op2_byp_mux_D_out :=
  mux4_le (byp_sel_le s _ _)
theorem gen_dpath_op2_sel_mux_D_out_eq (s : State) (i : EnvIn) : Dpath.op2_sel_mux_D_out (dpathSig s i) = (dpathSig s i).op2_sel_mux_D_out := by rfl
theorem gen_dpath_pc_plus_imm_D_out_eq (s : State) (i : EnvIn) : Dpath.pc_plus_imm_D_out (dpathSig s i) = (dpathSig s i).pc_plus_imm_D_out := by rfl
theorem gen_dpath_br_target_reg_X_out_next_eq (s : State) (i : EnvIn) : Dpath.br_target_reg_X_out_next (dpathSig s i) = (next s i).br_target_X := by rfl
theorem gen_dpath_op1_reg_X_out_next_eq (s : State) (i : EnvIn) : Dpath.op1_reg_X_out_next (dpathSig s i) = (next s i).op1_X := by rfl
theorem gen_dpath_op2_reg_X_out_next_eq (s : State) (i : EnvIn) : Dpath.op2_reg_X_out_next (dpathSig s i) = (next s i).op2_X := by rfl
theorem gen_dpath_store_reg_X_out_next_eq (s : State) (i : EnvIn) : Dpath.store_reg_X_out_next (dpathSig s i) = (next s i).store_X := by rfl
theorem gen_dpath_alu_X_out_eq (s : State) (i : EnvIn) : Dpath.alu_X_out (dpathSig s i) = (dpathSig s i).dmemreq_addr := gen_Alu_comb_logic_out_eq _
theorem gen_dpath_alu_X_ops_ne_eq (s : State) (i : EnvIn) : Dpath.alu_X_ops_ne (dpathSig s i) = (dpathSig s i).ne_X := by rfl
theorem gen_dpath_ex_result_reg_M_out_next_eq (s : State) (i : EnvIn) : Dpath.ex_result_reg_M_out_next (dpathSig s i) = (next s i).ex_result_M := by rfl
theorem gen_dpath_wb_result_sel_mux_M_out_eq (s : State) (i : EnvIn) : Dpath.wb_result_sel_mux_M_out (dpathSig s i) = (dpathSig s i).bypass_M := by rfl
theorem gen_dpath_wb_result_reg_W_out_next_eq (s : State) (i : EnvIn) : Dpath.wb_result_reg_W_out_next (dpathSig s i) = (next s i).wb_result_W := by rfl
theorem gen_dpath_rf_raddr_0_conn_eq (s : State) (i : EnvIn) : Dpath.rf_raddr_0_conn (dpathSig s i) = rs1 s.inst_D := by rfl
theorem gen_dpath_rf_raddr_1_conn_eq (s : State) (i : EnvIn) : Dpath.rf_raddr_1_conn (dpathSig s i) = rs2 s.inst_D := by rfl
theorem gen_dpath_xcelreq_addr_conn_eq (s : State) (i : EnvIn) : Dpath.xcelreq_addr_conn (dpathSig s i) = (dpathSig s i).xcelreq_addr := by
  simp [Dpath.xcelreq_addr_conn, dpathSig]
theorem gen_dpath_wires_ok (s : State) (i : EnvIn) : Dpath.wires_ok (dpathSig s i) = true := by
  simp [Dpath.wires_ok, dpathSig, bypass_X, bypass_W]

/-! ## DropUnitRTL (the instance `imemresp_drop` of ProcRTL) -/

theorem gen_drop_set_outputs_out_rdy_eq (s : State) (i : EnvIn) :
    DropUnit_32.set_outputs_out_rdy (dropSig s i) = (dropSig s i).out_rdy := by
  simp only [DropUnit_32.set_outputs_out_rdy, dropSig, imemresp_rdy]
  rcases Bool.eq_false_or_eq_true s.drop_wait with h | h <;> simp [h]
theorem gen_drop_set_outputs_in__en_eq (s : State) (i : EnvIn) :
    DropUnit_32.set_outputs_in__en (dropSig s i) = (dropSig s i).in__en := by
  simp only [DropUnit_32.set_outputs_in__en, dropSig, drop_in_en]
  rcases Bool.eq_false_or_eq_true s.drop_wait with h | h <;> simp [h]
theorem gen_drop_state_transitions_snoop_state_next_eq (s : State) (i : EnvIn) :
    DropUnit_32.state_transitions_snoop_state_next (dropSig s i) = (next s i).drop_wait := by
  simp only [DropUnit_32.state_transitions_snoop_state_next, dropSig, next]
  rcases Bool.eq_false_or_eq_true i.reset with hr | hr <;> rcases Bool.eq_false_or_eq_true s.drop_wait with h | h <;>
    simp [hr, h]
theorem gen_drop_wires_ok (s : State) (i : EnvIn) : DropUnit_32.wires_ok (dropSig s i) = true := by
  simp [DropUnit_32.wires_ok, dropSig]

/-! ## ProcRTL: the connections between ctrl, dpath and the drop unit; undriven signals -/

/-- the three valuations agree on every signal ProcRTL connects between the three components -/
theorem gen_top_wires_ok (s : State) (i : EnvIn) : Top.wires_ok (ctrlSig s i) (dpathSig s i) (dropSig s i) = true := by
  simp [Top.wires_ok, ctrlSig, dpathSig, dropSig]

/-- the declared signals that no block / component drives are exactly the three the model takes as constant 0 / false
(`osquash_D`, `rf_waddr_sel_D`, `ostall_proc2mngr_W`) -/
theorem gen_undriven :
    Ctrl.undriven = ["osquash_D", "rf_waddr_sel_D", "ostall_proc2mngr_W"] ∧ Dpath.undriven = [] ∧
    DropUnit_32.undriven = [] ∧ Decode.undriven = [] ∧ ImmGen.undriven = [] ∧ Alu_32.undriven = [] ∧
    (ctrlSig State.init {}).osquash_D = false ∧ (∀ s i, (ctrlSig s i).osquash_D = false ∧ (ctrlSig s i).rf_waddr_sel_D = 0 ∧
      (ctrlSig s i).ostall_proc2mngr_W = false) :=
  ⟨rfl, rfl, rfl, rfl, rfl, rfl, rfl, fun _ _ => ⟨rfl, rfl, rfl⟩⟩

end PV.C20pGen
