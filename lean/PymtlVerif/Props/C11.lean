import PymtlVerif.Proofs.Rtl
import PymtlVerif.Props.C01
/-!
# C11 — combinational cycles settle on a fixed point or are reported

Model: `iterate` / `runEntries` / `watchOKB` in `Model/Rtl.lean` (the SCC super-block template of
`DynamicSchedulePass` and `Mamba2020Pass.compile_scc`: clone the watched variables, run the group, compare,
repeat, give up after 100 sweeps). The theorems hold for every group, every watch list satisfying the
checked condition `watchOKB`, every fuel and every start state.
-/
namespace PV.C11
open PV.Rtl PV.Sched

def sweeps (scc : List Blk) : Nat → St → St
  | 0, s => s
  | k+1, s => sweeps scc k (runBlocks scc s)

/-- the stability test of the template between two states -/
def stableB (watch : List Rng) (s s' : St) : Bool :=
  watch.all (fun r => (List.range r.w).all (fun i => s (r.sig, r.lo + i) == s' (r.sig, r.lo + i)))

theorem stable_sound (watch : List Rng) (s s' : St) (h : stableB watch s s' = true) :
    ∀ v, inRngs watch v → s' v = s v := by
  intro v ⟨r, hr, hv⟩
  have h1 := List.all_eq_true.mp h r hr
  obtain ⟨hs, hlo, hhi⟩ := hv
  have h2 := List.all_eq_true.mp h1 (v.2 - r.lo) (List.mem_range.mpr (Nat.sub_lt_left_of_lt_add hlo hhi))
  rw [Nat.add_sub_cancel' hlo, ← hs] at h2
  exact (beq_iff_eq.mp h2).symm

/-- what the watch list must cover: every bit written in the group and read in the group -/
theorem watchOKB_sound (scc : List Blk) (watch : List Rng) (h : watchOKB scc watch = true) :
    ∀ v, (∃ a ∈ scc, inRngs a.writes v) → (∃ b ∈ scc, inRngs b.reads v) → inRngs watch v := by
  intro v ⟨a, ha, wr, hwr, hwv⟩ ⟨b, hb, rd, hrd, hrv⟩
  unfold watchOKB at h
  have h1 := List.all_eq_true.mp (List.all_eq_true.mp (List.all_eq_true.mp (List.all_eq_true.mp h a ha) wr hwr) b hb) rd hrd
  rw [overlap_of_common wr rd v hwv hrv, Bool.not_true, Bool.false_or] at h1
  obtain ⟨hs1, hlo1, hhi1⟩ := hwv
  obtain ⟨_, hlo2, hhi2⟩ := hrv
  -- `v` is bit number `v.2 - m` of the common part, which starts at `m`
  have hm : max wr.lo rd.lo ≤ v.2 := Nat.max_le.mpr ⟨hlo1, hlo2⟩
  have hM : v.2 < min (wr.lo + wr.w) (rd.lo + rd.w) := Nat.lt_min.mpr ⟨hhi1, hhi2⟩
  generalize max wr.lo rd.lo = m at h1 hm
  have h2 := List.all_eq_true.mp h1 (v.2 - m) (List.mem_range.mpr (Nat.sub_lt_sub_right hm hM))
  obtain ⟨r, hr, hrr⟩ := List.any_eq_true.mp h2
  simp only [Bool.and_eq_true, beq_iff_eq, decide_eq_true_eq, Nat.add_sub_cancel' hm] at hrr
  exact ⟨r, hr, hs1.trans hrr.1.1.symm, hrr.1.2, hrr.2⟩

theorem iterate_succ (f : Nat) (watch : List Rng) (scc : List Blk) (s : St) :
    iterate (f + 1) watch scc s =
      if stableB watch s (runBlocks scc s) then some (runBlocks scc s) else iterate f watch scc (runBlocks scc s) := rfl

/-- `iterate` returns only the result of a sweep over which the watched bits did not change -/
theorem iterate_some (fuel : Nat) (watch : List Rng) (scc : List Blk) (s s' : St)
    (h : iterate fuel watch scc s = some s') :
    ∃ s0, s' = runBlocks scc s0 ∧ ∀ v, inRngs watch v → s' v = s0 v := by
  induction fuel generalizing s with
  | zero => nomatch h
  | succ f ih =>
    rw [iterate_succ] at h
    split at h
    · next hst =>
      cases h
      exact ⟨s, rfl, stable_sound watch s _ hst⟩
    · exact ih _ h

/-- **returns ⇒ fixed point**: when the super-block returns, no block of the group, run again, changes
any signal bit -/
theorem stable_is_fixed_point (fuel : Nat) (watch : List Rng) (scc : List Blk) (s s' : St)
    (hwf : PV.C01.wfBlocks scc = true) (hok : watchOKB scc watch = true)
    (h : iterate fuel watch scc s = some s') : ∀ b ∈ scc, b.run s' = s' := by
  obtain ⟨s0, rfl, hst⟩ := iterate_some fuel watch scc s s' h
  obtain ⟨hw, hsw⟩ := PV.C01.wf_denote scc hwf
  intro b hb
  rw [runBlocks_eq] at hst ⊢
  apply Sched.stable_is_fixed_point (scc.map denote) hw hsw (inRngs watch) _ s0 hst (denote b)
    (List.mem_map_of_mem hb)
  intro v ⟨a, ha, hav⟩ ⟨c, hc, hcv⟩
  obtain ⟨a', ha', rfl⟩ := List.mem_map.mp ha
  obtain ⟨c', hc', rfl⟩ := List.mem_map.mp hc
  exact watchOKB_sound scc watch hok v ⟨a', ha', hav⟩ ⟨c', hc', hcv⟩

/-- **never hangs, and the error means what it says**: `iterate` stops after at most `fuel` sweeps (100 in the code), and
`none` (the UpblkCyclicError case) means that none of them was stable -/
theorem none_means_unstable (fuel : Nat) (watch : List Rng) (scc : List Blk) (s : St)
    (h : iterate fuel watch scc s = none) :
    ∀ k, k < fuel → stableB watch (sweeps scc k s) (runBlocks scc (sweeps scc k s)) = false := by
  induction fuel generalizing s with
  | zero => exact fun k hk => absurd hk (Nat.not_lt_zero k)
  | succ f ih =>
    intro k hk
    rw [iterate_succ] at h
    split at h
    · cases h
    · next hst =>
      cases k with
      | zero => exact Bool.eq_false_iff.mpr hst
      | succ k => exact ih (runBlocks scc s) h k (Nat.lt_of_succ_lt_succ hk)

/-- a stable start state is accepted after one sweep (a convergent design costs one extra sweep) -/
theorem fixed_point_accepted (fuel : Nat) (watch : List Rng) (scc : List Blk) (s : St)
    (hfix : runBlocks scc s = s) : iterate (fuel + 1) watch scc s = some s := by
  rw [iterate, hfix]
  exact if_pos (List.all_eq_true.mpr fun r _ => List.all_eq_true.mpr fun i _ => beq_self_eq_true _)

theorem iterate_frame (fuel : Nat) (watch : List Rng) (scc : List Blk) (s s' : St) (v : Var)
    (h : iterate fuel watch scc s = some s') (hv : ∀ b ∈ scc, ¬ inRngs b.writes v) : s' v = s v := by
  induction fuel generalizing s with
  | zero => nomatch h
  | succ f ih =>
    rw [iterate_succ] at h
    split at h
    · cases h; exact runBlocks_frame scc s v hv
    · rw [ih _ h, runBlocks_frame scc s v hv]

/-- **false loop = acyclic design**: if a finer cut `fine` of the group (typically every assignment a block of its own)
has a legal acyclic schedule, then the value the super-block returns is the value of that acyclic schedule. That `fine`
refines `scc` enters only through `hsplit` and `hsame`; deriving them from a syntactic splitting is left to the user. -/
theorem false_loop_eq_acyclic (fuel : Nat) (watch : List Rng) (scc fine : List Blk) (s s' : St)
    (hwf : PV.C01.wfBlocks scc = true) (hok : watchOKB scc watch = true)
    (h : iterate fuel watch scc s = some s')
    (hfwf : PV.C01.wfBlocks fine = true) (hftopo : topoB fine = true)
    -- `fine` splits the blocks of `scc`: each fine block is fixed wherever its coarse block is
    (hsplit : ∀ t, (∀ b ∈ scc, b.run t = t) → ∀ c ∈ fine, c.run t = t)
    -- and drives the same bits
    (hsame : ∀ v, (∃ c ∈ fine, inRngs c.writes v) ↔ (∃ b ∈ scc, inRngs b.writes v)) :
    s' = runBlocks fine s := by
  have hfix := stable_is_fixed_point fuel watch scc s s' hwf hok h
  apply PV.C01.dataflow_unique fine hfwf hftopo s s'
  · intro v hv
    refine iterate_frame fuel watch scc s s' v h fun b hb hw => ?_
    obtain ⟨c, hc, hcw⟩ := (hsame v).mpr ⟨b, hb, hw⟩
    exact hv c hc hcw
  · exact hsplit s' hfix

theorem runEntries_scc (fuel : Nat) (bs : List Blk) (w : List Rng) (es : List Entry) (s : St) :
    runEntries fuel (.scc bs w :: es) s = match iterate fuel w bs s with
      | some s' => runEntries fuel es s'
      | none => none := rfl

theorem runEntries_frame (fuel : Nat) (es : List Entry) (s t : St) (v : Var)
    (h : runEntries fuel es s = some t) (hv : ∀ b ∈ allBlocks es, ¬ inRngs b.writes v) : t v = s v := by
  induction es generalizing s with
  | nil => cases h; rfl
  | cons e es ih =>
    have hrest : ∀ b ∈ allBlocks es, ¬ inRngs b.writes v := fun b hb => hv b (List.mem_append_right _ hb)
    have hfirst : ∀ b ∈ e.blocks, ¬ inRngs b.writes v := fun b hb => hv b (List.mem_append_left _ hb)
    cases e with
    | blk b =>
      rw [ih _ h hrest]
      exact Blk.run_frame b s v (hfirst b List.mem_cons_self)
    | scc bs w =>
      rw [runEntries_scc] at h
      cases hi : iterate fuel w bs s with
      | none => rw [hi] at h; nomatch h
      | some s1 =>
        rw [hi] at h
        rw [ih _ h hrest]
        exact iterate_frame fuel w bs s s1 v hi hfirst

theorem iterate_mono {f f' : Nat} (hle : f ≤ f') (watch : List Rng) (scc : List Blk) (s s' : St)
    (h : iterate f watch scc s = some s') : iterate f' watch scc s = some s' := by
  induction f generalizing f' s with
  | zero => nomatch h
  | succ f ih =>
    obtain ⟨f', rfl⟩ := Nat.exists_eq_succ_of_ne_zero (Nat.ne_of_gt (Nat.lt_of_lt_of_le (Nat.succ_pos f) hle))
    rw [iterate_succ] at h ⊢
    split
    · next hst => rwa [if_pos hst] at h
    · next hst => rw [if_neg hst] at h; exact ih (Nat.le_of_succ_le_succ hle) _ h

/-- a block that is at a fixed point stays at a fixed point when only bits it neither reads nor writes change -/
theorem fixed_transfer (b : Blk) (s1 t : St) (hfix : b.run s1 = s1)
    (hR : ∀ v, inRngs b.reads v → t v = s1 v) (hW : ∀ v, inRngs b.writes v → t v = s1 v) : b.run t = t := by
  funext v
  by_cases hv : inRngs b.writes v
  · rw [Blk.run_dep b t s1 hR v hv, hfix, hW v hv]
  · exact Blk.run_frame b t v hv

/-- a block alone is a topological schedule -/
theorem run_idem (b : Blk) (hns : b.noSelf = true) (s : St) : b.run (b.run s) = b.run s :=
  fixed_point_of_topo [denote b] (fun _ h => List.mem_singleton.mp h ▸ denote_wf b hns) (List.pairwise_singleton ..)
    (List.pairwise_singleton ..) s _ List.mem_cons_self

/-- **on return no update block of the design, run again, changes any signal**: the schedule is a list of single blocks
and SCC groups in topological order (as produced by the SCC-based schedulers); every group was iterated to stability. -/
theorem whole_schedule (fuel : Nat) (es : List Entry) (s t : St)
    (hwf : PV.C01.wfBlocks (allBlocks es) = true) (htopo : entriesTopoB es = true) (hw : watchesOKB es = true)
    (h : runEntries fuel es s = some t) : ∀ b ∈ allBlocks es, b.run t = t := by
  induction es generalizing s with
  | nil => exact fun b hb => nomatch hb
  | cons e es ih =>
    have hall : allBlocks (e :: es) = e.blocks ++ allBlocks es := rfl
    obtain ⟨hwf1, hwf_rest, hsw12⟩ := PV.C01.wfBlocks_append (hall ▸ hwf)
    obtain ⟨htop1, htop2⟩ := Bool.and_eq_true_iff.mp htopo
    obtain ⟨hw1, hw2⟩ := Bool.and_eq_true_iff.mp hw
    have key : ∃ s1, runEntries fuel es s1 = some t ∧ ∀ b ∈ e.blocks, b.run s1 = s1 := by
      cases e with
      | blk b =>
        refine ⟨b.run s, h, fun c hc => ?_⟩
        obtain rfl := List.mem_singleton.mp hc
        exact run_idem c (List.all_eq_true.mp (Bool.and_eq_true_iff.mp hwf1).1 c hc) s
      | scc bs w =>
        rw [runEntries_scc] at h
        cases hi : iterate fuel w bs s with
        | none => rw [hi] at h; nomatch h
        | some s1 =>
          rw [hi] at h
          exact ⟨s1, h, stable_is_fixed_point fuel w bs s s1 hwf1 hw1 hi⟩
    obtain ⟨s1, hrest, hfix⟩ := key
    intro b hb
    rcases List.mem_append.mp (hall ▸ hb) with hb | hb
    · -- b belongs to the first entry: later entries touch neither its reads nor its writes
      refine fixed_transfer b s1 t (hfix b hb) (fun v hv => ?_) fun v hv => ?_
      · refine runEntries_frame fuel es s1 t v hrest fun c hc hcw => ?_
        obtain ⟨e', he', hce'⟩ := List.mem_flatMap.mp hc
        exact not_overlap (List.all_eq_true.mp htop1 e' he') v (inRngs_flatMap hb hv) (inRngs_flatMap hce' hcw)
      · exact runEntries_frame fuel es s1 t v hrest fun c hc hcw => hsw12 b hb c hc v hv hcw
    · exact ih s1 hwf_rest htop2 hw2 hrest b hb

/-! ## non-vacuity: a false loop through disjoint slices of one signal -/
-- A: x[0:4] @= in ; x[4:8] @= y      B: y @= x[0:4]
def fA : Blk := ⟨0, [⟨⟨1, 0, 4⟩, .rd ⟨0, 0, 4⟩⟩, ⟨⟨1, 4, 4⟩, .rd ⟨2, 0, 4⟩⟩]⟩
def fB : Blk := ⟨1, [⟨⟨2, 0, 4⟩, .rd ⟨1, 0, 4⟩⟩]⟩
example : PV.C01.wfBlocks [fA, fB] = true ∧ topoB [fA, fB] = false ∧ topoB [fB, fA] = false ∧
    watchOKB [fA, fB] [⟨1, 0, 8⟩, ⟨2, 0, 4⟩] = true := by decide

end PV.C11
