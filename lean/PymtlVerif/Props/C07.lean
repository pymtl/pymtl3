import PymtlVerif.Proofs.Rtl
/-!
# C07 — flip-flop updates are atomic at the clock edge

Model: `Model/Rtl.lean` (`Asg.runFF`, `Blk.runFF`, `runFFs`, `flip`, `tick`). An `update_ff` block evaluates its
right-hand sides on the *current* values and writes only the `_next` shadow; the flip installs the shadow of
exactly the registers. The theorems hold for every number of blocks, every permutation, every state.
-/
namespace PV.C07
open PV.Rtl PV.Sched

/-- a register no executed assignment targets keeps its shadow (which is its value: `next_eq_cur`) -/
theorem hold (b : Blk) (cur nx : St) (v : Var) (h : ¬ inRngs b.writes v) : b.runFF cur nx v = nx v :=
  foldl_write_frame (fun a _ => a.e.eval cur) b.asgs nx v fun a ha hav => h ⟨a.tgt, mem_writes ha, hav⟩

/-- an ff block, for fixed pre-edge values `cur`, as an abstract block on the shadow buffer:
it reads nothing of the shadow and writes its targets -/
def denoteFF (cur : St) (b : Blk) : Sched.Blk Var Bool :=
  { R := fun _ => False, W := inRngs b.writes, run := b.runFF cur }

theorem denoteFF_wf (cur : St) (b : Blk) : (denoteFF cur b).Wf :=
  ⟨hold b cur, fun nx nx' _ v hv => foldl_write_dep (fun a _ => a.e.eval cur) b.asgs (fun _ => False) nx nx'
    (fun _ _ _ _ _ => rfl) (fun _ h => h.elim) v (.inr hv), fun _ h => h.elim⟩

theorem runFFs_eq (ffs : List Blk) (cur nx : St) :
    runFFs ffs cur nx = runList (ffs.map (denoteFF cur)) nx := by
  rw [runList, List.foldl_map]; rfl

/-- every order of the update_ff blocks produces the same shadow buffer (single writer per register) -/
theorem ff_perm (p1 p2 : List Blk) (h : p1.Perm p2) (hsw : singleWriterB p1 = true) (cur nx : St) :
    runFFs p1 cur nx = runFFs p2 cur nx := by
  rw [runFFs_eq, runFFs_eq]
  exact perm_commute _ _ (h.map _) (List.forall_mem_map.mpr fun c _ => denoteFF_wf cur c)
    (List.pairwise_map.mpr (pairwiseB_disjoint Blk.writes Blk.writes hsw))   -- `denoteFF cur b` writes `inRngs b.writes`
    (List.forall_mem_map.mpr fun _ _ _ _ _ hr => hr.elim) nx

/-- in `tick` the ff phase replaces only the shadow `next`: `cur`, on which every ff block evaluates whatever its position, stays
the pre-edge state. This holds by the shape of the model (`runFFs` returns the shadow only), whatever the blocks do. -/
theorem ff_reads_pre_edge (comb ffs : List Blk) (st : FState) :
    let st1 := evalComb comb st
    ({ st1 with next := runFFs ffs st1.cur st1.next } : FState).cur = st1.cur := rfl

/-- the committed value is that of the last assignment executed in the block, evaluated on pre-edge values -/
theorem last_wins (pre post : List Asg) (a : Asg) (id : Nat) (cur nx : St) (v : Var)
    (hv : a.tgt.has v) (hpost : ∀ c ∈ post, ¬ c.tgt.has v) :
    (Blk.mk id (pre ++ a :: post)).runFF cur nx v = (a.e.eval cur).testBit (v.2 - a.tgt.lo) := by
  unfold Blk.runFF
  simp only [List.foldl_append, List.foldl_cons]
  rw [show ∀ nx', post.foldl (fun nx a => a.runFF cur nx) nx' v = nx' v from
    fun nx' => foldl_write_frame (fun a _ => a.e.eval cur) post nx' v hpost]
  simp [Asg.runFF, hv]

/-- all bits of all registers change in the same step: after the flip a register bit holds its shadow,
every other bit is unchanged (struct-typed registers are ranges of one signal: their leaves flip together) -/
theorem edge (ffs : List Blk) (st : FState) (v : Var) :
    (Rtl.flip ffs st).cur v = if isReg ffs v.1 then st.next v else st.cur v := rfl

/-- invariant at every cycle boundary: the shadow of a register equals its value (so "not assigned" means
"holds"). Every tick in which the comb blocks do not write registers establishes it, whatever the state before (the
flip copies the shadow and the second comb sweep leaves registers alone); `value <<= value` at lock-in gives it before the first tick. -/
theorem next_eq_cur (comb ffs : List Blk) (st : FState)
    (hcomb : ∀ b ∈ comb, ∀ v, inRngs b.writes v → isReg ffs v.1 = false) :
    ∀ v, isReg ffs v.1 = true → (tick comb ffs st).next v = (tick comb ffs st).cur v := by
  intro v hv
  unfold tick evalComb
  simp only
  have hfr : ∀ (s : St), runBlocks comb s v = s v := fun s =>
    runBlocks_frame comb s v fun b hb hw => Bool.false_ne_true ((hcomb b hb v hw).symm.trans hv)
  rw [hfr]
  simp [Rtl.flip, hv]

/-- the whole tick does not depend on the order of the ff blocks -/
theorem tick_ff_perm (comb p1 p2 : List Blk) (h : p1.Perm p2) (hsw : singleWriterB p1 = true) (st : FState) :
    tick comb p1 st = tick comb p2 st := by
  have hreg : isReg p1 = isReg p2 := funext fun _ => h.any_eq
  unfold tick Rtl.flip
  simp only [ff_perm p1 p2 h hsw, hreg]

/-! ## non-vacuity: two blocks reading each other's register (a swap) -/
def swapA : Blk := ⟨0, [⟨⟨0, 0, 4⟩, .rd ⟨1, 0, 4⟩⟩]⟩     -- r0 <<= r1
def swapB : Blk := ⟨1, [⟨⟨1, 0, 4⟩, .rd ⟨0, 0, 4⟩⟩]⟩     -- r1 <<= r0
example : singleWriterB [swapA, swapB] = true := by decide
example : [swapA, swapB].Perm [swapB, swapA] := List.Perm.swap _ _ _

end PV.C07
