import PymtlVerif.Proofs.NetsElab
import PymtlVerif.Proofs.NetsDfs
import PymtlVerif.Proofs.NetsWalk
import PymtlVerif.Proofs.NetsFunc
/-!
# C09 — structurally illegal designs are always rejected at elaboration

Model: `Model/Nets.lean`, `elaborate` = the stages of `Component.elaborate()` in their order
(operators, connection loop, two writers in a net, `_check_upblk_writes`, `_check_port_in_upblk`,
`NoWriterError`, `_check_port_in_nets`).

**Proved equivalences** (the model's procedure against an order-free reading of the design):
* `related_iff_overlap`: ancestor-or-self either way, or overlapping sibling slices ⇔ sharing a bit;
* `upblk_writes_iff`: the parent-chain + sibling-slice walk of `_check_upblk_writes` (repaired version)
  raises ⇔ some signal bit is written by two different update blocks;
* `multi_writer_iff` / `no_writer_iff`: writer resolution raises / leaves a net headless ⇔ some net has
  two / no members driven from outside (least-fixed-point specification `Mark`/`Src` of C08);
* `loop_iff`: the loop test ⇔ the graph of the *merged* connections has a cycle (`HasCycle`: some
  connection joins two nodes that stay connected without it; a self connection counts);
  `floodfill_cycle`, `floodfill_cycle_any_order`: the code's `pred`-based test, modelled as the stack
  machine it is (`ffRun`/`ffRoots`), stops within its fuel and fires exactly on these graphs, for every
  order in which the adjacency sets and the signal set are iterated;
* `verdict_iff`, `verdict_class`: the model rejects ⇔ one of the defects holds, and the class it
  reports is that of a defect the design has (that it is the first such stage: `elaborate_first`, Proofs/NetsElab.lean);
* `order_invariant_perm`, `order_invariant_flip`: the whole outcome is unchanged by permuting the
  connect statements or swapping their sides;
* `port_walk_spec`: the walk of `_check_port_in_nets` from the writer of a resolved net checks, for
  every other member `v`, exactly one connection `(u, v)`, and `u` is on the writer's side of it.

**Modelled decision tables** (the table is the code's; the theorem only restates it
declaratively): `op_table` (`=`/`@=`/`<<=`, top-level LHS of `<<=`), `port_upblk_table`
(Types 1–4), `port_net_table` (Types 5–9 and the loop-back rule).

Quirk kept from the code: connecting the same pair twice (either orientation) is merged by the
adjacency *sets*, so it is not a loop (`dup_is_no_loop`).
-/
namespace PV.C09
open PV.Nets

/-- the code's relation (ancestor or self either way, or overlapping sibling slices) is "the two
objects share a bit" -/
theorem related_iff_overlap (L : Leaves) (a b : Obj) (ha : WfObj L a) (hb : WfObj L b) :
    related a b = true ↔ ∃ bit, ValidBit L bit ∧ covers a bit ∧ covers b bit :=
  PV.Nets.related_iff_overlap L a b ha hb

/-- `Connectable._overlap` on non-empty slices is "the ranges intersect" -/
theorem overlap_spec (x y : Nat × Nat) (hx : x.1 < x.2) (hy : y.1 < y.2) :
    overlap x y = true ↔ ∃ i, (x.1 ≤ i ∧ i < x.2) ∧ (y.1 ≤ i ∧ i < y.2) :=
  PV.Nets.overlap_spec x y hx hy

/-- `_check_upblk_writes` raises `MultiWriterError` iff some signal bit is written by two different
update blocks (in particular one block writing overlapping objects is accepted) -/
theorem upblk_writes_iff (D : Design) (L : Leaves) (hwf : D.WF) (hL : ∀ w ∈ D.writes, WfObj L (D.obj w.2)) :
    upblkErrs D ≠ [] ↔ ∃ bit b1 b2, b1 ≠ b2 ∧ ValidBit L bit ∧ BlkDrives D b1 bit ∧ BlkDrives D b2 bit := by
  rw [upblk_iff D hwf]
  constructor
  · rintro ⟨b1, o1, b2, o2, h1, h2, hne, hrel⟩
    obtain ⟨bit, hv, c1, c2⟩ := (related_iff_overlap L _ _ (hL _ h1) (hL _ h2)).mp hrel
    exact ⟨bit, b1, b2, hne, hv, ⟨o1, h1, c1⟩, ⟨o2, h2, c2⟩⟩
  · rintro ⟨bit, b1, b2, hne, hv, ⟨o1, h1, c1⟩, ⟨o2, h2, c2⟩⟩
    exact ⟨b1, o1, b2, o2, h1, h2, hne, (related_iff_overlap L _ _ (hL _ h1) (hL _ h2)).mpr ⟨bit, hv, c1, c2⟩⟩

theorem upblk_writes_iff_rel (D : Design) (hwf : D.WF) : upblkErrs D ≠ [] ↔ BlockConflict D :=
  upblk_iff D hwf

/-- writer resolution raises (always `MultiWriterError`) iff some net has two different members
driven from outside the net -/
theorem multi_writer_iff (D : Design) (hwf : D.WF) :
    ((∃ e, resolve D = .error e) ↔ Bad D) ∧ ∀ e, resolve D = .error e → e = .multiWriter :=
  resolve_error_iff D (D.rel_symm hwf.slices)

/-- a net is left without writer (`NoWriterError`) iff none of its members is driven from outside -/
theorem no_writer_iff (D : Design) (hwf : D.WF) (st : RState) (h : resolve D = .ok st) :
    st.headless ≠ [] ↔ NoWriter D :=
  resolve_headless_iff D hwf h

/-- the loop test fires iff the merged connection graph has a cycle -/
theorem loop_iff (E : List Edge) : hasLoop E = true ↔ HasCycle (simple E) := cyc_iff (simple E)

/-- the `pred`-based flood fill of `_floodfill_nets` (stack machine `ffLoop`: roots and neighbours
in increasing order) fires iff there is a loop, and never runs out of fuel -/
theorem floodfill_cycle (E : List Edge) : ffLoop E = some (hasLoop E) := ffLoop_eq E

/-- … and so it does for any order in which the adjacency sets (`adjf`) and the signal set (`rs`)
are iterated -/
theorem floodfill_cycle_any_order (E : List Edge) (adjf : Nat → List Nat) (rs : List Nat) (fuel : Nat)
    (hadj : ∀ u v, v ∈ adjf u ↔ Step (simple E) u v) (hnd : ∀ u, (adjf u).Nodup)
    (hrs : ∀ r, r ∈ rs ↔ r ∈ nodesOf (simple E)) (hfuel : (nodesOf (simple E)).length < fuel) :
    ffRoots adjf fuel rs [] = some (hasLoop E) :=
  ffRoots_eq_any_order E adjf rs fuel hadj hnd hrs hfuel

theorem hasCycle_order_free (E E' : List Edge) (hp : E.Perm E') : HasCycle E ↔ HasCycle E' := hasCycle_perm hp

/-- the loop verdict is a function of the undirected edge set -/
theorem loop_edge_set (E E' : List Edge) (h : ∀ a b, Step E a b ↔ Step E' a b) : hasLoop E = hasLoop E' :=
  hasLoop_congr h

/-- a self connection is a loop -/
theorem self_loop (E : List Edge) (a : Nat) (h : (a, a) ∈ E) : hasLoop E = true :=
  (loop_iff E).mpr (hasCycle_of_self ((step_simple E a a).mpr (.inl h)))

/-- the quirk: repeating a connection (in either orientation) never creates a loop -/
theorem dup_is_no_loop (E : List Edge) (a b : Nat) (h : Step E a b) : hasLoop ((a, b) :: E) = hasLoop E :=
  Bool.eq_iff_iff.mpr ((hasLoop_cons E a b).trans (or_iff_left fun h' => h'.1 h))

/-- the model rejects a design iff it has a structural defect -/
theorem verdict_iff (D : Design) (hwf : D.WF) : (elaborate D).verdict.isSome = true ↔ Defect D :=
  PV.Nets.verdict_iff D hwf

/-- … and the error class is that of a stage whose defect the design has (first such stage: `PV.Nets.elaborate_first`) -/
theorem verdict_class (D : Design) (hwf : D.WF) (e : Err) (h : (elaborate D).verdict = some e) :
    (OpDefect D ∧ e.isOp = true) ∨
    (HasCycle (simple D.edges) ∧ e = .invalidConnection) ∨
    ((Bad D ∨ BlockConflict D) ∧ e = .multiWriter) ∨
    (PortUpblkDefect D ∧ ∃ k, 1 ≤ k ∧ k ≤ 4 ∧ e = .signalType k) ∨
    (NoWriter D ∧ e = .noWriter) ∨
    (PortNetDefect D ∧ (e = .invalidConnection ∨ ∃ k, 5 ≤ k ∧ k ≤ 9 ∧ e = .signalType k)) :=
  PV.Nets.verdict_class D hwf e h

/-- a design free of all defects is accepted -/
theorem legal_accepted (D : Design) (hwf : D.WF) (h : ¬ Defect D) : (elaborate D).verdict = none := by
  cases hv : (elaborate D).verdict with
  | none => rfl
  | some e => exact absurd ((verdict_iff D hwf).mp (by rw [hv]; rfl)) h

/-- the whole outcome (stage, errors, nets, writers) is unchanged by permuting the connect statements -/
theorem order_invariant_perm (D : Design) (c : List (Nat × Nat × Nat)) (hp : c.Perm D.conns) :
    elaborate (D.withConns c) = elaborate D := by
  refine elaborate_congr D c (step_perm (hp.map _)) (fun p u v => ?_)
  rw [Bool.eq_iff_iff, connectedIn_iff, connectedIn_iff]
  show ((u, v, p) ∈ c ∨ (v, u, p) ∈ c) ↔ _
  rw [hp.mem_iff, hp.mem_iff]

/-- … and by swapping the two sides of any of them -/
theorem order_invariant_flip (D : Design) (p : Nat → Bool) :
    elaborate (D.withConns (flipConns p D.conns)) = elaborate D := by
  refine elaborate_congr D _ (step_flipConns D p) (fun q u v => ?_)
  rw [Bool.eq_iff_iff, connectedIn_iff, connectedIn_iff]
  exact mem_flipConns p D.conns u v q

/-- operator table: accepted iff `@=` in `update`, or `<<=` on a top-level signal in `update_ff` -/
theorem op_table (ff : Bool) (op : Op) (isTop : Bool) : opErr ff op isTop = none ↔ LegalOp ff op isTop :=
  opErr_none_iff ff op isTop

theorem op_errors_iff (D : Design) : opErrs D ≠ [] ↔ OpDefect D := opErrs_iff D

/-- port table in update blocks (Types 1–4) -/
theorem port_upblk_table (D : Design) (h o : Nat) :
    (readErr D h o = none ↔ LegalRead D h o) ∧ (writeErr D h o = none ↔ LegalWrite D h o) :=
  ⟨readErr_none_iff D h o, writeErr_none_iff D h o⟩

theorem port_upblk_iff (D : Design) : portUpblkErrs D ≠ [] ↔ PortUpblkDefect D := portUpblkErrs_iff D

/-- port table over nets (Types 5–9, loop-back) -/
theorem port_net_table (D : Design) (u v : Nat) : edgeErr D u v = none ↔ LegalFlow D u v :=
  edgeErr_none_iff D u v

/-- which pairs `_check_port_in_nets` checks in a resolved net `(w, N)`: every pair is a connection
whose driven side is in the net, oriented away from the writer (`u` stays connected to `w` when the connection between
`u` and `v` is removed); no member is the driven side twice; every member but the writer is the
driven side once -/
theorem port_walk_spec (D : Design) (hwf : D.WF) (st : RState) (hr : resolve D = .ok st) (w : Nat) (N : List Nat)
    (h : (w, N) ∈ st.headed) :
    (∀ p ∈ walk (fun u => sortDedup (adj (simple D.edges) u)) (N.length + 1) [w] [w],
        Step (simple D.edges) p.1 p.2 ∧ p.2 ∈ N ∧ p.2 ≠ w ∧
        ∀ e : Edge, (e = (p.1, p.2) ∨ e = (p.2, p.1)) → Reach ((simple D.edges).erase e) w p.1) ∧
    ((walk (fun u => sortDedup (adj (simple D.edges) u)) (N.length + 1) [w] [w]).map (·.2)).Nodup ∧
    (∀ y ∈ N, y ≠ w → ∃ u, (u, y) ∈ walk (fun u => sortDedup (adj (simple D.edges) u)) (N.length + 1) [w] [w]) := by
  obtain ⟨hT, hN⟩ := (hwf.final hr).portWalk h
  exact ⟨fun p hp => ⟨hT.step p hp, (hN _).mpr (hT.reach p hp).2, fun e => hT.root_not_target (List.mem_map.mpr ⟨p, hp, e⟩),
    hT.oriented p hp⟩, hT.ord.snd_nodup, fun y hy => hT.complete y ((hN y).mp hy)⟩

/-! ### `@s.func` helper functions -/

/-- the functions whose reads and writes are folded into an update block are exactly those reached
from the block's direct calls by a chain of calls (fuel = number of functions always suffices) -/
theorem helpers_reached (H : HDesign) (hc : H.CallsOk) (roots : List Nat) (f : Nat) :
    f ∈ H.reached roots ↔ ∃ r ∈ roots, DReach H.callees r f :=
  H.mem_reached hc roots f

/-- in the design the structural checks see, a block writes what it writes itself and what any
function it reaches writes — however many call paths lead there and whichever other block reaches
the same function -/
theorem helpers_flatten_writes (H : HDesign) (hc : H.CallsOk) (b o : Nat) :
    (b, o) ∈ H.flatten.writes ↔
      ((b, o) ∈ H.base.writes ∨
        (b < H.base.blks.length ∧ ∃ r ∈ H.bcalls.getD b [], ∃ f, DReach H.callees r f ∧ o ∈ (H.funcs.getD f default).writes)) :=
  H.flatten_writes hc b o

/-- with helper functions: operator rules on the blocks' own statements, then call cycles
(`InvalidFuncCallError`), then the verdict of the flattened design -/
theorem helpers_verdict (H : HDesign) (h1 : opErrs H.base = []) :
    (H.callCycle = true → (elaborateH H).verdict = some .invalidFuncCall) ∧
    (H.callCycle = false → elaborateH H = elaborate H.flatten) := by
  unfold elaborateH
  simp only [h1, List.isEmpty_nil, Bool.not_true, Bool.false_eq_true, if_false]
  constructor
  · intro h; simp [h, Outcome.verdict]
  · intro h; simp [h]

theorem helpers_wf (H : HDesign) (h : H.wf = true) : H.CallsOk ∧ H.flatten.WF := by
  refine ⟨H.callsOk_of_wf h, wf_sound ?_⟩
  unfold HDesign.wf at h
  simp only [Bool.and_eq_true] at h
  exact h.1.1.1

/-- what the driver checks before it answers implies the well-formedness the theorems assume -/
theorem wf_checked (D : Design) (h : D.wf = true) : D.WF := wf_sound h

/-! ## non-vacuity -/

/-- two blocks write `x[0:6]` and `x[4:8]` -/
def exOverlap : Design :=
  { objs := [⟨0, .wire, 0, [], some (0, 6)⟩, ⟨0, .wire, 0, [], some (4, 8)⟩], par := [none], conns := [],
    blks := [⟨0, false, [(0, .at)], []⟩, ⟨0, false, [(1, .at)], []⟩] }
example : exOverlap.wf = true := by decide +kernel
example : (elaborate exOverlap).verdict = some .multiWriter := by decide +kernel
/-- one block writing both is accepted -/
def exOverlapSame : Design := { exOverlap with blks := [⟨0, false, [(0, .at), (1, .at)], []⟩] }
example : (elaborate exOverlapSame).verdict = none := by decide +kernel
/-- a triangle -/
example : hasLoop [(0, 1), (1, 2), (2, 0)] = true := by decide +kernel
example : ffLoop [(0, 1), (1, 2), (2, 0)] = some true := by decide +kernel
example : hasLoop [(0, 1), (1, 0), (0, 1)] = false := by decide
example : hasLoop [(3, 3)] = true := by decide
/-- a net of two wires and nothing that drives them -/
def exHeadless : Design :=
  { objs := [⟨0, .wire, 0, [], none⟩, ⟨1, .wire, 0, [], none⟩], par := [none], conns := [(0, 1, 0)], blks := [] }
example : (elaborate exHeadless).verdict = some .noWriter := by decide +kernel
/-- a child's wire drives a wire of the parent: Type 6 -/
def exType6 : Design :=
  { objs := [⟨0, .wire, 1, [], none⟩, ⟨1, .wire, 0, [], none⟩], par := [none, some 0], conns := [(0, 1, 0)],
    blks := [⟨1, false, [(0, .at)], []⟩] }
example : (elaborate exType6).verdict = some (.signalType 6) := by decide +kernel
example : opErr true .ff false = some .updateFFNonTop := by decide
/-- `up_a -> fa -> drive`, `up_b -> fb -> drive`, `drive` writes object 0: two drivers -/
def exHelpers : HDesign :=
  { base := { objs := [⟨0, .outp, 0, [], none⟩], par := [none], conns := [], blks := [⟨0, false, [], []⟩, ⟨0, false, [], []⟩] },
    funcs := [⟨[0], [], []⟩, ⟨[], [], [0]⟩, ⟨[], [], [0]⟩], bcalls := [[1], [2]] }
example : exHelpers.wf = true := by decide +kernel
example : (elaborateH exHelpers).verdict = some .multiWriter := by decide +kernel
example : (elaborateH { exHelpers with bcalls := [[1, 2], []] }).verdict = none := by decide +kernel
example : (elaborateH { exHelpers with funcs := [⟨[0], [], [1]⟩, ⟨[], [], [0]⟩, ⟨[], [], [0]⟩] }).verdict = some .invalidFuncCall := by decide +kernel
/-- a second write with a wrong operator to a signal the block already wrote legally is rejected, in
either statement order, and so is a `for` target -/
def exSecondWrite (ops : List Op) : Design :=
  { objs := [⟨0, .outp, 0, [], none⟩], par := [none], conns := [], blks := [⟨0, false, ops.map (fun o => (0, o)), []⟩] }
example : (elaborate (exSecondWrite [.at, .assign])).verdict = some .updateBlockWrite := by decide +kernel
example : (elaborate (exSecondWrite [.assign, .at])).verdict = some .updateBlockWrite := by decide +kernel
example : (elaborate (exSecondWrite [.at, .forT])).verdict = some .updateBlockWrite := by decide +kernel
example : (elaborate (exSecondWrite [.at, .at])).verdict = none := by decide +kernel

end PV.C09
