import PymtlVerif.Model.ProcCLSys
import PymtlVerif.Props.C20cGen
/-!
# C20cRef — the statement side of a timing-independent refinement of ProcCL (the theorem itself is NOT proved)

Nothing in this file is an obligation of any check; `PymtlVerif.lean` imports it so that `lake build` keeps it compiling.
`Model/ProcCLSys.lean` runs the three generated blocks of ProcCL (`Gen/ProcCLGen.lean`) and the environment's moves as atomic
actions in ANY order (`runActs`); the real simulator's cycle — the static schedule, the memory's and adapters' blocks, every
latency / stall / delay setting — is one such order.  The theorem aimed at: for every program, every action sequence and every
answer of the environment, as long as DXM has executed no more instructions than the ISA interpreter executes (`RunsX`), the
system state is related by `Inv` to the ISA state after exactly `disp` instructions — registers, data memory, accelerator
register and both manager streams are the ISA's up to the ONE instruction that may sit between DXM and W, whose outstanding
effect (`ExecOK`) is spelled out; the fetch side (`FetchOK`) holds at most one fetch, of the ISA's next PC.
Proved here: `inv_init` (the invariant holds at power-on) and `stepsX_succ`.  Not proved: that each action keeps `Inv` (W from
the ten `w_*` lemmas of `Props/C20cGen.lean`, one or two per constructor of `ExecOK`; F from `f_fetch` / `f_stall`; the
environment's five moves; DXM from the `dxm_*` lemmas, as in `C20cGen.gen_proccl_exec_eq`), and the induction over `runActs`.
The `dxm_*` / `w_*` / `f_*` lemmas hold for ANY environment, so they apply to `ProcCLSys.asyncEnv` as they stand.

Environment assumptions the theorem would carry: the queue classes as in `ProcCLSys.asyncEnv` (`PipeQueueCL(1)` a
one-place FIFO, a `DelayPipeDeqCL` a FIFO whose head may be invisible for any time); each port serves its requests in order,
the data port on ONE little-endian byte memory, the instruction port from the program image (no self-modifying code, `RunsX`),
NullXcel, the source in order; `rdy` answers and delays arbitrary; safety only; `reset` low after power-on.
-/
namespace PV.C20cRef
open PV.TinyRV0 PV.ProcFLGen PV.ProcCLGen PV.ProcEnv PV.ProcCLSys PV.C20fGen PV.C20cGen

/-! ## the program hypothesis -/

/-- the ISA interpreter executes `N` instructions from reset, each still the word of the image at its PC -/
def RunsX (m0 : Mem) (inp : List Nat) (N : Nat) : Prop :=
  ∀ k, k < N → ∃ σ σ', stepsX k (StateX.init m0 inp) = some σ ∧ stepX σ = .ok σ' ∧
    loadWord σ.core.mem σ.core.pc = loadWord m0 σ.core.pc

theorem stepsX_succ (k : Nat) (σ0 σ σ' : StateX) (h : stepsX k σ0 = some σ) (hs : stepX σ = .ok σ') :
    stepsX (k + 1) σ0 = some σ' := by
  induction k generalizing σ0 with
  | zero => simp only [stepsX] at h; cases h; simp [stepsX, hs]
  | succ n ih =>
    obtain ⟨σ1, h1, h⟩ := stepsX_succ_inv h
    unfold stepsX; rw [h1]; exact ih σ1 h

/-! ## the invariant -/

def fetchReq (pc : Nat) : MemReqMsg := { type_ := 0, opaque_ := 0, addr := pc, len := 0, data := 0 }

/-- the fetch side: nothing fetched (the next fetch goes to the ISA's PC), or the ISA's PC waits in the PC queue with its fetch
sent / served -/
inductive FetchOK (σ : StateX) (s : St) (w : AW) : Prop
  | none (h1 : w.fdq = []) (h2 : w.ireq = []) (h3 : w.iresp = []) (h4 : fetchAddr s = σ.core.pc)
  | sent (h1 : w.fdq = [σ.core.pc]) (h2 : w.ireq = [fetchReq σ.core.pc]) (h3 : w.iresp = [])
      (hr : s.redirected_pc_DXM = none) (hp : s.pc = (σ.core.pc + 4) % W32)
  | served (h1 : w.fdq = [σ.core.pc]) (h2 : w.ireq = []) (h3 : w.iresp = [memResp 0 (loadWord w.image σ.core.pc)])
      (hr : s.redirected_pc_DXM = none) (hp : s.pc = (σ.core.pc + 4) % W32)

/-- what the data port will answer to request `m` / what the memory is afterwards -/
def dResp (mem : Mem) (m : MemReqMsg) : MemRespMsg :=
  if m.type_ = 0 then memResp 0 (loadWord mem m.addr) else memResp 1 0
def dMem (mem : Mem) (m : MemReqMsg) : Mem := if m.type_ = 0 then mem else storeWord mem m.addr m.data
def xResp (xr0 : Nat) (m : XcelReqMsg) : XcelRespMsg := if m.type_ = 0 then { type_ := 0, data := xr0 } else { type_ := 1, data := 0 }
def xReg (xr0 : Nat) (m : XcelReqMsg) : Nat := if m.type_ = 0 then xr0 else m.data

/-- the execute side: `σ` is the ISA state after every instruction DXM has executed; at most one of them has not passed W, and
what it still has to do is listed -/
inductive ExecOK (σ : StateX) (s : St) (w : AW) : Prop
  | idle (hq : w.dwq = []) (d1 : w.dreq = []) (d2 : w.dresp = []) (x1 : w.xreq = []) (x2 : w.xresp = [])
      (hR : s.R = σ.core.regs) (hm : w.mem = σ.core.mem) (hx : w.xr0 = σ.xr0) (ho : w.out = σ.core.out)
  | branch (hq : w.dwq = [none]) (d1 : w.dreq = []) (d2 : w.dresp = []) (x1 : w.xreq = []) (x2 : w.xresp = [])
      (hR : s.R = σ.core.regs) (hm : w.mem = σ.core.mem) (hx : w.xr0 = σ.xr0) (ho : w.out = σ.core.out)
  | arith (rd val : Nat) (hq : w.dwq = [some (rd, val, DXM_W_arith)]) (hrd : rd < 32) (hv : val < W32)
      (d1 : w.dreq = []) (d2 : w.dresp = []) (x1 : w.xreq = []) (x2 : w.xresp = [])
      (hR : rset s.R rd val = σ.core.regs) (hm : w.mem = σ.core.mem) (hx : w.xr0 = σ.xr0) (ho : w.out = σ.core.out)
  | memSent (rd x : Nat) (m : MemReqMsg) (hq : w.dwq = [some (rd, x, DXM_W_mem)]) (hrd : rd < 32)
      (d1 : w.dreq = [m]) (d2 : w.dresp = []) (x1 : w.xreq = []) (x2 : w.xresp = [])
      (hR : rset s.R rd (dResp w.mem m).data = σ.core.regs) (hm : dMem w.mem m = σ.core.mem) (hx : w.xr0 = σ.xr0)
      (ho : w.out = σ.core.out)
  | memServed (rd x : Nat) (r : MemRespMsg) (hq : w.dwq = [some (rd, x, DXM_W_mem)]) (hrd : rd < 32)
      (d1 : w.dreq = []) (d2 : w.dresp = [r]) (x1 : w.xreq = []) (x2 : w.xresp = [])
      (hR : rset s.R rd r.data = σ.core.regs) (hm : w.mem = σ.core.mem) (hx : w.xr0 = σ.xr0) (ho : w.out = σ.core.out)
  | xcelSent (rd x : Nat) (m : XcelReqMsg) (hq : w.dwq = [some (rd, x, DXM_W_xcel)]) (hrd : rd < 32)
      (d1 : w.dreq = []) (d2 : w.dresp = []) (x1 : w.xreq = [m]) (x2 : w.xresp = [])
      (hR : rset s.R rd (xResp w.xr0 m).data = σ.core.regs) (hm : w.mem = σ.core.mem) (hx : xReg w.xr0 m = σ.xr0)
      (ho : w.out = σ.core.out)
  | xcelServed (rd x : Nat) (r : XcelRespMsg) (hq : w.dwq = [some (rd, x, DXM_W_xcel)]) (hrd : rd < 32)
      (d1 : w.dreq = []) (d2 : w.dresp = []) (x1 : w.xreq = []) (x2 : w.xresp = [r])
      (hR : rset s.R rd r.data = σ.core.regs) (hm : w.mem = σ.core.mem) (hx : w.xr0 = σ.xr0) (ho : w.out = σ.core.out)
  | mngr (rd val : Nat) (hq : w.dwq = [some (rd, val, DXM_W_mngr)])
      (d1 : w.dreq = []) (d2 : w.dresp = []) (x1 : w.xreq = []) (x2 : w.xresp = [])
      (hR : s.R = σ.core.regs) (hm : w.mem = σ.core.mem) (hx : w.xr0 = σ.xr0) (ho : w.out ++ [val] = σ.core.out)

structure Inv (m0 : Mem) (σ : StateX) (s : St) (w : AW) : Prop where
  fetch : FetchOK σ s w
  exec : ExecOK σ s w
  inp : w.mq ++ w.src = σ.core.inp
  img : w.image = m0
  ok : PV.C20.OkX σ

theorem inv_init (m0 : Mem) (inp : List Nat) (hm : ∀ a, m0.get a < 256) (hi : ∀ x ∈ inp, x < W32) :
    Inv m0 (StateX.init m0 inp) (Sys.init m0 inp).s (Sys.init m0 inp).w :=
  ⟨.none rfl rfl rfl rfl, .idle rfl rfl rfl rfl rfl rfl rfl rfl rfl, rfl, rfl, PV.C20.initX_ok m0 inp hm hi⟩

end PV.C20cRef
