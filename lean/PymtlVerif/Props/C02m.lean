import PymtlVerif.Proofs.Methods
import PymtlVerif.Proofs.Kahn
/-!
# C02, clause "explicit … METHOD ordering constraints are honoured too"

`I.process` (Model/Methods.lean) is the list of block-level pairs `GenDAGPass._process_methods` adds to
`all_constraints`, from the update-block → method call table (`I.Calls b m`), the declared constraints
(`I.Lt x y`: `M(x) < M(y)`, `U(b) < M(y)`, `M(x) < U(b)`; `I.Eqv x y`: `M(x) == M(y)` in either direction) and the set
of update blocks.

* `search_exact`, `class_exact` — the two work-list searches (per-method search with direction `w ∈ {-1,0,1}`,
  flood fill of the `==` classes) examine exactly the reachable states / class members: the model's fuel never
  cuts a search short.
* `process_exact` — **exact** characterisation of the added pairs (both directions, any number of hops): `(A,B)` is added
  iff there is a walk of the search from a method `m` called by one of the two blocks, forwards along `<` for `A`
  (`Fwd`) or backwards for `B` (`Bwd`), through `==` steps and `<` steps whose target is not a block, to a node `u`,
  one more declared constraint `u < v` (resp. `v < u`), and the other block is `v` itself (a constrained block) or calls
  a method of `v`'s `==` class — and none of the four exclusions of the code applies and `A ≠ B`.
* `sound` — every added pair is justified by a chain of declared constraints containing at least one `<`
  (`Rel I true a b`) between an end of `A` and an end of `B` (a method the block calls, or the block itself when the
  constraint names it).
* `complete_MM`, `complete_UM`, `complete_MU` — direct constraints: `M(x) < M(y)` orders every caller of a method of
  `x`'s class before every caller of a method of `y`'s class; `U(b) < M(y)` and `M(x) < U(b)` likewise — unless one
  of the exclusions applies.
* `complete_fwd`, `complete_bwd` — multi-hop completeness along the walks of `process_exact`.
* `schedule_direct`, `schedule_kahn` — any order that respects `I.process` (in particular Kahn's output for an edge
  set containing it, whatever the tie-break) runs every caller of `x` before every caller of `y`.

What is NOT proved (and not true of the code):
* transitivity in general — `A` calls `x`, `x < y`, `y < z`, `B` calls `z` is covered (`complete_fwd`), but a chain that
  has to pass *through a block* (`M(x) < U(b)`, `U(b) < M(z)`) only yields `(A,b)` and `(b,B)`, which a topological
  order composes; a `<` step whose target is a block ends the walk;
* the exclusions are evaluated on the last hop only (`u`, `v`), as in the code: an explicit opposite constraint further
  back on the walk does not suppress the pair; whether the resulting graph is acyclic is not claimed (cycles are
  rejected later by the scheduler — C02 `kahn_leftover`);
* `top_level_callee_constraints` (OpenLoopCLPass) and the greenlet marking of blocking interfaces are not modelled.
-/
namespace PV.C02m
open PV.Methods

/-- an end of block `A`: a method it calls, or `A` itself when it is an update block named by a constraint -/
def End (I : Input) (A a : Nat) : Prop := (a = A ∧ A ∈ I.blocks) ∨ I.Calls A a

/-- `a` stands before `b` in `order` -/
def Before (order : List Nat) (a b : Nat) : Prop := ∃ pre post, order = pre ++ a :: post ∧ b ∈ post

/-- `order` is topological for the edge list `E` (on the vertices it contains) -/
def Respects (order : List Nat) (E : List (Nat × Nat)) : Prop :=
  ∀ e ∈ E, e.1 ∈ order → e.2 ∈ order → Before order e.1 e.2

/-- the per-method search examines exactly the states reachable from `(m, 0)` by the steps of the code
    (`step_exact`) -/
theorem search_exact (I : Input) (m : Nat) (s : State) : s ∈ I.search m ↔ Reach I.nexts (m, 0) s := I.mem_search

/-- one step of the search in terms of the declared constraints: to a member of the `==` class with the same
    direction; backwards along a declared `<` when `w ≤ 0`; forwards when `w ≥ 0`; never onto a block -/
theorem step_exact (I : Input) (s t : State) :
    t ∈ I.nexts s ↔
      (t.2 = s.2 ∧ (∃ x, I.Eqv s.1 x) ∧ Rel I false s.1 t.1) ∨
      (s.2 ≤ 0 ∧ t.2 = -1 ∧ I.Lt t.1 s.1 ∧ t.1 ∉ I.blocks) ∨
      (s.2 ≥ 0 ∧ t.2 = 1 ∧ I.Lt s.1 t.1 ∧ t.1 ∉ I.blocks) := I.mem_nexts

/-- the flood fill: `equiv[u]` (or `(u,)` when `u` is in no `==` constraint) is exactly the set of nodes linked to `u` by
    a chain of declared `==` constraints -/
theorem class_exact (I : Input) (u v : Nat) : v ∈ I.eqClass u ↔ Rel I false u v := I.mem_eqClass

/-- exact characterisation of the pairs `_process_methods` adds -/
theorem process_exact (I : Input) (A B : Nat) :
    (A, B) ∈ I.process ↔
      (∃ m u v vv, I.Calls A m ∧ Fwd I m u ∧ I.Lt u v ∧ v ∉ I.blocks ∧ Rel I false v vv ∧ I.Calls B vv ∧
          ¬ I.Lt B u ∧ ¬ I.Lt v A ∧ A ≠ B) ∨
      (∃ m u, I.Calls A m ∧ Fwd I m u ∧ I.Lt u B ∧ B ∈ I.blocks ∧ ¬ I.Lt u A ∧ A ≠ B) ∨
      (∃ m u v vv, I.Calls B m ∧ Bwd I m u ∧ I.Lt v u ∧ v ∉ I.blocks ∧ Rel I false v vv ∧ I.Calls A vv ∧
          ¬ I.Lt u A ∧ ¬ I.Lt B v ∧ A ≠ B) ∨
      (∃ m u, I.Calls B m ∧ Bwd I m u ∧ I.Lt A u ∧ A ∈ I.blocks ∧ ¬ I.Lt B u ∧ A ≠ B) := by
  rw [I.mem_process]
  constructor
  · rintro ⟨m, _, ⟨u, w⟩, hr, he⟩
    obtain ⟨hf, hb⟩ := I.reach_walk hr
    rcases I.mem_emit.mp he with ⟨hw, ⟨hc, h⟩ | ⟨v, vv, hc, hl, hv, hvv, h⟩⟩ | ⟨hw, ⟨hc, h1, h2, h3, h4⟩ | ⟨v, vv, hc, hl, hv, hvv, h1, h2, h3, h4⟩⟩
    · exact .inr (.inr (.inr ⟨m, u, hc, hb hw, h⟩))
    · exact .inr (.inr (.inl ⟨m, u, v, vv, hc, hb hw, hl, hv, hvv, h⟩))
    · exact .inr (.inl ⟨m, u, hc, hf hw, h1, h2, h3, h4.symm⟩)
    · exact .inl ⟨m, u, v, vv, hc, hf hw, hl, hv, hvv, h1, h2, h3, h4.symm⟩
  · rintro (⟨m, u, v, vv, hc, hf, hl, hv, hvv, h1, h2, h3, h4⟩ | ⟨m, u, hc, hf, h1, h2, h3, h4⟩ |
            ⟨m, u, v, vv, hc, hb, hl, hv, hvv, h⟩ | ⟨m, u, hc, hb, h⟩)
    · obtain ⟨w, hw, hr⟩ := hf.reach
      exact ⟨m, ⟨A, hc⟩, (u, w), hr,
        I.mem_emit.mpr (.inr ⟨hw, .inr ⟨v, vv, hc, hl, hv, hvv, h1, h2, h3, h4.symm⟩⟩)⟩
    · obtain ⟨w, hw, hr⟩ := hf.reach
      exact ⟨m, ⟨A, hc⟩, (u, w), hr, I.mem_emit.mpr (.inr ⟨hw, .inl ⟨hc, h1, h2, h3, h4.symm⟩⟩)⟩
    · obtain ⟨w, hw, hr⟩ := hb.reach
      exact ⟨m, ⟨B, hc⟩, (u, w), hr, I.mem_emit.mpr (.inl ⟨hw, .inr ⟨v, vv, hc, hl, hv, hvv, h⟩⟩)⟩
    · obtain ⟨w, hw, hr⟩ := hb.reach
      exact ⟨m, ⟨B, hc⟩, (u, w), hr, I.mem_emit.mpr (.inl ⟨hw, .inl ⟨hc, h⟩⟩)⟩

/-- (sound) every added pair `(A,B)` has `A ≠ B` and is justified by a chain of declared constraints with at least one
    `<` step, from an end of `A` to an end of `B` -/
theorem sound (I : Input) (A B : Nat) (h : (A, B) ∈ I.process) :
    A ≠ B ∧ ∃ a b, End I A a ∧ End I B b ∧ Rel I true a b := by
  rcases (process_exact I A B).mp h with
    ⟨m, u, v, vv, hc, hf, hl, _, hrv, hcv, _, _, hne⟩ | ⟨m, u, hc, hf, hl, hvb, _, hne⟩ |
    ⟨m, u, v, vv, hc, hb, hl, _, hrv, hcv, _, _, hne⟩ | ⟨m, u, hc, hb, hl, hvb, _, hne⟩
  · obtain ⟨s, hs⟩ := hf.rel
    exact ⟨hne, m, vv, Or.inr hc, Or.inr hcv, (hs.lt hl).trans hrv⟩
  · obtain ⟨s, hs⟩ := hf.rel
    exact ⟨hne, m, B, Or.inr hc, Or.inl ⟨rfl, hvb⟩, hs.lt hl⟩
  · obtain ⟨s, hs⟩ := hb.rel
    exact ⟨hne, vv, m, Or.inr hcv, Or.inr hc, (hrv.symm.lt hl).trans hs⟩
  · obtain ⟨s, hs⟩ := hb.rel
    exact ⟨hne, A, m, Or.inl ⟨rfl, hvb⟩, Or.inr hc, ((Rel.refl A).lt hl).trans hs⟩

/-- (multi-hop, forwards) `A` calls `m`; the search walks from `m` forwards to `u`; `u < v` is declared, `v` is a
    method and `B` calls a method of `v`'s class: `(A,B)` is added unless an exclusion applies -/
theorem complete_fwd (I : Input) (A B m u v vv : Nat) (hc : I.Calls A m) (hf : Fwd I m u) (hl : I.Lt u v)
    (hv : v ∉ I.blocks) (hvv : Rel I false v vv) (hcB : I.Calls B vv)
    (hx1 : ¬ I.Lt B u) (hx2 : ¬ I.Lt v A) (hne : A ≠ B) : (A, B) ∈ I.process :=
  (process_exact I A B).mpr (Or.inl ⟨m, u, v, vv, hc, hf, hl, hv, hvv, hcB, hx1, hx2, hne⟩)

/-- (multi-hop, backwards) mirror image of `complete_fwd` -/
theorem complete_bwd (I : Input) (A B m u v vv : Nat) (hc : I.Calls B m) (hb : Bwd I m u) (hl : I.Lt v u)
    (hv : v ∉ I.blocks) (hvv : Rel I false v vv) (hcA : I.Calls A vv)
    (hx1 : ¬ I.Lt u A) (hx2 : ¬ I.Lt B v) (hne : A ≠ B) : (A, B) ∈ I.process :=
  (process_exact I A B).mpr (Or.inr (Or.inr (Or.inl ⟨m, u, v, vv, hc, hb, hl, hv, hvv, hcA, hx1, hx2, hne⟩)))

/-- (complete, `M(x) < M(y)`) `A` calls a method of `x`'s `==` class, `B` calls a method of `y`'s class, `A ≠ B`, and
    neither explicit opposite constraint `B < x` nor `y < A` is declared: `(A,B)` is added -/
theorem complete_MM (I : Input) (A B x y x' y' : Nat) (hl : I.Lt x y) (hx : Rel I false x x') (hy : Rel I false y y')
    (hA : I.Calls A x') (hB : I.Calls B y') (hne : A ≠ B) (hm : x ∉ I.blocks ∨ y ∉ I.blocks)
    (hx1 : ¬ I.Lt B x) (hx2 : ¬ I.Lt y A) : (A, B) ∈ I.process := by
  rcases hm with hm | hm
  · exact complete_bwd I A B y' y x x' hB (Bwd.of_rel hy.symm) hl hm hx hA hx2 hx1 hne
  · exact complete_fwd I A B x' x y y' hA (Fwd.of_rel hx.symm) hl hm hy hB hx1 hx2 hne

/-- (complete, `U(b) < M(y)`) block `b` is ordered before every caller `B` of a method of `y`'s class (unless `B < y`
    is declared explicitly) -/
theorem complete_UM (I : Input) (b B y y' : Nat) (hl : I.Lt b y) (hb : b ∈ I.blocks) (hy : Rel I false y y')
    (hB : I.Calls B y') (hne : b ≠ B) (hx : ¬ I.Lt B y) : (b, B) ∈ I.process :=
  (process_exact I b B).mpr (Or.inr (Or.inr (Or.inr ⟨y', y, hB, Bwd.of_rel hy.symm, hl, hb, hx, hne⟩)))

/-- (complete, `M(x) < U(b)`) every caller `A` of a method of `x`'s class is ordered before block `b` (unless `x < A`
    is declared explicitly) -/
theorem complete_MU (I : Input) (A b x x' : Nat) (hl : I.Lt x b) (hb : b ∈ I.blocks) (hx : Rel I false x x')
    (hA : I.Calls A x') (hne : A ≠ b) (hx1 : ¬ I.Lt x A) : (A, b) ∈ I.process :=
  (process_exact I A b).mpr (Or.inr (Or.inl ⟨x', x, hA, Fwd.of_rel hx.symm, hl, hb, hx1, hne⟩))

/-- (schedule) an order that is topological for the added pairs runs, for every direct constraint `M(x) < M(y)`, every
    caller of (a method of the class of) `x` before every caller of (a method of the class of) `y` -/
theorem schedule_direct (I : Input) (order : List Nat) (hr : Respects order I.process)
    (A B x y x' y' : Nat) (hl : I.Lt x y) (hx : Rel I false x x') (hy : Rel I false y y')
    (hA : I.Calls A x') (hB : I.Calls B y') (hne : A ≠ B) (hm : x ∉ I.blocks ∨ y ∉ I.blocks)
    (hx1 : ¬ I.Lt B x) (hx2 : ¬ I.Lt y A) (hAo : A ∈ order) (hBo : B ∈ order) : Before order A B :=
  hr (A, B) (complete_MM I A B x y x' y' hl hx hy hA hB hne hm hx1 hx2) hAo hBo

/-- (schedule, Kahn) the schedulers' topological sort, with any tie-break, on any edge set that contains the added
    pairs: the caller of `x` stands before the caller of `y` whenever the latter is scheduled -/
theorem schedule_kahn (I : Input) (pick : List Nat → Nat) (V : List Nat) (E : List (Nat × Nat)) (fuel : Nat)
    (hE : ∀ e ∈ I.process, e ∈ E)
    (A B x y x' y' : Nat) (hl : I.Lt x y) (hx : Rel I false x x') (hy : Rel I false y y')
    (hA : I.Calls A x') (hB : I.Calls B y') (hne : A ≠ B) (hm : x ∉ I.blocks ∨ y ∉ I.blocks)
    (hx1 : ¬ I.Lt B x) (hx2 : ¬ I.Lt y A) (hBo : B ∈ PV.Kahn.kahn pick V E fuel []) :
    Before (PV.Kahn.kahn pick V E fuel []) A B :=
  (PV.Kahn.kahn_sound pick V E fuel).2 (A, B)
    (hE _ (complete_MM I A B x y x' y' hl hx hy hA hB hne hm hx1 hx2)) hBo

/-! ## non-vacuity (ids: methods 1.., blocks 10..) -/

/-- pipe queue: `M(deq=1) < M(enq=2)`, block 10 calls enq, block 11 calls deq -/
example : Input.process ⟨[(10, 2), (11, 1)], [(1, 2, false)], [10, 11]⟩ = [(11, 10), (11, 10)] := by decide +kernel

/-- pass-throughs on both sides (`1 == 2`, `2 < 3`, `3 == 4`; block 10 calls 1, block 11 calls 4) -/
example : (10, 11) ∈ Input.process ⟨[(10, 1), (11, 4)], [(1, 2, true), (2, 3, false), (3, 4, true)], [10, 11]⟩ := by
  decide +kernel

/-- two hops through methods nobody calls: `1 < 2 < 3` -/
example : (10, 11) ∈ Input.process ⟨[(10, 1), (11, 3)], [(1, 2, false), (2, 3, false)], [10, 11]⟩ := by decide +kernel

/-- the exclusion: `M(1) < M(2)` but the explicit `U(11) < M(1)` keeps `(10, 11)` out -/
example : (10, 11) ∉ Input.process ⟨[(10, 1), (11, 2)], [(1, 2, false), (11, 1, false)], [10, 11]⟩ := by decide +kernel

/-- `U(12) < M(1)`, `M(1) < U(13)` -/
example : Input.process ⟨[(10, 1)], [(12, 1, false), (1, 13, false)], [10, 12, 13]⟩ = [(12, 10), (10, 13)] := by decide +kernel

/-- a `<` step onto a block ends the walk: `M(1) < U(12)`, `U(12) < M(2)` gives `(10,12)` and `(12,11)`, not `(10,11)` -/
example : Input.process ⟨[(10, 1), (11, 2)], [(1, 12, false), (12, 2, false)], [10, 11, 12]⟩ = [(10, 12), (12, 11)] := by
  decide +kernel

end PV.C02m
