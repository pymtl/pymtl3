import PymtlVerif.Proofs.Slice
import PymtlVerif.Props.C04
/-!
# C05 — slices, concat, extension and clog2 address exactly the named bits

Property theorems about `Model/Bits.lean` (slicing part and `helpers.py`), for every width and value.
Bits are addressed through `Nat.testBit`, so "exactly the named bits, and no others" is literal.
-/
namespace PV.C05
open PV.Bits

/-- a valid slice returns bits lo..hi-1 as a value of width hi-lo -/
theorem get_slice (n x lo hi : Nat) (h1 : lo < hi) (h2 : hi ≤ n) :
    getSlice ⟨n, x⟩ (some lo) (some hi) none = .ok ⟨hi - lo, (x / 2 ^ lo) % 2 ^ (hi - lo)⟩ := by
  rw [getSlice, sliceBounds_valid n lo hi h1 h2, ← Nat.shiftRight_eq_div_pow]

/-- bit i of the slice is bit lo+i of the source, and the slice value fits its width -/
theorem get_slice_bits (x lo hi i : Nat) :
    ((x / 2 ^ lo) % 2 ^ (hi - lo)).testBit i = (decide (i < hi - lo) && x.testBit (i + lo)) ∧
    (x / 2 ^ lo) % 2 ^ (hi - lo) < 2 ^ (hi - lo) := by
  refine ⟨?_, Nat.mod_lt _ (Nat.two_pow_pos _)⟩
  rw [Nat.testBit_mod_two_pow, Nat.testBit_div_two_pow]

/-- omitted bounds mean 0 and n (only `None` does; an explicit 0 is a bound like any other) -/
theorem get_default_bounds (n x : Nat) (lo hi : Bound) :
    getSlice ⟨n, x⟩ none hi none = getSlice ⟨n, x⟩ (some 0) hi none ∧
    getSlice ⟨n, x⟩ lo none none = getSlice ⟨n, x⟩ lo (some n) none :=
  ⟨rfl, rfl⟩

/-- every bound pair outside 0 ≤ lo < hi ≤ n is an IndexError — nothing else is selected -/
theorem get_invalid (n x : Nat) (lo hi : Int) (h : ¬ (0 ≤ lo ∧ lo < hi ∧ hi ≤ n)) :
    getSlice ⟨n, x⟩ (some lo) (some hi) none = .error .index := by
  rw [getSlice, sliceBounds_invalid n lo hi h]

/-- any stepped slice is an IndexError, for reads and writes -/
theorem step_rejected (b : B) (lo hi : Bound) (s : Int) (v : Opnd) :
    getSlice b lo hi (some s) = .error .index ∧ setSlice b lo hi (some s) v = .error .index :=
  ⟨rfl, rfl⟩

theorem get_bit (n x : Nat) (i : Int) :
    (0 ≤ i ∧ i < n → getBit ⟨n, x⟩ i = .ok ⟨1, (x / 2 ^ i.toNat) % 2⟩ ∧
        (((x / 2 ^ i.toNat) % 2 = 1) ↔ x.testBit i.toNat = true)) ∧
    (¬ (0 ≤ i ∧ i < n) → getBit ⟨n, x⟩ i = .error .index) := by
  constructor
  · intro h
    have hv : ¬ (i ≥ (n : Int) ∨ i < 0) := by omega
    refine ⟨by rw [getBit, if_neg hv, Nat.shiftRight_eq_div_pow], ?_⟩
    rw [Nat.testBit_eq_decide_div_mod_eq, decide_eq_true_eq]
  · intro h
    have hv : i ≥ (n : Int) ∨ i < 0 := by omega
    rw [getBit, if_pos hv]

/-- writing a Bits of the slice's width into a valid slice changes exactly bits lo..hi-1 -/
theorem set_slice_bits (n x lo hi w : Nat) (h1 : lo < hi) (h2 : hi ≤ n) (hx : x < 2 ^ n) (hw : w < 2 ^ (hi - lo)) :
    ∃ r, setSlice ⟨n, x⟩ (some lo) (some hi) none (.bits ⟨hi - lo, w⟩) = .ok ⟨n, r⟩ ∧ r < 2 ^ n ∧
      (∀ i, r.testBit i = if lo ≤ i ∧ i < hi then w.testBit (i - lo) else x.testBit i) ∧
      getSlice ⟨n, r⟩ (some lo) (some hi) none = .ok ⟨hi - lo, w⟩ := by
  have hle : lo ≤ hi := Nat.le_of_lt h1
  refine ⟨pokeRaw x lo hi w, ?_, pokeRaw_lt x lo hi w n hle h2 hx hw, fun i => testBit_pokeRaw x lo hi w i hle hw, ?_⟩
  · rw [setSlice, sliceBounds_valid n lo hi h1 h2]
    simp only [ne_eq, not_true_eq_false, if_false, Nat.mod_eq_of_lt hw]
  · rw [get_slice n _ lo hi h1 h2, get_pokeRaw x lo hi w hle hw]

/-- an int is accepted iff it fits the slice (-2^(w-1) .. 2^w - 1) and is stored modulo 2^w -/
theorem set_slice_int (n x lo hi : Nat) (k : Int) (h1 : lo < hi) (h2 : hi ≤ n) :
    ((-(2 ^ (hi - lo - 1) : Int) ≤ k ∧ k < 2 ^ (hi - lo)) →
        setSlice ⟨n, x⟩ (some lo) (some hi) none (.int k) = .ok ⟨n, pokeRaw x lo hi (maskInt (hi - lo) k)⟩) ∧
    ((k < -(2 ^ (hi - lo - 1) : Int) ∨ k ≥ 2 ^ (hi - lo)) →
        setSlice ⟨n, x⟩ (some lo) (some hi) none (.int k) = .error .range) := by
  rw [setSlice, sliceBounds_valid n lo hi h1 h2]
  exact value_test (hi - lo) k _

/-- a Bits value of any other width never goes into the slice -/
theorem set_too_wide (n x lo hi m w : Nat) (h1 : lo < hi) (h2 : hi ≤ n) (hm : m ≠ hi - lo) :
    setSlice ⟨n, x⟩ (some lo) (some hi) none (.bits ⟨m, w⟩) = .error .width := by
  rw [setSlice, sliceBounds_valid n lo hi h1 h2]
  exact if_pos hm

theorem set_invalid (n x : Nat) (lo hi : Int) (v : Opnd) (h : ¬ (0 ≤ lo ∧ lo < hi ∧ hi ≤ n)) :
    setSlice ⟨n, x⟩ (some lo) (some hi) none v = .error .index := by
  rw [setSlice, sliceBounds_invalid n lo hi h]

/-- single-bit write of a 1-bit Bits: changes bit i only -/
theorem set_bit (n x : Nat) (i : Nat) (hi : i < n) (hx : x < 2 ^ n) (c : Nat) (hc : c < 2) :
    ∃ r, setBit ⟨n, x⟩ i (.bits ⟨1, c⟩) = .ok ⟨n, r⟩ ∧ r < 2 ^ n ∧
      (∀ j, r.testBit j = if j = i then c.testBit 0 else x.testBit j) := by
  have hv : ¬ ((i : Int) ≥ (n : Int) ∨ (i : Int) < 0) := by omega
  have hw : c < 2 ^ (i + 1 - i) := by rw [Nat.add_sub_cancel_left]; exact hc
  refine ⟨pokeRaw x i (i + 1) c, ?_, pokeRaw_lt x i (i + 1) c n (Nat.le_succ i) hi hx hw, fun j => ?_⟩
  · simp only [setBit, if_neg hv, Int.toNat_natCast, gt_iff_lt, Nat.lt_irrefl, if_false, Nat.mod_eq_of_lt hc]
  · rw [testBit_pokeRaw x i (i + 1) c j (Nat.le_succ i) hw]
    by_cases hj : j = i
    · subst hj; rw [if_pos ⟨Nat.le_refl _, Nat.lt_succ_self _⟩, if_pos rfl, Nat.sub_self]
    · rw [if_neg (fun h => hj (Nat.le_antisymm (Nat.le_of_lt_succ h.2) h.1)), if_neg hj]

/-- a bad index, a Bits wider than 1 and an int outside {-1,0,1} are errors -/
theorem set_bit_errors (n x : Nat) (i : Int) (m c : Nat) (k : Int) :
    (¬ (0 ≤ i ∧ i < n) → ∀ v, setBit ⟨n, x⟩ i v = .error .index) ∧
    ((0 ≤ i ∧ i < n) → m > 1 → setBit ⟨n, x⟩ i (.bits ⟨m, c⟩) = .error .width) ∧
    ((0 ≤ i ∧ i < n) → (k < -1 ∨ k > 1) → setBit ⟨n, x⟩ i (.int k) = .error .range) := by
  refine ⟨fun h v => ?_, fun h hm => ?_, fun h hk => ?_⟩
  · have hv : i ≥ (n : Int) ∨ i < 0 := by omega
    rw [setBit, if_pos hv]
  · have hv : ¬ (i ≥ (n : Int) ∨ i < 0) := by omega
    rw [setBit, if_neg hv]; exact if_pos hm
  · have hv : ¬ (i ≥ (n : Int) ∨ i < 0) := by omega
    rw [setBit, if_neg hv]; exact if_pos (by omega)

/-- concat: total width is the sum, first argument most significant; ≥ 1024 bits is an error -/
theorem concat_spec (xs : List B) (h : ∀ x ∈ xs, x.v < 2 ^ x.n) :
    (1 ≤ (catSpec xs).1 ∧ (catSpec xs).1 < 1024 → concat xs = .ok ⟨(catSpec xs).1, (catSpec xs).2⟩) ∧
    ((catSpec xs).1 = 0 ∨ (catSpec xs).1 ≥ 1024 → concat xs = .error .range) ∧
    (catSpec xs).2 < 2 ^ (catSpec xs).1 := by
  have hlt := catSpec_lt xs h
  refine ⟨fun ⟨h1, h2⟩ => ?_, fun h0 => ?_, hlt⟩
  · rw [concat, concatRaw_eq]; exact PV.C04.ctor_nat _ _ h1 h2 hlt
  · rw [concat, concatRaw_eq]; exact PV.C04.ctor_bad_width _ _ _ (by omega)

/-- layout of a concatenation: the tail occupies the low bits, the head sits above it -/
theorem concat_layout (x : B) (xs : List B) (h : ∀ y ∈ xs, y.v < 2 ^ y.n) :
    (catSpec (x :: xs)).1 = x.n + (catSpec xs).1 ∧
    (catSpec (x :: xs)).2 % 2 ^ (catSpec xs).1 = (catSpec xs).2 ∧
    (catSpec (x :: xs)).2 / 2 ^ (catSpec xs).1 = x.v := by
  have hlt := catSpec_lt xs h
  -- the value is `lo + B * hi` with `lo` the tail's value, `B = 2 ^ (tail's width)`, `hi = x.v`
  have e : (catSpec (x :: xs)).2 = (catSpec xs).2 + 2 ^ (catSpec xs).1 * x.v := by
    show x.v * 2 ^ (catSpec xs).1 + (catSpec xs).2 = _
    rw [Nat.add_comm, Nat.mul_comm]
  exact ⟨rfl, e ▸ Pack.cat_mod hlt _, e ▸ Pack.cat_div hlt _⟩

theorem zext_spec (n v : Nat) (w : Nat) (hv : v < 2 ^ n) (h1 : 1 ≤ n) :
    (n ≤ w ∧ w < 1024 → zext ⟨n, v⟩ w = .ok ⟨w, v⟩) ∧ (w < n → zext ⟨n, v⟩ w = .error .assert) := by
  constructor
  · intro ⟨h, h2⟩
    rw [zext, if_neg (not_not_intro (Int.ofNat_le.mpr h))]
    exact PV.C04.ctor_nat w v (Nat.le_trans h1 h) h2 (Nat.lt_of_lt_of_le hv (Nat.pow_le_pow_right (by decide) h))
  · intro h
    rw [zext, if_pos (Int.not_le.mpr (Int.ofNat_lt.mpr h))]

theorem trunc_spec (n v : Nat) (w : Nat) (h1 : 1 ≤ w) (h2 : n < 1024) :
    (w ≤ n → trunc ⟨n, v⟩ w = .ok ⟨w, v % 2 ^ w⟩) ∧ (n < w → trunc ⟨n, v⟩ w = .error .assert) := by
  constructor
  · intro h
    have hn : ¬ ((w : Int) < 1 ∨ (w : Int) ≥ 1024) := by omega
    rw [trunc, if_neg (not_not_intro (Int.ofNat_le.mpr h))]
    simp only [ctor, if_neg hn, Bool.not_true, Bool.false_and, Bool.false_eq_true, if_false, Int.toNat_natCast,
      maskInt_natCast]
  · intro h
    rw [trunc, if_pos (Int.not_le.mpr (Int.ofNat_lt.mpr h))]

/-- sext replicates the sign bit: the new value is v, or v + (2^w - 2^n) when bit n-1 is set -/
theorem sext_spec (n v w : Nat) (h1 : 1 ≤ n) (hv : v < 2 ^ n) (hw : n ≤ w) (h2 : w < 1024) :
    sext ⟨n, v⟩ w = .ok ⟨w, if v < 2 ^ (n - 1) then v else v + 2 ^ w - 2 ^ n⟩ := by
  have e1 := Nat.two_pow_pred_mul_two h1
  have e2 := Nat.two_pow_pred_mul_two (Nat.le_trans h1 hw)
  have e3 : 2 ^ (n - 1) ≤ 2 ^ (w - 1) := Nat.pow_le_pow_right (by decide) (Nat.sub_le_sub_right hw 1)
  have hnw : 2 ^ n ≤ 2 ^ w := Nat.pow_le_pow_right (by decide) hw
  rw [sext, if_neg (not_not_intro (Int.ofNat_le.mpr hw)), (PV.C04.int_signed n v h1 hv).1]
  by_cases hlt : v < 2 ^ (n - 1)
  · rw [if_pos hlt, if_pos hlt]
    exact PV.C04.ctor_nat w v (Nat.le_trans h1 hw) h2 (Nat.lt_of_lt_of_le hv hnw)
  · -- the int `v - 2^n` lies in `-2^(w-1) .. -1`; it is stored as `(v + 2^w - 2^n) % 2^w`
    have c2 := cast_two_pow w
    have c3 := cast_two_pow (w - 1)
    rw [if_neg hlt, if_neg hlt, ← cast_two_pow n,
      (PV.C04.ctor_spec w (Nat.le_trans h1 hw) h2 _).1 ⟨by omega, by omega⟩, maskInt_sub w v (2 ^ n) hnw,
      Nat.mod_eq_of_lt (by omega)]

theorem sext_bits (n v w i : Nat) (h1 : 1 ≤ n) (hv : v < 2 ^ n) (hw : n ≤ w) :
    (if v < 2 ^ (n - 1) then v else v + 2 ^ w - 2 ^ n).testBit i =
      if i < n then v.testBit i else (decide (i < w) && v.testBit (n - 1)) := by
  have hnw : 2 ^ n ≤ 2 ^ w := Nat.pow_le_pow_right (by decide) hw
  -- the value is `signExtend w` of the bit vector `v`, whose bits the library knows
  have e : (if v < 2 ^ (n - 1) then v else v + 2 ^ w - 2 ^ n) = ((BitVec.ofNatLT v hv).signExtend w).toNat := by
    rw [BitVec.toNat_signExtend, BitVec.msb_eq_decide, BitVec.toNat_setWidth, BitVec.toNat_ofNatLT,
      Nat.mod_eq_of_lt (Nat.lt_of_lt_of_le hv hnw)]
    by_cases hlt : v < 2 ^ (n - 1)
    · rw [if_pos hlt, decide_eq_false (Nat.not_le_of_lt hlt)]; rfl
    · rw [if_neg hlt, decide_eq_true (Nat.le_of_not_lt hlt), if_pos rfl, Nat.add_sub_assoc hnw]
  rw [e, BitVec.testBit_toNat, BitVec.getLsbD_signExtend, BitVec.msb_eq_getLsbD_last, BitVec.getLsbD_ofNatLT,
    BitVec.getLsbD_ofNatLT]
  by_cases hi : i < n
  · rw [if_pos hi, if_pos hi, decide_eq_true (Nat.lt_of_lt_of_le hi hw), Bool.true_and]
  · rw [if_neg hi, if_neg hi]

theorem reduce_spec (n v : Nat) (hv : v < 2 ^ n) :
    (reduceAnd ⟨n, v⟩ = ⟨1, if (∀ i, i < n → v.testBit i = true) then 1 else 0⟩) ∧
    (reduceOr ⟨n, v⟩ = ⟨1, if (∃ i, i < n ∧ v.testBit i = true) then 1 else 0⟩) ∧
    (reduceXor ⟨n, v⟩ = ⟨1, (((List.range n).filter (fun i => v.testBit i)).length) % 2⟩) := by
  refine ⟨?_, ?_, ?_⟩
  · have key : (v = 2 ^ n - 1) ↔ (∀ i, i < n → v.testBit i = true) := by
      constructor
      · intro h i hi; rw [h, Nat.testBit_two_pow_sub_one, decide_eq_true hi]
      · intro h
        apply Nat.eq_of_testBit_eq
        intro i
        rw [Nat.testBit_two_pow_sub_one]
        by_cases hi : i < n
        · rw [h i hi, decide_eq_true hi]
        · rw [testBit_of_lt_two_pow hv (Nat.le_of_not_lt hi), decide_eq_false hi]
    simp only [reduceAnd, b1, beq_iff_eq, key]
  · have key : (v ≠ 0) ↔ (∃ i, i < n ∧ v.testBit i = true) := by
      constructor
      · intro h
        obtain ⟨i, hi⟩ := Nat.exists_testBit_of_ne_zero h
        refine ⟨i, Nat.lt_of_not_le fun hle => ?_, hi⟩
        rw [testBit_of_lt_two_pow hv hle] at hi; cases hi
      · intro ⟨i, _, hi⟩ h0; rw [h0, Nat.zero_testBit] at hi; cases hi
    simp only [reduceOr, b1, bne_iff_ne, key]
  · simp only [reduceXor, b1, popcount_eq n v hv, beq_iff_eq]
    rcases Nat.mod_two_eq_zero_or_one ((List.range n).filter (fun i => v.testBit i)).length with h | h <;> rw [h] <;> rfl

/-- clog2 N is the least k with 2^k ≥ N, for every N ≥ 1 -/
theorem clog2_spec (N : Nat) (h : 1 ≤ N) :
    ∃ k, clog2 (N : Int) = some k ∧ N ≤ 2 ^ k ∧ ∀ j, N ≤ 2 ^ j → k ≤ j := by
  refine ⟨bitLength N (N - 1), ?_, ?_⟩
  · rw [clog2, if_pos (Int.natCast_pos.mpr h), Int.toNat_natCast]
  rw [bitLength_eq_log2 N (N - 1) (Nat.sub_le N 1)]
  by_cases h0 : N - 1 = 0
  · rw [if_pos h0]; exact ⟨Nat.le_of_sub_eq_zero h0, fun j _ => Nat.zero_le j⟩
  · -- 2^log2 (N-1) ≤ N-1 < 2^(log2 (N-1) + 1), and N-1 < 2^j gives log2 (N-1) < j
    rw [if_neg h0]
    refine ⟨Nat.le_of_pred_lt Nat.lt_log2_self, fun j hj => ?_⟩
    exact (Nat.pow_lt_pow_iff_right (a := 2) (by decide)).mp
      (Nat.lt_of_le_of_lt (Nat.log2_self_le h0) (Nat.lt_of_lt_of_le (Nat.pred_lt (Nat.ne_of_gt h)) hj))

theorem clog2_nonpositive (N : Int) (h : N ≤ 0) : clog2 N = none := by
  rw [clog2, if_neg (Int.not_lt.mpr h)]

/-! ## non-vacuity -/
example : getSlice ⟨8, 0xab⟩ (some 2) (some 0) none = .error .index := by decide
example : getSlice ⟨8, 0xab⟩ (some 0) (some 0) none = .error .index := by decide
example : getSlice ⟨8, 0xab⟩ (some 4) (some 8) none = .ok ⟨4, 0xa⟩ := by decide
example : setSlice ⟨8, 0xab⟩ (some 2) (some 6) none (.int (-3)) = .ok ⟨8, 183⟩ := by decide
example : clog2 (2 ^ 29) = some 29 := by decide
example : sext ⟨4, 0xa⟩ 8 = .ok ⟨8, 0xfa⟩ := by decide

end PV.C05
