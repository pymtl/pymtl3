import PymtlVerif.Model.LoopIR
import PymtlVerif.Props.C11
import PymtlVerif.Proofs.ListFacts
/-!
# C11 (loop structure) — the generated SCC super-block, as parsed from the real wrapper, *is* `Rtl.iterate`

Model: `Model/LoopIR.lean` (`IR`, `IR.run`, `IR.ok`, `IR.watch`, `IR.fuel`).  The harness parses every generated
`wrapped_SCC_<k>` of DynamicSchedulePass, Mamba2020Pass and OpenLoopCLPass into an `IR` (Python `ast`) and the driver
`pv_loopir` evaluates `IR.ok` on it and runs `IR.run`.

* `run_eq_iterate`: for every IR of the normal class, every group, every start state and every fuel above the bound the
  super-block is exactly `iterate ir.fuel ir.watch` (`none` = UpblkCyclicError); `runG_ok` says the same on any state type,
  so also of the loop the driver runs on its tables; hence `stable_is_fixed_point`,
  `false_loop_eq_acyclic`, `none_means_unstable` and `whole_schedule` of `Props/C11.lean` transfer to what the wrapper
  text says (`ok_*` below), for any fuel;
* shapes outside the class, each with a counter-example: conjunction of the `!=` tests (`allChanged_returns_unstable`),
  inverted exit (`breakOnChange_returns_unstable`), no bound test (`unbounded_never_raises`, `unbounded_hangs`).
-/
namespace PV.C11w
open PV.Rtl PV.LoopIR

section generic
variable {σ : Type} (same : Rng → σ → σ → Bool)

/-- the stability test of `iterate` over a watch list -/
def stableG (watch : List Rng) (s s' : σ) : Bool := watch.all (fun r => same r s s')

theorem stableG_append (a b : List Rng) (s s' : σ) :
    stableG same (a ++ b) s s' = (stableG same a s s' && stableG same b s s') := by
  simp [stableG, List.all_append]

def ofOpt : Option σ → Res σ
  | some s => .ret s
  | none => .raised

/-- a test in normal form of polarity `p`: all literals are `==` and joined by `and` (`p = true`), or all are `!=` and
joined by `or` (`p = false`); a single literal is joined either way -/
def NormalTest (t : Test) (p : Bool) (act : Exit) : Prop :=
  t.act = act ∧ (∀ l ∈ t.lits, l.2 = p) ∧ (t.all = p ∨ t.lits.length = 1)

theorem normal_of_changedCont {t : Test} (ht : t.isChangedCont = true) : NormalTest t false .cont := by
  unfold Test.isChangedCont at ht
  simp only [Bool.and_eq_true, List.all_eq_true, Bool.not_eq_true', Bool.or_eq_true, beq_iff_eq] at ht
  exact ⟨ht.1.1, ht.1.2, ht.2⟩

theorem normal_of_sameBrk {t : Test} (ht : t.isSameBrk = true) : NormalTest t true .brk := by
  unfold Test.isSameBrk at ht
  simp only [Bool.and_eq_true, List.all_eq_true, Bool.or_eq_true, beq_iff_eq] at ht
  exact ⟨ht.1.1, ht.1.2, ht.2⟩

theorem lits_eq_stableG (vars : List Rng) (s s' : σ) (p : Bool) (lits : List (Nat × Bool))
    (hp : ∀ l ∈ lits, l.2 = p) (hidx : ∀ l ∈ lits, l.1 < vars.length) :
    lits.all (fun l => litVal same vars s s' l == p) =
      stableG same ((lits.map (·.1)).filterMap (fun j => vars[j]?)) s s' := by
  induction lits with
  | nil => rfl
  | cons l ls ih =>
    have hl := hidx l List.mem_cons_self
    have h3 : vars[l.1]? = some vars[l.1] := List.getElem?_eq_getElem hl
    rw [List.all_cons, ih (fun l hl => hp l (List.mem_cons_of_mem _ hl)) (fun l hl => hidx l (List.mem_cons_of_mem _ hl)),
      List.map_cons, List.filterMap_cons, h3, stableG, stableG, List.all_cons, litVal, h3, hp l List.mem_cons_self]
    cases p <;> simp

theorem NormalTest.holds_eq {t : Test} {p : Bool} {act : Exit} (h : NormalTest t p act) (vars : List Rng) (s s' : σ)
    (hidx : ∀ l ∈ t.lits, l.1 < vars.length) :
    t.holds same vars s s' = (stableG same ((t.lits.map (·.1)).filterMap (fun j => vars[j]?)) s s' == p) := by
  obtain ⟨_, hp, hj⟩ := h
  rw [← lits_eq_stableG same vars s s' p t.lits hp hidx, ← all_or_any_eq, Test.holds]
  rcases hj with hj | hj
  · rw [hj]
  · -- on a single literal `and` and `or` agree
    match t.lits, hj with
    | [l], _ => cases t.all <;> cases p <;> simp

theorem mem_idx_of_mem_lits {t : Test} {ps : List Post} {l : Nat × Bool} (hl : l ∈ t.lits) :
    l.1 ∈ (Post.test t :: ps).flatMap Post.idx :=
  List.mem_flatMap.mpr ⟨_, List.mem_cons_self, List.mem_map_of_mem hl⟩

/-- the statements after the sweep, first shape: `continue` iff a compared variable changed, else `break` -/
theorem runPost_formD (ir : IR) (N : Nat) (s s' : σ) (hfall : ir.fall = .brk) (ps : List Post)
    (hps : ∀ p ∈ ps, ∃ t, p = .test t ∧ t.isChangedCont = true)
    (hidx : ∀ j ∈ ps.flatMap Post.idx, j < ir.vars.length) :
    runPost same ir N s s' ps =
      if stableG same ((ps.flatMap Post.idx).filterMap (fun j => ir.vars[j]?)) s s' then .brk else .cont := by
  induction ps with
  | nil => rw [runPost, hfall]; rfl
  | cons p ps ih =>
    obtain ⟨t, rfl, ht⟩ := hps p List.mem_cons_self
    have hn := normal_of_changedCont ht
    rw [runPost, hn.holds_eq same ir.vars s s' fun l hl => hidx _ (mem_idx_of_mem_lits hl), hn.1,
      ih (fun p hp => hps p (List.mem_cons_of_mem _ hp)) fun j hj => hidx j (List.mem_append_right _ hj),
      List.flatMap_cons, List.filterMap_append, stableG_append, Post.idx]
    cases stableG same ((t.lits.map (·.1)).filterMap (fun j => ir.vars[j]?)) s s' <;> rfl

/-- one turn with the counter at `N`: `N += 1`, the bound test in front, the sweep, the statements after it -/
def turn (sweep : σ → σ) (ir : IR) (N : Nat) (s : σ) : Out :=
  if ir.preRaises (N + 1) then .raise else runPost same ir (N + 1) s (sweep s) ir.post

theorem runG_succ (sweep : σ → σ) (ir : IR) (f N : Nat) (s : σ) :
    runG same sweep ir (f + 1) N s =
      match turn same sweep ir N s with
      | .brk => .ret (sweep s)
      | .raise => .raised
      | .cont => runG same sweep ir f (N + 1) (sweep s) := by
  rw [runG, turn]; split <;> rfl

/-- bound test first, then the stability test: `b` sweeps, the `b+1`-st turn raises before it sweeps -/
theorem runG_boundFirst (sweep : σ → σ) (ir : IR) (stable : σ → σ → Bool) (b : Nat)
    (hturn : ∀ N s, turn same sweep ir N s =
      if N + 1 > b then .raise else if stable s (sweep s) then .brk else .cont) :
    ∀ k f N s, N + k = b → k < f → runG same sweep ir f N s = ofOpt (iterateG sweep stable k s) := by
  intro k f
  induction f generalizing k with
  | zero => exact fun _ _ _ hf => absurd hf (Nat.not_lt_zero k)
  | succ f ih =>
    intro N s hN hf
    rw [runG_succ, hturn]
    cases k with
    | zero => rw [if_pos (hN ▸ Nat.lt_succ_self N)]; rfl
    | succ k =>
      rw [if_neg (Nat.not_lt.mpr (hN ▸ Nat.add_le_add_left (Nat.succ_pos k) N)), iterateG]
      cases stable s (sweep s)
      · exact ih k (N + 1) (sweep s) ((Nat.add_right_comm N 1 k).trans hN) (Nat.lt_of_succ_lt_succ hf)
      · rfl

/-- stability test first, then the bound test: `b + 1` sweeps, the last turn raises after its sweep -/
theorem runG_stableFirst (sweep : σ → σ) (ir : IR) (stable : σ → σ → Bool) (b : Nat)
    (hturn : ∀ N s, turn same sweep ir N s =
      if stable s (sweep s) then .brk else if N + 1 > b then .raise else .cont) :
    ∀ k f N s, N + k = b → k < f → runG same sweep ir f N s = ofOpt (iterateG sweep stable (k + 1) s) := by
  intro k f
  induction f generalizing k with
  | zero => exact fun _ _ _ hf => absurd hf (Nat.not_lt_zero k)
  | succ f ih =>
    intro N s hN hf
    rw [runG_succ, hturn, iterateG]
    cases stable s (sweep s)
    · cases k with
      | zero => rw [if_neg Bool.false_ne_true, if_pos (hN ▸ Nat.lt_succ_self N)]; rfl
      | succ k =>
        rw [if_neg Bool.false_ne_true, if_neg (Nat.not_lt.mpr (hN ▸ Nat.add_le_add_left (Nat.succ_pos k) N))]
        exact ih k (N + 1) (sweep s) ((Nat.add_right_comm N 1 k).trans hN) (Nat.lt_of_succ_lt_succ hf)
    · rfl

/-- **the loop of DynamicSchedulePass / Mamba2020Pass is `iterate`** (generic form, counter at `N`) -/
theorem runG_formD (sweep : σ → σ) (ir : IR) (b : Nat) (hpre : ir.pre = some b) (hfall : ir.fall = .brk)
    (hpost : ∀ p ∈ ir.post, ∃ t, p = .test t ∧ t.isChangedCont = true)
    (hidx : ∀ j ∈ ir.idx, j < ir.vars.length) :
    ∀ k f N s, N + k = b → k < f →
      runG same sweep ir f N s = ofOpt (iterateG sweep (stableG same ir.watch) k s) := by
  refine runG_boundFirst same sweep ir (stableG same ir.watch) b fun N s => ?_
  rw [turn, IR.preRaises, hpre, runPost_formD same ir (N + 1) s (sweep s) hfall ir.post hpost hidx]
  simp only [decide_eq_true_eq]
  rfl

/-- **the loop of OpenLoopCLPass is `iterate` with one more sweep** (generic form, counter at `N`) -/
theorem runG_formO (sweep : σ → σ) (ir : IR) (b : Nat) (t : Test) (hpre : ir.pre = none) (hfall : ir.fall = .cont)
    (hpost : ir.post = [.test t, .raiseIf b]) (ht : t.isSameBrk = true)
    (hidx : ∀ j ∈ ir.idx, j < ir.vars.length) :
    ∀ k f N s, N + k = b → k + 1 < f →
      runG same sweep ir f N s = ofOpt (iterateG sweep (stableG same ir.watch) (k + 1) s) := by
  have hw : ir.watch = (t.lits.map (·.1)).filterMap (fun j => ir.vars[j]?) := by
    simp [IR.watch, IR.idx, hpost, Post.idx]
  have hn := normal_of_sameBrk ht
  have hidx1 : ∀ l ∈ t.lits, l.1 < ir.vars.length := fun l hl =>
    hidx _ (by rw [IR.idx, hpost]; exact mem_idx_of_mem_lits hl)
  exact fun k f N s hN hf => runG_stableFirst same sweep ir (stableG same ir.watch) b
    (fun N s => by
      simp only [turn, IR.preRaises, hpre, hpost, runPost, hn.holds_eq same ir.vars s (sweep s) hidx1, ← hw, hn.1, hfall,
        Exit.out, beq_true, Bool.false_eq_true, if_false])
    k f N s hN (Nat.lt_of_succ_lt hf)

theorem runG_mono (sweep : σ → σ) (ir : IR) (f k N : Nat) (s : σ) (r : Res σ)
    (h : runG same sweep ir f N s = r) (hr : r ≠ .timeout) : runG same sweep ir (f + k) N s = r := by
  induction f generalizing N s with
  | zero => exact absurd (h.symm.trans rfl) hr
  | succ f ih =>
    rw [Nat.add_right_comm f 1 k, runG_succ]
    rw [runG_succ] at h
    cases ht : turn same sweep ir N s <;> rw [ht] at h
    · exact h
    · exact ih _ _ h
    · exact h

/-- **normal class ⇒ the loop is `iterate`**, on any state type: for every IR accepted by `IR.ok` and every fuel above the
bound -/
theorem runG_ok (sweep : σ → σ) (ir : IR) (hok : ir.ok = true) (s : σ) (fuel : Nat) (hf : ir.fuel < fuel) :
    runG same sweep ir fuel 0 s = ofOpt (iterateG sweep (stableG same ir.watch) ir.fuel s) := by
  obtain ⟨hidx', hform⟩ := Bool.and_eq_true_iff.mp hok
  have hidx : ∀ j ∈ ir.idx, j < ir.vars.length := fun j hj => of_decide_eq_true (List.all_eq_true.mp hidx' j hj)
  rcases Bool.or_eq_true_iff.mp hform with hD | hO
  · obtain ⟨hpf, hpost⟩ := Bool.and_eq_true_iff.mp hD
    obtain ⟨hpre, hfall⟩ := Bool.and_eq_true_iff.mp hpf
    obtain ⟨b, hb⟩ := Option.isSome_iff_exists.mp hpre
    have hpost' : ∀ p ∈ ir.post, ∃ t, p = .test t ∧ t.isChangedCont = true := fun p hp =>
      match p, List.all_eq_true.mp hpost p hp with
      | .test t, h => ⟨t, rfl, h⟩
    have hfu : ir.fuel = b := by rw [IR.fuel, hb]
    rw [hfu] at hf ⊢
    exact runG_formD same sweep ir b hb (eq_of_beq hfall) hpost' hidx b fuel 0 s (Nat.zero_add b) hf
  · obtain ⟨hpf, hpost⟩ := Bool.and_eq_true_iff.mp hO
    obtain ⟨hpre, hfall⟩ := Bool.and_eq_true_iff.mp hpf
    split at hpost
    · next t b hp =>
      have hfu : ir.fuel = b + 1 := by rw [IR.fuel, Option.isNone_iff_eq_none.mp hpre, hp]
      rw [hfu] at hf ⊢
      exact runG_formO same sweep ir b t (Option.isNone_iff_eq_none.mp hpre) (eq_of_beq hfall) hp hpost hidx
        b fuel 0 s (Nat.zero_add b) hf
    · nomatch hpost

end generic

theorem iterate_eq_iterateG (fuel : Nat) (watch : List Rng) (scc : List Blk) (s : St) :
    iterate fuel watch scc s = iterateG (runBlocks scc) (stableG sameRng watch) fuel s := by
  induction fuel generalizing s with
  | zero => rfl
  | succ f ih =>
    simp only [PV.C11.iterate_succ, iterateG, ih]
    rfl

def resOfOpt : Option St → Res St
  | some s => .ret s
  | none => .raised

theorem resOfOpt_eq_ofOpt : resOfOpt = ofOpt := funext fun o => by cases o <;> rfl

/-- **normal class ⇒ the wrapper is `iterate`**: for every IR accepted by `IR.ok`, every group, state and fuel above the bound,
the super-block returns what `iterate ir.fuel ir.watch` returns, and raises UpblkCyclicError where `iterate` gives `none` -/
theorem run_eq_iterate (ir : IR) (hok : ir.ok = true) (scc : List Blk) (s : St) (fuel : Nat) (hf : ir.fuel < fuel) :
    ir.run scc fuel s = resOfOpt (iterate ir.fuel ir.watch scc s) := by
  rw [iterate_eq_iterateG, resOfOpt_eq_ofOpt]
  exact runG_ok sameRng (runBlocks scc) ir hok s fuel hf

/-- a returned value is a value `iterate` returns, whatever the fuel -/
theorem ok_ret_iterate (ir : IR) (hok : ir.ok = true) (scc : List Blk) (s s' : St) (fuel : Nat)
    (h : ir.run scc fuel s = .ret s') : iterate ir.fuel ir.watch scc s = some s' := by
  have hm := runG_mono sameRng (runBlocks scc) ir fuel (ir.fuel + 1) 0 s (.ret s') h (by simp)
  have he := run_eq_iterate ir hok scc s (fuel + (ir.fuel + 1)) (Nat.lt_of_lt_of_le (Nat.lt_succ_self _) (Nat.le_add_left ..))
  unfold IR.run at he
  rw [hm] at he
  cases hi : iterate ir.fuel ir.watch scc s with
  | none => simp [hi, resOfOpt] at he
  | some t => simp only [hi, resOfOpt, Res.ret.injEq] at he; rw [he]

/-- **returns ⇒ fixed point**, for the loop the wrapper text describes -/
theorem ok_stable_is_fixed_point (ir : IR) (hok : ir.ok = true) (scc : List Blk) (s s' : St) (fuel : Nat)
    (hwf : PV.C01.wfBlocks scc = true) (hw : watchOKB scc ir.watch = true)
    (h : ir.run scc fuel s = .ret s') : ∀ b ∈ scc, b.run s' = s' :=
  PV.C11.stable_is_fixed_point ir.fuel ir.watch scc s s' hwf hw (ok_ret_iterate ir hok scc s s' fuel h)

/-- **false loop = acyclic design**, for the loop the wrapper text describes -/
theorem ok_false_loop_eq_acyclic (ir : IR) (hok : ir.ok = true) (scc fine : List Blk) (s s' : St) (fuel : Nat)
    (hwf : PV.C01.wfBlocks scc = true) (hw : watchOKB scc ir.watch = true)
    (h : ir.run scc fuel s = .ret s')
    (hfwf : PV.C01.wfBlocks fine = true) (hftopo : topoB fine = true)
    (hsplit : ∀ t, (∀ b ∈ scc, b.run t = t) → ∀ c ∈ fine, c.run t = t)
    (hsame : ∀ v, (∃ c ∈ fine, inRngs c.writes v) ↔ (∃ b ∈ scc, inRngs b.writes v)) :
    s' = runBlocks fine s :=
  PV.C11.false_loop_eq_acyclic ir.fuel ir.watch scc fine s s' hwf hw (ok_ret_iterate ir hok scc s s' fuel h)
    hfwf hftopo hsplit hsame

/-- **never hangs, and the error means what it says**: above the bound the result is never `timeout`, and `raised` means that
none of the `ir.fuel` sweeps left the compared variables unchanged -/
theorem ok_never_hangs (ir : IR) (hok : ir.ok = true) (scc : List Blk) (s : St) (fuel : Nat) (hf : ir.fuel < fuel) :
    ir.run scc fuel s ≠ .timeout ∧
    (ir.run scc fuel s = .raised →
      ∀ k, k < ir.fuel → PV.C11.stableB ir.watch (PV.C11.sweeps scc k s) (runBlocks scc (PV.C11.sweeps scc k s)) = false) := by
  rw [run_eq_iterate ir hok scc s fuel hf]
  cases hi : iterate ir.fuel ir.watch scc s with
  | some t => simp [resOfOpt]
  | none =>
    refine ⟨by simp [resOfOpt], fun _ => ?_⟩
    exact PV.C11.none_means_unstable ir.fuel ir.watch scc s hi

/-- a schedule whose wrappers are all in the normal class runs as `runEntries` on the effective watch lists, at any fuel that
reaches the bound of every wrapper -/
theorem ok_runEntries (fuel : Nat) (es : List EntryIR) (hok : entriesOK es = true) (s t : St)
    (h : runEntriesIR fuel es s = .ret t) {F : Nat} (hF : entriesFuel es ≤ F) :
    runEntries F (es.map EntryIR.toEntry) s = some t := by
  induction es generalizing s with
  | nil => cases h; rfl
  | cons e es ih =>
    obtain ⟨hok1, hok2⟩ := Bool.and_eq_true_iff.mp (List.all_cons.symm.trans hok)
    cases e with
    | blk b => exact ih hok2 _ h hF
    | scc bs ir =>
      obtain ⟨hF1, hF2⟩ := Nat.max_le.mp hF
      rw [runEntriesIR] at h
      cases hr : ir.run bs fuel s with
      | raised => rw [hr] at h; nomatch h
      | timeout => rw [hr] at h; nomatch h
      | ret s1 =>
        rw [hr] at h
        show runEntries F (.scc bs ir.watch :: es.map EntryIR.toEntry) s = some t
        rw [PV.C11.runEntries_scc, PV.C11.iterate_mono hF1 ir.watch bs s s1 (ok_ret_iterate ir hok1 bs s s1 fuel hr)]
        exact ih hok2 _ h hF2

/-- **on return no update block of the design, run again, changes any signal**, for a schedule of single blocks and SCC
groups each iterated by the loop its own wrapper text describes -/
theorem ok_whole_schedule (fuel : Nat) (es : List EntryIR) (s t : St) (hok : entriesOK es = true)
    (hwf : PV.C01.wfBlocks (allBlocks (es.map EntryIR.toEntry)) = true)
    (htopo : entriesTopoB (es.map EntryIR.toEntry) = true) (hw : watchesOKB (es.map EntryIR.toEntry) = true)
    (h : runEntriesIR fuel es s = .ret t) : ∀ b ∈ allBlocks (es.map EntryIR.toEntry), b.run t = t :=
  PV.C11.whole_schedule (entriesFuel es) (es.map EntryIR.toEntry) s t hwf htopo hw (ok_runEntries fuel es hok s t h (Nat.le_refl _))

-- a false loop (block graph cexA <-> cexB, bit-level acyclic):  A: x1 @= i ; x2 @= y1      B: y1 @= x1
-- signals: 0 = i, 1 = x1, 2 = x2, 3 = y1 (one bit each); the variables carrying the cycle are x1 and y1
def cexA : Blk := ⟨0, [⟨⟨1, 0, 1⟩, .rd ⟨0, 0, 1⟩⟩, ⟨⟨2, 0, 1⟩, .rd ⟨3, 0, 1⟩⟩]⟩
def cexB : Blk := ⟨1, [⟨⟨3, 0, 1⟩, .rd ⟨1, 0, 1⟩⟩]⟩
/-- the input `i` has just become 1, everything else is 0 -/
def cexS : St := fun v => v.1 == 0 && v.2 == 0

/-- what the two counter-examples share: if the first turn of `ir` ends in `break`, the group is left after one sweep from
`cexS`, where `y1` (written by `cexB` before `cexA` moved `x1`) is stale -/
theorem cex_leaves_unstable (ir : IR) (f : Nat) (h1 : ir.preRaises (0 + 1) = false)
    (h2 : runPost sameRng ir (0 + 1) cexS (runBlocks [cexB, cexA] cexS) ir.post = .brk) :
    ∃ s', ir.run [cexB, cexA] (f + 1) cexS = .ret s' ∧ cexB.run s' ≠ s' := by
  refine ⟨runBlocks [cexB, cexA] cexS, by rw [IR.run, runG_succ, turn, h1, h2]; rfl, fun h => ?_⟩
  have := congrFun h (3, 0)
  revert this
  decide +kernel

/-- the loop of seeded change C11-11: bound first, `if x1 != t0 and y1 != t1: continue`, `break` -/
def allChangedIR (b : Nat) : IR :=
  ⟨[⟨1, 0, 1⟩, ⟨3, 0, 1⟩], some b, [.test ⟨[(0, false), (1, false)], true, .cont⟩], .brk⟩

/-- **conjunction of the `!=` tests**: outside the normal class, and on a well-formed false loop whose carrying variables
are all compared it returns a state that is not a fixed point (x1 moved, y1 did not: the group is left; y1 is stale) -/
theorem allChanged_returns_unstable (b : Nat) (hb : 0 < b) :
    (allChangedIR b).ok = false ∧ PV.C01.wfBlocks [cexB, cexA] = true ∧
    watchOKB [cexB, cexA] (allChangedIR b).watch = true ∧
    ∃ s', (allChangedIR b).run [cexB, cexA] (b + 1) cexS = .ret s' ∧ cexB.run s' ≠ s' := by
  exact ⟨rfl, rfl, rfl, cex_leaves_unstable _ b (decide_eq_false (Nat.not_lt.mpr hb)) rfl⟩

/-- the exits swapped: `if x1 != t0 or y1 != t1: break`, otherwise go round again -/
def breakOnChangeIR (b : Nat) : IR :=
  ⟨[⟨1, 0, 1⟩, ⟨3, 0, 1⟩], some b, [.test ⟨[(0, false), (1, false)], false, .brk⟩], .cont⟩

/-- **inverted exit**: outside the normal class; leaves the group exactly when something is still moving -/
theorem breakOnChange_returns_unstable (b : Nat) (hb : 0 < b) :
    (breakOnChangeIR b).ok = false ∧
    ∃ s', (breakOnChangeIR b).run [cexB, cexA] (b + 1) cexS = .ret s' ∧ cexB.run s' ≠ s' := by
  exact ⟨rfl, cex_leaves_unstable _ b (decide_eq_false (Nat.not_lt.mpr hb)) rfl⟩

/-- **no bound test anywhere ⇒ the cycle is never reported**, whatever the group does -/
theorem unbounded_never_raises {σ : Type} (same : Rng → σ → σ → Bool) (sweep : σ → σ) (ir : IR)
    (hpre : ir.pre = none) (hpost : ∀ p ∈ ir.post, ∃ t, p = .test t) :
    ∀ f N s, runG same sweep ir f N s ≠ .raised := by
  have hout : ∀ e : Exit, e.out ≠ .raise := fun e => by cases e <;> exact fun h => nomatch h
  have hp : ∀ N s s' (ps : List Post), (∀ p ∈ ps, ∃ t, p = Post.test t) → runPost same ir N s s' ps ≠ .raise := by
    intro N s s' ps h
    induction ps with
    | nil => exact hout _
    | cons p ps ih =>
      obtain ⟨t, rfl⟩ := h p List.mem_cons_self
      rw [runPost]
      split
      · exact hout _
      · exact ih fun p hp => h p (List.mem_cons_of_mem _ hp)
  intro f
  induction f with
  | zero => exact fun N s h => nomatch h
  | succ f ih =>
    intro N s
    rw [runG_succ]
    cases ho : turn same sweep ir N s with
    | brk => exact fun h => nomatch h
    | raise => rw [turn, IR.preRaises, hpre] at ho; exact absurd ho (hp _ _ _ _ hpost)
    | cont => exact ih _ _

-- a divergent loop:  A: a @= ~b      B: b @= a        (signals 0 = a, 1 = b)
def divA : Blk := ⟨0, [⟨⟨0, 0, 1⟩, .not 1 (.rd ⟨1, 0, 1⟩)⟩]⟩
def divB : Blk := ⟨1, [⟨⟨1, 0, 1⟩, .rd ⟨0, 0, 1⟩⟩]⟩
/-- the first normal shape with the bound test dropped -/
def unboundedIR : IR := ⟨[⟨0, 0, 1⟩, ⟨1, 0, 1⟩], none, [.test ⟨[(0, false), (1, false)], false, .cont⟩], .brk⟩

theorem div_flips (s : St) : runBlocks [divA, divB] s (1, 0) = !s (1, 0) := by
  cases h : s (1, 0) <;>
    simp [runBlocks, Blk.run, Asg.run, Expr.eval, bitsToNat, Rng.has, divA, divB, h]

/-- **no bound test ⇒ a divergent loop hangs**: for every fuel and every start state the super-block is still running -/
theorem unbounded_hangs : unboundedIR.ok = false ∧ PV.C01.wfBlocks [divA, divB] = true ∧
    watchOKB [divA, divB] unboundedIR.watch = true ∧ ∀ fuel s, unboundedIR.run [divA, divB] fuel s = .timeout := by
  refine ⟨rfl, rfl, rfl, ?_⟩
  have key : ∀ f N s, runG sameRng (runBlocks [divA, divB]) unboundedIR f N s = .timeout := by
    intro f
    induction f with
    | zero => intro N s; rfl
    | succ f ih =>
      intro N s
      have h2 : turn sameRng (runBlocks [divA, divB]) unboundedIR N s = .cont := by
        have hf := div_flips s
        simp only [turn, IR.preRaises, unboundedIR, runPost, Test.holds, List.any_cons, List.any_nil, litVal, List.getElem?_cons_zero,
          List.getElem?_cons_succ, sameRng, List.range_one, List.all_cons, List.all_nil, Nat.add_zero, hf, Exit.out]
        cases s (1, 0) <;> simp
      rw [runG_succ, h2]
      exact ih (N + 1) (runBlocks [divA, divB] s)
  intro fuel s
  exact key fuel 0 s

/-! ## non-vacuity: the two loop shapes of the three real templates are in the normal class -/

/-- DynamicSchedulePass / Mamba2020Pass with watched variables in two host components -/
def dynIR : IR :=
  ⟨[⟨1, 0, 1⟩, ⟨3, 0, 1⟩, ⟨2, 0, 1⟩], some 100,
   [.test ⟨[(0, false), (1, false)], false, .cont⟩, .test ⟨[(2, false)], false, .cont⟩], .brk⟩
/-- OpenLoopCLPass -/
def openIR : IR := ⟨[⟨1, 0, 1⟩, ⟨3, 0, 1⟩], none, [.test ⟨[(0, true), (1, true)], true, .brk⟩, .raiseIf 100], .cont⟩

example : dynIR.ok = true ∧ dynIR.fuel = 100 ∧ dynIR.watch = [⟨1, 0, 1⟩, ⟨3, 0, 1⟩, ⟨2, 0, 1⟩] := by decide +kernel
example : openIR.ok = true ∧ openIR.fuel = 101 ∧ openIR.watch = [⟨1, 0, 1⟩, ⟨3, 0, 1⟩] := by decide +kernel
-- the hypotheses of `ok_stable_is_fixed_point` hold on the false loop of the counter-examples, in the order that defeats
-- the conjunction, and the OpenLoopCLPass loop does return there (a value of the theorem's `h` exists)
example : PV.C01.wfBlocks [cexB, cexA] = true ∧ watchOKB [cexB, cexA] openIR.watch = true ∧
    watchOKB [cexB, cexA] dynIR.watch = true := by decide +kernel
example : ∃ s', openIR.run [cexB, cexA] 102 cexS = .ret s' := ⟨_, rfl⟩
-- on a divergent group the OpenLoopCLPass loop does not hang (so, by `ok_never_hangs`, it raises or returns)
example : ∀ fuel, 101 < fuel → openIR.run [divA, divB] fuel (fun _ => false) ≠ .timeout :=
  fun fuel h => (ok_never_hangs openIR (by decide) _ _ fuel h).1

end PV.C11w
