import PymtlVerif.Gen.BitsGen
/-!
# C04Gen — the definitions generated from the current Python source equal the hand-written model

`Gen/BitsGen.lean` is regenerated by `tools/py2lean_bits.py` from `/repo/pymtl3/datatypes/PythonBits.py` and
`helpers.py` before every build of this file.  Each theorem `gen_<name>_eq` states that the generated
definition `PV.BitsGen.<name>` is the definition of `Model/Bits.lean` the theorems of C04 / C05 are about.
Hypotheses (each theorem lists only the ones it needs; all hold for every Bits object the constructor or
`_new_valid_bits` can produce, see C04 `range_invariant_*`):

* `x.n < 1024` — the method reads `_upper[nbits]` / `_lower[nbits]`; the tables have 1024 entries (outside: IndexError).
* `1 ≤ x.n` — `_lower[n] = -2^(n-1)` only from n = 1 on, and `x.int()` shifts by `n - 1`.
* `x.v < 2^x.n` — `//` and `%` with a Bits operand re-mask their result (a no-op exactly then); `concat` uses `|`
  where the model adds; the `while` loop of `reduce_xor` ends within n+1 tests (fuel > n; `none` = out of fuel).
* reflected operators: the left operand `k` is not a Bits (Python calls `__rop__` only when `k`'s own `__op__`
  does not apply; with a Bits `k` the forward method of `k` runs instead).

No hypothesis is put on the right operand / assigned value: those equalities hold for every `Opnd`.
Results of int / bool type are compared through the obvious embeddings (`.ok ↑(toUInt x)`, `clog2`: `some k ↦ .ok ↑k`,
`none ↦ AssertionError`); `_flip` is `none` exactly when the model's is (unset `_next`: AttributeError).
-/

namespace PV.C04Gen
open PV.Bits PV.PyInt

theorem gen_upperTab_eq : ∀ n : Nat, BitsGen.upperTab n = ((Bits.upperTab n : Nat) : Int)
  | 0 => rfl
  | 1 => rfl
  | (i+2) => by
    simp only [BitsGen.upperTab, Bits.upperTab, gen_upperTab_eq (i+1)]
    have : pyShl ((Bits.upperTab (i+1) : Nat) : Int) 1 = ((Bits.upperTab (i+1) : Nat) : Int) * 2 := by
      have := pyShl_eq_mul_pow ((Bits.upperTab (i+1) : Nat) : Int) 1
      simpa using this
    rw [this]; omega

theorem gen_lowerTab_eq : ∀ n : Nat, BitsGen.lowerTab n = Bits.lowerTab n
  | 0 => rfl
  | 1 => rfl
  | (i+2) => by
    simp only [BitsGen.lowerTab, Bits.lowerTab, gen_lowerTab_eq (i+1)]
    have := pyShl_eq_mul_pow (Bits.lowerTab (i+1)) 1
    simpa using this

/-- the tables have 1024 entries: the bound `x.n < 1024` of the hypotheses below (the methods carry it as a literal) -/
theorem gen_tabLen_eq : BitsGen.tabLen = 1024 := rfl

theorem upperTab_eq_upper (n : Nat) : BitsGen.upperTab n = ((upper n : Nat) : Int) := by
  rw [gen_upperTab_eq, Bits.upperTab_eq]

theorem lowerTab_eq_lower (n : Nat) (h : 1 ≤ n) : BitsGen.lowerTab n = lower n := by
  rw [gen_lowerTab_eq, Bits.lowerTab_eq n h]

/-! ## binary operators

Every forward method has the frame of `binop` / `cmpop` (width test for a Bits operand, range test for an int, TypeError
otherwise); what is left after the frame is the arithmetic of the method on two naturals. -/

theorem bits_case (bn n : Nat) (g m : R) (h : g = m) :
    (if (bn : Int) ≠ (n : Int) then .error .width else g) = (if bn ≠ n then .error .width else m) := by
  simp only [h, ne_eq, Int.natCast_inj]

/-- an int operand: both sides reject `k` outside `0 .. 2^n - 1`; inside, `k` is a natural number -/
theorem int_case (n : Nat) (k : Int) (g : R) (m : Nat → R) (h : ∀ a : Nat, k = a → g = m a) :
    (if k < 0 ∨ k > (upper n : Int) then .error .range else g) =
      (if k < 0 ∨ k > (upper n : Int) then .error .range else m k.toNat) := by
  by_cases hk : k < 0 ∨ k > (upper n : Int)
  · rw [if_pos hk, if_pos hk]
  · rw [if_neg hk, if_neg hk]
    exact h k.toNat (by omega)

/-- a forward arithmetic method: `gb`, `gi` are what its text does with a Bits of the width of `x` and with an int in
range, `c` is the test in front of the table read (`+ - *` read `_upper[nbits]` first: `¬ idxOk …`; the others write
`other < 0 or other > _upper[nbits]`, which reads it only for `¬ other < 0`); both must compute the operator on two naturals -/
theorem binop_frame (x : B) (y : Opnd) (hn : x.n < 1024) (op : BinOp) (gb : B → R) (c : Int → Prop)
    [DecidablePred c] (gi : Int → R) (hc : ∀ k, c k → ¬ idxOk 1024 (x.n : Int))
    (hb : ∀ b : B, gb b = binop op x (.bits ⟨x.n, b.v⟩)) (hi : ∀ a : Nat, gi a = binop op x (.bits ⟨x.n, a⟩)) :
    (match y with
      | .bits b => if (b.n : Int) ≠ (x.n : Int) then .error .width else gb b
      | .int k =>
        if c k then .error .index else
        if k < 0 ∨ k > BitsGen.upperTab (idx 1024 (x.n : Int)) then .error .range else gi k
      | .other => .error .type) = binop op x y := by
  cases y with
  | bits b =>
    refine bits_case b.n x.n _ _ ?_
    rw [hb]; exact binop_same_width op x b.v
  | int k =>
    dsimp only
    rw [if_neg (fun h => hc k h (idxOk_natCast hn)), idx_natCast, upperTab_eq_upper, binop_int]
    exact int_case x.n k _ (fun a => binop op x (.bits ⟨x.n, a⟩)) fun a ha => ha ▸ hi a
  | other => rfl

theorem gen_add_eq (x : B) (y : Opnd) (hn : x.n < 1024) : BitsGen.add x y = binop .add x y :=
  binop_frame x y hn .add _ _ _ (fun _ h => h)
    (fun b => by simp only [binop_same_width, binRaw, idxOk_natCast hn, idx_natCast, upperTab_eq_upper, pyAnd_upper, mkB_cast,
      ← Int.natCast_add, maskInt_natCast, not_true_eq_false, if_false])
    (fun a => by simp only [binop_same_width, binRaw, idx_natCast, upperTab_eq_upper, pyAnd_upper, mkB_cast, ← Int.natCast_add,
      maskInt_natCast])
theorem gen_sub_eq (x : B) (y : Opnd) (hn : x.n < 1024) : BitsGen.sub x y = binop .sub x y :=
  binop_frame x y hn .sub _ _ _ (fun _ h => h)
    (fun b => by simp only [binop_same_width, binRaw, idxOk_natCast hn, idx_natCast, upperTab_eq_upper, pyAnd_upper, mkB_cast,
      not_true_eq_false, if_false])
    (fun a => by simp only [binop_same_width, binRaw, idx_natCast, upperTab_eq_upper, pyAnd_upper, mkB_cast])
theorem gen_mul_eq (x : B) (y : Opnd) (hn : x.n < 1024) : BitsGen.mul x y = binop .mul x y :=
  binop_frame x y hn .mul _ _ _ (fun _ h => h)
    (fun b => by simp only [binop_same_width, binRaw, idxOk_natCast hn, idx_natCast, upperTab_eq_upper, pyAnd_upper, mkB_cast,
      ← Int.natCast_mul, maskInt_natCast, not_true_eq_false, if_false])
    (fun a => by simp only [binop_same_width, binRaw, idx_natCast, upperTab_eq_upper, pyAnd_upper, mkB_cast, ← Int.natCast_mul,
      maskInt_natCast])
theorem gen_and_eq (x : B) (y : Opnd) (hn : x.n < 1024) : BitsGen.and_ x y = binop .and x y :=
  binop_frame x y hn .and _ _ _ (fun _ h => h.2)
    (fun b => by simp only [binop_same_width, binRaw, pyAnd_natCast, mkB_cast])
    (fun a => by simp only [binop_same_width, binRaw, pyAnd_natCast, mkB_cast])
theorem gen_or_eq (x : B) (y : Opnd) (hn : x.n < 1024) : BitsGen.or_ x y = binop .or x y :=
  binop_frame x y hn .or _ _ _ (fun _ h => h.2)
    (fun b => by simp only [binop_same_width, binRaw, pyOr_natCast, mkB_cast])
    (fun a => by simp only [binop_same_width, binRaw, pyOr_natCast, mkB_cast])
theorem gen_xor_eq (x : B) (y : Opnd) (hn : x.n < 1024) : BitsGen.xor_ x y = binop .xor x y :=
  binop_frame x y hn .xor _ _ _ (fun _ h => h.2)
    (fun b => by simp only [binop_same_width, binRaw, pyXor_natCast, mkB_cast])
    (fun a => by simp only [binop_same_width, binRaw, pyXor_natCast, mkB_cast])
theorem gen_rshift_eq (x : B) (y : Opnd) (hn : x.n < 1024) : BitsGen.rshift x y = binop .rshift x y :=
  binop_frame x y hn .rshift _ _ _ (fun _ h => h.2)
    (fun b => by simp only [binop_same_width, binRaw, pyShr_natCast, mkB_cast])
    (fun a => by simp only [binop_same_width, binRaw, pyShr_natCast, mkB_cast, if_neg (Int.not_lt.mpr (Int.natCast_nonneg a))])

theorem zerodiv_case (op : BinOp) (x : B) (d : Nat) (r : Int) (q : Nat)
    (hop : binRaw op x.n x.v d = if d = 0 then .error .zerodiv else .ok q) (h : mkB (x.n : Int) r = ⟨x.n, q⟩) :
    (if (d : Int) = 0 then .error .zerodiv else .ok (mkB (x.n : Int) r)) = binop op x (.bits ⟨x.n, d⟩) := by
  rw [binop_same_width, hop]
  by_cases hz : d = 0
  · rw [if_pos hz, if_pos (Int.natCast_eq_zero.mpr hz)]
  · rw [if_neg hz, if_neg (mt Int.natCast_eq_zero.mp hz), h]

/-- only the Bits branch of `//` and `%` masks its result, which is a no-op because the result is at most `x.v` -/
theorem gen_floordiv_eq (x : B) (y : Opnd) (hn : x.n < 1024) (hv : x.v < 2 ^ x.n) :
    BitsGen.floordiv x y = binop .floordiv x y :=
  binop_frame x y hn .floordiv _ _ _ (fun _ h => h.2)
    (fun b => by
      simp only [idxOk_natCast hn, idx_natCast, upperTab_eq_upper, not_true_eq_false, if_false]
      exact zerodiv_case _ x _ _ _ rfl (by
        rw [pyFloorDiv_natCast, pyAnd_upper, mkB_cast, maskInt_of_lt _ _ (Nat.lt_of_le_of_lt (Nat.div_le_self _ _) hv)]))
    (fun a => zerodiv_case _ x a _ _ rfl (by rw [pyFloorDiv_natCast, mkB_cast]))
theorem gen_mod_eq (x : B) (y : Opnd) (hn : x.n < 1024) (hv : x.v < 2 ^ x.n) :
    BitsGen.mod_ x y = binop .mod x y :=
  binop_frame x y hn .mod _ _ _ (fun _ h => h.2)
    (fun b => by
      simp only [idxOk_natCast hn, idx_natCast, upperTab_eq_upper, not_true_eq_false, if_false]
      exact zerodiv_case _ x _ _ _ rfl (by
        rw [pyMod_natCast, pyAnd_upper, mkB_cast, maskInt_of_lt _ _ (Nat.lt_of_le_of_lt (Nat.mod_le _ _) hv)]))
    (fun a => zerodiv_case _ x a _ _ rfl (by rw [pyMod_natCast, mkB_cast]))

/-- a shift by the width or more gives 0 without touching the table -/
theorem gen_lshift_eq (x : B) (y : Opnd) (hn : x.n < 1024) : BitsGen.lshift x y = binop .lshift x y :=
  binop_frame x y hn .lshift _ _ _ (fun _ h => h.2)
    (fun b => by
      simp only [binop_same_width, binRaw, idxOk_natCast hn, idx_natCast, upperTab_eq_upper, pyAnd_upper, mkB_cast, pyShl_natCast,
        maskInt_natCast, mkB_zero, ge_iff_le, Int.ofNat_le, not_true_eq_false, if_false]
      by_cases hs : x.n ≤ b.v
      · rw [if_pos hs, if_pos hs]
      · rw [if_neg hs, if_neg hs])
    (fun a => by
      simp only [binop_same_width, binRaw, idxOk_natCast hn, idx_natCast, upperTab_eq_upper, pyAnd_upper, mkB_cast, pyShl_natCast,
        maskInt_natCast, mkB_zero, ge_iff_le, Int.ofNat_le, if_neg (Int.not_lt.mpr (Int.natCast_nonneg a)), not_true_eq_false, if_false]
      by_cases hs : x.n ≤ a
      · rw [if_pos hs, if_pos hs]
      · rw [if_neg hs, if_neg hs])

/-- `__eq__` … `__ge__` are one text up to the relation `rel` and the answer `oth` for an operand that is no number -/
theorem cmp_frame (x : B) (y : Opnd) (hn : x.n < 1024) (op : CmpOp) (rel : Int → Int → Prop)
    [∀ a b, Decidable (rel a b)] (oth : R) (hrel : ∀ a b : Nat, rel a b ↔ cmpRaw op a b = true)
    (hoth : oth = cmpop op x .other) :
    (match y with
      | .bits b => if (b.n : Int) ≠ (x.n : Int) then .error .width else .ok (mkB 1 (b2i (rel x.v b.v)))
      | .int k =>
        if ¬ (k < 0) ∧ ¬ idxOk 1024 (x.n : Int) then .error .index else
        if k < 0 ∨ k > BitsGen.upperTab (idx 1024 (x.n : Int)) then .error .range else
        .ok (mkB 1 (b2i (rel x.v k)))
      | .other => oth) = cmpop op x y := by
  have hm : ∀ a : Nat, .ok (mkB 1 (b2i (rel x.v a))) = cmpop op x (.bits ⟨x.n, a⟩) := fun a => by
    simp only [cmpop_same_width, b1, mkB_b2i, hrel]
  cases y with
  | bits b =>
    refine bits_case b.n x.n _ _ ?_
    simp only [b1, mkB_b2i, hrel]
  | int k =>
    dsimp only
    rw [if_neg (fun h => h.2 (idxOk_natCast hn)), idx_natCast, upperTab_eq_upper, cmpop_int]
    exact int_case x.n k _ (fun a => cmpop op x (.bits ⟨x.n, a⟩)) fun a ha => ha ▸ hm a
  | other => exact hoth

theorem gen_eq_eq (x : B) (y : Opnd) (hn : x.n < 1024) : BitsGen.eq x y = cmpop .eq x y :=
  cmp_frame x y hn .eq (· = ·) _ (fun a b => by simp only [cmpRaw, Int.natCast_inj, beq_iff_eq]) rfl
theorem gen_ne_eq (x : B) (y : Opnd) (hn : x.n < 1024) : BitsGen.ne x y = cmpop .ne x y :=
  cmp_frame x y hn .ne (· ≠ ·) _ (fun a b => by simp only [cmpRaw, Int.natCast_inj, bne_iff_ne, ne_eq]) rfl
theorem gen_lt_eq (x : B) (y : Opnd) (hn : x.n < 1024) : BitsGen.lt x y = cmpop .lt x y :=
  cmp_frame x y hn .lt (· < ·) _ (fun a b => by simp only [cmpRaw, Int.ofNat_lt, decide_eq_true_eq]) rfl
theorem gen_le_eq (x : B) (y : Opnd) (hn : x.n < 1024) : BitsGen.le x y = cmpop .le x y :=
  cmp_frame x y hn .le (· ≤ ·) _ (fun a b => by simp only [cmpRaw, Int.ofNat_le, decide_eq_true_eq]) rfl
theorem gen_gt_eq (x : B) (y : Opnd) (hn : x.n < 1024) : BitsGen.gt x y = cmpop .gt x y :=
  cmp_frame x y hn .gt (· > ·) _ (fun a b => by simp only [cmpRaw, gt_iff_lt, Int.ofNat_lt, decide_eq_true_eq]) rfl
theorem gen_ge_eq (x : B) (y : Opnd) (hn : x.n < 1024) : BitsGen.ge x y = cmpop .ge x y :=
  cmp_frame x y hn .ge (· ≥ ·) _ (fun a b => by simp only [cmpRaw, ge_iff_le, Int.ofNat_le, decide_eq_true_eq]) rfl

/-! ## reflected operators (`k op x`, Python calls them only when `k` is not a Bits) -/

theorem binop_eq_rbinop {op : BinOp} {k : Opnd} {x : B} (hk : ∀ b, k ≠ .bits b)
    (hop : ∀ j, rbinop op (.int j) x = binop op x (.int j)) : binop op x k = rbinop op k x := by
  cases k with
  | bits b => exact absurd rfl (hk b)
  | int j => exact (hop j).symm
  | other => rfl

theorem gen_radd_eq (x : B) (k : Opnd) (hn : x.n < 1024) (hk : ∀ b, k ≠ .bits b) :
    BitsGen.radd x k = rbinop .add k x :=
  (gen_add_eq x k hn).trans (binop_eq_rbinop hk fun _ => rfl)
theorem gen_rmul_eq (x : B) (k : Opnd) (hn : x.n < 1024) (hk : ∀ b, k ≠ .bits b) :
    BitsGen.rmul x k = rbinop .mul k x :=
  (gen_mul_eq x k hn).trans (binop_eq_rbinop hk fun _ => rfl)
theorem gen_rand_eq (x : B) (k : Opnd) (hn : x.n < 1024) (hk : ∀ b, k ≠ .bits b) :
    BitsGen.rand x k = rbinop .and k x :=
  (gen_and_eq x k hn).trans (binop_eq_rbinop hk fun _ => rfl)
theorem gen_ror_eq (x : B) (k : Opnd) (hn : x.n < 1024) (hk : ∀ b, k ≠ .bits b) :
    BitsGen.ror x k = rbinop .or k x :=
  (gen_or_eq x k hn).trans (binop_eq_rbinop hk fun _ => rfl)
theorem gen_rxor_eq (x : B) (k : Opnd) (hn : x.n < 1024) (hk : ∀ b, k ≠ .bits b) :
    BitsGen.rxor x k = rbinop .xor k x :=
  (gen_xor_eq x k hn).trans (binop_eq_rbinop hk fun _ => rfl)

/-- `__rsub__`, `__rfloordiv__`, `__rmod__` are one text up to `core`, what is done with an int `k` in range;
`gb` is the branch for a Bits `k`, which Python never takes -/
theorem reflected_frame (x : B) (k : Opnd) (hn : x.n < 1024) (hk : ∀ b, k ≠ .bits b) (op : BinOp) (gb : B → R)
    (core : Int → R) (hop : op = .sub ∨ op = .floordiv ∨ op = .mod)
    (hcore : ∀ a : Nat, core a = binop op ⟨x.n, a⟩ (.bits x)) :
    (match (generalizing := false) k with
      | .bits b => gb b
      | .int j =>
        if ¬ idxOk 1024 (x.n : Int) then .error .index else
        if j < 0 ∨ j > BitsGen.upperTab (idx 1024 (x.n : Int)) then .error .range else core j
      | .other => .error .type) = rbinop op k x := by
  cases k with
  | bits b => exact absurd rfl (hk b)
  | int j =>
    dsimp only
    rw [if_neg (not_not_intro (idxOk_natCast hn)), idx_natCast, upperTab_eq_upper, rbinop_int op x j hop]
    exact int_case x.n j _ (fun a => binop op ⟨x.n, a⟩ (.bits x)) fun a ha => ha ▸ hcore a
  | other => rfl

theorem gen_rsub_eq (x : B) (k : Opnd) (hn : x.n < 1024) (hk : ∀ b, k ≠ .bits b) :
    BitsGen.rsub x k = rbinop .sub k x :=
  reflected_frame x k hn hk .sub _ _ (.inl rfl) fun a => by
    simp only [binop, binRaw, idx_natCast, upperTab_eq_upper, pyAnd_upper, mkB_cast, ne_eq, not_true_eq_false, if_false]
theorem gen_rfloordiv_eq (x : B) (k : Opnd) (hn : x.n < 1024) (hk : ∀ b, k ≠ .bits b) :
    BitsGen.rfloordiv x k = rbinop .floordiv k x :=
  reflected_frame x k hn hk .floordiv _ _ (.inr (.inl rfl)) fun a =>
    zerodiv_case _ ⟨x.n, a⟩ x.v _ _ rfl (by rw [pyFloorDiv_natCast, mkB_cast])
theorem gen_rmod_eq (x : B) (k : Opnd) (hn : x.n < 1024) (hk : ∀ b, k ≠ .bits b) :
    BitsGen.rmod x k = rbinop .mod k x :=
  reflected_frame x k hn hk .mod _ _ (.inr (.inr rfl)) fun a =>
    zerodiv_case _ ⟨x.n, a⟩ x.v _ _ rfl (by rw [pyMod_natCast, mkB_cast])

/-! ### the frames as tactic scripts

For a method whose generated text fits none of the frame lemmas (the text follows the Python source).  None of the methods
above needs them. -/

/-- simp set of the two scripts below; the `←` pull casts outwards, to where `mkB_cast` and `maskInt_natCast` apply -/
macro "gsimp" "[" ts:Lean.Parser.Tactic.simpLemma,* "]" : tactic =>
  `(tactic| simp [binop, rbinop, cmpop, binRaw, cmpRaw, b1, idx_natCast, upperTab_eq_upper, pyAnd_upper, mkB_cast, pyAnd_natCast,
      pyOr_natCast, pyXor_natCast, pyFloorDiv_natCast, pyMod_natCast, pyShr_natCast, pyShl_natCast, mkB_b2i, maskInt_natCast,
      Int.toNat_natCast, ← Int.natCast_add, ← Int.natCast_mul, ← Int.natCast_ediv, ← Int.natCast_emod, ← Int.natCast_shiftRight,
      ← Int.natCast_shiftLeft, Int.natCast_inj, $ts,*])

set_option hygiene false in
/-- the three operand kinds of `x op y`; expects `x y hn` in the context -/
macro "binop_proof" f:ident "[" ts:Lean.Parser.Tactic.simpLemma,* "]" : tactic => `(tactic| (
  have hi : idxOk 1024 (x.n : Int) := idxOk_natCast hn
  cases y with
  | bits b =>
    by_cases hw : b.n = x.n <;> gsimp [$f:ident, hw, hi, $ts,*] <;> try (split <;> simp_all [mkB_zero])
  | int k =>
    by_cases h : k < 0
    · gsimp [$f:ident, h, hi]
    · obtain ⟨m, rfl⟩ := Int.eq_ofNat_of_zero_le (Int.not_lt.mp h)
      gsimp [$f:ident, hi, h, $ts,*] <;> try (split <;> simp_all [mkB_zero] <;> try (split <;> simp_all))
  | other => gsimp [$f:ident, mkB_one]))

set_option hygiene false in
macro "rbinop_proof" f:ident : tactic => `(tactic| (
  have hi : idxOk 1024 (x.n : Int) := idxOk_natCast hn
  cases k with
  | bits b => exact absurd rfl (hk b)
  | int k =>
    by_cases h : k < 0
    · gsimp [$f:ident, h, hi]
    · obtain ⟨m, rfl⟩ := Int.eq_ofNat_of_zero_le (Int.not_lt.mp h)
      gsimp [$f:ident, hi, h] <;> try (split <;> simp_all <;> try (split <;> simp_all))
  | other => gsimp [$f:ident]))

theorem gen_invert_eq (x : B) (hn : x.n < 1024) : BitsGen.invert x = .ok (invert x) := by
  unfold BitsGen.invert
  simp only [idxOk_natCast hn, idx_natCast, upperTab_eq_upper, pyAnd_upper, mkB_cast, not_true_eq_false, if_false]
  rfl

theorem gen_bool_eq (x : B) : BitsGen.bool_ x = .ok (toBool x) := by
  by_cases h : x.v = 0 <;> simp [BitsGen.bool_, Bits.toBool, h]
theorem gen_dunder_int_eq (x : B) : BitsGen.dunder_int x = .ok ((toUInt x : Nat) : Int) := rfl
theorem gen_uint_eq (x : B) : BitsGen.uint x = .ok ((toUInt x : Nat) : Int) := rfl
theorem gen_index_eq (x : B) : BitsGen.index x = .ok ((toUInt x : Nat) : Int) := rfl

/-- `x.int()`; needs `1 ≤ n` (the shift count `n - 1` is negative otherwise) and `n < 1024` (table read of `~x`) -/
theorem gen_int_eq (x : B) (h1 : 1 ≤ x.n) (hn : x.n < 1024) : BitsGen.int_ x = .ok (toInt x) := by
  -- `~x + 1`: the int 1 is in range from width 1 on
  have hadd : BitsGen.add (invert x) (.int 1) = .ok ⟨x.n, ((invert x).v + 1) % 2 ^ x.n⟩ := by
    rw [gen_add_eq (invert x) _ hn]
    exact (binop_natCast .add (invert x) 1 (Nat.one_lt_two_pow (Nat.ne_of_gt h1))).trans (binop_same_width ..)
  unfold BitsGen.int_ toInt
  rw [show (x.n : Int) - 1 = ((x.n - 1 : Nat) : Int) from (Int.natCast_sub h1).symm,
    if_neg (Int.not_lt.mpr (Int.natCast_nonneg _)), pyShr_natCast, gen_invert_eq x hn]
  simp only [hadd, ne_eq, Int.natCast_eq_zero, bne_iff_ne, ite_not]
  by_cases hc : x.v >>> (x.n - 1) = 0
  · rw [if_pos hc, if_pos hc]
  · rw [if_neg hc, if_neg hc]

theorem tab_read {n : Nat} (h1 : 1 ≤ n) (hn : n < 1024) :
    idxOk 1024 (n : Int) ∧ BitsGen.lowerTab (idx 1024 (n : Int)) = lower n ∧
      BitsGen.upperTab (idx 1024 (n : Int)) = ((upper n : Nat) : Int) :=
  ⟨idxOk_natCast hn, by rw [idx_natCast, lowerTab_eq_lower n h1], by rw [idx_natCast, upperTab_eq_upper]⟩

theorem gen_init_eq (nbits : Int) (v : Opnd) (t : Bool) : BitsGen.init nbits v t = ctor nbits v t := by
  unfold BitsGen.init ctor
  by_cases hr : nbits < 1 ∨ nbits ≥ 1024
  · rw [if_pos hr, if_pos hr]
  · obtain ⟨n, rfl⟩ := Int.eq_ofNat_of_zero_le (show 0 ≤ nbits by omega)
    rw [if_neg hr, if_neg hr]
    cases v with
    | bits b =>
      simp only [ite_self, Int.toNat_natCast]
      exact bits_case _ _ _ _ (congrArg _ (mkB_natCast _ _))
    | int k =>
      simp only [tab_read (n := n) (by omega) (by omega), not_true_eq_false, if_false, pyAnd_upper, mkB_cast,
        Int.toNat_natCast]
      cases t <;> simp only [Bool.not_true, Bool.not_false, Bool.true_and, Bool.false_and, Bool.false_eq_true,
        Bool.or_eq_true, decide_eq_true_eq, not_true_eq_false, not_false_eq_true, if_false, if_true]
    | other => rfl

theorem gen_imatmul_eq (x : B) (v : Opnd) (h1 : 1 ≤ x.n) (hn : x.n < 1024) : BitsGen.imatmul x v = imatmul x v := by
  unfold BitsGen.imatmul imatmul
  cases v with
  | bits b =>
    simp only [ite_self]
    exact bits_case _ _ _ _ (congrArg _ (mkB_natCast _ _))
  | int k =>
    simp only [tab_read h1 hn, not_true_eq_false, if_false, pyAnd_upper, mkB_cast, Bool.or_eq_true, decide_eq_true_eq]
  | other => rfl

theorem gen_ilshift_eq (x : Reg) (v : Opnd) (h1 : 1 ≤ x.cur.n) (hn : x.cur.n < 1024) :
    BitsGen.ilshift x v = ilshift x v := by
  unfold BitsGen.ilshift ilshift imatmul
  cases v with
  | bits b =>
    simp only [ite_self, Int.toNat_natCast, ne_eq, Int.natCast_inj]
    by_cases hw : b.n = x.cur.n
    · rw [if_neg (not_not_intro hw), if_neg (not_not_intro hw)]
    · rw [if_pos hw, if_pos hw]
  | int k =>
    simp only [tab_read h1 hn, not_true_eq_false, if_false, pyAnd_upper, Int.toNat_natCast, Bool.or_eq_true, decide_eq_true_eq]
    by_cases hk : k < lower x.cur.n ∨ k > ((upper x.cur.n : Nat) : Int)
    · rw [if_pos hk, if_pos hk]
    · rw [if_neg hk, if_neg hk]
  | other => rfl

theorem gen_flip_eq (x : Reg) : BitsGen.flip x = Bits.flip x := by
  unfold BitsGen.flip Bits.flip
  cases h : x.next <;> simp [mkB_natCast]

/-! ## indexing and slicing (C05) -/

theorem bounds_nat {n : Nat} {l h : Int} (hc : 0 ≤ l ∧ l < h ∧ h ≤ (n : Int)) :
    ∃ a b : Nat, l = a ∧ h = b ∧ a < b ∧ b ≤ n ∧ (b : Int) - (a : Int) = ((b - a : Nat) : Int) :=
  ⟨l.toNat, h.toNat, by omega⟩

theorem getslice_core (v : Nat) (s e : Int) (h0 : 0 ≤ s) (h1 : s < e) (h2 : e < 1024) :
    mkB (e - s) (pyAnd (pyShr (v : Int) s) (BitsGen.upperTab (idx 1024 (e - s))))
      = ⟨e.toNat - s.toNat, (v >>> s.toNat) % 2 ^ (e.toNat - s.toNat)⟩ := by
  obtain ⟨a, b, rfl, rfl, -, -, hw⟩ := bounds_nat (n := e.toNat) ⟨h0, h1, by omega⟩
  rw [hw, idx_natCast, upperTab_eq_upper, pyShr_natCast, pyAnd_upper, mkB_natCast, Int.toNat_natCast, maskInt_natCast,
    Int.toNat_natCast, Int.toNat_natCast]

theorem getitem_slice_some (x : B) (l h : Int) (hn : x.n < 1024) :
    BitsGen.getitem_slice x (some l) (some h) none = getSlice x (some l) (some h) none := by
  unfold BitsGen.getitem_slice getSlice sliceBounds
  by_cases hc : 0 ≤ l ∧ l < h ∧ h ≤ (x.n : Int)
  · have g1 : ¬ (l < 0) := by omega
    have g2 : idxOk 1024 (h - l) := by unfold idxOk; omega
    simp only [Option.isSome_none, Bool.false_eq_true, if_false, Option.getD_some, hc, and_self, if_true, g1, g2,
      not_true_eq_false, getslice_core x.v l h hc.1 hc.2.1 (by omega)]
  · simp only [Option.isSome_none, Bool.false_eq_true, if_false, Option.getD_some, hc]

-- the proof of `getitem_slice_some` as a tactic script (bounds `S`, `E`; expects `x hn` in the context); nothing calls it
set_option hygiene false in
macro "getslice_case" S:term "," E:term : tactic => `(tactic| (
  by_cases hc : (0 ≤ $S ∧ $S < $E ∧ $E ≤ (x.n : Int))
  · have g1 : ¬ ($S < 0) := by omega
    have g2 : idxOk 1024 ($E - $S) := by unfold idxOk; omega
    simp [BitsGen.getitem_slice, getSlice, sliceBounds, hc, g1, g2,
      getslice_core x.v $S $E (by omega) (by omega) (by omega)]
  · simp [BitsGen.getitem_slice, getSlice, sliceBounds, hc]))

theorem gen_getitem_slice_eq (x : B) (lo hi step : Bound) (hn : x.n < 1024) :
    BitsGen.getitem_slice x lo hi step = getSlice x lo hi step := by
  cases step with
  | some s => rfl
  | none =>
    -- an omitted bound is the bound 0 / n, in the generated definition and in the model alike (by computation)
    cases lo with
    | none =>
      cases hi with
      | none => exact getitem_slice_some x 0 x.n hn
      | some h => exact getitem_slice_some x 0 h hn
    | some l =>
      cases hi with
      | none => exact getitem_slice_some x l x.n hn
      | some h => exact getitem_slice_some x l h hn

theorem mkB_getbit (v m : Nat) : mkB 1 (pyAnd (pyShr (v : Int) (m : Int)) 1) = ⟨1, (v >>> m) % 2⟩ := by
  rw [pyShr_natCast, pyAnd_one, mkB_one, Int.toNat_natCast, maskInt_natCast]

theorem gen_getitem_int_eq (x : B) (i : Int) : BitsGen.getitem_int x i = getBit x i := by
  unfold BitsGen.getitem_int getBit
  by_cases h : i ≥ (x.n : Int) ∨ i < 0
  · rw [if_pos h, if_pos h]
  · obtain ⟨m, rfl⟩ := Int.eq_ofNat_of_zero_le (show 0 ≤ i by omega)
    rw [if_neg h, if_neg h, if_neg (Int.not_lt.mpr (Int.natCast_nonneg m)), mkB_getbit, Int.toNat_natCast]

theorem setslice_core (n sv a b : Nat) (k : Int) (h : a ≤ b) :
    mkB (n : Int) (pyOr (pyAnd (sv : Int) (pyNot (pyShl 1 (b : Int) - pyShl 1 (a : Int))))
        (pyShl (pyAnd k ((upper (b - a) : Nat) : Int)) (a : Int)))
      = ⟨n, pokeRaw sv a b (maskInt (b - a) k)⟩ := by
  rw [pyAnd_upper, poke_int sv a b _ h (maskInt_lt _ _), mkB_natCast, Int.toNat_natCast]

/-- inside the bounds the value is tested against the width `b - a` of the slice as in a constructor call -/
theorem setitem_slice_some (x : B) (l h : Int) (v : Opnd) (hn : x.n < 1024) :
    BitsGen.setitem_slice x (some l) (some h) none v = setSlice x (some l) (some h) none v := by
  by_cases hc : 0 ≤ l ∧ l < h ∧ h ≤ (x.n : Int)
  · obtain ⟨a, b, rfl, rfl, hab, hbn, hw⟩ := bounds_nat hc
    have hi : idxOk 1024 ((b - a : Nat) : Int) := idxOk_natCast (by omega)
    have h0 : ∀ m : Nat, ¬ ((m : Int) < 0) := fun m => by omega
    unfold BitsGen.setitem_slice setSlice sliceBounds
    simp only [Option.isSome_none, Bool.false_eq_true, if_false, Option.getD_some, hc, and_self, if_true, hw, hi,
      h0, idx_natCast, upperTab_eq_upper, lowerTab_eq_lower _ (show 1 ≤ b - a by omega), ite_self,
      not_true_eq_false, Int.toNat_natCast, setslice_core _ _ _ _ _ (Nat.le_of_lt hab)]
    cases v with
    | bits y =>
      refine bits_case _ _ _ _ ?_
      rw [maskInt_natCast]
    | int k => simp only [Bool.or_eq_true, decide_eq_true_eq]
    | other => rfl
  · unfold BitsGen.setitem_slice setSlice sliceBounds
    simp only [Option.isSome_none, Bool.false_eq_true, if_false, Option.getD_some, hc]

theorem gen_setitem_slice_eq (x : B) (lo hi step : Bound) (v : Opnd) (hn : x.n < 1024) :
    BitsGen.setitem_slice x lo hi step v = setSlice x lo hi step v := by
  cases step with
  | some s => rfl
  | none =>
    cases lo with
    | none =>
      cases hi with
      | none => exact setitem_slice_some x 0 x.n v hn
      | some h => exact setitem_slice_some x 0 h v hn
    | some l =>
      cases hi with
      | none => exact setitem_slice_some x l x.n v hn
      | some h => exact setitem_slice_some x l h v hn

theorem setbit_core (n sv m : Nat) (k : Int) :
    mkB (n : Int) (pyOr (pyAnd (sv : Int) (pyNot (pyShl 1 (m : Int)))) (pyShl (pyAnd k 1) (m : Int)))
      = ⟨n, pokeRaw sv m (m + 1) (maskInt 1 k)⟩ := by
  have hw : maskInt 1 k < 2 := by simpa using maskInt_lt 1 k
  rw [pyAnd_one, poke1_int sv m _ hw, mkB_natCast, Int.toNat_natCast]

theorem gen_setitem_int_eq (x : B) (i : Int) (v : Opnd) : BitsGen.setitem_int x i v = setBit x i v := by
  unfold BitsGen.setitem_int setBit
  by_cases h : i ≥ (x.n : Int) ∨ i < 0
  · rw [if_pos h, if_pos h]
  · obtain ⟨m, rfl⟩ := Int.eq_ofNat_of_zero_le (show 0 ≤ i by omega)
    rw [if_neg h, if_neg h]
    simp only [if_neg (Int.not_lt.mpr (Int.natCast_nonneg m)), setbit_core, Int.toNat_natCast]
    cases v with
    | bits y =>
      simp only [gt_iff_lt, show (1 : Int) < (y.n : Int) ↔ 1 < y.n from Int.ofNat_lt, maskInt_natCast, Nat.pow_one]
    | int k => simp only [pyAbs_gt_one]
    | other => rfl

/-! ## helpers.py -/

/-- the loop of `concat` on Python ints is the fold of the model, on well-formed parts (`|` is `+` there) -/
theorem concat_fold (xs : List B) (h : ∀ x ∈ xs, x.v < 2 ^ x.n) (n0 v0 : Nat) :
    List.foldl (fun (st : Int × Int) (x : B) =>
        ((st.1 + (x.n : Int)), (pyOr (pyShl st.2 (x.n : Int)) (x.v : Int)))) ((n0 : Int), (v0 : Int)) xs
      = (fun (r : Nat × Nat) => ((r.1 : Int), (r.2 : Int)))
          (xs.foldl (fun (acc : Nat × Nat) x => (acc.1 + x.n, acc.2 * 2 ^ x.n + x.v)) (n0, v0)) := by
  induction xs generalizing n0 v0 with
  | nil => simp
  | cons x xs ih =>
    have hx := h x List.mem_cons_self
    simp only [List.foldl_cons]
    have e2 : pyOr (pyShl (v0 : Int) (x.n : Int)) (x.v : Int) = ((v0 * 2 ^ x.n + x.v : Nat) : Int) := by
      rw [pyShl_natCast, pyOr_natCast, ← Nat.shiftLeft_add_eq_or_of_lt hx, Nat.shiftLeft_eq]
    rw [← Int.natCast_add, e2]
    exact ih (fun y hy => h y (List.mem_cons_of_mem _ hy)) _ _

theorem gen_concat_eq (xs : List B) (h : ∀ x ∈ xs, x.v < 2 ^ x.n) : BitsGen.concat xs = concat xs := by
  unfold BitsGen.concat Bits.concat concatRaw
  have := concat_fold xs h 0 0
  simp only [Int.natCast_zero] at this
  simp only [this, gen_init_eq]

theorem gen_trunc_eq (x : B) (w : Int) : BitsGen.trunc x w = trunc x w := by
  by_cases h : w ≤ (x.n : Int) <;> simp [BitsGen.trunc, trunc, gen_init_eq, h]
theorem gen_zext_eq (x : B) (w : Int) : BitsGen.zext x w = zext x w := by
  by_cases h : w ≥ (x.n : Int) <;> simp [BitsGen.zext, zext, gen_init_eq, h]
theorem gen_sext_eq (x : B) (w : Int) (h1 : 1 ≤ x.n) (hn : x.n < 1024) : BitsGen.sext x w = sext x w := by
  by_cases h : w ≥ (x.n : Int) <;> simp [BitsGen.sext, sext, gen_init_eq, gen_int_eq x h1 hn, h]
theorem gen_truncT_eq (x : B) (w : Nat) : BitsGen.truncT x w = truncT x w := by
  simp [BitsGen.truncT, truncT, gen_init_eq]
theorem gen_zextT_eq (x : B) (w : Nat) : BitsGen.zextT x w = zextT x w := by
  simp [BitsGen.zextT, zextT, gen_init_eq]
theorem gen_sextT_eq (x : B) (w : Nat) (h1 : 1 ≤ x.n) (hn : x.n < 1024) : BitsGen.sextT x w = sextT x w := by
  simp [BitsGen.sextT, sextT, gen_init_eq, gen_int_eq x h1 hn]

/-- `clog2(N)` for an int N: AssertionError for N ≤ 0, else `(N-1).bit_length()` -/
theorem gen_clog2_eq (N : Int) :
    BitsGen.clog2 N = match clog2 N with
      | some k => .ok (k : Int)
      | none => .error .assert := by
  unfold BitsGen.clog2 clog2
  by_cases h : N > 0
  · obtain ⟨m, rfl⟩ := Int.eq_ofNat_of_zero_le (Int.le_of_lt h)
    rw [if_pos h, if_pos h, Int.toNat_natCast, bitLength_eq_log2 m (m - 1) (Nat.sub_le m 1),
      ← Int.natCast_one, ← Int.natCast_sub (Int.natCast_pos.mp h), pyBitLength, Int.natAbs_natCast]
    by_cases hz : m - 1 = 0
    · rw [if_pos hz, if_pos hz]; rfl
    · rw [if_neg hz, if_neg hz]
  · rw [if_neg h, if_neg h]

theorem ctor_bit (p : Prop) [Decidable p] : ctor 1 (.int (b2i p)) false = .ok ⟨1, if p then 1 else 0⟩ := by
  unfold b2i; split <;> decide

theorem gen_reduce_and_eq (x : B) : BitsGen.reduce_and x = .ok (reduceAnd x) := by
  have e : pyShl 1 (x.n : Int) - 1 = ((2 ^ x.n - 1 : Nat) : Int) := by
    rw [pyShl_eq_mul_pow, Int.one_mul, ← upper_cast]; rfl
  simp only [BitsGen.reduce_and, gen_init_eq, ctor_bit, reduceAnd, b1, e, Int.natCast_inj, beq_iff_eq]

theorem gen_reduce_or_eq (x : B) : BitsGen.reduce_or x = .ok (reduceOr x) := by
  simp only [BitsGen.reduce_or, gen_init_eq, ctor_bit, reduceOr, b1, ne_eq, Int.natCast_eq_zero, bne_iff_ne]

/-- the `while` loop of `reduce_xor` counts the bits of a value below 2^n within n+1 tests -/
theorem xor_loop (n : Nat) : ∀ (v pc fuel : Nat), v < 2 ^ n → n < fuel →
    whileF fuel (fun (st : Int × Int) => decide (st.2 ≠ 0))
      (fun (st : Int × Int) => ((st.1 + (pyAnd st.2 1)), (pyShr st.2 1))) ((pc : Int), (v : Int))
      = some (((pc + popcount n v : Nat) : Int), 0) := by
  induction n with
  | zero =>
    intro v pc fuel hv hf
    obtain rfl : v = 0 := Nat.lt_one_iff.mp hv
    obtain ⟨f, rfl⟩ := Nat.exists_eq_succ_of_ne_zero (Nat.ne_zero_of_lt hf)
    rfl
  | succ n ih =>
    intro v pc fuel hv hf
    obtain ⟨f, rfl⟩ := Nat.exists_eq_succ_of_ne_zero (Nat.ne_zero_of_lt hf)
    by_cases hz : v = 0
    · subst hz; rfl
    · have e1 : pyAnd (v : Int) 1 = ((v % 2 : Nat) : Int) := pyAnd_natCast_mod v 1
      have e2 : pyShr (v : Int) 1 = ((v / 2 : Nat) : Int) := pyShr_natCast_div v 1
      simp only [whileF, ne_eq, Int.natCast_eq_zero, hz, not_false_eq_true, decide_true, if_true, e1, e2,
        ← Int.natCast_add]
      rw [ih (v / 2) (pc + v % 2) f (by rw [Nat.pow_succ] at hv; omega) (Nat.lt_of_succ_lt_succ hf), popcount,
        if_neg hz, Nat.add_assoc]

theorem gen_reduce_xor_eq (x : B) (hv : x.v < 2 ^ x.n) (fuel : Nat) (hf : x.n < fuel) :
    BitsGen.reduce_xor fuel x = some (.ok (reduceXor x)) := by
  unfold BitsGen.reduce_xor
  have := xor_loop x.n x.v 0 fuel hv hf
  simp only [Int.natCast_zero, Nat.zero_add] at this
  simp only [this, gen_init_eq, reduceXor, b1]
  have e : pyAnd ((popcount x.n x.v : Nat) : Int) 1 = b2i (popcount x.n x.v % 2 = 1) := by
    rw [pyAnd_one, maskInt_natCast]; unfold b2i
    rcases Nat.mod_two_eq_zero_or_one (popcount x.n x.v) with h | h <;> simp [h]
  simp only [e, ctor_bit, beq_iff_eq]

end PV.C04Gen
