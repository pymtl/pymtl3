import PymtlVerif.Gen.OverlapGen
import PymtlVerif.Model.Nets
/-!
# C09Gen — the slice-overlap test generated from the current Python source equals `overlap` of the nets model

`Gen/OverlapGen.lean` is regenerated by `tools/py2lean_overlap.py` from `_overlap` of `pymtl3/dsl/Connectable.py`
before every build of this file.  `Model/Nets.lean` represents a slice `sig[lo:hi]` as the pair `(lo, hi)`; both
C08 (`related`, sibling-slice propagation) and C09 (`_check_upblk_writes`, writer resolution) use `Nets.overlap`
on such pairs, so this theorem re-checks them against `_overlap` of the current source.  No hypothesis: the two agree on
empty slices as well (both compare the ends only).
-/
namespace PV.C09Gen
open PV.Bits

theorem gen_overlap_eq_nets (lo1 hi1 lo2 hi2 : Nat) :
    OverlapGen.overlap_ss (some (lo1 : Int)) (some (hi1 : Int)) none (some (lo2 : Int)) (some (hi2 : Int)) none
      = .ok (PV.Nets.overlap (lo1, hi1) (lo2, hi2)) := by
  simp only [OverlapGen.overlap_ss, PV.Nets.overlap, Int.ofNat_le, Int.ofNat_lt]
  by_cases h : lo1 ≤ lo2 <;> simp [h]

end PV.C09Gen
