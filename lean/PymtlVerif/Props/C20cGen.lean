import PymtlVerif.Model.ProcEnv
import PymtlVerif.Props.C20fGen
/-!
# C20cGen — the execute semantics of `ProcCL` (blocks `F`, `DXM`, `W`) are the ISA's (generated = model)

`Gen/ProcCLGen.lean` is regenerated by `tools/py2lean_procfl.py` from `examples/ex03_proc/ProcCL.py` on every run of C20: the
three `@update_once` blocks executed symbolically, each a function of the component's attributes `St`, the reset input and the
world `Wd` behind its interfaces AND child queues, reached only through the 27 fields of `Env Wd` (the translator knows the shape
of `rdy()` / `enq` / `deq` / `peek` / `req`, not their behaviour).

PART 1 (any environment `env`, any state): what each block does, branch by branch.
* `dxm_*`  — DXM for every instruction name: the entry handed to W (`(rd, value, DXM_W.arith)` with the ISA's ALU value; `(rd, 0,
  DXM_W.mem)` plus the memory request `READ (R[rs1] + sext(i_imm))`; `(0, 0, DXM_W.mem)` plus `WRITE (R[rs1] + sext(s_imm)) R[rs2]`;
  `None` plus the redirect `PC + sext(b_imm)` iff `R[rs1] != R[rs2]`; `(0, R[rs1], DXM_W.mngr)`; the accelerator requests; the
  `mngr2proc_q` value), the stall conditions (`dmem.req` / `xcel.req` / `mngr2proc_q` not ready: nothing is popped), and the three
  ways DXM does not look at an instruction at all (redirect pending, nothing to do, W full);
* `w_*`    — W for every entry type with `rd < 32`: the register write-back (`R[rd] := value` unless `rd = 0`, the load / accelerator
  response data), the `proc2mngr` send, the stalls.  Of W's five raising branches only `ValueError` is stated (`w_arith_overflow`);
  an entry with `rd ≥ 32` (`IndexError`) or of a type outside the four (`AssertionError`) has no lemma;
* `f_*`    — F: reset (PC := 0x200, registers untouched), the fetch of the redirected PC or of `s.pc`, `pc := fetched + 4`.
The composition of PART 2 uses only the branches in which DXM and W make progress; the stall / idle / raise branches are stated
because they are what the blocks do (and what a refinement under real timing needs, `Props/C20cRef.lean`).
Quirks of the code that these lemmas state as they are: `nop` never reaches W (no commit); a csrr / csrw of an unknown CSR and the
all-zero word are executed as nothing (ProcFL raises / stays); csrr to an accelerator register sends `R[rs1]` in the request's data
field; DXM and W ignore `reset`.

PART 2 (`gen_proccl_exec_eq`): the composition.  In the ideal environment `idealEnv` (queues are lists, every request is
answered at once by the ISA's memory / NullXcel / streams) one instruction passing DXM and then W changes registers, memory,
accelerator register and both manager streams exactly as `TinyRV0.stepX`, and the next fetch address (redirect or PC + 4)
is the ISA's next PC.  Since W runs before DXM in every cycle (`PipeQueueCL`: deq before enq) and at most one instruction sits
between them, the real pipeline applies exactly these compositions in program order; THAT scheduling argument (cycle-level timing,
arbitrary stalls, the memory system's latency) is NOT proved here — it stays with the differential runs of C20.
-/
namespace PV.C20cGen
open PV.TinyRV0 PV.ProcFLGen PV.ProcCLGen PV.ProcEnv PV.C20fGen

/-! ## PART 1: the blocks, for any environment -/

section blocks
variable {Wd : Type} (env : Env Wd) (rst : Bool) (s : St) (w : Wd)

/-- DXM looks at an instruction: no redirect pending, a PC and an instruction word are waiting, W has room -/
def DxmReady : Prop :=
  s.redirected_pc_DXM = none ∧ env.F_DXM_queue_deq_rdy w = true ∧ env.imemresp_q_deq_rdy w = true ∧
  env.DXM_W_queue_enq_rdy w = true
/-- the instruction word DXM looks at -/
def word : Nat := (env.imemresp_q_peek w).data
/-- pop the PC queue and the instruction response queue (`if s.DXM_status == PipelineStatus.work`) -/
def popIn (w' : Wd) : Wd := (env.imemresp_q_deq (env.F_DXM_queue_deq w').2).2
/-- the attributes after DXM executed an instruction / could not: the shape the lemmas below are stated with, always unfolded -/
def worked : St := { s with DXM_status := PipelineStatus_work, raw_inst := word env w }
def stalled : St := { s with DXM_status := PipelineStatus_stall, raw_inst := word env w }
/-- hand an entry to W, then pop -/
def handOver (e : Option (Nat × Nat × Nat)) (w' : Wd) : Wd := popIn env (env.DXM_W_queue_enq w' e)

/-- the four conjuncts of `DxmReady`, in the form `simp` takes as rewrite rules -/
theorem DxmReady.and (h : DxmReady env s w) : s.redirected_pc_DXM = none ∧ env.F_DXM_queue_deq_rdy w = true ∧
    env.imemresp_q_deq_rdy w = true ∧ env.DXM_W_queue_enq_rdy w = true := h

/-- `simp` folds the word in the generated code to `word env w`, the form the hypotheses `Inst.name v = ..` below have -/
theorem word_eq : (env.imemresp_q_peek w).data = word env w := rfl

attribute [local simp] word_eq worked stalled popIn handOver rget rset W32 PipelineStatus_work PipelineStatus_stall
  PipelineStatus_idle DXM_W_arith DXM_W_mem DXM_W_xcel DXM_W_mngr

local notation "v" => word env w
local notation "R[" r "]" => rget s.R r

theorem dxm_redirect_pending (x : Nat) (h : s.redirected_pc_DXM = some x) :
    DXM env rst s w = .ok ({ s with DXM_status := PipelineStatus_stall }, w) := by
  simp [DXM, h]

theorem dxm_idle (h0 : s.redirected_pc_DXM = none)
    (h : ¬ (env.F_DXM_queue_deq_rdy w = true ∧ env.imemresp_q_deq_rdy w = true)) :
    DXM env rst s w = .ok ({ s with DXM_status := PipelineStatus_idle }, w) := by
  have hc : (env.F_DXM_queue_deq_rdy w && env.imemresp_q_deq_rdy w) = false := by simpa using h
  simp [DXM, h0, hc]

theorem dxm_w_full (h0 : s.redirected_pc_DXM = none) (h1 : env.F_DXM_queue_deq_rdy w = true)
    (h2 : env.imemresp_q_deq_rdy w = true) (h3 : env.DXM_W_queue_enq_rdy w = false) :
    DXM env rst s w = .ok ({ s with DXM_status := PipelineStatus_stall }, w) := by
  simp [DXM, h0, h1, h2, h3]

theorem dxm_raised (h : DxmReady env s w) (e : String) (hn : Inst.name v = .raised e) : DXM env rst s w = .raised e := by
  simp [DXM, h.and, hn]

theorem dxm_nop (h : DxmReady env s w) (hn : Inst.name v = .ok "nop") :
    DXM env rst s w = .ok (worked env s w, popIn env w) := by
  simp [DXM, h.and, hn]

theorem dxm_unnamed (h : DxmReady env s w) (hn : Inst.name v = .ok "????") :
    DXM env rst s w = .ok (worked env s w, popIn env w) := by
  simp [DXM, h.and, hn]

theorem dxm_add (h : DxmReady env s w) (hn : Inst.name v = .ok "add") :
    DXM env rst s w = .ok (worked env s w,
      handOver env (some (Inst.rd v, (R[Inst.rs1 v] + R[Inst.rs2 v]) % W32, DXM_W_arith)) w) := by
  simp [DXM, h.and, hn]

theorem dxm_sll (h : DxmReady env s w) (hn : Inst.name v = .ok "sll") :
    DXM env rst s w = .ok (worked env s w,
      handOver env (some (Inst.rd v, (R[Inst.rs1 v] <<< (R[Inst.rs2 v] % 32)) % W32, DXM_W_arith)) w) := by
  simp only [DXM, shl_guard]
  simp [h.and, hn]

theorem dxm_srl (h : DxmReady env s w) (hn : Inst.name v = .ok "srl") :
    DXM env rst s w = .ok (worked env s w,
      handOver env (some (Inst.rd v, R[Inst.rs1 v] >>> (R[Inst.rs2 v] % 32), DXM_W_arith)) w) := by
  simp [DXM, and31, h.and, hn]

theorem dxm_and (h : DxmReady env s w) (hn : Inst.name v = .ok "and") :
    DXM env rst s w = .ok (worked env s w,
      handOver env (some (Inst.rd v, R[Inst.rs1 v] &&& R[Inst.rs2 v], DXM_W_arith)) w) := by
  simp [DXM, h.and, hn]

theorem dxm_addi (h : DxmReady env s w) (hn : Inst.name v = .ok "addi") :
    DXM env rst s w = .ok (worked env s w,
      handOver env (some (Inst.rd v, (R[Inst.rs1 v] + sext12 (Inst.i_imm v)) % W32, DXM_W_arith)) w) := by
  simp [DXM, sext12_eq, h.and, hn]

/-- the store request DXM forms -/
def swReq : MemReqMsg :=
  { type_ := 1, opaque_ := 0, addr := (R[Inst.rs1 v] + sext12 (Inst.s_imm v)) % W32, len := 0, data := R[Inst.rs2 v] }
/-- the load request DXM forms -/
def lwReq : MemReqMsg :=
  { type_ := 0, opaque_ := 0, addr := (R[Inst.rs1 v] + sext12 (Inst.i_imm v)) % W32, len := 0, data := 0 }

attribute [local simp] swReq lwReq

theorem dxm_sw (h : DxmReady env s w) (hn : Inst.name v = .ok "sw") (hr : env.dmem_req_rdy w = true) :
    DXM env rst s w = .ok (worked env s w, handOver env (some (0, 0, DXM_W_mem)) (env.dmem_req w (swReq env s w))) := by
  simp [DXM, sext12_eq, h.and, hn, hr]

theorem dxm_sw_stall (h : DxmReady env s w) (hn : Inst.name v = .ok "sw") (hr : env.dmem_req_rdy w = false) :
    DXM env rst s w = .ok (stalled env s w, w) := by
  simp [DXM, h.and, hn, hr]

theorem dxm_lw (h : DxmReady env s w) (hn : Inst.name v = .ok "lw") (hr : env.dmem_req_rdy w = true) :
    DXM env rst s w = .ok (worked env s w, handOver env (some (Inst.rd v, 0, DXM_W_mem)) (env.dmem_req w (lwReq env s w))) := by
  simp [DXM, sext12_eq, h.and, hn, hr]

theorem dxm_lw_stall (h : DxmReady env s w) (hn : Inst.name v = .ok "lw") (hr : env.dmem_req_rdy w = false) :
    DXM env rst s w = .ok (stalled env s w, w) := by
  simp [DXM, h.and, hn, hr]

/-- the branch decision and target: a redirect to `PC + sext(b_imm)` iff `R[rs1] != R[rs2]` (PC = the head of the PC queue) -/
theorem dxm_bne (h : DxmReady env s w) (hn : Inst.name v = .ok "bne") :
    DXM env rst s w = .ok ({ worked env s w with redirected_pc_DXM :=
        if (R[Inst.rs1 v] ≠ R[Inst.rs2 v]) then some ((env.F_DXM_queue_peek w + sext13 (Inst.b_imm v)) % W32) else none },
      handOver env none w) := by
  simp [DXM, sext13_eq, h.and, hn]

theorem dxm_csrw_mngr (h : DxmReady env s w) (hn : Inst.name v = .ok "csrw") (hc : Inst.csrnum v = 0x7C0) :
    DXM env rst s w = .ok (worked env s w, handOver env (some (0, R[Inst.rs1 v], DXM_W_mngr)) w) := by
  simp [DXM, h.and, hn, hc]

/-- the accelerator write request -/
def xwReq : XcelReqMsg := { type_ := 1, addr := Inst.csrnum v / 2^0 % 2^5, data := R[Inst.rs1 v] }
/-- the accelerator read request (its data field carries `R[rs1]`, as the code has it) -/
def xrReq : XcelReqMsg := { type_ := 0, addr := Inst.csrnum v / 2^0 % 2^5, data := R[Inst.rs1 v] }

attribute [local simp] xwReq xrReq

theorem dxm_csrw_xcel (h : DxmReady env s w) (hn : Inst.name v = .ok "csrw") (hc : isXcelCsr (Inst.csrnum v) = true)
    (hr : env.xcel_req_rdy w = true) :
    DXM env rst s w = .ok (worked env s w, handOver env (some (0, 0, DXM_W_xcel)) (env.xcel_req w (xwReq env s w))) := by
  simp [DXM, h.and, hn, xcel_csr hc, hr]

theorem dxm_csrw_xcel_stall (h : DxmReady env s w) (hn : Inst.name v = .ok "csrw") (hc : isXcelCsr (Inst.csrnum v) = true)
    (hr : env.xcel_req_rdy w = false) : DXM env rst s w = .ok (stalled env s w, w) := by
  simp [DXM, h.and, hn, xcel_csr hc, hr]

/-- a csrw to any other CSR is executed as nothing (no `else` in the code; ProcFL raises, the ISA says undefined) -/
theorem dxm_csrw_other (h : DxmReady env s w) (hn : Inst.name v = .ok "csrw") (h1 : Inst.csrnum v ≠ 0x7C0)
    (hc : isXcelCsr (Inst.csrnum v) = false) : DXM env rst s w = .ok (worked env s w, popIn env w) := by
  simp [DXM, h.and, hn, h1, ↓xcel_test, hc]

theorem dxm_csrr_mngr (h : DxmReady env s w) (hn : Inst.name v = .ok "csrr") (hc : Inst.csrnum v = 0xFC0)
    (hr : env.mngr2proc_q_deq_rdy w = true) :
    DXM env rst s w = .ok (worked env s w,
      handOver env (some (Inst.rd v, (env.mngr2proc_q_deq w).1, DXM_W_arith)) (env.mngr2proc_q_deq w).2) := by
  simp [DXM, h.and, hn, hc, hr]

theorem dxm_csrr_mngr_stall (h : DxmReady env s w) (hn : Inst.name v = .ok "csrr") (hc : Inst.csrnum v = 0xFC0)
    (hr : env.mngr2proc_q_deq_rdy w = false) : DXM env rst s w = .ok (stalled env s w, w) := by
  simp [DXM, h.and, hn, hc, hr]

theorem dxm_csrr_xcel (h : DxmReady env s w) (hn : Inst.name v = .ok "csrr") (hc : isXcelCsr (Inst.csrnum v) = true)
    (hr : env.xcel_req_rdy w = true) :
    DXM env rst s w = .ok (worked env s w, handOver env (some (Inst.rd v, 0, DXM_W_xcel)) (env.xcel_req w (xrReq env s w))) := by
  simp [DXM, h.and, hn, xcel_csr hc, hr]

theorem dxm_csrr_xcel_stall (h : DxmReady env s w) (hn : Inst.name v = .ok "csrr") (hc : isXcelCsr (Inst.csrnum v) = true)
    (hr : env.xcel_req_rdy w = false) : DXM env rst s w = .ok (stalled env s w, w) := by
  simp [DXM, h.and, hn, xcel_csr hc, hr]

theorem dxm_csrr_other (h : DxmReady env s w) (hn : Inst.name v = .ok "csrr") (h1 : Inst.csrnum v ≠ 0xFC0)
    (hc : isXcelCsr (Inst.csrnum v) = false) : DXM env rst s w = .ok (worked env s w, popIn env w) := by
  simp [DXM, h.and, hn, h1, ↓xcel_test, hc]

theorem w_empty (h : env.DXM_W_queue_deq_rdy w = false) :
    W env rst s w = .ok ({ s with rd := 0, commit_inst := 0, W_status := PipelineStatus_idle }, w) := by
  simp [W, h]

/-- the attributes after W finished an entry -/
def committed (rd : Nat) (R : List Nat) : St := { s with rd := rd, commit_inst := 1, W_status := PipelineStatus_work, R := R }
def wstalled (rd : Nat) : St := { s with rd := rd, commit_inst := 0, W_status := PipelineStatus_stall }

attribute [local simp] committed wstalled

/-- a branch (entry `None`): nothing to write -/
theorem w_none (h : env.DXM_W_queue_deq_rdy w = true) (hp : env.DXM_W_queue_peek w = none) :
    W env rst s w = .ok (committed s 0 s.R, (env.DXM_W_queue_deq w).2) := by
  simp [W, h, hp]

/-- ALU results and `mngr2proc` values: `R[rd] := value` unless `rd = 0` -/
theorem w_arith (h : env.DXM_W_queue_deq_rdy w = true) (rd val : Nat)
    (hp : env.DXM_W_queue_peek w = some (rd, val, DXM_W_arith)) (hrd : rd < 32) (hv : val < 2^32) :
    W env rst s w = .ok (committed s rd (rset s.R rd val), (env.DXM_W_queue_deq w).2) := by
  by_cases h0 : rd = 0
  · subst h0; simp [W, h, hp]
  · have : 0 < rd := by omega
    simp [W, h, hp, hv, hrd, h0, this]

/-- a value outside Bits32 from `mngr2proc_q` makes `Bits32( data )` raise -/
theorem w_arith_overflow (h : env.DXM_W_queue_deq_rdy w = true) (rd val : Nat)
    (hp : env.DXM_W_queue_peek w = some (rd, val, DXM_W_arith)) (hrd : 0 < rd) (hv : ¬ val < 2^32) :
    W env rst s w = .raised "ValueError" := by
  simp [W, h, hp, hv, hrd]

/-- loads and stores: the response is popped; a load (`rd > 0`) writes its data -/
theorem w_mem (h : env.DXM_W_queue_deq_rdy w = true) (rd val : Nat)
    (hp : env.DXM_W_queue_peek w = some (rd, val, DXM_W_mem)) (hrd : rd < 32) (hr : env.dmemresp_q_deq_rdy w = true) :
    W env rst s w = .ok (committed s rd (rset s.R rd (env.dmemresp_q_deq w).1.data),
      (env.DXM_W_queue_deq (env.dmemresp_q_deq w).2).2) := by
  by_cases h0 : rd = 0
  · subst h0; simp [W, h, hp, hr]
  · have : 0 < rd := by omega
    simp [W, h, hp, hr, hrd, h0, this]

theorem w_mem_stall (h : env.DXM_W_queue_deq_rdy w = true) (rd val : Nat)
    (hp : env.DXM_W_queue_peek w = some (rd, val, DXM_W_mem)) (hr : env.dmemresp_q_deq_rdy w = false) :
    W env rst s w = .ok (wstalled s rd, w) := by
  simp [W, h, hp, hr]

theorem w_xcel (h : env.DXM_W_queue_deq_rdy w = true) (rd val : Nat)
    (hp : env.DXM_W_queue_peek w = some (rd, val, DXM_W_xcel)) (hrd : rd < 32) (hr : env.xcelresp_q_deq_rdy w = true) :
    W env rst s w = .ok (committed s rd (rset s.R rd (env.xcelresp_q_deq w).1.data),
      (env.DXM_W_queue_deq (env.xcelresp_q_deq w).2).2) := by
  by_cases h0 : rd = 0
  · subst h0; simp [W, h, hp, hr]
  · have : 0 < rd := by omega
    simp [W, h, hp, hr, hrd, h0, this]

theorem w_xcel_stall (h : env.DXM_W_queue_deq_rdy w = true) (rd val : Nat)
    (hp : env.DXM_W_queue_peek w = some (rd, val, DXM_W_xcel)) (hr : env.xcelresp_q_deq_rdy w = false) :
    W env rst s w = .ok (wstalled s rd, w) := by
  simp [W, h, hp, hr]

/-- `csrw proc2mngr`: the value is sent when the manager is ready -/
theorem w_mngr (h : env.DXM_W_queue_deq_rdy w = true) (rd val : Nat)
    (hp : env.DXM_W_queue_peek w = some (rd, val, DXM_W_mngr)) (hr : env.proc2mngr_rdy w = true) :
    W env rst s w = .ok (committed s rd s.R, (env.DXM_W_queue_deq (env.proc2mngr_call w val)).2) := by
  simp [W, h, hp, hr]

theorem w_mngr_stall (h : env.DXM_W_queue_deq_rdy w = true) (rd val : Nat)
    (hp : env.DXM_W_queue_peek w = some (rd, val, DXM_W_mngr)) (hr : env.proc2mngr_rdy w = false) :
    W env rst s w = .ok (wstalled s rd, w) := by
  simp [W, h, hp, hr]

theorem f_reset : F env true s w = .ok ({ s with pc := 0x200, F_status := PipelineStatus_idle }, w) := rfl

/-- the address F fetches next: a pending redirect wins over `s.pc` -/
def fetchAddr : Nat := s.redirected_pc_DXM.getD s.pc

attribute [local simp] fetchAddr

theorem f_fetch (h1 : env.imem_req_rdy w = true) (h2 : env.F_DXM_queue_enq_rdy w = true) :
    F env false s w = .ok ({ s with pc := (fetchAddr s + 4) % W32, F_status := PipelineStatus_work, redirected_pc_DXM := none },
      env.F_DXM_queue_enq (env.imem_req w { type_ := 0, opaque_ := 0, addr := fetchAddr s, len := 0, data := 0 }) (fetchAddr s)) := by
  cases hr : s.redirected_pc_DXM <;> simp [F, h1, h2, hr]

theorem f_stall (h : ¬ (env.imem_req_rdy w = true ∧ env.F_DXM_queue_enq_rdy w = true)) :
    F env false s w = .ok ({ s with F_status := PipelineStatus_stall }, w) := by
  have hc : (env.imem_req_rdy w && env.F_DXM_queue_enq_rdy w) = false := by simpa using h
  simp [F, hc]

end blocks

/-! ## PART 2: one instruction through DXM and W in the ideal environment = one step of the ISA -/

/-- the ISA state a ProcCL state between two instructions denotes; the PC is the one waiting in the PC queue -/
def toXc (pc : Nat) (s : St) (w : IW) : StateX :=
  { core := { pc := pc, regs := s.R, mem := w.mem, inp := w.mq, out := w.out }, xr0 := w.xr0 }

/-- one instruction is waiting in front of DXM, nothing else is in flight; the values are Bits32 / bytes -/
structure Fresh (pc : Nat) (s : St) (w : IW) : Prop where
  redirect : s.redirected_pc_DXM = none
  fdq : w.fdq = [pc]
  irq : w.irq = [memResp 0 (loadWord w.mem pc)]
  dwq : w.dwq = []
  drq : w.drq = []
  xrq : w.xrq = []
  ok : PV.C20.OkX (toXc pc s w)

/-- HEADLINE of the CL part: DXM then W on a waiting instruction = `stepX`.  `s2`, `w2` are the attributes and world after W;
registers, memory, accelerator register and both manager streams are the ISA's, the address F fetches next (`fetchAddr`:
redirect, else the PC attribute, which F left at PC + 4) is the ISA's next PC, and nothing is left in flight. -/
theorem gen_proccl_exec_eq (rst : Bool) (pc : Nat) (s : St) (w : IW) (sx : StateX) (hf : Fresh pc s w)
    (hpc : s.pc = (pc + 4) % W32) (h : stepX (toXc pc s w) = .ok sx) :
    ∃ s1 w1 s2 w2, DXM idealEnv rst s w = .ok (s1, w1) ∧ W idealEnv rst s1 w1 = .ok (s2, w2) ∧
      toXc (fetchAddr s2) s2 w2 = sx ∧ s2.pc = s.pc ∧
      w2.fdq = [] ∧ w2.irq = [] ∧ w2.dwq = [] ∧ w2.drq = [] ∧ w2.xrq = [] := by
  obtain ⟨i, hd, h⟩ := stepX_inv h nofun nofun
  -- with the queues of a fresh world written out, every queue operation of `idealEnv` computes: the `rfl`s below are the
  -- readiness tests of the `dxm_*` / `w_*` lemmas, and the closing `rfl` of each case compares the world after W field by field
  obtain ⟨fdq, irq, dwq, drq, xrq, mq, mem, xr0, out⟩ := w
  obtain ⟨hr, rfl, h2, rfl, rfl, rfl, hok⟩ := hf
  obtain rfl : irq = [memResp 0 (loadWord mem pc)] := h2
  have hrdy : DxmReady idealEnv s ⟨[pc], [memResp 0 (loadWord mem pc)], [], [], [], mq, mem, xr0, out⟩ := ⟨hr, rfl, rfl, rfl⟩
  have hregs : ∀ r, rget s.R r < W32 := hok.1.regs
  -- F left `s.pc` at PC + 4 and no redirect is pending: that is the next fetch address unless DXM redirects (`bne`)
  have hfa : ∀ w rd R, fetchAddr (committed (worked idealEnv s w) rd R) = (pc + 4) % W32 := fun _ _ _ => by
    rw [← hpc]; simp [fetchAddr, committed, worked, hr]
  obtain ⟨n, hn, hp⟩ := pyView _ i hd
  cases hp <;> simp only [execX, exec] at h
  case nop =>
    -- the canonical NOP never reaches W
    refine ⟨_, _, _, _, dxm_nop idealEnv rst s _ hrdy hn, w_empty idealEnv rst _ _ rfl, ?_, rfl, rfl, rfl, rfl, rfl, rfl⟩
    cases h
    simp [toXc, worked, fetchAddr, hr, hpc, popIn, idealEnv, rset]
  case add =>
    refine ⟨_, _, _, _, dxm_add idealEnv rst s _ hrdy hn,
      w_arith idealEnv rst _ _ rfl _ _ rfl (rd_lt _) (mod_W32_lt _), ?_, rfl, rfl, rfl, rfl, rfl, rfl⟩
    cases h
    rw [hfa]; rfl
  case sll =>
    refine ⟨_, _, _, _, dxm_sll idealEnv rst s _ hrdy hn,
      w_arith idealEnv rst _ _ rfl _ _ rfl (rd_lt _) (mod_W32_lt _), ?_, rfl, rfl, rfl, rfl, rfl, rfl⟩
    cases h
    rw [hfa]; rfl
  case srl =>
    refine ⟨_, _, _, _, dxm_srl idealEnv rst s _ hrdy hn,
      w_arith idealEnv rst _ _ rfl _ _ rfl (rd_lt _) (Nat.lt_of_le_of_lt (Nat.shiftRight_le _ _) (hregs _)), ?_, rfl, rfl, rfl, rfl, rfl, rfl⟩
    cases h
    rw [hfa]; rfl
  case and =>
    refine ⟨_, _, _, _, dxm_and idealEnv rst s _ hrdy hn,
      w_arith idealEnv rst _ _ rfl _ _ rfl (rd_lt _) (Nat.lt_of_le_of_lt Nat.and_le_left (hregs _)), ?_, rfl, rfl, rfl, rfl, rfl, rfl⟩
    cases h
    rw [hfa]; rfl
  case addi =>
    refine ⟨_, _, _, _, dxm_addi idealEnv rst s _ hrdy hn,
      w_arith idealEnv rst _ _ rfl _ _ rfl (rd_lt _) (mod_W32_lt _), ?_, rfl, rfl, rfl, rfl, rfl, rfl⟩
    cases h
    rw [hfa]; rfl
  case lw =>
    split at h <;> cases h
    refine ⟨_, _, _, _, dxm_lw idealEnv rst s _ hrdy hn rfl, w_mem idealEnv rst _ _ rfl _ _ rfl (rd_lt _) rfl, ?_,
      rfl, rfl, rfl, rfl, rfl, rfl⟩
    rw [hfa]; rfl
  case sw =>
    split at h <;> cases h
    refine ⟨_, _, _, _, dxm_sw idealEnv rst s _ hrdy hn rfl, w_mem idealEnv rst _ _ rfl _ _ rfl (by decide) rfl, ?_,
      rfl, rfl, rfl, rfl, rfl, rfl⟩
    rw [hfa]; rfl
  case bne =>
    refine ⟨_, _, _, _, dxm_bne idealEnv rst s _ hrdy hn, w_none idealEnv rst _ _ rfl rfl, ?_, rfl, rfl, rfl, rfl, rfl, rfl⟩
    split at h <;> cases h <;> rename_i hc <;> simp only [toXc] at hc <;>
      simp [toXc, committed, worked, fetchAddr, word, idealEnv, handOver, popIn, memResp, hc, hpc]
  case csrr =>
    split at h
    · next hx =>
      cases h
      refine ⟨_, _, _, _, dxm_csrr_xcel idealEnv rst s _ hrdy hn hx rfl,
        w_xcel idealEnv rst _ _ rfl _ _ rfl (rd_lt _) rfl, ?_, rfl, rfl, rfl, rfl, rfl, rfl⟩
      rw [hfa]; rfl
    · split at h
      · next hc =>
        cases mq with
        | nil => cases h
        | cons x r =>
          cases h
          refine ⟨_, _, _, _, dxm_csrr_mngr idealEnv rst s _ hrdy hn hc rfl,
            w_arith idealEnv rst _ _ rfl _ _ rfl (rd_lt _) (hok.1.inp x List.mem_cons_self), ?_,
            rfl, rfl, rfl, rfl, rfl, rfl⟩
          rw [hfa]; rfl
      · cases h
  case csrw =>
    split at h
    · next hx =>
      cases h
      refine ⟨_, _, _, _, dxm_csrw_xcel idealEnv rst s _ hrdy hn hx rfl,
        w_xcel idealEnv rst _ _ rfl _ _ rfl (by decide) rfl, ?_, rfl, rfl, rfl, rfl, rfl, rfl⟩
      rw [hfa]; rfl
    · split at h <;> cases h
      next hc =>
      refine ⟨_, _, _, _, dxm_csrw_mngr idealEnv rst s _ hrdy hn hc, w_mngr idealEnv rst _ _ rfl _ _ rfl rfl, ?_,
        rfl, rfl, rfl, rfl, rfl, rfl⟩
      rw [hfa]; rfl

/-! ### whole programs, one instruction at a time: rounds of DXM, W, F in the ideal environment -/

def afterF (s2 : St) : St :=
  { s2 with pc := (fetchAddr s2 + 4) % W32, F_status := PipelineStatus_work, redirected_pc_DXM := none }
/-- the ideal world after F fetched address `a`: the PC in the PC queue, the instruction word already answered -/
def fetched (w2 : IW) (a : Nat) : IW := { w2 with irq := [memResp 0 (loadWord w2.mem a)], fdq := [a] }

theorem f_fetch_ideal (s2 : St) (w2 : IW) (q1 : w2.fdq = []) (q2 : w2.irq = []) :
    F idealEnv false s2 w2 = .ok (afterF s2, fetched w2 (fetchAddr s2)) := by
  rw [f_fetch idealEnv s2 w2 (by simp [idealEnv]) (by simp [idealEnv, q1])]
  simp [idealEnv, afterF, fetched, q1, q2]

theorem gen_proccl_round_eq (pc : Nat) (s : St) (w : IW) (sx : StateX) (hf : Fresh pc s w)
    (hpc : s.pc = (pc + 4) % W32) (h : stepX (toXc pc s w) = .ok sx) :
    ∃ s3 w3, round s w = .ok (s3, w3) ∧ Fresh sx.core.pc s3 w3 ∧ s3.pc = (sx.core.pc + 4) % W32 ∧
      toXc sx.core.pc s3 w3 = sx := by
  have hokx : PV.C20.OkX sx := PV.C20.stepX_ok _ _ hf.ok h
  obtain ⟨s1, w1, s2, w2, e1, e2, rfl, _, q1, q2, q3, q4, q5⟩ := gen_proccl_exec_eq false pc s w sx hf hpc h
  -- F changes neither registers, memory nor streams: the state denoted is the one after W, at the address F fetched
  refine ⟨afterF s2, fetched w2 (fetchAddr s2), ?_, ⟨rfl, rfl, rfl, q3, q4, q5, hokx⟩, rfl, rfl⟩
  unfold round; rw [e1]; simp only [andThen]; rw [e2]; exact f_fetch_ideal s2 w2 q1 q2

/-- every program, as long as the ISA is defined: n rounds of DXM, W, F = n steps of the ISA -/
theorem gen_proccl_run_eq (n : Nat) (pc : Nat) (s : St) (w : IW) (sx : StateX) (hf : Fresh pc s w)
    (hpc : s.pc = (pc + 4) % W32) (h : stepsX n (toXc pc s w) = some sx) :
    ∃ s' w', rounds n s w = some (s', w') ∧ Fresh sx.core.pc s' w' ∧ toXc sx.core.pc s' w' = sx := by
  induction n generalizing pc s w with
  | zero =>
    simp only [stepsX] at h; cases h
    exact ⟨s, w, rfl, hf, rfl⟩
  | succ k ih =>
    obtain ⟨sx1, hs, h⟩ := stepsX_succ_inv h
    obtain ⟨s3, w3, e1, hf3, hpc3, ex3⟩ := gen_proccl_round_eq pc s w sx1 hf hpc hs
    rw [← ex3] at h
    obtain ⟨s', w', e2, hf', ex'⟩ := ih _ s3 w3 hf3 hpc3 h
    exact ⟨s', w', by unfold rounds; rw [e1]; exact e2, hf', ex'⟩

/-- after `construct`, the first F (no reset) puts the instruction at the reset vector in front of DXM -/
theorem gen_proccl_init_eq (m : Mem) (inp : List Nat) (hm : ∀ a, m.get a < 256) (hi : ∀ x ∈ inp, x < W32) :
    ∃ s1 w1, F idealEnv false init { fdq := [], irq := [], dwq := [], drq := [], xrq := [], mq := inp, mem := m, xr0 := 0, out := [] }
        = .ok (s1, w1) ∧ Fresh 0x200 s1 w1 ∧ s1.pc = (0x200 + 4) % W32 ∧ toXc 0x200 s1 w1 = StateX.init m inp := by
  have e := f_fetch_ideal init { fdq := [], irq := [], dwq := [], drq := [], xrq := [], mq := inp, mem := m, xr0 := 0, out := [] } rfl rfl
  refine ⟨_, _, e, ?_, rfl, rfl⟩
  refine ⟨rfl, rfl, rfl, rfl, rfl, rfl, ?_⟩
  exact PV.C20.initX_ok m inp hm hi

/-- `addi x1, x0, 5` at the reset vector, waiting in front of DXM -/
def m0 : Mem := storeWord Mem.empty 0x200 0x00500093
def iw0 : IW := { fdq := [0x200], irq := [memResp 0 (loadWord m0 0x200)], dwq := [], drq := [], xrq := [], mq := [7], mem := m0, xr0 := 0, out := [] }
def st0 : St := { init with pc := 0x204 }

theorem m0_bytes : ∀ a, m0.get a < 256 := storeWord_get_lt _ _ _ (fun a => by rw [Mem.get_empty]; decide)

example : Fresh 0x200 st0 iw0 :=
  ⟨rfl, rfl, rfl, rfl, rfl, rfl, PV.C20.initX_ok m0 [7] m0_bytes (by decide)⟩
example : ∃ sx, stepX (toXc 0x200 st0 iw0) = .ok sx := ⟨_, PV.C20fGen.w0_step⟩
example : DxmReady idealEnv st0 iw0 := ⟨rfl, rfl, rfl, rfl⟩
-- the W lemmas' hypotheses are satisfiable
example : idealEnv.DXM_W_queue_peek { iw0 with dwq := [some (1, 5, DXM_W_arith)] } = some (1, 5, DXM_W_arith) := rfl
example : W idealEnv false st0 { iw0 with dwq := [some (1, 5, DXM_W_arith)] } =
    .ok (committed st0 1 (rset st0.R 1 5), { iw0 with dwq := [] }) :=
  w_arith idealEnv false st0 _ rfl 1 5 rfl (by decide) (by decide)

end PV.C20cGen
